import EinxModel.Update.LowerProg
/-!
From the description alone to the solved operation `Update.Op` of `Update/Model.lean` (the object
`update_lowering_sound` speaks about): `descOp` computes the order of `Op.axes` with the C16 model
`Order.Join.joinExprs` (through `AtLower.intermediate`, the same call the program model `AtLower.lowerUpdate` makes).
Core Lean only.
-/
namespace Einx.AtDesc
open Einx.Generic Einx.AtLower Einx.Update

/-- Position of the axis called `n` in `expr_intermediate`. -/
def posOf (inter : List Ax) (n : String) : Option Nat :=
  let i := (names inter).idxOf n
  if i < inter.length then some i else none

def tdimOf (inter : List Ax) (marked : List String) (a : Ax) : Option TDim :=
  if marked.contains a.name then some (.idx a.len) else (posOf inter a.name).map .vec

def cdimOf (inter : List Ax) (marked : List String) (a : Ax) : Option CDim :=
  if marked.contains a.name then some (.br a.len) else (posOf inter a.name).map .ax

/-- The prepared expression of an input (`Decomposer.__call__`, steps 1–2). -/
def prepared (i : In) : List Ax := squeezedExpr i.marked i.e

def coordOf (inter : List Ax) (cd : In × List Nat) : Option Coord :=
  (mapOpt (cdimOf inter cd.1.marked) (prepared cd.1)).map (fun d => { dims := d, data := cd.2 })

/-- The solved operation over a given iteration space `inter`. -/
def opOver (inter : List Ax) (tgt : In) (coords : List In) (upd : List Ax) (cdata : List (List Nat))
    (udata : List Int) : Option Op :=
  match mapOpt (tdimOf inter tgt.marked) (prepared tgt), mapOpt (coordOf inter) (coords.zip cdata),
        mapOpt (fun a => posOf inter a.name) upd with
  | some tdims, some cs, some udims => some { axes := lens inter, tdims := tdims, coords := cs, udims := udims, udata := udata }
  | _, _, _ => none

/-- **The solved update operation of a description**: the iteration space is `_join_exprs` of the prepared
expressions (C16 model), coordinate and update contents are given as flat row-major data. -/
def descOp (tgt : In) (coords : List In) (upd : In) (cdata : List (List Nat)) (udata : List Int) : Option Op :=
  match intermediate tgt coords upd with
  | .ok inter => opOver inter tgt coords (prepared upd) cdata udata
  | .error _ => none

/-- The solved `get_at` operation of a description: the iteration space is the flat output without broadcast axes. -/
def descGetOp (tgt : In) (coords : List In) (eout : List G) (cdata : List (List Nat)) : Option Op :=
  opOver (outNoBroadcast (tgt :: coords) eout []) tgt coords [] cdata []

/-- `Op.covered` (`Proofs/UpdateLowering.lean`), executable. -/
def coveredB (op : Op) : Bool :=
  op.axes.all (fun n => decide (0 < n)) &&
    (List.range op.axes.length).all (fun j => op.idxAxes.contains j || op.udims.contains j)

/-- All leaf lengths of an input are positive (the solver rejects zero lengths). -/
def allPos (i : In) : Bool := (G.leavesL i.e).all (fun a => decide (0 < a.len))

/-- Decidable domain of `lower_update_correct_partial`: every operand's prepared axes are named apart, lengths are positive and
the update tensor has no bracket. -/
def updDomain (tgt : In) (coords : List In) (upd : In) : Bool :=
  (tgt :: upd :: coords).all (fun i => allPos i && noDup (names (prepared i))) && upd.marked.isEmpty

def descCovered (tgt : In) (coords : List In) (upd : In) : Bool :=
  match descOp tgt coords upd (coords.map (fun _ => [])) [] with
  | some op => coveredB op
  | none => false

def getDomain (tgt : In) (coords : List In) (eout : List G) : Bool :=
  (tgt :: coords).all (fun i => allPos i && noDup (names (prepared i))) &&
    (descGetOp tgt coords eout (coords.map (fun _ => []))).isSome

/-- `np.take(flat target, ravelled index)` at one assignment. -/
def readLowered (kernel : List Nat → List Nat → List Nat) (op : Op) (target : List Int) (σ : List Nat) : Option Int :=
  match addrLowered kernel op σ with
  | some k => target[k]?
  | none => none

/-- The value-level lowering of `get_at` (`get_at_ravelled`): `np.take` of the flat target at the ravelled index. -/
def lowerGet (kernel : List Nat → List Nat → List Nat) (op : Op) (target : List Int) : Option (List Int) :=
  mapOpt (readLowered kernel op target) (assignments op.axes)

end Einx.AtDesc
