import EinxModel.Generic.StbPrims
/-
Hand model of the inner function of `einx/_src/adapter/numpy/classical_from_numpy.py:diagonal`
(`axis_always_last=False`, the numpy registration), on canonical (non-negative) axes:

    axes_in = sorted(canon_axis(a) for a in axes_in);  axis_out = canon_axis(axis_out)
    while len(axes_in) > 1:   # diagonal of the two highest axes; the result axis is the new last axis
        x = np.diagonal(x, axis1=axes_in[-2], axis2=axes_in[-1]);  axes_in = axes_in[:-2] + (x.ndim - 1,)
    perm = [i for i in range(x.ndim) if i != axes_in[0]];  perm.insert(axis_out, axes_in[0])
    x = transpose(x, perm)

`Props/C17Xlate.lean` proves it equal to the translation of the source (`Extracted.Stb.diagonalInner`), and
`diag_perm_moves` (from `movePerm_spec`, `Proofs/XlateDiag.lean`): the final permutation *moves* the diagonal axis to `axis_out` and keeps the order of all
other axes (the defect D1 was a swap).
-/
namespace Einx.Generic
open Einx.IR

/-- The loop of `diagonal.inner`: while more than one in-axis is left, take the diagonal of the two
highest ones (the list is sorted) and replace them by the new last axis.  `fuel` bounds the number of
iterations (the wrapper passes `len(axes_in)`; every iteration shortens the list by one). -/
def diagLoop : Nat → St → List Nat → Except String (St × List Nat)
  | 0, s, axes => if axes.length > 1 then .error "FuelExhausted" else .ok (s, axes)
  | fuel + 1, s, axes =>
    if axes.length > 1 then
      match axes.drop (axes.length - 2) with
      | [a1, a2] =>
        match s.npDiagonal a1 a2 with
        | .error e => .error e
        | .ok s' => diagLoop fuel s' (axes.take (axes.length - 2) ++ [s'.shape.length - 1])
      | _ => .error "IndexError"
    else .ok (s, axes)

/-- `perm = [i for i in range(n) if i != axis_in]; perm.insert(axis_out, axis_in)`. -/
def movePerm (n axisIn axisOut : Nat) : List Nat :=
  let rest := (List.range n).filter (fun i => i != axisIn)
  rest.take axisOut ++ axisIn :: rest.drop axisOut

/-- `diagonal.inner(x, axes_in, axis_out)` for non-negative axes. -/
def diagW (s : St) (axesIn : List Nat) (axisOut : Nat) : Except String St :=
  if !(axesIn.all (fun a => a < s.shape.length)) || !(axisOut < s.shape.length) then .error "ValueError"
  else
    match diagLoop (Py.sortedNat axesIn).length s (Py.sortedNat axesIn) with
    | .error e => .error e
    | .ok (s', axes) =>
      match axes with
      | [] => .error "IndexError"
      | axisIn :: _ => .ok (transposeW s' (movePerm s'.shape.length axisIn axisOut))

end Einx.Generic
