/-!
C16 / M4: `_join_exprs` of `einx/_src/adapter/decomposednamedtensor_from_classical.py`, with the enumeration order of
the set in `take_one` as an explicit argument (the code before einx's fix 1fbcebe, quoted here; the fix replaces the set
by `dict.fromkeys(...)`, which is the enumeration `enumFirst`).  Core Lean only.

```
def _join_exprs(exprs):
    axisname_to_value = {axis.name: axis.value for expr in exprs for axis in expr.nodes() if isinstance(axis, stage3.Axis)}
    axes = [[expr for expr in expr.nodes() if isinstance(expr, stage3.Axis) and expr.value != 1] for expr in exprs]
    def take_one():
        def get_count(name):
            return sum((1 if name == axis.name else 0) for axes2 in axes for axis in axes2)
        first_axisnames = list({axes2[0].name for axes2 in axes if len(axes2) > 0})      # <- set enumeration
        counts = [get_count(name) for name in first_axisnames]
        idx = np.argmax(counts)
        return first_axisnames[idx]
    def remove(axes, name):
        return [axis for axis in axes if axis.name != name]
    joined_axisnames = []
    while any(len(axes2) > 0 for axes2 in axes):
        axisname = take_one()
        joined_axisnames.append(axisname)
        axes = [remove(axes2, axisname) for axes2 in axes]
    return stage3.List.create([stage3.Axis(name, axisname_to_value[name]) for name in joined_axisnames])
```
An expression is the list of its axes `(name, value)` in `nodes()` order.  `enum` is the enumeration oracle: it receives the
list of first names in insertion order (with repetitions) and returns them as the set enumerates them – any duplicate-free
list with the same members (`EnumOK`); it may answer differently at every step.
-/
namespace Einx.Order.Join

abbrev Ax := String × Nat

/-- `axisname_to_value[name]`: a dict comprehension keeps the *last* value written for a key. -/
def valueOf (exprs : List (List Ax)) (name : String) : Option Nat :=
  (exprs.flatten.reverse.find? (fun a => a.1 == name)).map (·.2)

/-- `axes`: per expression the names of the axes with `value != 1`. -/
def nonUnit (exprs : List (List Ax)) : List (List String) :=
  exprs.map (fun e => (e.filter (fun a => a.2 != 1)).map (·.1))

/-- `get_count(name)`. -/
def getCount (axes : List (List String)) (name : String) : Nat :=
  (axes.flatten.filter (fun n => name == n)).length

/-- `[axes2[0].name for axes2 in axes if len(axes2) > 0]` in insertion order. -/
def firsts (axes : List (List String)) : List String := axes.filterMap List.head?

/-- `np.argmax`: index of the first maximal entry (`none` for an empty list: numpy raises). -/
def argmaxFirst : List Nat → Option Nat
  | [] => none
  | c :: cs =>
    match argmaxFirst cs with
    | none => some 0
    | some k => if cs.getD k 0 > c then some (k + 1) else some 0

/-- `take_one()`. -/
def takeOne (enum : List String → List String) (axes : List (List String)) : Option String :=
  let names := enum (firsts axes)
  match argmaxFirst (names.map (getCount axes)) with
  | some i => names[i]?
  | none => none

/-- `[remove(axes2, name) for axes2 in axes]`. -/
def removeName (axes : List (List String)) (name : String) : List (List String) :=
  axes.map (fun l => l.filter (fun n => n != name))

/-- Number of axis occurrences still to be placed. -/
def total (axes : List (List String)) : Nat := axes.flatten.length

/-- The `while` loop; `fuel` bounds the number of iterations (`joinLoop_spec`: `total axes` iterations
suffice for every admissible enumeration).  `none` = the Python code raises (cannot happen for an admissible `enum`). -/
def joinLoop (enum : List String → List String) : Nat → List (List String) → List String → Option (List String)
  | 0, axes, acc => if axes.any (fun l => !l.isEmpty) then none else some acc
  | fuel + 1, axes, acc =>
    if axes.any (fun l => !l.isEmpty) then
      match takeOne enum axes with
      | some n => joinLoop enum fuel (removeName axes n) (acc ++ [n])
      | none => none
    else some acc

/-- `joined_axisnames`. -/
def joinNames (enum : List String → List String) (exprs : List (List Ax)) : Option (List String) :=
  let axes := nonUnit exprs
  joinLoop enum (total axes) axes []

/-- All entries are present (`none` = a `KeyError`). -/
def allSome {α : Type} : List (Option α) → Option (List α)
  | [] => some []
  | none :: _ => none
  | some a :: r => (allSome r).map (a :: ·)

/-- `_join_exprs(exprs)`: the joined expression as `(name, value)` list. -/
def joinExprs (enum : List String → List String) (exprs : List (List Ax)) : Option (List Ax) :=
  match joinNames enum exprs with
  | some names => allSome (names.map (fun n => (valueOf exprs n).map (fun v => (n, v))))
  | none => none

/-- What a Python set may do: enumerate its members, each once, in any order. -/
def EnumOK (enum : List String → List String) : Prop :=
  ∀ l, (enum l).Nodup ∧ ∀ x, x ∈ enum l ↔ x ∈ l

/-- Two enumerations used by examples and by the driver: first-occurrence order and its reverse. -/
def enumFirst (l : List String) : List String := l.eraseDups
def enumLast (l : List String) : List String := l.eraseDups.reverse

/-- An enumeration given as a priority list (the order in which the real set was observed to enumerate):
members of `l` in the order of `prio`, then the rest in first-occurrence order. -/
def enumBy (prio : List String) (l : List String) : List String :=
  let d := l.eraseDups
  prio.eraseDups.filter (fun x => d.contains x) ++ d.filter (fun x => !prio.contains x)

end Einx.Order.Join
