/-!
C16 / M2: the part of `einx/_src/namedtensor/stage2/cse.py` in which the iteration order of the set
`common_exprs` can be observed, as the code stands before einx's fix 035c94b (which keeps `common_exprs` in a list and
lets `replace` take the longest match; the code after it is `Solve/CseTrees.lean`).  Core Lean only.

`cse()` collects candidate sub-expressions in a dict keyed by their printed form, filters the keys into the
**set** `common_exprs`, and turns it into a list by iterating the set (`[str_to_common_expr[k] for k in
common_exprs]`).  From there on the code is

* a chain of filters `common_exprs = [c for c in common_exprs if P c]` (`P` looks at `c` alone) and one filter whose
  predicate also quantifies over the whole list (`not any(id(c) != id(c2) and any_is_parent_of(c2, c) for c2 in
  common_exprs)`): modelled by `filterEach` / `filterAgainst`, for arbitrary predicates;
* `replace`, which walks every root expression and substitutes `cse.<idx>` axes, `idx` being the position of the
  candidate in the list: modelled line by line (`matchNode`, `matchAt`, `rebuild`).

A candidate is a list of *exprlists*; an exprlist is a list of node identities (`id(expr)`); every node of the input
trees carries its identity `nid`.  The output is written as a token sequence per node (a Python list of nodes ↦ a list
of token lists): this is exactly the printed form plus axis values, and it makes `List.create`'s flattening the plain
concatenation of token lists.
-/
namespace Einx.Order.Cse

/-- Stage-2 expression trees with node identities. -/
inductive Tree where
  | axis (nid : Nat) (name : String) (value : Option Nat)
  | list (nid : Nat) (children : List Tree)
  | flat (nid : Nat) (inner : Tree)
  | concat (nid : Nat) (children : List Tree)
  | br (nid : Nat) (inner : Tree)
deriving Repr, Inhabited

def Tree.nid : Tree → Nat
  | .axis n _ _ => n | .list n _ => n | .flat n _ => n | .concat n _ => n | .br n _ => n

/-- `values = [...]; None if any is None else math.prod(values)` / `sum`. -/
def prodOpt : List (Option Nat) → Option Nat
  | [] => some 1
  | none :: _ => none
  | some v :: r => (prodOpt r).map (v * ·)

def sumOpt : List (Option Nat) → Option Nat
  | [] => some 0
  | none :: _ => none
  | some v :: r => (sumOpt r).map (v + ·)

mutual
/-- `expr.value` of stage 2. -/
def Tree.value : Tree → Option Nat
  | .axis _ _ v => v
  | .list _ cs => prodOpt (Tree.values cs)
  | .flat _ i => i.value
  | .concat _ cs => sumOpt (Tree.values cs)
  | .br _ i => i.value
def Tree.values : List Tree → List (Option Nat)
  | [] => []
  | c :: cs => c.value :: Tree.values cs
end

/-- Output tokens; `L` is the label of a substituted axis (`cse.<L>`). -/
inductive Tok (L : Type) where
  | cse (label : L) (value : Option Nat)
  | ax (name : String) (value : Option Nat)
  | lpar | rpar          -- FlattenedAxis  "(" … ")"
  | lbr | rbr            -- Brackets       "[" … "]"
  | lcat | plus | rcat   -- ConcatenatedAxis "(" … " + " … ")"
  | err                  -- `ConcatenatedAxis.create([])` raises ValueError
deriving Repr, DecidableEq, Inhabited

def Tok.map {L L' : Type} (f : L → L') : Tok L → Tok L'
  | .cse l v => .cse (f l) v
  | .ax n v => .ax n v
  | .lpar => .lpar | .rpar => .rpar | .lbr => .lbr | .rbr => .rbr
  | .lcat => .lcat | .plus => .plus | .rcat => .rcat | .err => .err

/-- Token kinds without the label (what the smart constructors look at). -/
def Tok.kind {L : Type} : Tok L → Nat
  | .cse _ _ => 0 | .ax _ _ => 0 | .lpar => 1 | .rpar => 2 | .lbr => 3 | .rbr => 4 | .lcat => 5 | .plus => 6 | .rcat => 7 | .err => 8

/-- Does the token list consist of exactly one group opened by a token of kind `o` and closed by kind `c`
(depth counting over all three bracket kinds)? -/
def isSingleGroup {L : Type} (o c : Nat) (ts : List (Tok L)) : Bool :=
  match ts with
  | [] => false
  | t :: rest =>
    if t.kind != o then false
    else
      -- depth after the first token is 1; it must reach 0 exactly at the last token, which has kind `c`
      let rec go (depth : Nat) : List (Tok L) → Bool
        | [] => false
        | [x] => depth == 1 && x.kind == c
        | x :: xs =>
          let k := x.kind
          if k == 1 || k == 3 || k == 5 then go (depth + 1) xs
          else if k == 2 || k == 4 || k == 7 then (if depth ≤ 1 then false else go (depth - 1) xs)
          else go depth xs
      go 1 rest

/-- `FlattenedAxis.create(List.create(nodes))`: an inner `FlattenedAxis` is returned unchanged. -/
def mkFlat {L : Type} (inner : List (Tok L)) : List (Tok L) :=
  if isSingleGroup 1 2 inner then inner else .lpar :: inner ++ [.rpar]

/-- `Brackets.create(List.create(nodes))`: inner `Brackets` unchanged; `ndim == 0` (nothing printed) ↦ empty `List`. -/
def mkBr {L : Type} (inner : List (Tok L)) : List (Tok L) :=
  if isSingleGroup 3 4 inner then inner else if inner.isEmpty then [] else .lbr :: inner ++ [.rbr]

def joinPlus {L : Type} : List (List (Tok L)) → List (Tok L)
  | [] => []
  | [n] => n
  | n :: ns => n ++ .plus :: joinPlus ns

/-- `ConcatenatedAxis.create(nodes)`. -/
def mkConcat {L : Type} (nodes : List (List (Tok L))) : List (Tok L) :=
  match nodes with
  | [] => [.err]
  | [n] => n
  | _ => .lcat :: joinPlus nodes ++ [.rcat]

section Rebuild
variable {L : Type}
-- `mn nid`: the label of the candidate that contains the node as a one-element exprlist;
-- `ma ids`: label and length of the exprlist found at the current position, `ids` being the identities of the
-- remaining elements of the Python list.
variable (mn : Nat → Option L) (ma : List Nat → Option (L × Nat))

/-- The node-level test at the top of `replace(expr)`: a node that is a one-element exprlist of a candidate becomes
`cse.<label>` with the node's value; otherwise the structural case `other` applies. -/
def nodeOr (nid : Nat) (value : Option Nat) (other : List (List (Tok L))) : List (List (Tok L)) :=
  match mn nid with
  | some l => [[.cse l value]]
  | none => other

mutual
/-- `replace(expr)` for a node. -/
def rebuild : Tree → List (List (Tok L))
  | .axis n name v => nodeOr mn n v [[.ax name v]]
  | .list n cs =>
    -- `replace(expr.children)`; a Python list of length one is `replace(expr[0])`
    nodeOr mn n (prodOpt (Tree.values cs)) (if cs.length == 1 then rebuildC cs else rebuildL 0 cs)
  | .concat n cs => nodeOr mn n (sumOpt (Tree.values cs)) [mkConcat (rebuildC cs)]
  | .br n i => nodeOr mn n i.value [mkBr (rebuild i).flatten]
  | .flat n i => nodeOr mn n i.value [mkFlat (rebuild i).flatten]
/-- The `while i < len(expr)` loop of `replace(expr)` for a Python list; `skip` elements are still covered by the
exprlist substituted last (`i += len(exprlist)`). -/
def rebuildL (skip : Nat) : List Tree → List (List (Tok L))
  | [] => []
  | t :: ts =>
    if skip > 0 then rebuildL (skip - 1) ts
    else
      match ma (t.nid :: ts.map Tree.nid) with
      | some (l, len) => [.cse l (prodOpt (Tree.values ((t :: ts).take len)))] :: rebuildL (len - 1) ts
      | none => rebuild t ++ rebuildL 0 ts
/-- `[c2 for c1 in expr.children for c2 in replace(c1)]`. -/
def rebuildC : List Tree → List (List (Tok L))
  | [] => []
  | c :: cs => rebuild c ++ rebuildC cs
end
end Rebuild

/-- A candidate: its exprlists (lists of node identities), in the (deterministic) order of the dict entry. -/
abbrev Cand := List (List Nat)

/-- First loop of `replace`: `for idx, common_expr in enumerate(common_exprs): for exprlist in common_expr:
if len(exprlist) == 1 and id(expr) == id(exprlist[0]): return …cse.{idx}…`. -/
def matchNode (cands : List Cand) (nid : Nat) : Option Nat :=
  cands.findIdx? (fun c => c.any (fun el => el == [nid]))

/-- The search at position `i` of the list loop: the first candidate (in list order) one of whose exprlists matches
`expr[i:i+len]`; inside that candidate the *last* matching exprlist (the inner `for` has no `break`).
Exprlists are non-empty (slices `children[s : e + 1]` with `s ≤ e`, or `[expr]`; the code asserts it). -/
def matchAt (cands : List Cand) (ids : List Nat) : Option (Nat × Nat) :=
  let hit := fun (c : Cand) => c.any (fun el => !el.isEmpty && el.isPrefixOf ids)
  match cands.findIdx? hit with
  | none => none
  | some k =>
    match cands[k]? with
    | none => none
    | some c => ((c.filter (fun el => !el.isEmpty && el.isPrefixOf ids)).getLast?).map (fun el => (k, el.length))

/-- `replace(root)` for the candidate list `cands` (in the order in which the set was enumerated); the result is
`List.create(replace(root))`, i.e. the concatenation of the node tokens. -/
def replace (cands : List Cand) (root : Tree) : List (Tok Nat) :=
  (rebuild (matchNode cands) (matchAt cands) root).flatten

/-- `[c for c in common_exprs if P c]`. -/
def filterEach {α : Type} (p : α → Bool) (cands : List α) : List α := cands.filter p

/-- `[c for c in common_exprs if not any(c2 is not c and R c2 c for c2 in common_exprs)]` ("remove subexpressions of
subexpressions"); candidates are distinct objects, so `is not` is `≠` on a duplicate-free list. -/
def filterAgainst {α : Type} [BEq α] (r : α → α → Bool) (cands : List α) : List α :=
  cands.filter (fun c => !cands.any (fun c2 => c2 != c && r c2 c))

/-- No exprlist of one candidate is a prefix of an exprlist of another candidate: then at most one candidate
matches at any node or list position (decidable hypothesis of `cse_order_invariant_partial`). -/
def nonOverlapping (cands : List Cand) : Bool :=
  cands.all (fun c1 => cands.all (fun c2 => c1 == c2 ||
    c1.all (fun e1 => c2.all (fun e2 => e1.isEmpty || e2.isEmpty || !(e1.isPrefixOf e2 || e2.isPrefixOf e1)))))

/-- The renumbering of `cse.<n>` names induced by two enumerations of the same candidates. -/
def renumber (cands₁ cands₂ : List Cand) (i : Nat) : Nat :=
  match cands₁[i]? with
  | some c => cands₂.idxOf c
  | none => i

end Einx.Order.Cse
