import EinxModel.IR.Validate
import EinxModel.Extracted.Kernels
/-
M7 (optimiser): the pieces of `einx/_src/tracer/optimizer` that the C05 theorems speak about.

* `step`: one instruction of the IR executed on a register file -- literally the body of `IR.evalProg`
  (see `evalProg_cons`), so every statement about `step` is a statement about the program evaluator that
  the validator and the driver's `equiv` kind execute.
* `PassModel` / `PassModel.fix`: the structure of `optimizer.optimize`: whole passes are repeated with a
  fresh `Optimizer` until a pass reports `changed = False`.  A pass is abstract here (the real passes are
  run by the harness on real graphs); what the model fixes is the *loop* and the *measure argument*:
  a pass that reports a change strictly decreases a natural-number measure (for the real optimiser: the
  number of call/cast nodes of the graph unfolded into a tree, i.e. counted once per path from the
  output -- checked on every real pass by `tools/props/c05.py`).
* `equivProgs`: two programs over the base instruction set `Instr` have cell-for-cell identical symbolic
  results; `Props/C05.lean: equiv_sound` proves that acceptance means equality for all tensor contents.  The
  driver does not run it: its kind `equiv` runs `IR.equivG planInstrX` over the extended instruction set
  (sound by `Props/C01.lean: equiv_sound_extended`).
* `Term` / `rewrite` (one pass of the six patterns on a tree), `Rule` / `Rewrites` (the patterns as a rewrite
  system, any order), `Term.evalWith` / `Term.eval` (what a term computes, by `step`), `evalLetsWith` /
  `rewriteLets` / `unfoldLets` (sharing as let-bindings): the objects of the whole-pass theorems
  `rewrite_sound`, `optimize_sound`, `rebuild_preserves` of `Props/C05.lean`.  None of these is executed by the
  driver (its kinds `equiv`, `equiv_progs`, `kernel` use `equivG`, `Extracted.*` only).
-/
namespace Einx.Optimize
open Einx Einx.IR

/-- One instruction on a register file: plan from the shapes, run the plan. -/
def step {α : Type} (A : Alg α) (regs : List (Tensor α)) (i : Instr) : E (Tensor α) := do
  let p ← planInstr (regs.map (·.shape)) i
  pure (runPlan A regs p)

/-- `evalProg` is iterated `step`. -/
theorem evalProg_cons {α : Type} (A : Alg α) (i : Instr) (is : List Instr) (regs : List (Tensor α)) :
    evalProg A (i :: is) regs = (do let t ← step A regs i; evalProg A is (regs ++ [t])) := by
  simp only [evalProg, step]
  cases planInstr (regs.map (·.shape)) i <;> rfl

/-! ### The pass loop of `optimizer.optimize` -/

/-- A pass returns the rewritten graph and whether any pattern fired; a pass that fired strictly decreases
the measure. -/
structure PassModel (G : Type) where
  pass : G → G × Bool
  measure : G → Nat
  decreases : ∀ g, (pass g).2 = true → measure (pass g).1 < measure g

/-- `optimize`: `while True: x = pass(x); if not changed: break` -- returns the final graph and the number
of passes executed.  Defined by well-founded recursion on the measure: Lean accepts the definition only
because the loop terminates. -/
def PassModel.fix {G : Type} (P : PassModel G) (g : G) : G × Nat :=
  if h : (P.pass g).2 = true then
    let r := P.fix (P.pass g).1
    (r.1, r.2 + 1)
  else ((P.pass g).1, 1)
termination_by P.measure g
decreasing_by exact P.decreases g h

/-- The same loop with an explicit bound on the number of passes (what a run of the real loop looks like
when it is cut off): `none` = bound exhausted. -/
def PassModel.iter {G : Type} (P : PassModel G) : Nat → G → Option (G × Nat)
  | 0, _ => none
  | fuel + 1, g =>
    if (P.pass g).2 then (P.iter fuel (P.pass g).1).map (fun r => (r.1, r.2 + 1))
    else some ((P.pass g).1, 1)

/-! ### A term model of the six patterns (graphs unfolded into trees)

A node stands for a numpy call together with the `Cast` that gives its result a tensor type; `cast` is an
additional identity cast; `op2` is any other call (never rewritten itself, its operands are).  `Term.shape` is the
traced shape the patterns read as `input.shape`.  `rewrite` is one pass of `Optimizer._optimize` on a tree:
patterns first (no-op test, then merge with a directly nested node of the same kind), otherwise rebuild the node
from its rewritten operands.  The tests and the composition are the `Extracted.*` definitions. -/

inductive Term where
  | input (i : Nat) (shape : List Nat)
  | reshape (x : Term) (shape : List Nat)
  | transpose (x : Term) (perm : List Nat)
  | broadcastTo (x : Term) (shape : List Nat)
  | concat1 (x : Term) (axis : Nat)                 -- `concatenate([x], axis)`
  | concat2 (x y : Term) (axis : Nat)               -- `concatenate([x, y], axis)`
  | cast (x : Term)                                 -- identity cast
  | op2 (f : String) (x y : Term) (shape : List Nat)
deriving Repr, Inhabited

def Term.shape : Term → List Nat
  | .input _ s => s
  | .reshape _ s => s
  | .transpose x p => p.map (fun a => x.shape.getD a 0)
  | .broadcastTo _ s => s
  | .concat1 x _ => x.shape
  | .concat2 x y axis => x.shape.set axis (x.shape.getD axis 0 + y.shape.getD axis 0)
  | .cast x => x.shape
  | .op2 _ _ _ s => s

/-- Number of call/cast nodes, counted once per path (tree unfolding). -/
def Term.size : Term → Nat
  | .input _ _ => 0
  | .reshape x _ => x.size + 1
  | .transpose x _ => x.size + 1
  | .broadcastTo x _ => x.size + 1
  | .concat1 x _ => x.size + 1
  | .concat2 x y _ => x.size + y.size + 1
  | .cast x => x.size + 1
  | .op2 _ x y _ => x.size + y.size + 1

/-- One pass over a tree: (rewritten tree, did any pattern fire). -/
def rewrite : Term → Term × Bool
  | .input i s => (.input i s, false)
  | .reshape (.reshape x' s1) s =>
    if Extracted.reshapeNoop s s1 then ((rewrite (.reshape x' s1)).1, true)        -- SkipReshape: no-op
    else (.reshape (rewrite x').1 s, true)                                          -- SkipReshape: merge
  | .reshape x s =>
    if Extracted.reshapeNoop s x.shape then ((rewrite x).1, true)
    else (.reshape (rewrite x).1 s, (rewrite x).2)
  | .transpose (.transpose x' p1) p2 =>
    if Extracted.transposeNoop p2 (Term.transpose x' p1).shape.length then ((rewrite (.transpose x' p1)).1, true)
    else match Extracted.composePerm p1 p2 with
      | some p => (.transpose (rewrite x').1 p, true)                               -- SkipTranspose: merge
      | none => (.transpose (rewrite (.transpose x' p1)).1 p2, (rewrite (.transpose x' p1)).2)   -- (Python would raise IndexError)
  | .transpose x p =>
    if Extracted.transposeNoop p x.shape.length then ((rewrite x).1, true)
    else (.transpose (rewrite x).1 p, (rewrite x).2)
  | .broadcastTo x s =>
    if Extracted.broadcastNoop s x.shape then ((rewrite x).1, true)
    else (.broadcastTo (rewrite x).1 s, (rewrite x).2)
  | .concat1 x axis =>
    if Extracted.concatNoop 1 then ((rewrite x).1, true)
    else (.concat1 (rewrite x).1 axis, (rewrite x).2)
  | .concat2 x y axis =>
    if Extracted.concatNoop 2 then ((rewrite x).1, true)
    else (.concat2 (rewrite x).1 (rewrite y).1 axis, (rewrite x).2 || (rewrite y).2)
  | .cast x => ((rewrite x).1, true)                                                -- SkipCast
  | .op2 f x y s => (.op2 f (rewrite x).1 (rewrite y).1 s, (rewrite x).2 || (rewrite y).2)

/-! ### The patterns as a rewrite system (independent of the traversal strategy)

`Rule` is one application of a pattern at the root of a term (the test and the replacement of the pattern, on the
`Extracted.*` tests and composition); `Rewrites` is its closure under contexts, sequencing and doing nothing: patterns
applied anywhere, any number of times, in any order.  `rewrite` is one strategy (`rewrite_rewrites`,
Proofs/OptimizeSound.lean); the memoised top-down traversal of `Optimizer._optimize` is another.  A merge through
`_skip_id` (`reshape(cast(reshape(x, s1)), s)` → `reshape(x, s)`) is `skipCast` under the outer node followed by
`reshapeMerge`, so it needs no rule of its own. -/

inductive Rule : Term → Term → Prop
  | reshapeNoop (x : Term) (s : List Nat) : Extracted.reshapeNoop s x.shape = true → Rule (.reshape x s) x
  | reshapeMerge (x : Term) (s1 s : List Nat) : Rule (.reshape (.reshape x s1) s) (.reshape x s)
  | transposeNoop (x : Term) (p : List Nat) : Extracted.transposeNoop p x.shape.length = true → Rule (.transpose x p) x
  | transposeMerge (x : Term) (p1 p2 p : List Nat) : Extracted.composePerm p1 p2 = some p →
      Rule (.transpose (.transpose x p1) p2) (.transpose x p)
  | broadcastNoop (x : Term) (s : List Nat) : Extracted.broadcastNoop s x.shape = true → Rule (.broadcastTo x s) x
  | concatNoop (x : Term) (axis : Nat) : Extracted.concatNoop 1 = true → Rule (.concat1 x axis) x
  | skipCast (x : Term) : Rule (.cast x) x

inductive Rewrites : Term → Term → Prop
  | refl (t : Term) : Rewrites t t
  | rule {t t' : Term} : Rule t t' → Rewrites t t'
  | trans {a b c : Term} : Rewrites a b → Rewrites b c → Rewrites a c
  | reshape {x x' : Term} (s : List Nat) : Rewrites x x' → Rewrites (.reshape x s) (.reshape x' s)
  | transpose {x x' : Term} (p : List Nat) : Rewrites x x' → Rewrites (.transpose x p) (.transpose x' p)
  | broadcastTo {x x' : Term} (s : List Nat) : Rewrites x x' → Rewrites (.broadcastTo x s) (.broadcastTo x' s)
  | concat1 {x x' : Term} (axis : Nat) : Rewrites x x' → Rewrites (.concat1 x axis) (.concat1 x' axis)
  | concat2 {x x' y y' : Term} (axis : Nat) : Rewrites x x' → Rewrites y y' →
      Rewrites (.concat2 x y axis) (.concat2 x' y' axis)
  | cast {x x' : Term} : Rewrites x x' → Rewrites (.cast x) (.cast x')
  | op2 {x x' y y' : Term} (f : String) (s : List Nat) : Rewrites x x' → Rewrites y y' →
      Rewrites (.op2 f x y s) (.op2 f x' y' s)

/-! ### What a term computes

`Term.evalWith` gives a term the semantics of the IR executor: a node evaluates its operands, puts the results
into a fresh register file (`[v]` or `[a, b]`) and executes **one instruction of `IR.evalProg`** on it
(`step` = `planInstr` from the operand shapes, then `runPlan`; `step_iff_evalProg` below).  The instructions
are the numpy primitives the validator executes (`Instr.reshape/transpose/broadcastTo/concat`); `cast` is the
identity.  `op2 f` is "any other call" -- the patterns never look at it -- so its meaning is a parameter
`O : Op2 α` (any partial function of the two operand values); `Term.eval` instantiates it with the binary
elementwise call `f` with numpy broadcasting (`ewiseOp` = `Instr.ewise`).

The shapes stored in a term are the *traced* shapes (`Tracer.shape`), which the patterns read instead of the
run-time shapes.  A term is only meaningful when they are true: `input i s` evaluates to input `i` provided
its shape is `s`, `op2 _ _ _ s` checks that the result has shape `s`; everything else has its shape
determined by its operands (`Term.shape`), which `eval_shape` (Proofs/OptimizeSound.lean) proves. -/

/-- Meaning of the calls the patterns do not inspect: a partial function of the operand values. -/
abbrev Op2 (α : Type) := String → Tensor α → Tensor α → E (Tensor α)

/-- The results of `O` have data of the size their shapes say. -/
def Op2.WF {α : Type} (O : Op2 α) : Prop :=
  ∀ f a b r, O f a b = .ok r → r.data.length = prod r.shape

def Term.evalWith {α : Type} (A : Alg α) (O : Op2 α) (inputs : List (Tensor α)) : Term → E (Tensor α)
  | .input i s =>
    match inputs[i]? with
    | some t => if t.shape = s then pure t else throw s!"input {i}: traced shape {s}, actual shape {t.shape}"
    | none => throw s!"input {i} undefined"
  | .reshape x s => do
    let v ← x.evalWith A O inputs
    step A [v] (.reshape 0 s)
  | .transpose x p => do
    let v ← x.evalWith A O inputs
    step A [v] (.transpose 0 p)
  | .broadcastTo x s => do
    let v ← x.evalWith A O inputs
    step A [v] (.broadcastTo 0 s)
  | .concat1 x axis => do
    let v ← x.evalWith A O inputs
    step A [v] (.concat [0] axis)
  | .concat2 x y axis => do
    let a ← x.evalWith A O inputs
    let b ← y.evalWith A O inputs
    step A [a, b] (.concat [0, 1] axis)
  | .cast x => x.evalWith A O inputs
  | .op2 f x y s => do
    let a ← x.evalWith A O inputs
    let b ← y.evalWith A O inputs
    let r ← O f a b
    if r.shape = s then pure r else throw s!"{f}: traced shape {s}, actual shape {r.shape}"

/-- `f(a, b)` as the elementwise numpy call with broadcasting: one `Instr.ewise` on the register file `[a, b]`. -/
def ewiseOp {α : Type} (A : Alg α) : Op2 α := fun f a b => step A [a, b] (.ewise f [.reg 0, .reg 1])

/-- The term model evaluated entirely by the primitive plans of IR/Prim.lean. -/
abbrev Term.eval {α : Type} (A : Alg α) (inputs : List (Tensor α)) (t : Term) : E (Tensor α) :=
  t.evalWith A (ewiseOp A) inputs

/-- `step` is a run of the program evaluator on a one-instruction program. -/
theorem step_iff_evalProg {α : Type} (A : Alg α) (regs : List (Tensor α)) (i : Instr) (t : Tensor α) :
    step A regs i = .ok t ↔ evalProg A [i] regs = .ok (regs ++ [t]) := by
  rw [evalProg_cons]
  cases h : step A regs i with
  | error e => simp [bind, Except.bind]
  | ok t' =>
    simp only [bind, Except.bind, evalProg, pure, Except.pure, Except.ok.injEq]
    constructor
    · intro h; rw [h]
    · intro h; exact (List.append_cancel_left h |> List.cons.inj).1

/-! ### Sharing: a graph as a list of let-bound terms (SSA)

A value with several consumers is bound once: binding `k` is a term over the register file
`inputs ++ [values of the bindings before k]` (a leaf `input i s` with `i ≥ inputs.length` reads an earlier
binding), so the value of a binding is computed once and read by all its consumers.  The memoised rebuild of
`Optimizer._optimize` (`id_to_newobj`: a node is rewritten once, every consumer receives the same rewritten
object) is `rewriteLets`: every binding is rewritten once, consumers keep referring to it by its position. -/

/-- Evaluate the bindings in order; the result is the extended register file. -/
def evalLetsWith {α : Type} (A : Alg α) (O : Op2 α) : List Term → List (Tensor α) → E (List (Tensor α))
  | [], env => pure env
  | b :: bs, env => do
    let v ← b.evalWith A O env
    evalLetsWith A O bs (env ++ [v])

abbrev evalLets {α : Type} (A : Alg α) (bs : List Term) (env : List (Tensor α)) : E (List (Tensor α)) :=
  evalLetsWith A (ewiseOp A) bs env

/-- One memoised pass over a list of bindings. -/
def rewriteLets (bs : List Term) : List Term × Bool :=
  (bs.map (fun b => (rewrite b).1), bs.any (fun b => (rewrite b).2))

/-- Replace the leaves that read a binding (register `n + j`) by the tree `σ[j]`. -/
def Term.subst (n : Nat) (σ : List Term) : Term → Term
  | .input i s => if i < n then .input i s else (σ[i - n]?).getD (.input i s)
  | .reshape x s => .reshape (x.subst n σ) s
  | .transpose x p => .transpose (x.subst n σ) p
  | .broadcastTo x s => .broadcastTo (x.subst n σ) s
  | .concat1 x axis => .concat1 (x.subst n σ) axis
  | .concat2 x y axis => .concat2 (x.subst n σ) (y.subst n σ) axis
  | .cast x => .cast (x.subst n σ)
  | .op2 f x y s => .op2 f (x.subst n σ) (y.subst n σ) s

/-- Tree unfolding of a list of bindings over `n` graph inputs: `σ` holds the trees (over the graph inputs
only) of the bindings processed so far; the result lists the tree of every binding. -/
def unfoldLets (n : Nat) : List Term → List Term → List Term
  | [], σ => σ
  | b :: bs, σ => unfoldLets n bs (σ ++ [b.subst n σ])

/-! ### Symbolic equivalence of two programs (driver kind `equiv`) -/

/-- Both programs run on symbolic inputs of the given shapes and their selected output registers are
identical, shape by shape and cell by cell. -/
def equivProgs (prog1 : List Instr) (outs1 : List Nat) (prog2 : List Instr) (outs2 : List Nat)
    (inShapes : List (List Nat)) : Bool :=
  match symRun prog2 inShapes outs2 with
  | .ok exp => validate prog1 inShapes outs1 exp
  | .error _ => false

end Einx.Optimize
