import EinxModel.Optimize.DagSem
/-!
The termination measure of the optimiser loop on DAG stores: the number of nodes of the graph output **unfolded into a
tree** (`Prog.weight`).  `sizes nodes` is the table of unfolded sizes of the nodes of a store, computed left to right (a node
counts 1 plus the sizes of the tracers among its operands; a reference that is not below the node counts 0 -- on a
topologically ordered store there is none).  The DAG node count itself is not monotone (a merged call is a new node and
the old one may stay alive through another consumer); the unfolded size strictly decreases in every pass that reports
`changed` (`Props/C05Dag2.lean: pass_decreases_dag`).  No Mathlib: the driver computes the weights of every pass.
-/
namespace Einx.OptDag

def tokSize (tbl : List Nat) : Tok → Nat
  | .ref j => (tbl[j]?).getD 0
  | _ => 0

def toksSize (tbl : List Nat) (v : List Tok) : Nat := (v.map (tokSize tbl)).sum

def opsSize (tbl : List Nat) (vs : List (List Tok)) : Nat := (vs.map (toksSize tbl)).sum

def App.size (a : App) (tbl : List Nat) : Nat := 1 + opsSize tbl a.operands

def nodeSize (tbl : List Nat) (n : Node) : Nat :=
  match n.origin with
  | .none => 1
  | .app a => a.size tbl
  | .proj s _ => 1 + (tbl[s]?).getD 0

/-- Unfolded sizes of the nodes of a store, in store order. -/
def sizes (nodes : List Node) : List Nat := nodes.foldl (fun tbl n => tbl ++ [nodeSize tbl n]) []

/-- The measure: unfolded size of the output of the top-level graph. -/
def Prog.weight (p : Prog) : Nat :=
  match p.top with
  | [.gref k] =>
    match p.store.graphs[k]? with
    | some g => toksSize (sizes p.store.nodes) g.output
    | none => 0
  | _ => 0

/-- Every application of the store has exactly one output tracer (no multi-output `Cast`s). -/
def Store.single (S : Store) : Bool :=
  S.nodes.all (fun n => match n.origin with | .none => true | .app a => a.out == [.ref 0] | .proj _ _ => false)

/-- Side condition of the measure theorem (decidable; computed by the driver on the INPUT graph only). -/
def Prog.measureOK (p : Prog) : Bool := p.topoOK && p.store.single

/-- `InlineGraph` never fires on the top-level graph object in the first `n` passes (decidable; computed by the driver). -/
def noInlineRun (pats : List Pattern) : Nat → Prog → Bool
  | 0, _ => true
  | n + 1, p =>
    noTopInline pats p &&
      (match pass pats p.fuel p with
       | .ok (p', true) => noInlineRun pats n p'
       | _ => true)

end Einx.OptDag
