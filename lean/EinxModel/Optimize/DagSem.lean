import EinxModel.Optimize.Dag
import EinxModel.Optimize.Rules
/-!
What a store computes (the DAG evaluator of `Props/C05Dag.lean`).

`evalNodes` evaluates the nodes of a store in order (operands before consumers): every node is evaluated **once**, its
value is appended to the environment, every consumer reads that value -- sharing is what the store says it is.
The meaning of an application is a parameter `Sem.app` (any partial function of the head and the evaluated operand
pytrees; `additional_dependencies` are scheduling constraints and are not passed on).  The soundness theorem of the
traversal is proved for every `Sem` that satisfies the laws the patterns rely on (`Sem.Laws`); `irSem A O` is the instance
in which `np.reshape / np.transpose / np.broadcast_to / np.concatenate` are executed by `Optimize.step` (= one instruction
of `IR.evalProg`, the numpy primitive plans of IR/Prim.lean) over an element algebra `A`, a `Cast` is the identity, `Import`
/ `GetAttr` build the function objects the calls are dispatched on, and every other application means `O` -- any partial
function.

The **node language of the evaluator** (`Head.evaluable`, `Prog.pureLang`): one output tracer per application, no `Assert`,
no nested `Graph` values; `CallInplace` / `UpdateItem` are evaluated as opaque applications (`Head.isEffect`).  On anything
else the evaluator fails, i.e. the soundness theorem says nothing about such stores.
A tracer type that carries a shape is checked against the value (`tyOK`): the patterns read traced shapes, and they are only
right about graphs whose traced shapes are true.
-/
namespace Einx.OptDag
open Einx Einx.IR

/-- An operand token after evaluation: structure / constant, or the value of a tracer. -/
inductive RTok (V : Type) where
  | lit (t : Tok)
  | val (v : V)

/-- An application with evaluated operands (no `additional_dependencies`). -/
structure EApp (V : Type) where
  head : Head
  pre : List (List (RTok V))
  args : List (List (RTok V))
  kwargs : List (String × List (RTok V))
  out : List Tok

structure Sem (V : Type) where
  app : EApp V → Except String V
  shapeOf : V → Option (List Nat)

variable {V : Type}

def evalTok (env : List V) : Tok → Except String (RTok V)
  | .ref i =>
    match env[i]? with
    | some v => pure (.val v)
    | none => throw s!"tracer {i} has no value"
  | .gref _ => throw "nested graph value (outside the pure node language)"
  | t => pure (.lit t)

def evalToks (env : List V) (v : List Tok) : Except String (List (RTok V)) := v.mapM (evalTok env)

def evalOperands (env : List V) (vs : List (List Tok)) : Except String (List (List (RTok V))) := vs.mapM (evalToks env)

def evalKwargs (env : List V) : List (String × List Tok) → Except String (List (String × List (RTok V)))
  | [] => pure []
  | (k, v) :: rest => do
    let v' ← evalToks env v
    let rest' ← evalKwargs env rest
    pure ((k, v') :: rest')

def evalApp (env : List V) (a : App) : Except String (EApp V) := do
  let pre ← evalOperands env a.pre
  let args ← evalOperands env a.args
  let kwargs ← evalKwargs env a.kwargs
  let _ ← evalOperands env a.deps     -- the dependencies must exist; they are not operands of the meaning
  pure ⟨a.head, pre, args, kwargs, a.out⟩

/-- Heads of the pure node language. -/
def Head.isPure : Head → Bool
  | .callInplace | .updateitem _ | .assert_ _ => false
  | _ => true

/-- In-place / effectful heads (`CallInplace`, `UpdateItem` of the `*_at` operations).  The evaluator treats them as OPAQUE
applications: their meaning is `Sem.app` of the evaluated operands (any partial function), they are evaluated exactly once like
every node of a store, and no pattern ever inspects them. -/
def Head.isEffect : Head → Bool
  | .callInplace | .updateitem _ => true
  | _ => false

/-- Heads the evaluator gives a meaning to: everything but `Assert` (whose output pytree and types come from its operand). -/
def Head.evaluable (h : Head) : Bool := h.isPure || h.isEffect

/-- The traced type is true of the value. -/
def tyOK (Sm : Sem V) : Ty → V → Bool
  | .value, _ => true
  | .tensor s, v => Sm.shapeOf v == some s
  | .convertible (some s) _, v => Sm.shapeOf v == some s
  | .convertible none _, _ => true

/-- `CallInplace(xs, f, …)` returns `xs` itself after the call (its output tracer has `xs._tracer_type`): the result must have
the shape of the value of `xs`.  Every other application: no condition. -/
def inplaceOK (Sm : Sem V) (ea : EApp V) (v : V) : Bool :=
  match ea.head with
  | .callInplace =>
    match ea.pre with
    | [.val x] :: _ => Sm.shapeOf v == Sm.shapeOf x
    | _ => false
  | _ => true

/-- The value of node number `env.length`, given the values of the nodes before it. -/
def evalNode (Sm : Sem V) (bind : List (Nat × V)) (env : List V) (n : Node) : Except String V :=
  match n.origin with
  | .none =>
    match bind.lookup env.length with
    | some v => if tyOK Sm n.ty v then pure v else throw "input: the traced type is not the type of the value"
    | none => throw "tracer without origin that is not a graph input"
  | .app a =>
    if a.out == [.ref 0] && a.head.evaluable then do
      let ea ← evalApp env a
      let v ← Sm.app ea
      if tyOK Sm n.ty v && inplaceOK Sm ea v then pure v else throw "the traced type is not the type of the value"
    else throw "outside the node language of the evaluator"
  | .proj _ _ => throw "outside the pure node language"

def evalNodes (Sm : Sem V) (bind : List (Nat × V)) : List Node → List V → Except String (List V)
  | [], env => pure env
  | n :: ns, env => do
    let v ← evalNode Sm bind env n
    evalNodes Sm bind ns (env ++ [v])

/-- What a program (a graph over a store) returns on the given inputs: the evaluated output pytree. -/
def evalProgram (Sm : Sem V) (p : Prog) (inputs : List V) : Except String (List (RTok V)) :=
  match p.top with
  | [.gref k] =>
    match p.store.graphs[k]? with
    | some g =>
      if g.inputs.length == inputs.length then do
        let env ← evalNodes Sm (g.inputs.zip inputs) p.store.nodes []
        evalToks env g.output
      else throw "wrong number of inputs"
    | none => throw "dangling graph reference"
  | _ => throw "the program is not a graph"

/-! ### Decidable side conditions of the soundness theorem (computed by the driver for every real graph) -/

/-- The program is a graph whose inputs are distinct tracers without origin. -/
def Prog.wfTop (p : Prog) : Bool :=
  match p.top with
  | [.gref k] =>
    match p.store.graphs[k]? with
    | some g => decide g.inputs.Nodup && g.inputs.all (fun i => match p.store.nodes[i]? with | some ⟨_, .none⟩ => true | _ => false)
    | none => false
  | _ => false

/-- The store is in the node language of the evaluator (every application has one output and is not an `Assert`, no nested graph
values; in-place nodes are opaque applications):
the structural part of "the evaluator does not fail", reported by the driver for every real graph. -/
def Prog.pureLang (p : Prog) : Bool :=
  let noG (v : List Tok) : Bool := v.all (fun t => match t with | .gref _ => false | _ => true)
  p.store.nodes.all (fun n =>
    match n.origin with
    | .none => true
    | .app a => a.out == [.ref 0] && a.head.evaluable && (a.pre ++ a.args ++ a.kwargs.map (·.2) ++ a.deps).all noG
    | .proj _ _ => false) &&
  (match p.top with
   | [.gref k] => match p.store.graphs[k]? with | some g => noG g.output | none => false
   | _ => false)

/-- No pattern (`InlineGraph`) fires on the top-level graph object itself. -/
def noTopInline (pats : List Pattern) (p : Prog) : Bool :=
  match p.top with
  | [.gref k] =>
    match firstMatch p.store (p.store.nodes.length + 1) pats (.gref k) with
    | .ok none => true
    | _ => false
  | _ => false

/-- Every pass of the run of `optimizeDag` starts from a well-formed graph on which `InlineGraph` does not fire. -/
def goodRun (pats : List Pattern) : Nat → Prog → Bool
  | 0, _ => true
  | n + 1, p =>
    p.wfTop && noTopInline pats p &&
      (match pass pats p.fuel p with
       | .ok (p', true) => goodRun pats n p'
       | _ => true)

/-! ### Topological order (side condition of the termination theorem; computed by the driver for every real graph) -/

/-- All tracers of a pytree are below `n`, and there are no nested graphs in it. -/
def toksLt (n : Nat) (v : List Tok) : Bool :=
  v.all (fun t => match t with | .ref j => decide (j < n) | .gref _ => false | _ => true)

def App.operands (a : App) : List (List Tok) := a.pre ++ a.args ++ a.kwargs.map (·.2) ++ a.deps

def App.operandsLt (a : App) (n : Nat) : Bool := a.operands.all (toksLt n)

/-- Operands before consumers, no nested graphs (decidable; computed by the driver for every real graph). -/
def Store.topo (S : Store) : Bool :=
  (List.range S.nodes.length).all (fun i =>
    match S.nodes[i]? with
    | some ⟨_, .app a⟩ => a.operandsLt i
    | some ⟨_, .proj src _⟩ => decide (src < i)
    | _ => true)

/-- The program is a graph over a topologically ordered store without nested graphs (decidable; computed by the driver). -/
def Prog.topoOK (p : Prog) : Bool :=
  p.store.topo &&
    (match p.top with
     | [.gref k] =>
       match p.store.graphs[k]? with
       | some g => toksLt p.store.nodes.length g.output
       | none => false
     | _ => false)

/-- Every pass of the run starts from a graph over a topologically ordered store. -/
def fuelRun (pats : List Pattern) : Nat → Prog → Bool
  | 0, _ => true
  | n + 1, p =>
    p.topoOK &&
      (match pass pats p.fuel p with
       | .ok (p', true) => fuelRun pats n p'
       | _ => true)

/-- The first `n` passes all report `changed`. -/
def allChanged (pats : List Pattern) : Nat → Prog → Bool
  | 0, _ => true
  | n + 1, p =>
    match pass pats p.fuel p with
    | .ok (p', true) => allChanged pats n p'
    | _ => false

/-! ### The laws the patterns rely on -/

/-- `f` is the value of the tracer a pattern is bound to: an `Import` followed by `GetAttr`s (`rpath`: last attribute first). -/
def IsFn (Sm : Sem V) (pat : FnPat) : List String → V → Prop
  | [], f => ∃ ea : EApp V, ea.head = .import_ pat.imp pat.from_ pat.as_ ∧ Sm.app ea = .ok f
  | key :: rest, f => ∃ (m : V) (ea : EApp V), IsFn Sm pat rest m ∧ ea.head = .getattr key ∧ ea.pre = [[.val m]] ∧ Sm.app ea = .ok f

def lits (v : List Tok) : List (RTok V) := v.map .lit

/-- A call `f(x, lit, …)` of the pattern's function. -/
def IsCall (Sm : Sem V) (pat : FnPat) (ea : EApp V) : Prop :=
  ea.head = .call ∧ ∃ f, ea.pre = [[.val f]] ∧ IsFn Sm pat pat.path.reverse f

/-- The merged call `call(f, [x, lit])`. -/
def mergedCall (f : V) (x : List (RTok V)) (lit : List Tok) : EApp V :=
  ⟨.call, [[.val f]], [x, lits lit], [], [.ref 0]⟩

structure Sem.Laws (Sm : Sem V) (pats : List Pattern) : Prop where
  /-- a `Cast` with one output is the identity -/
  cast_id : ∀ (ea : EApp V) (v r : V), ea.head = .cast → ea.pre = [[.val v]] → ea.out = [.ref 0] → Sm.app ea = .ok r → r = v
  reshape_noop : ∀ pat, Pattern.skipReshape pat ∈ pats → ∀ (ea : EApp V) (x r : V) (shape : List Tok) (s : List Nat),
    IsCall Sm pat ea → ea.args[0]? = some [.val x] → ea.args[1]? = some (lits shape) → seqNats shape = some s →
    Sm.shapeOf x = some s → Sm.app ea = .ok r → r = x
  reshape_merge : ∀ pat, Pattern.skipReshape pat ∈ pats → ∀ (ea1 ea2 : EApp V) (f : V) (xE : List (RTok V)) (y z : V) (shape : List Tok),
    IsCall Sm pat ea1 → ea1.args[0]? = some xE → Sm.app ea1 = .ok y →
    ea2.head = .call → ea2.pre = [[.val f]] → IsFn Sm pat pat.path.reverse f →
    ea2.args[0]? = some [.val y] → ea2.args[1]? = some (lits shape) → Sm.app ea2 = .ok z →
    Sm.app (mergedCall f xE shape) = .ok z
  transpose_noop : ∀ pat, Pattern.skipTranspose pat ∈ pats → ∀ (ea : EApp V) (x r : V) (perm : List Tok) (p s : List Nat),
    IsCall Sm pat ea → ea.args[0]? = some [.val x] → ea.args[1]? = some (lits perm) → seqNats perm = some p →
    Sm.shapeOf x = some s → Extracted.transposeNoop p s.length = true → Sm.app ea = .ok r → r = x
  transpose_merge : ∀ pat, Pattern.skipTranspose pat ∈ pats → ∀ (ea1 ea2 : EApp V) (f : V) (xE : List (RTok V)) (y z : V)
      (perm1 perm2 : List Tok) (p1 p2 p : List Nat),
    IsCall Sm pat ea1 → ea1.args[0]? = some xE → ea1.args[1]? = some (lits perm1) → Sm.app ea1 = .ok y →
    ea2.head = .call → ea2.pre = [[.val f]] → IsFn Sm pat pat.path.reverse f →
    ea2.args[0]? = some [.val y] → ea2.args[1]? = some (lits perm2) → Sm.app ea2 = .ok z →
    seqNats perm1 = some p1 → seqNats perm2 = some p2 → Extracted.composePerm p1 p2 = some p →
    Sm.app (mergedCall f xE (natsToks p)) = .ok z
  broadcast_noop : ∀ pat, Pattern.skipBroadcastTo pat ∈ pats → ∀ (ea : EApp V) (x r : V) (shape : List Tok) (s : List Nat),
    IsCall Sm pat ea → ea.args[0]? = some [.val x] → ea.args[1]? = some (lits shape) → seqNats shape = some s →
    Sm.shapeOf x = some s → Sm.app ea = .ok r → r = x
  concat_noop : ∀ pat, Pattern.skipConcatenate pat ∈ pats → ∀ (ea : EApp V) (r : V) (c : CKind) (es : List (RTok V)),
    IsCall Sm pat ea → ea.args[0]? = some (.lit (.open_ c 1) :: es) → (c = .tuple ∨ c = .list) → Sm.app ea = .ok r → es = [.val r]

/-! ### The instance over the IR executor -/

/-- Python objects that are not tensors: modules, attributes of them, and whatever the uninterpreted calls return. -/
inductive PyObj where
  | imp (i : String) (from_ as_ : Option String)
  | attr (o : PyObj) (key : String)
  | opaque (n : Nat)
deriving DecidableEq, Repr

inductive PV (α : Type) where
  | tensor (t : Tensor α)
  | obj (o : PyObj)

/-- The four numpy functions the classical patterns of a backend are bound to. -/
structure NpFns where
  reshape : FnPat
  transpose : FnPat
  broadcastTo : FnPat
  concatenate : FnPat

/-- The pattern list of a backend over these functions, in the order of `frontend/impl/numpy.py`. -/
def NpFns.patterns (fns : NpFns) : List Pattern :=
  [.skipReshape fns.reshape, .skipTranspose fns.transpose, .skipBroadcastTo fns.broadcastTo, .skipConcatenate fns.concatenate,
   .inlineGraph, .skipCast]

/-- The object `import … ; ….a.b.c` (`rpath`: last attribute first). -/
def FnPat.robj (pat : FnPat) : List String → PyObj
  | [] => .imp pat.imp pat.from_ pat.as_
  | k :: rest => .attr (pat.robj rest) k

def FnPat.obj (pat : FnPat) : PyObj := pat.robj pat.path.reverse

def unlit {V : Type} : List (RTok V) → Option (List Tok)
  | [] => some []
  | .lit t :: rest => (unlit rest).map (t :: ·)
  | .val _ :: _ => none

/-- A shape / permutation literal among evaluated operands. -/
def seqNatsR {V : Type} (v : List (RTok V)) : Option (List Nat) := (unlit v).bind seqNats

def tensorsOf {α : Type} : List (RTok (PV α)) → Option (List (Tensor α))
  | [] => some []
  | .val (.tensor t) :: rest => (tensorsOf rest).map (t :: ·)
  | _ => none

/-- `f(x, lit)` with no keyword arguments, executed as one instruction on the register file `[x]`. -/
def unaryCall {α : Type} (A : Alg α) (ea : EApp (PV α)) (mk : List Nat → Instr) : Except String (PV α) :=
  match ea.args, ea.kwargs with
  | [[.val (.tensor t)], lit], [] =>
    match seqNatsR lit with
    | some s => do pure (.tensor (← Optimize.step A [t] (mk s)))
    | none => throw "literal that is not a sequence of non-negative ints (outside the pure node language)"
  | _, _ => throw "call form outside the pure node language"

/-- `np.concatenate([x, …], axis=k)`. -/
def concatCall {α : Type} (A : Alg α) (ea : EApp (PV α)) : Except String (PV α) :=
  match ea.args, ea.kwargs with
  | [.lit (.open_ c n) :: es], [("axis", [.lit (.atom (.int k))])] =>
    if (c == .tuple || c == .list) && 0 ≤ k then
      match tensorsOf es with
      | some ts =>
        if ts.length == n && ts.all (fun t => t.data.length == prod t.shape) then do
          pure (.tensor (← Optimize.step A ts (.concat (List.range n) k.toNat)))
        else throw "malformed list"
      | none => throw "concatenate of something that is not a tensor"
    else throw "call form outside the pure node language"
  | _, _ => throw "call form outside the pure node language"

/-- The semantics over the IR executor: element algebra `A`, uninterpreted applications `O`. -/
def irSem {α : Type} (A : Alg α) (O : EApp (PV α) → Except String (PV α)) (fns : NpFns) : Sem (PV α) where
  shapeOf
    | .tensor t => if t.data.length = prod t.shape then some t.shape else none
    | .obj _ => none
  app ea :=
    match ea.head with
    | .import_ i f a => pure (.obj (.imp i f a))
    | .getattr key =>
      match ea.pre with
      | [[.val (.obj o)]] => pure (.obj (.attr o key))
      | _ => O ea
    | .cast =>
      match ea.pre, ea.out with
      | [[.val v]], [.ref 0] => pure v
      | _, _ => O ea
    | .call =>
      match ea.pre with
      | [[.val (.obj o)]] =>
        if o = fns.reshape.obj then unaryCall A ea (.reshape 0)
        else if o = fns.transpose.obj then unaryCall A ea (.transpose 0)
        else if o = fns.broadcastTo.obj then unaryCall A ea (.broadcastTo 0)
        else if o = fns.concatenate.obj then concatCall A ea
        else O ea
      | _ => O ea
    | _ => O ea

end Einx.OptDag
