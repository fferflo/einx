import EinxModel.Driver.IR
import EinxModel.Optimize.Rules
import EinxModel.Extracted.Kernels
open Lean Einx.Driver Einx.IR Einx.Driver.IR

/-! Driver kinds of the optimiser area (C05):

* `equiv`: two serialised tracer graphs (before / after `tracer.optimize`) are translated into straight-line
  programs by the translation of `Driver/IR.lean` and compared by `IR.equivG planInstrX` (symbolic results
  identical cell by cell; `Props/C01.lean: equiv_sound_extended` turns acceptance into equality for all tensor contents).
  When `InlineGraph` collapsed the whole graph into the function it wraps, the post graph is the bare function:
  it is read as "call that function on the graph inputs".
* `equiv_progs`: the same comparison for two programs given directly.
* `kernel`: the extracted kernels evaluated on concrete arguments (correspondence with the real patterns). -/
namespace Einx.Driver.Optimize

/-- Translation of `{"inlined": f}`: the compiled function is `f` itself, applied to the graph inputs. -/
def translateInlined (g : Json) (inShapes : List (List Nat)) : T (List Nat) := do
  let top ← liftR (fld g "top")
  let tracers := (← liftR (arrF g "tracers")).toArray
  let f ← liftR (fld top "inlined")
  -- fresh ids for the inputs, beyond every serialised tracer
  let base := tracers.size
  let mut refs : List Json := []
  for s in inShapes do
    let st ← get
    let id := base + st.shapes.length
    set { st with shapes := st.shapes ++ [s], env := st.env.insert id (.reg st.shapes.length) }
    refs := refs ++ [Json.mkObj [("t", "ref"), ("id", jNat id)]]
  for a in ← liftR (arrF g "apps") do
    translateApp tracers a
  match ← lookup (← liftR (refId f)) with
  | .fn fname =>
    match ← translateCall fname refs [] with
    | .pending r => pure [r]
    | .pendingList rs => pure rs
    | _ => failU "inlined function does not return tensors"
  | _ => failU "inlined value is not a primitive function"

def isInlined (g : Json) : Bool :=
  match g.getObjVal? "top" with
  | .ok top => (fldOpt top "inlined").isSome
  | .error _ => false

def runTranslateWith (g : Json) (inShapes : List (List Nat)) : Outcome :=
  if isInlined g then
    let (r, st) := (translateInlined g inShapes).run.run {}
    match r with
    | .ok outs => .ok st.prog (st.shapes.take inShapes.length) outs
    | .error o => o
  else runTranslate g

def cellsPreview (ts : List (Tensor Cell)) : Json :=
  jArr (ts.map (fun t => Json.mkObj [("shape", jNats t.shape), ("cells", jArr ((t.data.take 8).map cellJson))]))

/-- First position at which two lists of symbolic tensors differ. -/
def firstDiff (as bs : List (Tensor Cell)) : Json :=
  let rec go (i : Nat) : List (Tensor Cell) → List (Tensor Cell) → Json
    | [], [] => Json.null
    | a :: as, b :: bs =>
      if a.shape != b.shape then Json.mkObj [("output", jNat i), ("shape_pre", jNats a.shape), ("shape_post", jNats b.shape)]
      else
        match (List.zip (List.range a.data.length) (List.zip a.data b.data)).find? (fun (_, (x, y)) => !Cell.beq x y) with
        | some (k, (x, y)) => Json.mkObj [("output", jNat i), ("shape", jNats a.shape), ("flat", jNat k), ("pre", cellJson x), ("post", cellJson y)]
        | none => if a.data.length != b.data.length then Json.mkObj [("output", jNat i), ("lengths", jNats [a.data.length, b.data.length])] else go (i + 1) as bs
    | _, _ => Json.mkObj [("outputs", "different number of outputs")]
  go 0 as bs

def compareProgs (prog1 : List InstrX) (outs1 : List Nat) (prog2 : List InstrX) (outs2 : List Nat) (inShapes : List (List Nat)) : Json :=
  -- symbolic equivalence over the extended instruction set (sound by `IR.equivG_sound`; for programs over the
  -- base instruction set this coincides with `Optimize.equivProgs`, whose soundness is `equiv_sound`)
  if equivG planInstrX prog1 prog2 inShapes outs1 outs2 then
    Json.mkObj [("verdict", "equal"), ("instrs_pre", jNat prog1.length), ("instrs_post", jNat prog2.length)]
  else
    match symRunG planInstrX prog1 inShapes outs1, symRunG planInstrX prog2 inShapes outs2 with
    | .ok r1, .ok r2 =>
      Json.mkObj [("verdict", "differs"), ("where", firstDiff r1 r2), ("pre", cellsPreview r1), ("post", cellsPreview r2),
        ("prog_pre", jArr (prog1.map instrJson)), ("prog_post", jArr (prog2.map instrJson))]
    | .error e, _ => Json.mkObj [("verdict", "rejected"), ("side", "pre"), ("why", Json.str e)]
    | _, .error e => Json.mkObj [("verdict", "rejected"), ("side", "post"), ("why", Json.str e)]

/-- kind `equiv`. -/
def handleEquiv (j : Json) : R Json := do
  let pre ← fld j "pre"
  let post ← fld j "post"
  match runTranslate pre with
  | .unsupported why => pure (Json.mkObj [("verdict", "unsupported"), ("side", "pre"), ("why", Json.str why)])
  | .rejected why => pure (Json.mkObj [("verdict", "rejected"), ("side", "pre"), ("why", Json.str why)])
  | .ok prog1 inShapes outs1 =>
    match runTranslateWith post inShapes with
    | .unsupported why => pure (Json.mkObj [("verdict", "unsupported"), ("side", "post"), ("why", Json.str why)])
    | .rejected why => pure (Json.mkObj [("verdict", "rejected"), ("side", "post"), ("why", Json.str why),
        ("prog_pre", jArr (prog1.map instrJson))])
    | .ok prog2 inShapes2 outs2 =>
      if inShapes != inShapes2 then
        pure (Json.mkObj [("verdict", "differs"), ("where", Json.mkObj [("input_shapes_pre", jArr (inShapes.map jNats)), ("input_shapes_post", jArr (inShapes2.map jNats))])])
      else pure (compareProgs prog1 outs1 prog2 outs2 inShapes)

/-- kind `equiv_progs`. -/
def handleEquivProgs (j : Json) : R Json := do
  let prog1 ← (← arrF j "prog_pre").mapM parseInstr
  let prog2 ← (← arrF j "prog_post").mapM parseInstr
  let inShapes ← (← arrF j "in_shapes").mapM (fun s => do (← asArr s).mapM asNat)
  pure (compareProgs prog1 (← natsF j "outs_pre") prog2 (← natsF j "outs_post") inShapes)

def jOptNats : Option (List Nat) → Json
  | some l => jNats l
  | none => Json.null

/-- kind `kernel`: evaluate an extracted kernel. -/
def handleKernel (j : Json) : R Json := do
  match ← strF j "name" with
  | "composePerm" => pure (Json.mkObj [("r", jOptNats (Einx.Extracted.composePerm (← natsF j "perm1") (← natsF j "perm2")))])
  | "reshapeNoop" => pure (Json.mkObj [("r", Json.bool (Einx.Extracted.reshapeNoop (← natsF j "shape") (← natsF j "input_shape")))])
  | "transposeNoop" => pure (Json.mkObj [("r", Json.bool (Einx.Extracted.transposeNoop (← natsF j "perm") (← natF j "ndim")))])
  | "broadcastNoop" => pure (Json.mkObj [("r", Json.bool (Einx.Extracted.broadcastNoop (← natsF j "shape") (← natsF j "input_shape")))])
  | "concatNoop" => pure (Json.mkObj [("r", Json.bool (Einx.Extracted.concatNoop (← natF j "n")))])
  | k => throw s!"unknown kernel {k}"

def handle (j : Json) : R Json := do
  match ← strF j "kind" with
  | "equiv" => handleEquiv j
  | "equiv_progs" => handleEquivProgs j
  | "kernel" => handleKernel j
  | k => throw s!"unknown kind {k}"

end Einx.Driver.Optimize
