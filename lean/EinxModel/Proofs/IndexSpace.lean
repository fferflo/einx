import EinxModel.Update.Model
import EinxModel.IR.PrimX
import EinxModel.Adapt.Model
/-! The index space of a shape, enumerated in row-major order: `Update.assignments s`, `Adapt.allIdx s` (the same
recursion over the shape) and `IR.allIndices s` are one list, `(List.range (prod s)).map (unravel s)`.  What is known about
the enumeration is read off that equation and the inverse laws of `ravel` / `unravel`. -/
namespace Einx

theorem range_mul_flatMap (a p : Nat) :
    (List.range a).flatMap (fun i => (List.range p).map (fun r => i * p + r)) = List.range (a * p) := by
  induction a with
  | zero => simp
  | succ n ih =>
    rw [List.range_succ, List.flatMap_append, ih, Nat.succ_mul, List.range_add]
    simp

theorem Update.assignments_eq (s : List Nat) : Update.assignments s = (List.range (prod s)).map (unravel s) := by
  induction s with
  | nil => rfl
  | cons a ss ih =>
    -- block `i` of the enumeration holds the positions `i * prod ss + r`, `r < prod ss`
    rw [Update.assignments, ih, prod, ← range_mul_flatMap, List.map_flatMap]
    congr 1
    funext i
    rw [List.map_map, List.map_map]
    refine List.map_congr_left fun r hr => ?_
    have hr := List.mem_range.mp hr
    simp only [Function.comp_apply, unravel]
    rw [Nat.mul_comm, Nat.mul_add_div (by omega), Nat.div_eq_of_lt hr, Nat.mul_add_mod, Nat.mod_eq_of_lt hr]
    rfl

theorem IR.allIndices_eq_assignments (s : List Nat) : IR.allIndices s = Update.assignments s :=
  (Update.assignments_eq s).symm

theorem Adapt.allIdx_eq_assignments (s : List Nat) : Adapt.allIdx s = Update.assignments s := by
  induction s with
  | nil => rfl
  | cons a ss ih => rw [Adapt.allIdx, Update.assignments, ih]

namespace Update

theorem mem_assignments_iff_valid {s σ : List Nat} : σ ∈ assignments s ↔ Valid s σ := by
  rw [assignments_eq, List.mem_map]
  exact ⟨fun ⟨k, hk, e⟩ => e ▸ unravel_valid s k (List.mem_range.mp hk),
    fun h => ⟨ravel s σ, List.mem_range.mpr (ravel_lt h), unravel_ravel h⟩⟩

theorem assignments_length (s : List Nat) : (assignments s).length = prod s := by
  rw [assignments_eq, List.length_map, List.length_range]

theorem assignments_map_ravel (s : List Nat) : (assignments s).map (ravel s) = List.range (prod s) := by
  rw [assignments_eq, List.map_map]
  exact (List.map_congr_left fun k hk => ravel_unravel s k (List.mem_range.mp hk)).trans (List.map_id _)

theorem assignments_nodup (s : List Nat) : (assignments s).Nodup := by
  -- `ravel s` maps the enumeration to `range (prod s)`, which has no duplicates
  have := assignments_map_ravel s ▸ List.nodup_range (n := prod s)
  exact List.Pairwise.of_map (ravel s) (fun _ _ hne e => hne (congrArg _ e)) this

theorem assignments_getElem? (s : List Nat) (σ : List Nat) (h : Valid s σ) :
    (assignments s)[ravel s σ]? = some σ := by
  rw [assignments_eq, List.getElem?_map, List.getElem?_range (ravel_lt h), Option.map_some, unravel_ravel h]

theorem assignments_of_zero (s : List Nat) (h : 0 ∈ s) : assignments s = [] := by
  induction s with
  | nil => simp at h
  | cons a ss ih =>
    rcases List.mem_cons.mp h with h0 | hs
    · subst h0; simp [assignments]
    · simp [assignments, ih hs]

end Update

end Einx
