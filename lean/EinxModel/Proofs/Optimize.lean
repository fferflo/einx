import EinxModel.Optimize.Rules
import EinxModel.Extracted.Kernels
import EinxModel.Proofs.IR
import EinxModel.Proofs.ExceptList
import EinxModel.Proofs.OptionList
import Mathlib.Data.List.Nodup
import Mathlib.Data.List.Perm.Subperm
/-
Helper lemmas for C05.  Reshape, transpose, `broadcast_to` and a one-operand `concatenate` are gathers (`pick`): `step`
of each is characterised once (`step_…_ok`), and the rules of the optimiser are the identity and composition laws of
gathers plus index arithmetic (permutations as lists, validity of multi-indices by position).  Then: the pass loop, the
term model of a pass.
-/
namespace Einx.Optimize
open Einx Einx.IR

theorem mapM_eq_some {α β : Type} {f : α → Option β} {l : List α} {r : List β} :
    l.mapM f = some r ↔ l.map f = r.map some := by
  rw [Update.mapM_eq_mapOpt, Update.mapOpt_eq_some_iff]

theorem getD_map_range (n : Nat) (f : Nat → Nat) (a : Nat) (h : a < n) :
    ((List.range n).map f).getD a 0 = f a :=
  IR.getD_map_range f 0 h

theorem permOK_range (n : Nat) : PermOK (List.range n) n :=
  ⟨List.length_range, List.nodup_range, fun _ => List.mem_range⟩

theorem idxOf_range {n a : Nat} (h : a < n) : (List.range n).idxOf a = a := by
  have := (permOK_range n).idxOf_getD h
  rwa [getD_of_lt (by rwa [List.length_range]), List.getElem_range] at this

theorem permShape_range (sx : List Nat) : permShape (List.range sx.length) sx = sx :=
  map_getD_range sx 0

theorem gatherIdx_range {n : Nat} {o : List Nat} (ho : o.length = n) : gatherIdx (List.range n) n o = o := by
  subst ho
  exact (List.map_congr_left fun a ha => by rw [idxOf_range (List.mem_range.1 ha)]).trans (map_getD_range o 0)

/-! The composition of `SkipTranspose`, `perm1[p] for p in perm2`, on permutations of the same rank. -/

/-- The extracted comprehension never indexes out of range. -/
theorem composePerm_eq {p1 p2 : List Nat} {n : Nat} (h1 : PermOK p1 n) (h2 : PermOK p2 n) :
    p2.mapM (fun q => p1[q]?) = some (p2.map (p1.getD · 0)) := by
  rw [mapM_eq_some, List.map_map]
  refine List.map_congr_left fun q hq => ?_
  have hq' : q < p1.length := h1.len ▸ (h2.mem q).1 hq
  exact (List.getElem?_eq_getElem hq').trans (congrArg some (getD_of_lt hq').symm)

theorem compose_permOK {p1 p2 : List Nat} {n : Nat} (h1 : PermOK p1 n) (h2 : PermOK p2 n) :
    PermOK (p2.map (p1.getD · 0)) n :=
  -- `a < n` is the entry at the position where `p2` holds the position of `a` in `p1`
  permOK_of_mem ((List.length_map _).trans h2.len) fun a ha =>
    List.mem_map.2 ⟨p1.idxOf a, (h2.mem _).2 (h1.idxOf_lt ha), h1.getD_idxOf ha⟩

theorem compose_idxOf {p1 p2 : List Nat} {n a : Nat} (h1 : PermOK p1 n) (h2 : PermOK p2 n) (ha : a < n) :
    (p2.map (p1.getD · 0)).idxOf a = p2.idxOf (p1.idxOf a) := by
  have hb := h1.idxOf_lt ha
  have hj := h2.idxOf_lt hb
  have := (compose_permOK h1 h2).idxOf_getD hj
  rwa [getD_map _ 0 0 (by rwa [h2.len]), h2.getD_idxOf hb, h1.getD_idxOf ha] at this

theorem gather_gather {p1 p2 : List Nat} {n : Nat} (h1 : PermOK p1 n) (h2 : PermOK p2 n) (o : List Nat) :
    gatherIdx p1 n (gatherIdx p2 n o) = gatherIdx (p2.map (p1.getD · 0)) n o :=
  List.map_congr_left fun a ha => by
    have ha := List.mem_range.1 ha
    rw [gatherIdx_getD o (h1.idxOf_lt ha), compose_idxOf h1 h2 ha]

theorem permShape_compose {p1 p2 : List Nat} (sx : List Nat) {n : Nat} (h1 : PermOK p1 n) (h2 : PermOK p2 n) :
    permShape p2 (permShape p1 sx) = permShape (p2.map (p1.getD · 0)) sx := by
  rw [permShape, permShape, permShape, List.map_map]
  exact List.map_congr_left fun b hb => getD_map _ 0 0 (h1.len ▸ (h2.mem b).1 hb)

/-- Flat position of the operand (of shape `sx`) read by `transpose x p` at the flat position `k` of the result. -/
def transposeIdx (p sx : List Nat) (k : Nat) : Nat :=
  ravel sx (gatherIdx p sx.length (unravel (permShape p sx) k))

theorem transposeIdx_compose {p1 p2 sx : List Nat} (h1 : PermOK p1 sx.length) (h2 : PermOK p2 sx.length) {k : Nat}
    (hk : k < prod (permShape p2 (permShape p1 sx))) :
    transposeIdx p2 (permShape p1 sx) k < prod (permShape p1 sx) ∧
      transposeIdx p1 sx (transposeIdx p2 (permShape p1 sx) k) = transposeIdx (p2.map (p1.getD · 0)) sx k := by
  have hlen : (permShape p1 sx).length = sx.length := (permShape_length _ _).trans h1.len
  have hv : Valid (permShape p1 sx) (gatherIdx p2 sx.length (unravel (permShape p2 (permShape p1 sx)) k)) :=
    valid_gather h2 hlen (unravel_valid _ k hk)
  rw [transposeIdx, transposeIdx, transposeIdx, hlen, unravel_ravel hv, gather_gather h1 h2, permShape_compose sx h1 h2]
  exact ⟨permShape_compose sx h1 h2 ▸ ravel_lt hv, rfl⟩

theorem broadcastable_self (s : List Nat) : broadcastable s s = true := by
  simp only [broadcastable, Nat.le_refl, decide_true, Nat.sub_self, List.drop_zero, Bool.true_and, List.all_eq_true]
  intro ab hab
  induction s with
  | nil => simp at hab
  | cons a s ih =>
    simp only [List.zip_cons_cons, List.mem_cons] at hab
    rcases hab with h | h
    · subst h; simp
    · exact ih h

def pick {α : Type} (A : Alg α) (t : Tensor α) (s : List Nat) (g : Nat → Nat) : Tensor α :=
  ⟨s, (List.range (prod s)).map fun k => (t.data[g k]?).getD A.bad⟩

section Pick
variable {α : Type} (A : Alg α) (t : Tensor α)

theorem pick_wf (s : List Nat) (g : Nat → Nat) : (pick A t s g).data.length = prod (pick A t s g).shape := by
  simp [pick]

theorem pick_congr {s : List Nat} {g g' : Nat → Nat} (h : ∀ k, k < prod s → g k = g' k) : pick A t s g = pick A t s g' :=
  congrArg (Tensor.mk s) (List.map_congr_left fun k hk => by rw [h k (List.mem_range.1 hk)])

theorem pick_id {s : List Nat} {g : Nat → Nat} (hs : s = t.shape) (hwf : t.data.length = prod s)
    (h : ∀ k, k < prod s → g k = k) : pick A t s g = t := by
  obtain ⟨sh, d⟩ := t
  subst hs
  refine congrArg (Tensor.mk s) (List.ext_getElem (by rw [List.length_map, List.length_range, hwf]) fun k h1 h2 => ?_)
  rw [List.length_map, List.length_range] at h1
  rw [List.getElem_map, List.getElem_range, h k h1, List.getElem?_eq_getElem h2]
  rfl

theorem pick_pick {s1 s2 : List Nat} {g1 g2 : Nat → Nat} (h : ∀ k, k < prod s2 → g2 k < prod s1) :
    pick A (pick A t s1 g1) s2 g2 = pick A t s2 (fun k => g1 (g2 k)) :=
  congrArg (Tensor.mk s2) (List.map_congr_left fun k hk => by
    show (((List.range (prod s1)).map _)[g2 k]?).getD A.bad = _
    rw [List.getElem?_map, List.getElem?_range (h k (List.mem_range.1 hk))]
    rfl)

end Pick

section Step
variable {α : Type} (A : Alg α) {regs : List (Tensor α)} {x : Nat} {t : Tensor α}

theorem step_ok {i : Instr} {v : Tensor α} :
    step A regs i = .ok v ↔ ∃ p, planInstr (regs.map (·.shape)) i = .ok p ∧ runPlan A regs p = v := by
  rw [step, bind_ok]
  exact exists_congr fun p => and_congr_right fun _ => ⟨Except.ok.inj, congrArg Except.ok⟩

theorem runPlan_tabulate (regs : List (Tensor α)) (s : List Nat) (f : List Nat → Cell) :
    runPlan A regs (tabulate s f) = ⟨s, (List.range (prod s)).map (fun k => evalCell A regs (f (unravel s k)))⟩ := by
  simp [runPlan, tabulate, evalCells_eq_map, Function.comp_def]

theorem runPlan_tabulate_src (hx : regs[x]? = some t) (s : List Nat) (g : List Nat → Nat) :
    runPlan A regs (tabulate s fun o => .src x (g o)) = pick A t s (fun k => g (unravel s k)) :=
  runPlan_gather A hx s _

/-- `step` on an instruction whose plan is one `if` on the check numpy makes. -/
theorem step_ite {i : Instr} {c : Prop} [Decidable c] {pl : Plan} {e : String}
    (h : planInstr (regs.map (·.shape)) i = if c then .ok pl else .error e) {v : Tensor α} :
    step A regs i = .ok v ↔ c ∧ v = runPlan A regs pl := by
  rw [step, h]
  split
  · exact ⟨fun h => ⟨‹c›, (Except.ok.inj h).symm⟩, fun h => congrArg Except.ok h.2.symm⟩
  · exact ⟨nofun, fun h => absurd h.1 ‹_›⟩

theorem step_reshape_ok (hx : regs[x]? = some t) {s : List Nat} {v : Tensor α} :
    step A regs (.reshape x s) = .ok v ↔ prod t.shape = prod s ∧ v = pick A t s (fun k => k) := by
  rw [step_ite A (planInstr_reshape_eq (shapes_getElem? hx) s), runPlan_gather A hx]; rfl

theorem step_transpose_ok (hx : regs[x]? = some t) {p : List Nat} {v : Tensor α} :
    step A regs (.transpose x p) = .ok v ↔
      isPerm p t.shape.length = true ∧ v = pick A t (permShape p t.shape) (transposeIdx p t.shape) := by
  rw [step_ite A (planInstr_transpose_eq (shapes_getElem? hx) p), runPlan_tabulate_src A hx]; rfl

theorem step_broadcastTo_ok (hx : regs[x]? = some t) {s : List Nat} {v : Tensor α} :
    step A regs (.broadcastTo x s) = .ok v ↔ broadcastable t.shape s = true ∧
      v = pick A t s (fun k => ravel t.shape (broadcastIndex t.shape s (unravel s k))) := by
  rw [step_ite A (planInstr_broadcastTo_eq (shapes_getElem? hx) s), runPlan_tabulate_src A hx]

theorem step_concat1_ok (hx : regs[x]? = some t) {axis : Nat} {v : Tensor α} :
    step A regs (.concat [x] axis) = .ok v ↔ axis < t.shape.length ∧ v = pick A t t.shape (fun k => k) := by
  rw [step_ite A (planInstr_concat1_eq (shapes_getElem? hx) axis), runPlan_gather A hx]; rfl

theorem runPlan_tabulate_wf (regs : List (Tensor α)) (s : List Nat) (f : List Nat → Cell) :
    (runPlan A regs (tabulate s f)).shape = s ∧
      (runPlan A regs (tabulate s f)).data.length = prod (runPlan A regs (tabulate s f)).shape := by
  simp [runPlan_tabulate]

theorem step_concat2_wf (a b : Tensor α) (axis : Nat) (v : Tensor α)
    (h : step A [a, b] (.concat [0, 1] axis) = .ok v) :
    v.shape = a.shape.set axis (a.shape.getD axis 0 + b.shape.getD axis 0) ∧ v.data.length = prod v.shape := by
  obtain ⟨p, hp, rfl⟩ := (step_ok A).1 h
  simp only [planInstr, List.mapM_cons, List.mapM_nil, getShape_of (shapes_getElem? (regs := [a, b]) (x := 0) rfl),
    getShape_of (shapes_getElem? (regs := [a, b]) (x := 1) rfl),
    bind, Except.bind, pure, Except.pure] at hp
  split at hp
  · cases hp
  · split at hp
    · cases hp
    · cases hp
      simp only [List.map_cons, List.map_nil, List.foldl_cons, List.foldl_nil, Nat.zero_add]
      exact runPlan_tabulate_wf A _ _ _

theorem step_ewise_wf (regs : List (Tensor α)) (f : String) (args : List Arg) (v : Tensor α)
    (h : step A regs (.ewise f args) = .ok v) : v.data.length = prod v.shape := by
  obtain ⟨p, hp, rfl⟩ := (step_ok A).1 h
  simp only [planInstr] at hp
  obtain ⟨ss, -, hp⟩ := bind_ok.1 hp
  split at hp
  · cases hp
  · obtain ⟨so, -, hp⟩ := bind_ok.1 hp
    cases hp
    exact (runPlan_tabulate_wf A regs _ _).2

end Step

/-! The no-op tests of the patterns (classical.py) hold only where the instruction is the identity. -/

theorem reshapeNoop_sound (shape inputShape : List Nat) (h : Extracted.reshapeNoop shape inputShape = true) :
    shape = inputShape := by
  simpa [Extracted.reshapeNoop] using h

theorem transposeNoop_sound (perm : List Nat) (n : Nat) (h : Extracted.transposeNoop perm n = true) :
    perm = List.range n := by
  simpa [Extracted.transposeNoop] using h

theorem broadcastNoop_sound (shape inputShape : List Nat) (h : Extracted.broadcastNoop shape inputShape = true) :
    shape = inputShape := by
  simpa [Extracted.broadcastNoop] using h

theorem concatNoop_sound (xs : List Nat) (h : Extracted.concatNoop xs.length = true) : ∃ x, xs = [x] := by
  have hl : xs.length = 1 := by simpa [Extracted.concatNoop] using h
  match xs, hl with
  | [x], _ => exact ⟨x, rfl⟩

/-! The rules, one `step` each: `regs` holds the operand `t` of the (inner) instruction in register `x`; for the merges,
`regs'` is any register file that holds the intermediate result `y` in register `x'` (`regs ++ [y]` for a program, `[y]`
for the term and DAG models). -/

section Rules
variable {α : Type} (A : Alg α) {regs regs' : List (Tensor α)} {x x' : Nat} {t y z : Tensor α}

theorem reshape_same_step (hx : regs[x]? = some t) (hwf : t.data.length = prod t.shape) :
    step A regs (.reshape x t.shape) = .ok t :=
  (step_reshape_ok A hx).2 ⟨rfl, (pick_id A t rfl hwf fun _ _ => rfl).symm⟩

/-- The outer reshape applied to the inner operand: element `k` of either result is element `k` of `t`. -/
theorem reshape_reshape_step {s1 s2 : List Nat} (hx : regs[x]? = some t) (h1 : step A regs (.reshape x s1) = .ok y)
    (hy : regs'[x']? = some y) (h2 : step A regs' (.reshape x' s2) = .ok z) : step A regs (.reshape x s2) = .ok z := by
  obtain ⟨e1, rfl⟩ := (step_reshape_ok A hx).1 h1
  obtain ⟨e2, rfl⟩ := (step_reshape_ok A hy).1 h2
  have e2 : prod s1 = prod s2 := e2
  exact (step_reshape_ok A hx).2 ⟨e1.trans e2, pick_pick A t fun k hk => e2 ▸ hk⟩

theorem transpose_id_step (hx : regs[x]? = some t) (hwf : t.data.length = prod t.shape) :
    step A regs (.transpose x (List.range t.shape.length)) = .ok t := by
  refine (step_transpose_ok A hx).2 ⟨isPerm_iff.2 (permOK_range _), (pick_id A t (permShape_range _) ?_ fun k hk => ?_).symm⟩
  · rwa [permShape_range]
  · rw [permShape_range] at hk
    rw [transposeIdx, permShape_range, gatherIdx_range (valid_length (unravel_valid _ k hk)), ravel_unravel _ _ hk]

theorem transpose_transpose_perms {p1 p2 : List Nat} (hx : regs[x]? = some t) (h1 : step A regs (.transpose x p1) = .ok y)
    (hy : regs'[x']? = some y) (h2 : step A regs' (.transpose x' p2) = .ok z) :
    PermOK p1 t.shape.length ∧ PermOK p2 t.shape.length := by
  obtain ⟨k1, rfl⟩ := (step_transpose_ok A hx).1 h1
  have k1 := isPerm_iff.1 k1
  have k2 : isPerm p2 (permShape p1 t.shape).length = true := ((step_transpose_ok A hy).1 h2).1
  rw [permShape_length, k1.len] at k2
  exact ⟨k1, isPerm_iff.1 k2⟩

theorem transpose_transpose_step {p1 p2 p : List Nat} (hx : regs[x]? = some t) (h1 : step A regs (.transpose x p1) = .ok y)
    (hy : regs'[x']? = some y) (h2 : step A regs' (.transpose x' p2) = .ok z)
    (hc : p2.mapM (fun q => p1[q]?) = some p) : step A regs (.transpose x p) = .ok z := by
  obtain ⟨k1, k2⟩ := transpose_transpose_perms A hx h1 hy h2
  obtain rfl := Option.some.inj (hc.symm.trans (composePerm_eq k1 k2))
  obtain ⟨-, rfl⟩ := (step_transpose_ok A hx).1 h1
  obtain ⟨-, rfl⟩ := (step_transpose_ok A hy).1 h2
  refine (step_transpose_ok A hx).2 ⟨isPerm_iff.2 (compose_permOK k1 k2), ?_⟩
  show pick A (pick A t (permShape p1 t.shape) (transposeIdx p1 t.shape)) (permShape p2 (permShape p1 t.shape))
    (transposeIdx p2 (permShape p1 t.shape)) = _
  rw [pick_pick A t fun k hk => (transposeIdx_compose k1 k2 hk).1, ← permShape_compose t.shape k1 k2]
  exact pick_congr A t fun k hk => (transposeIdx_compose k1 k2 hk).2

theorem broadcast_same_step (hx : regs[x]? = some t) (hwf : t.data.length = prod t.shape) :
    step A regs (.broadcastTo x t.shape) = .ok t :=
  (step_broadcastTo_ok A hx).2 ⟨broadcastable_self _, (pick_id A t rfl hwf fun k hk => by
    rw [broadcastIndex_self (unravel_valid _ k hk), ravel_unravel _ _ hk]).symm⟩

theorem concat_singleton_step {axis : Nat} {v : Tensor α} (hx : regs[x]? = some t) (hwf : t.data.length = prod t.shape)
    (h : step A regs (.concat [x] axis) = .ok v) : v = t :=
  ((step_concat1_ok A hx).1 h).2.trans (pick_id A t rfl hwf fun _ _ => rfl)

end Rules

theorem evalProg_cons_ok {α : Type} (A : Alg α) (i : Instr) (is : List Instr) (regs r : List (Tensor α)) :
    evalProg A (i :: is) regs = .ok r ↔ ∃ y, step A regs i = .ok y ∧ evalProg A is (regs ++ [y]) = .ok r := by
  rw [evalProg_cons]; exact bind_ok

theorem readReg_append_left {α : Type} (A : Alg α) (regs : List (Tensor α)) (y : Tensor α) (x k : Nat) (t : Tensor α)
    (hx : regs[x]? = some t) : readReg A (regs ++ [y]) x k = readReg A regs x k := by
  have hlt : x < regs.length := by
    rcases Nat.lt_or_ge x regs.length with h | h
    · exact h
    · rw [List.getElem?_eq_none h] at hx; cases hx
  simp [readReg, List.getElem?_append_left hlt]

/-- `symRunG_sound` for the instruction set of `IR.evalProg`, over the integers. -/
theorem symRun_sound (prog : List Instr) (outs : List Nat) (res : List (Tensor Cell))
    (I : String → List Int → Int) (bad : Int) (xs : List (Tensor Int))
    (hlen : ∀ x ∈ xs, x.data.length = prod x.shape)
    (hs : symRun prog (xs.map (·.shape)) outs = .ok res) :
    ∃ regs, evalProg (intAlgOf I bad) prog xs = .ok regs ∧
      outs.map (fun r => regs[r]?) = res.map (fun t => some (t.map (evalCell (intAlgOf I bad) xs))) := by
  rw [symRun_eq_symRunG] at hs
  rw [evalProg_eq_evalProgG]
  exact symRunG_sound planInstr _ prog outs res xs hlen hs

theorem fix_unfold {G : Type} (P : PassModel G) (g : G) :
    P.fix g = if (P.pass g).2 = true then ((P.fix (P.pass g).1).1, (P.fix (P.pass g).1).2 + 1) else ((P.pass g).1, 1) := by
  rw [PassModel.fix]
  split <;> rfl

theorem fix_iter {G : Type} (P : PassModel G) (g : G) :
    ∀ fuel, P.measure g ≤ fuel → P.iter (fuel + 1) g = some (P.fix g) ∧ (P.fix g).2 ≤ P.measure g + 1 := by
  induction g using PassModel.fix.induct P with
  | case1 g hc ih =>
    intro fuel hf
    have hd := P.decreases g hc
    cases fuel with
    | zero => omega
    | succ fuel =>
      obtain ⟨h1, h2⟩ := ih fuel (by omega)
      rw [fix_unfold, if_pos hc, PassModel.iter, if_pos hc, h1]
      exact ⟨rfl, by omega⟩
  | case2 g hc =>
    intro fuel _
    rw [fix_unfold, if_neg hc, PassModel.iter, if_neg hc]
    exact ⟨rfl, Nat.le_add_left 1 _⟩

theorem fix_invariant {G : Type} (P : PassModel G) (Q : G → Prop) (hQ : ∀ g, Q g → Q (P.pass g).1) (g : G) :
    Q g → Q (P.fix g).1 := by
  induction g using PassModel.fix.induct P with
  | case1 g hc ih => intro hg; rw [fix_unfold, if_pos hc]; exact ih (hQ g hg)
  | case2 g hc => intro hg; rw [fix_unfold, if_neg hc]; exact hQ g hg

def PassOK (t : Term) (r : Term × Bool) : Prop :=
  r.1.size ≤ t.size ∧ (r.2 = true → r.1.size < t.size) ∧ (r.2 = false → r.1 = t)

theorem PassOK.leaf (t : Term) : PassOK t (t, false) :=
  ⟨Nat.le_refl _, Bool.noConfusion, fun _ => rfl⟩

theorem PassOK.fired {t x r : Term} (hx : x.size < t.size) (hr : r.size ≤ x.size) : PassOK t (r, true) :=
  ⟨Nat.le_of_lt (Nat.lt_of_le_of_lt hr hx), fun _ => Nat.lt_of_le_of_lt hr hx, Bool.noConfusion⟩

theorem PassOK.node1 (c : Term → Term) (hc : ∀ y, (c y).size = y.size + 1) {x : Term} {r : Term × Bool}
    (h : PassOK x r) : PassOK (c x) (c r.1, r.2) :=
  ⟨by rw [hc, hc]; exact Nat.succ_le_succ h.1, fun hb => by rw [hc, hc]; exact Nat.succ_lt_succ (h.2.1 hb),
    fun hb => congrArg c (h.2.2 hb)⟩

theorem PassOK.node2 (c : Term → Term → Term) (hc : ∀ y z, (c y z).size = y.size + z.size + 1) {x y : Term}
    {rx ry : Term × Bool} (hx : PassOK x rx) (hy : PassOK y ry) : PassOK (c x y) (c rx.1 ry.1, rx.2 || ry.2) := by
  refine ⟨by rw [hc, hc]; exact Nat.succ_le_succ (Nat.add_le_add hx.1 hy.1), fun hb => ?_, fun hb => ?_⟩
  · rw [hc, hc]
    rcases Bool.or_eq_true_iff.1 hb with h | h
    · exact Nat.succ_lt_succ (Nat.add_lt_add_of_lt_of_le (hx.2.1 h) hy.1)
    · exact Nat.succ_lt_succ (Nat.add_lt_add_of_le_of_lt hx.1 (hy.2.1 h))
  · obtain ⟨h1, h2⟩ := Bool.or_eq_false_iff.1 hb
    exact congr (congrArg c (hx.2.2 h1)) (hy.2.2 h2)

/-- One induction along the case analysis of `rewrite`: a pass applies patterns (in contexts, in sequence) and nothing
else, and what it returns is `PassOK`. -/
theorem rewrite_spec (t : Term) : Rewrites t (rewrite t).1 ∧ PassOK t (rewrite t) := by
  induction t using rewrite.induct with
  | case1 i s => rw [rewrite]; exact ⟨.refl _, .leaf _⟩
  | case2 x' s1 s hn ih =>
    rw [rewrite, if_pos hn]
    exact ⟨.trans (.rule (.reshapeNoop _ s hn)) ih.1, .fired (Nat.lt_succ_self _) ih.2.1⟩
  | case3 x' s1 s hn ih =>
    rw [rewrite, if_neg hn]
    exact ⟨.trans (.rule (.reshapeMerge x' s1 s)) (.reshape s ih.1),
      .fired (x := .reshape x' s1) (Nat.lt_succ_self _) (Nat.succ_le_succ ih.2.1)⟩
  | case4 x s hx hn ih =>
    rw [rewrite.eq_3 _ _ hx, if_pos hn]
    exact ⟨.trans (.rule (.reshapeNoop x s hn)) ih.1, .fired (Nat.lt_succ_self _) ih.2.1⟩
  | case5 x s hx hn ih =>
    rw [rewrite.eq_3 _ _ hx, if_neg hn]
    exact ⟨.reshape s ih.1, .node1 (.reshape · s) (fun _ => rfl) ih.2⟩
  | case6 x' p1 p2 hn ih =>
    rw [rewrite, if_pos hn]
    exact ⟨.trans (.rule (.transposeNoop _ p2 hn)) ih.1, .fired (Nat.lt_succ_self _) ih.2.1⟩
  | case7 x' p1 p2 hn p hc ih =>
    rw [rewrite, if_neg hn, hc]
    exact ⟨.trans (.rule (.transposeMerge x' p1 p2 p hc)) (.transpose p ih.1),
      .fired (x := .transpose x' p1) (Nat.lt_succ_self _) (Nat.succ_le_succ ih.2.1)⟩
  | case8 x' p1 p2 hn hc ih =>
    rw [rewrite, if_neg hn, hc]
    exact ⟨.transpose p2 ih.1, .node1 (.transpose · p2) (fun _ => rfl) ih.2⟩
  | case9 x p hx hn ih =>
    rw [rewrite.eq_5 _ _ hx, if_pos hn]
    exact ⟨.trans (.rule (.transposeNoop x p hn)) ih.1, .fired (Nat.lt_succ_self _) ih.2.1⟩
  | case10 x p hx hn ih =>
    rw [rewrite.eq_5 _ _ hx, if_neg hn]
    exact ⟨.transpose p ih.1, .node1 (.transpose · p) (fun _ => rfl) ih.2⟩
  | case11 x s hn ih =>
    rw [rewrite, if_pos hn]
    exact ⟨.trans (.rule (.broadcastNoop x s hn)) ih.1, .fired (Nat.lt_succ_self _) ih.2.1⟩
  | case12 x s hn ih =>
    rw [rewrite, if_neg hn]
    exact ⟨.broadcastTo s ih.1, .node1 (.broadcastTo · s) (fun _ => rfl) ih.2⟩
  | case13 x axis hn ih =>
    rw [rewrite, if_pos hn]
    exact ⟨.trans (.rule (.concatNoop x axis hn)) ih.1, .fired (Nat.lt_succ_self _) ih.2.1⟩
  | case14 x axis hn ih =>
    rw [rewrite, if_neg hn]
    exact ⟨.concat1 axis ih.1, .node1 (.concat1 · axis) (fun _ => rfl) ih.2⟩
  | case15 x y axis hn ih =>
    -- `SkipConcatenate` never fires on two operands (fails to build if the extracted test says otherwise)
    exact absurd hn (by decide)
  | case16 x y axis hn ihx ihy =>
    rw [rewrite, if_neg hn]
    exact ⟨.concat2 axis ihx.1 ihy.1, .node2 (.concat2 · · axis) (fun _ _ => rfl) ihx.2 ihy.2⟩
  | case17 x ih => rw [rewrite]; exact ⟨.trans (.rule (.skipCast x)) ih.1, .fired (Nat.lt_succ_self _) ih.2.1⟩
  | case18 f x y s ihx ihy =>
    rw [rewrite]; exact ⟨.op2 f s ihx.1 ihy.1, .node2 (.op2 f · · s) (fun _ _ => rfl) ihx.2 ihy.2⟩

theorem rewrite_facts (t : Term) :
    (rewrite t).1.size ≤ t.size ∧ ((rewrite t).2 = true → (rewrite t).1.size < t.size) ∧
      ((rewrite t).2 = false → (rewrite t).1 = t) :=
  (rewrite_spec t).2

/-- The pass loop instantiated with the term model of the six patterns. -/
def termPassModel : PassModel Term :=
  { pass := rewrite, measure := Term.size, decreases := fun t h => (rewrite_facts t).2.1 h }

end Einx.Optimize
