import EinxModel.Proofs.DenoteTie
import EinxModel.Proofs.CellOrder
/-!
Reductions (C08): the executable loop form `Denote.denoteReduce` computes `genCells (redX f …)` (`denoteReduce_cells`), hence it
is the functional form `Denote.denoteReduceFun`.
-/
namespace Einx.Denote
open Einx Einx.IR
open Einx.Update (mapOpt mapOpt_eq_some_iff mapOpt_length mapOpt_getElem? mapOpt_congr mapOpt_some_of_forall mapOpt_optmap)

theorem rd_inner_loop (vi : List Dim) (si : List Nat) (σ : Assign) (l : List Assign) (cells : List Cell) :
    okOpt (forIn l cells (rdInner vi si (Dim.leavesL vi) σ)) = (mapOpt (redCell vi si σ) l).map (fun cs => cells ++ cs) := by
  refine okOpt_forIn_append (redCell vi si σ) (fun τ s => ?_) l cells
  simp only [rdInner, okOpt_optE_bind, okOpt_pure, redCell, cellAt, flatPos]
  cases inputAssign σ τ (Dim.leavesL vi) with
  | none => rfl
  | some a => simp only [Option.bind_some]; cases position vi a <;> rfl

/-- What the outer loop of `denoteReduce` appends for `σ`. -/
def redEntryL (f : String) (vi : List Dim) (si : List Nat) (vo : List Dim) (σ : Assign) : Option (List Nat × Cell) :=
  match redArgs vi si σ, position vo σ with
  | some cells, some po => some (po, mkRed f cells)
  | _, _ => none

theorem rd_outer_loop (f : String) (vi : List Dim) (si : List Nat) (vo : List Dim) (asg : List Assign)
    (entries : List (List Nat × Cell)) :
    okOpt (forIn asg entries (rdOuter f vi si (Dim.leavesL vi) (markedAxes vi) vo))
      = (mapOpt (redEntryL f vi si vo) asg).map (fun es => entries ++ es) := by
  refine okOpt_forIn_append (redEntryL f vi si vo) (fun σ s => ?_) asg entries
  simp only [rdOuter, okOpt_bind, rd_inner_loop, okOpt_pure, redEntryL, redArgs, List.nil_append]
  cases mapOpt (redCell vi si σ) (assignments (markedAxes vi)) with
  | none => rfl
  | some cells => simp only [Option.map_some, Option.bind_some]; cases position vo σ <;> rfl

theorem okOpt_fillOutput (so : List Nat) (entries : List (List Nat × Cell)) :
    okOpt (fillOutput so entries)
      = (gatherAll (prod so) (entries.map (fun e => (ravel so e.1, e.2)))).map (fun cs => (⟨so, cs⟩ : Tensor Cell)) := by
  unfold fillOutput gatherAll scatter
  simp only [bind_pure_comp]
  rw [List.foldl_map]
  have := okOpt_mapM_optE "output not fully defined"
    (List.foldl (fun (acc : List (Option Cell)) (x : List Nat × Cell) => acc.set (ravel so x.1) (some x.2))
      (List.replicate (prod so) none) entries)
  generalize List.mapM (optE "output not fully defined") _ = M at this ⊢
  rw [← this]
  cases M <;> rfl

/-- The common end of the reduce and dot ties: the entries of the outer loop, written by `fillOutput`, are `genCells`. -/
theorem okOpt_fill_genCells {X : Assign → Option Cell} {EL : Assign → Option (List Nat × Cell)} {vo : List Dim}
    {so : List Nat} (h : ∀ σ, (EL σ).map (fun e => (ravel so e.1, e.2)) = genEntry X vo so σ) :
    ((mapOpt EL (assignments (axesOf (Dim.leavesL vo)))).map (fun es => [] ++ es)).bind (fun es => okOpt (fillOutput so es))
      = (genCells X vo so).map (fun cs => (⟨so, cs⟩ : Tensor Cell)) := by
  unfold genCells outAssignments
  rw [← funext h, mapOpt_optmap]
  cases mapOpt EL (assignments (axesOf (Dim.leavesL vo))) with
  | none => rfl
  | some es =>
    simp only [Option.map_some, Option.bind_some, List.nil_append, okOpt_fillOutput]

theorem redEntryL_gen (f : String) (vi : List Dim) (si : List Nat) (vo : List Dim) (so : List Nat) (σ : Assign) :
    (redEntryL f vi si vo σ).map (fun e => (ravel so e.1, e.2)) = genEntry (redX f vi si) vo so σ := by
  simp only [redEntryL, genEntry, redX, flatPos]
  cases redArgs vi si σ <;> cases position vo σ <;> rfl

/-- The loop form of a reduction on concatenation-free expressions computes `genCells (redX f …)`. -/
theorem denoteReduce_cells (f : String) (e eo : Expr) (he : e.concatFree = true) (heo : eo.concatFree = true) :
    okOpt (denoteReduce f e eo)
      = (genCells (redX f (rootDims e) (shapeOf e)) (rootDims eo) (shapeOf eo)).map (fun cs => (⟨shapeOf eo, cs⟩ : Tensor Cell)) := by
  rw [denoteReduce_eq, singleView_of_concatFree he, singleView_of_concatFree heo]
  simp only [pure_bind]
  rw [okOpt_bind]
  have hm : axesOf ((Dim.leavesL (rootDims e)).filter (·.marked)) = markedAxes (rootDims e) := rfl
  rw [hm, rd_outer_loop, okOpt_fill_genCells (redEntryL_gen f _ _ _ _)]

theorem denoteReduce_eq_fun (f : String) (e eo : Expr) (he : e.concatFree = true) (heo : eo.concatFree = true) :
    okOpt (denoteReduce f e eo) = okOpt (denoteReduceFun f e eo) :=
  (denoteReduce_cells f e eo he heo).trans (okOpt_ofCells (by rw [he, heo]; rfl) _ _ _ _).symm

end Einx.Denote
