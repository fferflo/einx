import EinxModel.Proofs.PyPrelude
import EinxModel.Generic.Diag
/-! Helper lemmas for the diagonal part of `Props/C17Xlate.lean`: the keyword call of `np.diagonal`, the `while` loop over
the last two axes as `diagLoop`, and the permutation that moves the diagonal axis.  The Python reading at non-negative
values is in `Proofs/PyPrelude.lean`.  Nothing here mentions `Extracted/*`. -/
namespace Einx.Generic
open Einx.Py

theorem drop_last_two {α : Type} (l : List α) (h : l.length > 1) : ∃ a b, l.drop (l.length - 2) = [a, b] := by
  have hl : (l.drop (l.length - 2)).length = 2 := by simp; omega
  match hd : l.drop (l.length - 2), hl with
  | [a, b], _ => exact ⟨a, b, rfl⟩

theorem npDiagonalKw_two (s : St) (a b : Nat) :
    St.npDiagonalKw s (dictSet (dictSet [] "axis1" (Int.ofNat a)) "axis2" (Int.ofNat b)) = St.npDiagonal s a b := by
  have e : dictSet (dictSet ([] : List (String × Int)) "axis1" (Int.ofNat a)) "axis2" (Int.ofNat b)
      = [("axis1", Int.ofNat a), ("axis2", Int.ofNat b)] := by
    simp [dictSet]
  rw [e]
  unfold St.npDiagonalKw
  have g1 : dictGet [("axis1", Int.ofNat a), ("axis2", Int.ofNat b)] "axis1" = .ok (Int.ofNat a) := by
    simp [dictGet, List.lookup]
  have g2 : dictGet [("axis1", Int.ofNat a), ("axis2", Int.ofNat b)] "axis2" = .ok (Int.ofNat b) := by
    simp [dictGet, List.lookup]
  rw [g1, g2]
  rfl

theorem npDiagonal_rank_pos {s s' : St} {a b : Nat} (h : s.npDiagonal a b = .ok s') : 1 ≤ s'.shape.length := by
  unfold St.npDiagonal at h
  split at h
  · cases h
  · split at h
    · cases h
    · cases h
      simp [St.emit, diagShape]

theorem ofNat_sub_one (n : Nat) (h : 1 ≤ n) : Int.ofNat n - Int.ofNat 1 = Int.ofNat (n - 1) := by
  show (n : Int) - (1 : Int) = ((n - 1 : Nat) : Int)
  omega

theorem ok_bind {ε α β : Type} (a : α) (f : α → Except ε β) : (Except.ok a >>= f) = f a := rfl

/-- One iteration of the model's loop, on naturals. -/
def diagIter (s : St) (l : List Nat) : Except String (St × List Nat) :=
  match l.drop (l.length - 2) with
  | [a1, a2] =>
    match s.npDiagonal a1 a2 with
    | .error e => .error e
    | .ok s' => .ok (s', l.take (l.length - 2) ++ [s'.shape.length - 1])
  | _ => .error "IndexError"

theorem diagLoop_succ (fuel : Nat) (s : St) (l : List Nat) :
    diagLoop (fuel + 1) s l = if l.length > 1 then (match diagIter s l with | .error e => .error e | .ok (s', l') => diagLoop fuel s' l') else .ok (s, l) := by
  rw [diagLoop]
  unfold diagIter
  split
  · split
    · split <;> simp_all
    · simp_all
  · rfl

/-- A bounded `while` whose test is `len(axes_in) > 1` and whose body is one `diagIter` on integer lists
is the model's loop. -/
theorem whileFuel_diag (cond : St × List Int → Except String Bool) (body : St × List Int → Except String (St × List Int))
    (hc : ∀ s l, cond (s, l) = .ok (decide (l.length > 1)))
    (hb : ∀ s (l : List Nat), l.length > 1 →
      body (s, l.map Int.ofNat) = (diagIter s l).map (fun p => (p.1, p.2.map Int.ofNat))) :
    ∀ (fuel : Nat) (s : St) (l : List Nat),
      whileFuel fuel cond body (s, l.map Int.ofNat) = (diagLoop fuel s l).map (fun p => (p.1, p.2.map Int.ofNat))
  | 0, s, l => by
    simp only [whileFuel, diagLoop, hc, List.length_map]
    by_cases h : l.length > 1 <;> simp [h] <;> rfl
  | fuel + 1, s, l => by
    rw [diagLoop_succ]
    simp only [whileFuel, hc, List.length_map]
    by_cases h : l.length > 1
    · simp only [h, decide_true, if_true]
      rw [hb s l h]
      cases hd : diagIter s l with
      | error e => rfl
      | ok p =>
        obtain ⟨s', l'⟩ := p
        simp only [Except.map]
        have := whileFuel_diag cond body hc hb fuel s' l'
        simp only [bind, Except.bind]
        rw [this]
        rfl
    · simp [h]; rfl

theorem npDiagonal_error {s : St} {a b : Nat} {e : String} (h : s.npDiagonal a b = .error e) : e = "ValueError" := by
  unfold St.npDiagonal at h
  split at h
  · cases h; rfl
  · split at h
    · cases h; rfl
    · cases h

/-- The fuel `len(axes_in)` of the bounded reading of `while len(axes_in) > 1` is sufficient: the loop never ends
with "FuelExhausted" (every iteration shortens the list by one), so the bounded loop is the unbounded one. -/
theorem diagLoop_fuel_sufficient : ∀ (fuel : Nat) (s : St) (axes : List Nat), axes.length ≤ fuel + 1 →
    diagLoop fuel s axes ≠ .error "FuelExhausted"
  | 0, s, axes, h => by
    have : ¬ (axes.length > 1) := by omega
    simp [diagLoop, this]
  | fuel + 1, s, axes, h => by
    rw [diagLoop_succ]
    by_cases hl : axes.length > 1
    · simp only [hl, if_true]
      unfold diagIter
      obtain ⟨a, b, hab⟩ := drop_last_two axes hl
      rw [hab]
      simp only
      cases hd : s.npDiagonal a b with
      | error e =>
        have := npDiagonal_error hd
        subst this
        simp
      | ok s' =>
        simp only
        apply diagLoop_fuel_sufficient fuel s'
        simp [List.length_take]
        omega
    · simp [hl]

theorem filter_ne_ofNat (n a : Nat) :
    (List.range n).filter (fun i => Int.ofNat i != Int.ofNat a) = (List.range n).filter (fun i => i != a) := by
  apply List.filter_congr
  intro i _
  by_cases h : i = a
  · subst h; simp only [bne_self_eq_false]
  · have : Int.ofNat i ≠ Int.ofNat a := fun h2 => h (Int.ofNat.inj h2)
    rw [bne_iff_ne.mpr this, bne_iff_ne.mpr h]

/-- **The diagonal axis is moved, not swapped**: `movePerm n axisIn axisOut` has `axisIn` at position
`axisOut` (when that position exists), and deleting that position leaves all other axes in their
original order. -/
theorem movePerm_spec (n axisIn axisOut : Nat) (hout : axisOut ≤ ((List.range n).filter (fun i => i != axisIn)).length) :
    (movePerm n axisIn axisOut)[axisOut]? = some axisIn
      ∧ (movePerm n axisIn axisOut).eraseIdx axisOut = (List.range n).filter (fun i => i != axisIn) := by
  unfold movePerm
  simp only
  generalize (List.range n).filter (fun i => i != axisIn) = rest at hout
  have hlen : (rest.take axisOut).length = axisOut := by simp [List.length_take]; omega
  constructor
  · rw [List.getElem?_append_right (by omega)]
    simp [hlen]
  · rw [List.eraseIdx_append_of_length_le (by omega)]
    simp [hlen]

end Einx.Generic
