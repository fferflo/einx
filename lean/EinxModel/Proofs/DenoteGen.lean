import EinxModel.Proofs.Denote
/-!
Every functional denotation has the shape `genCells X` (`Denote/Fun2.lean`): one cell `X σ` per assignment `σ` of the
output axes, scattered into the flat output.  The laws that concern the output view only -- regrouping, permutation of the
root dimensions (its definedness: `Proofs/DenoteDefined.lean`) -- are proved once, for every `X` that sees the assignment
only through `Assign.get`; a law about the inputs is a pointwise fact about `X`.  `id` and elementwise operations are the
instances `idX`, `ewX`, built from `inCell`, the cell one input contributes.
-/
namespace Einx.Denote
open Einx Einx.IR
open Einx.Update (mapOpt mapOpt_congr mapOpt_optmap mapOpt_mem mapOpt_pointwise)

def GetInvariant (X : Assign → Option Cell) : Prop := ∀ σ τ, SameGet σ τ → X σ = X τ

theorem genCells_of_entries {X : Assign → Option Cell} {vo : List Dim} {so : List Nat} {es : List (Nat × Cell)}
    (h : mapOpt (genEntry X vo so) (outAssignments vo) = some es) : genCells X vo so = gatherAll (prod so) es := by
  rw [genCells, h]

theorem genCells_spec {X : Assign → Option Cell} {vo : List Dim} {so : List Nat} {cs : List Cell}
    (h : genCells X vo so = some cs) :
    (∃ es, mapOpt (genEntry X vo so) (outAssignments vo) = some es) ∧ cs.length = prod so ∧
      ∀ k, k < prod so → ∃ σ ∈ outAssignments vo, flatPos vo so σ = some k ∧ X σ = cs[k]? := by
  cases he : mapOpt (genEntry X vo so) (outAssignments vo) with
  | none => simp [genCells, he] at h
  | some es =>
    rw [genCells_of_entries he] at h
    obtain ⟨hlen, hall⟩ := gatherAll_spec h
    refine ⟨⟨es, rfl⟩, hlen, ?_⟩
    intro k hk
    obtain ⟨e, hmem, hk1, hc⟩ := hall k hk
    obtain ⟨σ, hσ, hent⟩ := mapOpt_mem he hmem
    refine ⟨σ, hσ, ?_⟩
    unfold genEntry at hent
    cases hx : X σ with
    | none => simp [hx] at hent
    | some c =>
      cases hp : flatPos vo so σ with
      | none => simp [hx, hp] at hent
      | some po =>
        simp only [hx, hp, Option.some.injEq] at hent
        subst hent
        exact ⟨by simpa using hk1, by simpa using hc.symm⟩

theorem genEntry_congr {X Y : Assign → Option Cell} {σ : Assign} (h : X σ = Y σ) (vo : List Dim) (so : List Nat) :
    genEntry X vo so σ = genEntry Y vo so σ := by
  simp only [genEntry, h]

theorem genEntry_map (g : Cell → Cell) (X : Assign → Option Cell) (vo : List Dim) (so : List Nat) (σ : Assign) :
    genEntry (fun σ => (X σ).map g) vo so σ = (genEntry X vo so σ).map (fun e => (e.1, g e.2)) := by
  simp only [genEntry]
  cases X σ <;> cases flatPos vo so σ <;> rfl

theorem genCells_congr {X Y : Assign → Option Cell} {vo : List Dim} {so : List Nat}
    (h : ∀ σ ∈ outAssignments vo, X σ = Y σ) : genCells X vo so = genCells Y vo so := by
  unfold genCells
  rw [mapOpt_congr (fun σ hσ => genEntry_congr (h σ hσ) vo so)]

theorem genCells_map (g : Cell → Cell) (X : Assign → Option Cell) (vo : List Dim) (so : List Nat) :
    genCells (fun σ => (X σ).map g) vo so = (genCells X vo so).map (List.map g) := by
  unfold genCells
  rw [funext (genEntry_map g X vo so), mapOpt_optmap]
  cases mapOpt (genEntry X vo so) (outAssignments vo) with
  | none => rfl
  | some es => simp only [Option.map_some, gatherAll_map]

theorem genCells_map_congr {α : Type} {g h : Cell → α} {X : Assign → Option Cell} {vo : List Dim} {so : List Nat}
    (hgh : ∀ σ ∈ outAssignments vo, ∀ c, X σ = some c → g c = h c) :
    (genCells X vo so).map (List.map g) = (genCells X vo so).map (List.map h) := by
  cases hcs : genCells X vo so with
  | none => rfl
  | some cs =>
    obtain ⟨_, hlen, hall⟩ := genCells_spec hcs
    simp only [Option.map_some, Option.some.injEq]
    apply List.map_congr_left
    intro c hc
    obtain ⟨k, hk, hget⟩ := List.getElem_of_mem hc
    obtain ⟨σ, hσ, _, hX⟩ := hall k (by rw [← hlen]; exact hk)
    rw [List.getElem?_eq_getElem hk, hget] at hX
    exact hgh σ hσ c hX

theorem genCells_regroup_output (X : Assign → Option Cell) (pre mid post : List Dim) :
    genCells X (pre ++ [Dim.flat mid] ++ post) (viewShape (pre ++ [Dim.flat mid] ++ post))
      = genCells X (pre ++ mid ++ post) (viewShape (pre ++ mid ++ post)) := by
  have : genEntry X (pre ++ [Dim.flat mid] ++ post) (viewShape (pre ++ [Dim.flat mid] ++ post))
      = genEntry X (pre ++ mid ++ post) (viewShape (pre ++ mid ++ post)) := by
    funext σ
    simp only [genEntry, flatPos_regroup]
  simp only [genCells, this, outAssignments, leavesL_regroup, prod_viewShape_regroup]

/-- **Permuting the output view permutes the result**: the cells of the permuted operation are the cells of numpy's
transpose plan applied to the original result (register `r`). -/
theorem genCells_permute_output {X : Assign → Option Cell} (hX : GetInvariant X) {w w' : List Dim} {perm : List Nat}
    {shapes : List (List Nat)} {r : Nat} {plan : Plan} {cs cs' : List Cell} (regs : List (Tensor Cell))
    (hperm : isPermOf perm w.length = true) (hw' : permuteL perm w = some w')
    (hc : Dim.concatFreeL w = true) (hcons : Consistent (Dim.leavesL w))
    (hr : shapes[r]? = some (viewShape w)) (hplan : planInstr shapes (.transpose r perm) = .ok plan)
    (hregs : regs[r]? = some ⟨viewShape w, cs⟩)
    (h : genCells X w (viewShape w) = some cs) (h' : genCells X w' (viewShape w') = some cs') :
    plan.shape = viewShape w' ∧ cs' = plan.cells.map (subst regs) := by
  obtain ⟨hs, hclen, hreads⟩ := transpose_plan_spec hperm hw' hr hplan
  refine ⟨hs, ?_⟩
  have hm := leavesL_permute hperm hw'
  have hcons' : Consistent (Dim.leavesL w') := hcons.mono fun l hl => (hm l).mpr hl
  obtain ⟨_, hl, hall⟩ := genCells_spec h
  obtain ⟨_, hl', hall'⟩ := genCells_spec h'
  apply List.ext_getElem?
  intro k'
  by_cases hk' : k' < prod (viewShape w')
  · obtain ⟨σ', hσ', hpos', hcell'⟩ := hall' k' hk'
    have hb' : BoundedOn σ' (Dim.leavesL w') := outAssignments_bounded hcons' hσ'
    have hb : BoundedOn σ' (Dim.leavesL w) := hb'.mono fun l hl => (hm l).mp hl
    obtain ⟨p, hp, hv⟩ := position_valid w hc hb
    obtain ⟨p', hp', _, hcell⟩ := hreads p hv
    have hposw' : position w' σ' = some p' := by rw [position_permute hp hw', hp']
    have hk'eq : k' = ravel (viewShape w') p' := by
      simp only [flatPos, hposw', Option.map_some, Option.some.injEq] at hpos'
      exact hpos'.symm
    have hklt : ravel (viewShape w) p < prod (viewShape w) := ravel_lt hv
    obtain ⟨τ, hτ, hpos, hcellτ⟩ := hall _ hklt
    have hbτ : BoundedOn τ (Dim.leavesL w) := outAssignments_bounded hcons hτ
    have hag : AgreeOn τ σ' (Dim.leavesL w) :=
      flatPos_inj w hc hbτ hb (by rw [hpos]; simp [flatPos, hp])
    have hsg : SameGet τ σ' := sameGet_of_agreeOn hm hτ hσ' hag
    have hklen : ravel (viewShape w) p < cs.length := by rw [hl]; exact hklt
    rw [List.getElem?_map, hk'eq, ← hs, hcell, Option.map_some, subst, evalCell_src symAlg hregs]
    rw [hs, ← hk'eq, ← hcell', ← hX τ σ' hsg, hcellτ]
    simp [List.getElem?_eq_getElem hklen]
  · have h1 : cs'.length ≤ k' := by omega
    have h2 : (plan.cells.map (subst regs)).length ≤ k' := by
      rw [List.length_map, hclen, hs]; omega
    rw [List.getElem?_eq_none h1, List.getElem?_eq_none h2]

theorem genCells_permute_output_run {X : Assign → Option Cell} (hX : GetInvariant X) {w w' : List Dim}
    {perm : List Nat} {cs cs' : List Cell} (hperm : isPermOf perm w.length = true) (hw' : permuteL perm w = some w')
    (hc : Dim.concatFreeL w = true) (hcons : Consistent (Dim.leavesL w))
    (h : genCells X w (viewShape w) = some cs) (h' : genCells X w' (viewShape w') = some cs') :
    ∃ plan, planInstr [viewShape w] (.transpose 0 perm) = .ok plan ∧
      runPlan symAlg [⟨viewShape w, cs⟩] plan = ⟨viewShape w', cs'⟩ := by
  obtain ⟨plan, hplan, _⟩ := transpose_plan_view (shapes := [viewShape w]) (x := 0) hperm hw' rfl
  obtain ⟨hs, hcells⟩ := genCells_permute_output hX [⟨viewShape w, cs⟩] hperm hw' hc hcons rfl hplan rfl h h'
  refine ⟨plan, hplan, ?_⟩
  simp only [runPlan, hs, Tensor.mk.injEq, true_and, evalCells_eq_map]
  exact hcells.symm

/-! ### the cell one input contributes; `id` and elementwise operations as instances -/

/-- The cell that input `q.2` (view and shape `q.1`) contributes under the output assignment `σ`. -/
def inCell (σ : Assign) (q : (List Dim × List Nat) × Nat) : Option Cell :=
  match extend σ (Dim.leavesL q.1.1) with
  | some σ' => cellAt q.1.1 q.1.2 q.2 σ'
  | none => none

theorem inCell_eq_readVia (σ : Assign) : inCell σ = readVia (extend σ) := rfl

def idX (vi : List Dim) (si : List Nat) (i : Nat) (σ : Assign) : Option Cell := inCell σ ((vi, si), i)

/-- The cell of an elementwise operation that combines its argument cells by `g` (`Cell.app f` for the documented
form, `foldCells f` for the left fold of the n-ary operations). -/
def ewXG (g : List Cell → Cell) (ins : List (List Dim × List Nat)) (σ : Assign) : Option Cell := (ewArgs ins σ).map g

def ewX (f : String) : List (List Dim × List Nat) → Assign → Option Cell := ewXG (Cell.app f)

theorem ewArgs_eq (ins : List (List Dim × List Nat)) (σ : Assign) : ewArgs ins σ = mapOpt (inCell σ) ins.zipIdx := rfl

theorem idEntry_eq_genEntry (vi : List Dim) (si : List Nat) (i : Nat) (vo : List Dim) (so : List Nat) (σ : Assign) :
    idEntry vi si i vo so σ = genEntry (idX vi si i) vo so σ := by
  simp only [idEntry, genEntry, idX, inCell]
  cases extend σ (Dim.leavesL vi) with
  | none => rfl
  | some σ' => dsimp only; cases cellAt vi si i σ' <;> cases flatPos vo so σ <;> rfl

theorem idCells_eq_genCells (vi : List Dim) (si : List Nat) (i : Nat) (vo : List Dim) (so : List Nat) :
    idCells vi si i vo so = genCells (idX vi si i) vo so := by
  unfold idCells idEntries genCells
  rw [funext (idEntry_eq_genEntry vi si i vo so)]
  cases mapOpt (genEntry (idX vi si i) vo so) (outAssignments vo) <;> rfl

theorem ewCells_eq_genCells (f : String) (ins : List (List Dim × List Nat)) (vo : List Dim) (so : List Nat) :
    ewCells f ins vo so = genCells (ewX f ins) vo so := by
  unfold ewCells genCells
  have : ewEntry f ins vo so = genEntry (ewX f ins) vo so := by
    funext σ
    simp only [ewEntry, genEntry, ewX, ewXG]
    cases ewArgs ins σ <;> cases flatPos vo so σ <;> rfl
  rw [this]
  cases mapOpt (genEntry (ewX f ins) vo so) (outAssignments vo) <;> rfl

theorem inCell_sameGet {σ σ' : Assign} (h : SameGet σ σ') (q : (List Dim × List Nat) × Nat) :
    inCell σ q = inCell σ' q := by
  unfold inCell
  rcases extend_sameGet (Dim.leavesL q.1.1) σ σ' h with ⟨h1, h2⟩ | ⟨σ1, σ1', h1, h2, hs⟩
  · rw [h1, h2]
  · rw [h1, h2]; exact cellAt_sameGet hs _ _ _

theorem idX_getInvariant (vi : List Dim) (si : List Nat) (i : Nat) : GetInvariant (idX vi si i) :=
  fun _ _ h => inCell_sameGet h _

theorem ewX_getInvariant (f : String) (ins : List (List Dim × List Nat)) : GetInvariant (ewX f ins) := by
  intro σ σ' h
  unfold ewX ewXG
  rw [ewArgs_eq, ewArgs_eq, mapOpt_congr (fun q _ => inCell_sameGet h q)]

theorem inCell_regroup (pre mid post : List Dim) (i : Nat) (σ : Assign) :
    inCell σ ((pre ++ [Dim.flat mid] ++ post, viewShape (pre ++ [Dim.flat mid] ++ post)), i)
      = inCell σ ((pre ++ mid ++ post, viewShape (pre ++ mid ++ post)), i) :=
  readVia_regroup (extend σ) pre mid post i

theorem inCell_permuted {v v' : List Dim} {perm : List Nat} {shapes : List (List Nat)} {x j : Nat} {σ : Assign}
    {plan : Plan} (regs : List (Tensor Cell)) (hperm : isPermOf perm v.length = true) (hv' : permuteL perm v = some v')
    (hok : Dim.viewOKL v = true) (hcons : Consistent (Dim.leavesL v)) (hr : InRangeOn σ (Dim.leavesL v))
    (hx : shapes[x]? = some (viewShape v)) (hplan : planInstr shapes (.transpose x perm) = .ok plan)
    (hregs : regs[j]? = some ⟨plan.shape, plan.cells⟩) :
    (inCell σ ((v', viewShape v'), j)).map (subst regs) = inCell σ ((v, viewShape v), x) :=
  readVia_permuted regs hperm hv' hok (extend_fills hcons hr) hx hplan hregs

theorem idCells_spec {vi : List Dim} {si : List Nat} {i : Nat} {vo : List Dim} {so : List Nat} {cs : List Cell}
    (h : idCells vi si i vo so = some cs) :
    cs.length = prod so ∧ ∀ k, k < prod so → ∃ σ ∈ outAssignments vo, ∃ σ', extend σ (Dim.leavesL vi) = some σ' ∧
      flatPos vo so σ = some k ∧ cellAt vi si i σ' = cs[k]? := by
  rw [idCells_eq_genCells] at h
  obtain ⟨_, hlen, hall⟩ := genCells_spec h
  refine ⟨hlen, fun k hk => ?_⟩
  obtain ⟨σ, hσ, hpos, hX⟩ := hall k hk
  rw [List.getElem?_eq_getElem (by rw [hlen]; exact hk)] at hX ⊢
  unfold idX inCell at hX
  cases hx : extend σ (Dim.leavesL vi) with
  | none => rw [hx] at hX; nomatch hX
  | some σ' => rw [hx] at hX; exact ⟨σ, hσ, σ', hx, hpos, hX⟩

/-- The heart of `id_inverse` / `id_compose`: the cell at output position `k` of `e2→e3` after substituting the
result of `e1→e2` is the cell that `e1` reads under an assignment that addresses position `k` of `e3`. -/
theorem compose_point {v1 v2 v3 : List Dim} {s1 : List Nat} {i : Nat} {c12 c23 : List Cell}
    (hc2 : Dim.concatFreeL v2 = true) (hk2 : Consistent (Dim.leavesL v2)) (hk3 : Consistent (Dim.leavesL v3))
    (s12 : LeavesSub (Dim.leavesL v1) (Dim.leavesL v2)) (s23 : LeavesSub (Dim.leavesL v2) (Dim.leavesL v3))
    (h12 : idCells v1 s1 i v2 (viewShape v2) = some c12)
    (h23 : idCells v2 (viewShape v2) 0 v3 (viewShape v3) = some c23) :
    ∀ k, k < prod (viewShape v3) → ∃ τ, BoundedOn τ (Dim.leavesL v3) ∧ flatPos v3 (viewShape v3) τ = some k ∧
      ∃ c, cellAt v1 s1 i τ = some c ∧ (c23.map (subst [⟨viewShape v2, c12⟩]))[k]? = some c := by
  intro k hk
  obtain ⟨hlen23, hall23⟩ := idCells_spec h23
  obtain ⟨hlen12, hall12⟩ := idCells_spec h12
  obtain ⟨τ, hτ, τ2, hext, hpos3, hcell23⟩ := hall23 k hk
  have hb3 : BoundedOn τ (Dim.leavesL v3) := outAssignments_bounded hk3 hτ
  have hb2 : BoundedOn τ (Dim.leavesL v2) := hb3.sub s23
  rw [extend_of_bounded _ hb2] at hext
  simp only [Option.some.injEq] at hext
  subst hext
  obtain ⟨p2, hp2, hv2⟩ := position_valid v2 hc2 hb2
  have hk2lt : ravel (viewShape v2) p2 < prod (viewShape v2) := ravel_lt hv2
  have hf2 : flatPos v2 (viewShape v2) τ = some (ravel (viewShape v2) p2) := by simp [flatPos, hp2]
  obtain ⟨σ, hσ, σ1, hext1, hpos2, hcell12⟩ := hall12 _ hk2lt
  have hbσ2 : BoundedOn σ (Dim.leavesL v2) := outAssignments_bounded hk2 hσ
  rw [extend_of_bounded _ (hbσ2.sub s12)] at hext1
  simp only [Option.some.injEq] at hext1
  subst hext1
  have hagree : AgreeOn σ τ (Dim.leavesL v2) := flatPos_inj v2 hc2 hbσ2 hb2 (by rw [hpos2, hf2])
  have hc1 : cellAt v1 s1 i σ = cellAt v1 s1 i τ := cellAt_congr v1 s1 i (hagree.sub s12)
  have hk2len : ravel (viewShape v2) p2 < c12.length := by rw [hlen12]; exact hk2lt
  refine ⟨τ, hb3, hpos3, c12[ravel (viewShape v2) p2], ?_, ?_⟩
  · rw [← hc1, hcell12, List.getElem?_eq_getElem hk2len]
  · have hklen : k < c23.length := by rw [hlen23]; exact hk
    have h23k : c23[k]? = some (Cell.src 0 (ravel (viewShape v2) p2)) := by
      rw [← hcell23]; simp [cellAt, hf2]
    rw [List.getElem?_map, h23k, Option.map_some, subst_src]
    simp [List.getElem?_eq_getElem hk2len]

theorem idCells_regroup_input (pre mid post : List Dim) (i : Nat) (vo : List Dim) (so : List Nat) :
    idCells (pre ++ [Dim.flat mid] ++ post) (viewShape (pre ++ [Dim.flat mid] ++ post)) i vo so
      = idCells (pre ++ mid ++ post) (viewShape (pre ++ mid ++ post)) i vo so := by
  rw [idCells_eq_genCells, idCells_eq_genCells]
  exact genCells_congr (fun σ _ => inCell_regroup pre mid post i σ)

theorem idCells_regroup_output (vi : List Dim) (si : List Nat) (i : Nat) (pre mid post : List Dim) :
    idCells vi si i (pre ++ [Dim.flat mid] ++ post) (viewShape (pre ++ [Dim.flat mid] ++ post))
      = idCells vi si i (pre ++ mid ++ post) (viewShape (pre ++ mid ++ post)) := by
  rw [idCells_eq_genCells, idCells_eq_genCells, genCells_regroup_output]

/-- **Permuting an input view together with its tensor leaves the whole result unchanged** (`id`). -/
theorem idCells_permute_input {v v' w : List Dim} {perm : List Nat} {shapes : List (List Nat)} {x : Nat}
    {sw : List Nat} {plan : Plan} (hperm : isPermOf perm v.length = true) (hv' : permuteL perm v = some v')
    (hok : Dim.viewOKL v = true) (hcons : Consistent (Dim.leavesL v ++ Dim.leavesL w))
    (hx : shapes[x]? = some (viewShape v)) (hplan : planInstr shapes (.transpose x perm) = .ok plan) :
    (idCells v' (viewShape v') 0 w sw).map (List.map (subst [⟨plan.shape, plan.cells⟩]))
      = idCells v (viewShape v) x w sw := by
  rw [idCells_eq_genCells, idCells_eq_genCells, ← genCells_map]
  exact genCells_congr fun σ hσ =>
    inCell_permuted [⟨plan.shape, plan.cells⟩] hperm hv' hok hcons.left (outAssignments_inRange hcons hσ) hx hplan rfl

/-- Operand `j`, read through `v`, is replaced by the permuted view `v'`, its register transposed: what the operands read
is unchanged.  Stated for the reads under any built assignment, so that elementwise operations (`inCell`) and contractions
(`inCellM`) share it. -/
theorem mapOpt_permRegs {B : List Leaf → Option Assign} {val : Leaf → Option Nat} {acc : Assign}
    {ins : List (List Dim × List Nat)} {j : Nat} {v v' : List Dim} {perm : List Nat} {plan : Plan}
    (hj : ins[j]? = some (v, viewShape v))
    (hshape : ∀ p ∈ ins, p.2 = viewShape p.1 ∧ Dim.concatFreeL p.1 = true) (hB : ∀ p ∈ ins, Fills B val acc p.1)
    (hperm : isPermOf perm v.length = true) (hv' : permuteL perm v = some v')
    (hplan : planInstr (ins.map (·.2)) (.transpose j perm) = .ok plan) :
    (mapOpt (readVia B) (ins.set j (v', viewShape v')).zipIdx).map
        (List.map (subst (permRegs (ins.set j (v', viewShape v')) j plan)))
      = mapOpt (readVia B) ins.zipIdx := by
  generalize hregs : permRegs (ins.set j (v', viewShape v')) j plan = regs
  have hvin : (v, viewShape v) ∈ ins := List.mem_of_getElem? hj
  have hjlt : j < ins.length := (List.getElem?_eq_some_iff.mp hj).1
  apply mapOpt_pointwise
  · simp
  · intro k a a' ha ha'
    rw [List.getElem?_zipIdx] at ha ha'
    have hreg : ∀ q, (ins.set j (v', viewShape v')).zipIdx[k]? = some q →
        regs[k]? = some (if q.2 = j then (⟨plan.shape, plan.cells⟩ : Tensor Cell) else symInput q.2 q.1.2) := by
      intro q hq
      rw [← hregs, permRegs, List.getElem?_map, hq]; rfl
    by_cases hk : j = k
    · subst hk
      simp only [List.getElem?_set, if_true, hjlt, Option.map_some, Option.some.injEq, Nat.zero_add] at ha
      simp only [hj, Option.map_some, Option.some.injEq, Nat.zero_add] at ha'
      subst ha ha'
      refine readVia_permuted regs hperm hv' (viewOKL_of_concatFreeL v (hshape _ hvin).2) (hB _ hvin) (by simp [hj])
        hplan ?_
      have := hreg ((v', viewShape v'), j) (by simp [hjlt])
      simpa using this
    · simp only [List.getElem?_set, hk, if_false] at ha
      rw [ha] at ha'
      simp only [Option.some.injEq] at ha'
      subst ha'
      cases hp : ins[k]? with
      | none => simp [hp] at ha
      | some q =>
        simp only [hp, Option.map_some, Option.some.injEq, Nat.zero_add] at ha
        subst ha
        have hqin : q ∈ ins := List.mem_of_getElem? hp
        obtain ⟨u, su⟩ := q
        obtain ⟨hsu, hcu⟩ := hshape _ hqin
        simp only at hsu hcu
        subst hsu
        refine readVia_fixed regs (viewOKL_of_concatFreeL u hcu) (hB _ hqin) ?_
        have := hreg ((u, viewShape u), k) (by simp [List.getElem?_zipIdx, hk, hp])
        have hkj : ¬ k = j := fun e => hk e.symm
        simpa [hkj] using this

/-- **Permuting one input of an elementwise operation together with its tensor leaves the whole result
unchanged.**  `permRegs`: the transposed tensor in register `j`, the symbolic inputs elsewhere. -/
theorem ewCells_permute_input {f : String} {ins : List (List Dim × List Nat)} {j : Nat} {v v' w : List Dim}
    {perm sw : List Nat} {plan : Plan}
    (hj : ins[j]? = some (v, viewShape v))
    (hshape : ∀ p ∈ ins, p.2 = viewShape p.1 ∧ Dim.concatFreeL p.1 = true)
    (hperm : isPermOf perm v.length = true) (hv' : permuteL perm v = some v')
    (hcons : ∀ p ∈ ins, Consistent (Dim.leavesL p.1 ++ Dim.leavesL w))
    (hplan : planInstr (ins.map (·.2)) (.transpose j perm) = .ok plan) :
    (ewCells f (ins.set j (v', viewShape v')) w sw).map
        (List.map (subst (permRegs (ins.set j (v', viewShape v')) j plan)))
      = ewCells f ins w sw := by
  rw [ewCells_eq_genCells, ewCells_eq_genCells, ← genCells_map]
  refine genCells_congr fun σ hσ => ?_
  have hargs := mapOpt_permRegs (B := extend σ) hj hshape
    (fun p hp => extend_fills (hcons p hp).left (outAssignments_inRange (hcons p hp) hσ)) hperm hv' hplan
  simp only [ewX, ewXG, ewArgs_eq, inCell_eq_readVia, ← hargs]
  cases mapOpt (readVia (extend σ)) (ins.set j (v', viewShape v')).zipIdx with
  | none => rfl
  | some args => simp only [Option.map_some, subst_app]

end Einx.Denote
