import EinxModel.Proofs.Stb
import EinxModel.Proofs.PyPrelude
import EinxModel.Generic.StbPrims
/-! Helper lemmas for `Props/C17Xlate.lean`: the hand model of `_squeeze_transpose_broadcast`
(`Generic/Stb.lean`) restated in the vocabulary of the translation (`Basic/PyPrelude.lean`: sets as
duplicate-free lists, `index`, dicts as association lists).  Nothing here mentions `Extracted/*`. -/
namespace Einx.Generic
open Einx.Py

theorem filter_const_true {α : Type} (l : List α) : l.filter (fun _ => true) = l :=
  List.filter_eq_self.mpr fun _ _ => rfl

/-- One iteration of the loop of `_to_axis_ids` on the pair (axes, counts): the count of the name so far
is read from the dict, the pair is appended, the count is incremented. -/
def idsStep (p : List (String × Nat) × List (String × Nat)) (a : Ax) : List (String × Nat) × List (String × Nat) :=
  (p.1 ++ [(a.name, dictGetD p.2 a.name 0)], dictSet p.2 a.name (dictGetD p.2 a.name 0 + 1))

/-- The dict of counts of `_to_axis_ids` is the multiset of names seen so far. -/
theorem idsStep_fold : ∀ (e : List Ax) (axes counts : List (String × Nat)) (seen : List String),
    (∀ n, dictGetD counts n 0 = seen.count n) →
    (e.foldl idsStep (axes, counts)).1 = axes ++ idsAux seen (names e)
  | [], axes, counts, seen, _ => by simp [names, idsAux]
  | a :: e, axes, counts, seen, h => by
    simp only [List.foldl_cons, names, List.map_cons, idsAux]
    have := idsStep_fold e (axes ++ [(a.name, dictGetD counts a.name 0)]) (dictSet counts a.name (dictGetD counts a.name 0 + 1))
      (a.name :: seen) (by
        intro n
        rw [dictGetD_dictSet, List.count_cons, h, h]
        by_cases hn : n = a.name
        · subst hn; simp
        · have : (n == a.name) = false := by simpa using hn
          have h2 : (a.name == n) = false := by simpa using (fun h => hn h.symm)
          simp [this, h2])
    simp only [idsStep] at this ⊢
    rw [this, h, names]
    simp

/-- The squeeze decision phrased with Python sets (`set(squeezable) - set(out_axes)`, `len(...) > 0`,
`a.name in squeeze_axes`) is the one of the model (list filters). -/
theorem squeeze_eq (s : St) (ein eout : List Ax) :
    (let sa := setDiff (setOf ((ein.filter (fun a => a.len == 1)).map (fun a => a.name))) (setOf (eout.map (fun a => a.name)))
     if decide (sa.length > 0) = true then
       (ein.filter (fun a => !sa.contains a.name), reshapeW s (lens (ein.filter (fun a => !sa.contains a.name))))
     else (ein, s))
    = squeezeStep s ein eout := by
  unfold squeezeStep
  simp only
  have hmem : ∀ n, n ∈ setDiff (setOf ((ein.filter (fun a => a.len == 1)).map (fun a => a.name))) (setOf (eout.map (fun a => a.name)))
      ↔ n ∈ (names (ein.filter (fun a => a.len == 1))).filter (fun n => !(names eout).contains n) := by
    intro n
    rw [mem_setDiff, mem_setOf, mem_setOf]
    simp [names]
  have hc : ∀ n, (setDiff (setOf ((ein.filter (fun a => a.len == 1)).map (fun a => a.name))) (setOf (eout.map (fun a => a.name)))).contains n
      = ((names (ein.filter (fun a => a.len == 1))).filter (fun n => !(names eout).contains n)).contains n := by
    intro n
    have := hmem n
    rw [Bool.eq_iff_iff]
    simpa using this
  rw [decide_length_pos_congr _ _ hmem]
  simp only [hc, decide_eq_true_eq]

/-- The permutation step of the model, phrased with Python's comparison of two sets. -/
theorem transposeStep_eq (s1 : St) (ein1 eout : List Ax) :
    transposeStep s1 ein1 eout =
      if Py.setEq (setOf ((idsOf (names eout)).filter (fun a => (idsOf (names ein1)).contains a))) (setOf (idsOf (names ein1))) then
        .ok (transposeW s1 (((idsOf (names eout)).filter (fun a => (idsOf (names ein1)).contains a)).map (fun o => (idsOf (names ein1)).idxOf o)))
      else .error "an input axis does not appear in the corresponding output expression" := by
  unfold transposeStep
  simp only [setEq_setOf, Generic.setEq]
  rfl

/-- `[in_axes.index(a) for a in out_axes if a in in_axes]` never raises and is the list of first positions. -/
theorem perm_eq {α : Type} [BEq α] [LawfulBEq α] (l m : List α) :
    (l.filter (fun a => m.contains a)).mapM (fun o => index m o)
      = .ok ((l.filter (fun a => m.contains a)).map (fun o => m.idxOf o)) := by
  apply mapM_index_of_subset
  intro x hx
  have := (List.mem_filter.mp hx).2
  simpa using this

end Einx.Generic
