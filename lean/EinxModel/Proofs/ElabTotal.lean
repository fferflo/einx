import EinxModel.Proofs.Elab
import EinxModel.Elab.Spec
import EinxModel.Proofs.ExceptList
/-!
# Helper lemmas for Props/C03Elab.lean: outcome classes of the `_parse_op` model

About `Einx.Elab.parseOpTree` (the definition the driver runs) and the outcome classes of Elab/Spec.lean.  For each of
`markInputs`, `finish`, `parseOpTree` one statement `*_spec` says what a result means (every check has passed) and which errors
can come out: the `SemanticError` sites, and the internal sites with the condition under which each is reached.  Totality and
the inversions the rule theorems use are its two readings.
-/
namespace Einx.Elab
open Einx.Notation

/-- A result, or an error of one of the `SemanticError` sites. -/
abbrev NonInternal {α : Type} : PRes α → Prop := ExceptP (·.isSemantic = true) fun _ => True

theorem nonInternal_iff {α : Type} (r : PRes α) :
    NonInternal r ↔ (∃ x, r = .ok x) ∨ (∃ e, r = .error e ∧ e.isSemantic = true) := by
  cases r with
  | ok x => simp [ExceptP]
  | error e => simp [ExceptP]

theorem bracketCheck_semantic (o : Bool) : ∀ (i : Nat) (as ss : List Expr) (e : PErr),
    bracketCheck o i as ss = some e → e.isSemantic = true
  | _, [], _, _, h => by simp [bracketCheck] at h
  | _, _ :: _, [], _, h => by simp [bracketCheck] at h
  | i, _ :: as, _ :: ss, e, h => by
    simp only [bracketCheck] at h
    split at h
    · cases h; rfl
    · split at h
      · cases h; rfl
      · exact bracketCheck_semantic o (i + 1) as ss e h

theorem bracketCheck_none_get (o : Bool) : ∀ (i : Nat) (as ss : List Expr), bracketCheck o i as ss = none →
    ∀ (j : Nat) (a s : Expr), as[j]? = some a → ss[j]? = some s → isScalar a = isScalar s
  | _, [], _, _ => by intro j a s ha; simp at ha
  | _, _ :: _, [], _ => by intro j a s _ hs; simp at hs
  | i, a0 :: as, s0 :: ss, h => by
    simp only [bracketCheck] at h
    split at h
    · cases h
    · split at h
      · cases h
      · rename_i h1 h2
        intro j a s ha hs
        cases j with
        | zero =>
          simp only [List.getElem?_cons_zero, Option.some.injEq] at ha hs
          subst ha; subst hs
          revert h1 h2
          cases isScalar a0 <;> cases isScalar s0 <;> simp
        | succ j =>
          simp only [List.getElem?_cons_succ] at ha hs
          exact bracketCheck_none_get o (i + 1) as ss h j a s ha hs

theorem markInputs_spec (ins outs : List Expr) :
    ExceptP (fun e => e.isSemantic = true ∨ (e = .internal .assertOneOutput ∧ outs.length ≠ 1))
      (fun r => (∀ x ∈ ins, hasDup (axisNames x) = false) ∧ ∃ out, outs = [out] ∧ r = ins.map (markAxes (axisNames out)))
      (markInputs ins outs) := by
  unfold markInputs
  split
  · exact Or.inl rfl
  · rename_i hf
    have hnd : ∀ x ∈ ins, hasDup (axisNames x) = false := fun x hx => by simpa using List.find?_eq_none.mp hf x hx
    split
    · exact ⟨hnd, _, rfl, rfl⟩
    · rename_i hne
      exact Or.inr ⟨rfl, fun h1 => by
        match outs, h1 with
        | [o], _ => exact hne o rfl⟩

/-- Everything `finish` has checked when it returns `r`, in the order of the checks, and what `r` is. -/
structure FinishOK (fl : Flags) (el : ElOp) (ins outs : List Expr) (r : List Expr × List Expr) : Prop where
  outCount : el.outs.length = outs.length
  insBrackets : bracketCheck false 0 el.ins (ins.map toEl) = none
  outsBrackets : bracketCheck true 0 el.outs (outs.map toEl) = none
  marked : fl.markReduced = true → ins.any hasBrackets = false →
    (∀ x ∈ ins, hasDup (axisNames x) = false) ∧ ∃ out, outs = [out] ∧ r.1 = ins.map (markAxes (axisNames out))
  unmarked : fl.markReduced = false ∨ ins.any hasBrackets = true → r.1 = ins
  outsNoDup : outs.any outputHasDup = false
  bracketsNoDup : fl.allowDupEl = false → (r.1 ++ outs).any (fun x => hasDup (markedNames x)) = false
  outs_eq : r.2 = outs

theorem finish_spec (fl : Flags) (el : ElOp) (ins outs : List Expr) :
    ExceptP (fun e => e.isSemantic = true ∨ (e = .internal .assertOneOutput ∧ fl.markReduced = true ∧ el.outs.length ≠ 1))
      (FinishOK fl el ins outs) (finish fl el ins outs) := by
  unfold finish
  split
  · exact Or.inl rfl
  rename_i hlen
  split
  · exact Or.inl (bracketCheck_semantic _ _ _ _ _ ‹_›)
  rename_i hb1
  split
  · exact Or.inl (bracketCheck_semantic _ _ _ _ _ ‹_›)
  rename_i hb2
  split
  · rename_i err herr
    split at herr
    · rename_i hm
      exact ((markInputs_spec ins outs).error herr).imp_right fun h =>
        ⟨h.1, (Bool.and_eq_true _ _ ▸ hm).1, (by simpa using hlen : el.outs.length = outs.length) ▸ h.2⟩
    · cases herr
  rename_i ins' hm
  split
  · exact Or.inl rfl
  rename_i hod
  split
  · exact Or.inl rfl
  rename_i hbd
  refine ⟨by simpa using hlen, hb1, hb2, fun h1 h2 => (markInputs_spec ins outs).ok (by simpa [h1, h2] using hm), fun h => ?_,
    by simpa using hod, fun hdup => ?_, rfl⟩
  · rcases h with h | h <;> simpa [h, eq_comm] using hm
  · simpa [hdup] using hbd

theorem toOutputL_total : ∀ (xs : List Expr), NonInternal (toOutputL xs)
  | [] => trivial
  | x :: xs => by
    have ih := toOutputL_total xs
    simp only [toOutputL, toOutput]
    by_cases hb : (bracketCount x == 1) = true
    · rw [if_pos hb]
      cases h : toOutputL xs with
      | ok ys => trivial
      | error e => exact ih.error h
    · rw [if_neg hb]
      exact rfl

theorem implicitOut_none (fl : Flags) (kd : Bool) (el : ElOp) (ins : List Expr) (h : fl.implicit = .none) :
    implicitOut fl kd el ins = .error .noArrow := by
  unfold implicitOut
  rw [h]

/-- The internal exits of `implicitOut`: `exprs_in[implicit_output]` out of range, and the final `ValueError`. -/
def ImplicitInternal (fl : Flags) (ins : List Expr) (e : PErr) : Prop :=
  (e = .internal .indexError ∧ ((∃ i, fl.implicit = .index i ∧ ins.length ≤ i) ∨ ∃ is, fl.implicit = .indices is)) ∨
  (e = .internal .invalidImplicit ∧ fl.implicit = .invalid)

theorem implicitOut_spec (fl : Flags) (kd : Bool) (el : ElOp) (ins : List Expr) :
    ExceptP (fun e => e.isSemantic = true ∨ ImplicitInternal fl ins e) (fun _ => True) (implicitOut fl kd el ins) := by
  unfold implicitOut
  cases hi : fl.implicit with
  | none => exact Or.inl rfl
  | invalid => exact Or.inr (Or.inr ⟨rfl, hi⟩)
  | bijective =>
    dsimp only
    split
    · trivial
    split
    · trivial
    split
    · split
      · trivial
      split
      · trivial
      · exact Or.inl rfl
    split
    · exact (toOutputL_total ins).mono (fun _ => Or.inl) fun _ _ => trivial
    · exact Or.inl rfl
  | index i =>
    dsimp only
    split
    · trivial
    · rename_i hnone
      exact Or.inr (Or.inl ⟨rfl, Or.inl ⟨i, hi, by simpa using hnone⟩⟩)
  | indices is =>
    dsimp only
    split
    · trivial
    · exact Or.inr (Or.inl ⟨rfl, Or.inr ⟨is, hi⟩⟩)

/-- Everything `_parse_op` has checked when it returns `r` under the signature `el`, in the order of the checks. -/
structure ParseOK (fl : Flags) (kd : Bool) (el : ElOp) (ins : List Expr) (outs : Option (List Expr)) (r : List Expr × List Expr) :
    Prop where
  concatAllowed : fl.allowConcat = true ∨ (ins ++ outs.getD []).any hasConcat = false
  noTouch : (ins ++ outs.getD []).any (concatTouchesBrackets false) = false
  inCount : el.ins.length = ins.length
  out : ∃ o, (outs = some o ∨ (outs = none ∧ implicitOut fl kd el ins = .ok o)) ∧ FinishOK fl el ins o r

/-- The exits of `_parse_op` that are not `SemanticError`, each with the condition under which it is reached. -/
def ParseInternal (fl : Flags) (el : ElOp) (ins : List Expr) (e : PErr) : Prop :=
  el.ins.length = ins.length ∧
    ((e = .internal .assertOneOutput ∧ fl.markReduced = true ∧ el.outs.length ≠ 1) ∨ ImplicitInternal fl ins e)

/-- `_parse_op` returns `r` only if every check has passed; an error is a `SemanticError` site, the failure of the `el_op` builder
    (string mode only), or one of the three internal sites. -/
theorem parseOpTree_spec (mode : ElMode) (fam : Family) (fl : Flags) (kd : Bool) (ins : List Expr) (outs : Option (List Expr)) :
    ExceptP
      (fun e => e.isSemantic = true ∨ elOp mode fam (ins.map toEl) (outs.map (fun o => o.map toEl)) = .error e ∨
        ∃ el, elOp mode fam (ins.map toEl) (outs.map (fun o => o.map toEl)) = .ok el ∧ ParseInternal fl el ins e)
      (fun r => ∃ el, elOp mode fam (ins.map toEl) (outs.map (fun o => o.map toEl)) = .ok el ∧ ParseOK fl kd el ins outs r)
      (parseOpTree mode fam fl kd ins outs) := by
  unfold parseOpTree
  dsimp only
  split
  · exact Or.inl rfl
  rename_i hc
  split
  · exact Or.inl rfl
  rename_i ht
  split
  · exact Or.inr (Or.inl ‹_›)
  rename_i el hel
  split
  · exact Or.inl rfl
  rename_i hin
  have hin : el.ins.length = ins.length := by simpa using hin
  have hc : fl.allowConcat = true ∨ (ins ++ outs.getD []).any hasConcat = false := by
    cases ha : fl.allowConcat
    · right; simpa [ha] using hc
    · left; rfl
  have ht : (ins ++ outs.getD []).any (concatTouchesBrackets false) = false := by simpa using ht
  -- both branches end in `finish`, whose result and errors are handed on
  have fin : ∀ o, (outs = some o ∨ (outs = none ∧ implicitOut fl kd el ins = .ok o)) →
      ExceptP (fun e => e.isSemantic = true ∨ elOp mode fam (ins.map toEl) (outs.map (fun o => o.map toEl)) = .error e ∨
          ∃ el, elOp mode fam (ins.map toEl) (outs.map (fun o => o.map toEl)) = .ok el ∧ ParseInternal fl el ins e)
        (fun r => ∃ el, elOp mode fam (ins.map toEl) (outs.map (fun o => o.map toEl)) = .ok el ∧ ParseOK fl kd el ins outs r)
        (finish fl el ins o) := fun o ho =>
    (finish_spec fl el ins o).mono (fun e h => h.imp_right fun h => Or.inr ⟨el, hel, hin, Or.inl h⟩)
      fun r hr => ⟨el, hel, hc, ht, hin, o, ho, hr⟩
  cases outs with
  | some o =>
    dsimp only
    split
    · exact Or.inl rfl
    · exact fin o (Or.inl rfl)
  | none =>
    dsimp only
    split
    · rename_i err herr
      exact ((implicitOut_spec fl kd el ins).error herr).imp_right fun h => Or.inr ⟨el, hel, hin, Or.inr h⟩
    · rename_i o hio
      exact fin o (Or.inr ⟨rfl, hio⟩)

/-- Tree mode: the builder cannot fail. -/
theorem parseOpTree_tree_spec (fam : Family) (fl : Flags) (kd : Bool) (ins : List Expr) (outs : Option (List Expr)) :
    ExceptP (fun e => e.isSemantic = true ∨ ParseInternal fl (elOpTree fam (ins.map toEl) (outs.map (fun o => o.map toEl))) ins e)
      (ParseOK fl kd (elOpTree fam (ins.map toEl) (outs.map (fun o => o.map toEl))) ins outs)
      (parseOpTree .tree fam fl kd ins outs) :=
  (parseOpTree_spec .tree fam fl kd ins outs).mono
    (fun e h => h.imp_right fun h => by
      rcases h with h | ⟨el, hel, h⟩
      · cases h
      · cases hel; exact h)
    (fun r ⟨el, hel, h⟩ => by cases hel; exact h)

theorem parseOpTree_tree_ok_inv {fam : Family} {fl : Flags} {kd : Bool} {ins : List Expr} {outs : Option (List Expr)}
    {r : List Expr × List Expr} (h : parseOpTree .tree fam fl kd ins outs = .ok r) :
    ParseOK fl kd (elOpTree fam (ins.map toEl) (outs.map (fun o => o.map toEl))) ins outs r :=
  (parseOpTree_tree_spec fam fl kd ins outs).ok h

theorem parseOpTree_some_ok {fam : Family} {fl : Flags} {kd : Bool} {ins o : List Expr} {r : List Expr × List Expr}
    (h : parseOpTree .tree fam fl kd ins (some o) = .ok r) :
    FinishOK fl (elOpTree fam (ins.map toEl) (some (o.map toEl))) ins o r := by
  obtain ⟨o', ho | ⟨ho, _⟩, hfin⟩ := (parseOpTree_tree_ok_inv h).out
  · cases ho; exact hfin
  · cases ho

theorem parseOpTree_none_ok {fam : Family} {fl : Flags} {kd : Bool} {ins : List Expr} {r : List Expr × List Expr}
    (h : parseOpTree .tree fam fl kd ins none = .ok r) :
    ∃ o, implicitOut fl kd (elOpTree fam (ins.map toEl) none) ins = .ok o ∧
      FinishOK fl (elOpTree fam (ins.map toEl) none) ins o r := by
  obtain ⟨o, ho | ⟨_, ho⟩, hfin⟩ := (parseOpTree_tree_ok_inv h).out
  · cases ho
  · exact ⟨o, ho, hfin⟩

theorem elOpTree_outs_length (fam : Family) (eins : List Expr) (eouts : Option (List Expr)) (h : fam ≠ .id) :
    (elOpTree fam eins eouts).outs.length = 1 := by
  cases fam <;> simp [elOpTree] at h ⊢
  split <;> rfl

theorem elOpTree_outs_scalar {fam : Family} (hfam : fam = .elementwise ∨ fam = .reduce ∨ fam = .dot ∨ fam = .getAt ∨ fam = .id)
    (eins : List Expr) (eouts : Option (List Expr)) : ∀ a ∈ (elOpTree fam eins eouts).outs, a = emptyList := by
  rcases hfam with rfl | rfl | rfl | rfl | rfl <;> simp [elOpTree]

theorem updateAtIns_length (eins : List Expr) : (updateAtIns eins).length = max eins.length 2 := by
  match eins with
  | [] | [_] => rfl
  | _ :: _ :: r => simp [updateAtIns]

theorem flagsSafe_not_internal {fam : Family} {fl : Flags} (hs : flagsSafe fam fl = true) (ins : List Expr) (eo : Option (List Expr))
    (e : PErr) : ¬ ParseInternal fl (elOpTree fam (ins.map toEl) eo) ins e := by
  simp only [flagsSafe, Bool.and_eq_true, Bool.or_eq_true, Bool.not_eq_true', bne_iff_ne, ne_eq] at hs
  rintro ⟨hin, ⟨-, hm, hne⟩ | ⟨-, ⟨i, hi, hle⟩ | ⟨is, hi⟩⟩ | ⟨-, hi⟩⟩
  · exact hne (elOpTree_outs_length fam _ eo (hs.2.resolve_left (by simp [hm])))
  · -- `implicit_output=0` is safe for `update_at` only: its signature has as many inputs only if there is one
    have h1 := hs.1
    rw [hi] at h1
    simp only [Bool.and_eq_true, beq_iff_eq] at h1
    obtain ⟨rfl, rfl⟩ := h1
    simp only [elOpTree, updateAtIns_length, List.length_map] at hin
    omega
  · have h1 := hs.1; rw [hi] at h1; cases h1
  · have h1 := hs.1; rw [hi] at h1; cases h1

theorem parseOpTree_total (fam : Family) (fl : Flags) (hs : flagsSafe fam fl = true) (kd : Bool) (ins : List Expr)
    (outs : Option (List Expr)) : NonInternal (parseOpTree .tree fam fl kd ins outs) :=
  (parseOpTree_tree_spec fam fl kd ins outs).mono (fun e h => h.resolve_right (flagsSafe_not_internal hs ins _ e)) fun _ _ => trivial

theorem rejected_semantic {fam : Family} {fl : Flags} (hs : flagsSafe fam fl = true) {kd : Bool} {ins : List Expr}
    {outs : Option (List Expr)} (h : ∀ r, parseOpTree .tree fam fl kd ins outs ≠ .ok r) :
    ∃ e, parseOpTree .tree fam fl kd ins outs = .error e ∧ e.isSemantic = true := by
  cases hr : parseOpTree .tree fam fl kd ins outs with
  | ok r => exact absurd hr (h r)
  | error e => exact ⟨e, rfl, (parseOpTree_total fam fl hs kd ins outs).error hr⟩

/-- The flags every wrapper of the source passes (regenerated from /repo on every run) are safe. -/
theorem family_flags_safe_bool (fam : Family) :
    (match flagsOf fam with | some fl => flagsSafe fam fl | none => false) = true := by
  cases fam <;> decide +kernel

theorem flagsOf_safe {fam : Family} {fl : Flags} (h : flagsOf fam = some fl) : flagsSafe fam fl = true := by
  have := family_flags_safe_bool fam
  rwa [h] at this

end Einx.Elab
