import EinxModel.Proofs.DenoteReducePerm
import Mathlib.Data.List.Perm.Subperm
import Mathlib.Data.List.Nodup
/-!
Definedness of an output-permuted denotation (C08) and what it rests on: the iteration spaces of two views with the same
leaves contain the same assignments up to `SameGet`; a permutation of multi-indices is invertible.
-/
namespace Einx.Denote
open Einx Einx.IR
open Einx.Update (mapOpt mapOpt_eq_some_iff mapOpt_length mapOpt_getElem? mapOpt_congr mapOpt_some_of_forall mapOpt_forall_of_some)

theorem mem_assignments_iff : ∀ (axes : List (String × Nat)) (σ : Assign),
    σ ∈ assignments axes ↔ List.Forall₂ (fun p q => p.1 = q.1 ∧ p.2 < q.2) σ axes := by
  intro axes
  induction axes with
  | nil =>
    intro σ
    simp only [assignments, List.mem_singleton]
    constructor
    · rintro rfl; exact List.Forall₂.nil
    · intro h; cases h; rfl
  | cons a rest ih =>
    obtain ⟨n, s⟩ := a
    intro σ
    simp only [assignments, List.mem_flatMap, List.mem_range, List.mem_map]
    constructor
    · rintro ⟨i, hi, σ', hσ', rfl⟩
      exact List.Forall₂.cons ⟨rfl, hi⟩ ((ih σ').mp hσ')
    · intro h
      cases h with
      | cons hp hrest =>
        rename_i p σ'
        obtain ⟨pn, pv⟩ := p
        simp only at hp
        obtain ⟨rfl, hlt⟩ := hp
        exact ⟨pv, hlt, σ', (ih σ').mpr hrest, rfl⟩

theorem outAssignments_sameGet {w w' : List Dim} (hm : ∀ l, l ∈ Dim.leavesL w ↔ l ∈ Dim.leavesL w')
    (hcons : Consistent (Dim.leavesL w)) {σ' : Assign} (hσ' : σ' ∈ outAssignments w') :
    ∃ σ ∈ outAssignments w, SameGet σ σ' := by
  have hp := assignments_map_perm (axesOf_perm hm hcons) (fun σ => Assign.get σ) (fun _ _ h => funext h) (axesOf_nodup _)
  obtain ⟨σ, hσ, h⟩ := List.mem_map.mp (hp.mem_iff.mpr (List.mem_map_of_mem hσ'))
  exact ⟨σ, hσ, fun n => congrFun h n⟩

/-- The witness is `p'` read back through `perm.idxOf`. -/
theorem exists_unpermute {perm sx sx' p' : List Nat} (hperm : isPermOf perm sx.length = true)
    (hs : permuteL perm sx = some sx') (hv : Valid sx' p') :
    ∃ p, Valid sx p ∧ permuteL perm p = some p' := by
  have hp := isPermOf_permOK hperm
  have hlt : ∀ a ∈ perm, a < sx.length := fun a ha => (hp.mem a).1 ha
  have hsx' : sx' = permShape perm sx := by
    rw [permuteL_eq_map 0 perm sx hlt] at hs; exact (Option.some.inj hs).symm
  subst hsx'
  refine ⟨gatherIdx perm sx.length p', valid_gather hp rfl hv, ?_⟩
  rw [permuteL_eq_map 0 perm _ (by rw [gatherIdx, List.length_map, List.length_range]; exact hlt)]
  congr 1
  have hl : p'.length = perm.length := by rw [valid_length hv, permShape_length]
  apply List.ext_getElem (by rw [List.length_map, hl])
  intro j h1 h2
  have hj : j < perm.length := by rw [List.length_map] at h1; exact h1
  rw [List.getElem_map, gatherIdx_getD p' (hlt _ (List.getElem_mem hj)), hp.nodup.idxOf_getElem j hj,
    List.getD_eq_getElem?_getD, List.getElem?_eq_getElem h2, Option.getD_some]

/-- **Permuting the output view: definedness.**  Every assignment of the permuted iteration space agrees (`SameGet`) with
one of the original space, so it has an entry; every position of the permuted output is the permutation of a position
of the original output, which was written. -/
theorem genCells_permute_output_defined {X : Assign → Option Cell} (hX : GetInvariant X) {w w' : List Dim}
    {perm : List Nat} {cs : List Cell} (hperm : isPermOf perm w.length = true) (hw' : permuteL perm w = some w')
    (hc : Dim.concatFreeL w = true) (hcons : Consistent (Dim.leavesL w))
    (h : genCells X w (viewShape w) = some cs) : ∃ cs', genCells X w' (viewShape w') = some cs' := by
  obtain ⟨_, _, _, hlt⟩ := isPermOf_spec hperm
  have hm := leavesL_permute hperm hw'
  have hm' : ∀ l, l ∈ Dim.leavesL w' ↔ l ∈ Dim.leavesL w := fun l => (hm l).symm
  have hcons' : Consistent (Dim.leavesL w') := hcons.mono fun l hl => (hm l).mpr hl
  obtain ⟨⟨es, hes⟩, _, hall⟩ := genCells_spec h
  have hentry : ∀ σ' ∈ outAssignments w', ∃ e, genEntry X w' (viewShape w') σ' = some e := by
    intro σ' hσ'
    obtain ⟨σ, hσ, hsg⟩ := outAssignments_sameGet hm hcons hσ'
    obtain ⟨e, _, he⟩ := mapOpt_forall_of_some hes σ hσ
    unfold genEntry at he ⊢
    rw [← hX σ σ' hsg]
    cases hx : X σ with
    | none => simp [hx] at he
    | some c =>
      unfold flatPos at he ⊢
      cases hpos : position w σ with
      | none => simp [hx, hpos] at he
      | some p =>
        have hpos' : position w σ' = some p := by rw [← position_sameGet hsg]; exact hpos
        have hplen : p.length = w.length := position_length hpos
        rw [position_permute hpos' hw', permuteL_eq_map 0 perm p (by rw [hplen]; exact hlt)]
        exact ⟨_, rfl⟩
  obtain ⟨es', hes'⟩ := mapOpt_some_of_forall hentry
  have hcover : ∀ k', k' < prod (viewShape w') → ∃ e ∈ es', e.1 = k' := by
    intro k' hk'
    have hv' := unravel_valid (viewShape w') k' hk'
    have hlen : (viewShape w).length = w.length := by simp [viewShape]
    obtain ⟨p, hvp, hpp⟩ := exists_unpermute (by rw [hlen]; exact hperm) (viewShape_permute hw') hv'
    obtain ⟨τ, hτ, hposτ, _⟩ := hall _ (ravel_lt hvp)
    have hbτ : BoundedOn τ (Dim.leavesL w) := outAssignments_bounded hcons hτ
    obtain ⟨q, hq, hvq⟩ := position_valid w hc hbτ
    have hqp : q = p := by
      simp only [flatPos, hq, Option.map_some, Option.some.injEq] at hposτ
      rw [← unravel_ravel hvq, hposτ, unravel_ravel hvp]
    subst hqp
    obtain ⟨τ', hτ', hsg⟩ := outAssignments_sameGet hm' hcons' hτ
    obtain ⟨e, hemem, he⟩ := mapOpt_forall_of_some hes' τ' hτ'
    refine ⟨e, hemem, ?_⟩
    unfold genEntry at he
    have hposτ' : position w' τ' = some (unravel (viewShape w') k') := by
      rw [position_permute (by rw [position_sameGet hsg]; exact hq) hw', hpp]
    cases hx : X τ' with
    | none => simp [hx] at he
    | some c =>
      simp only [hx, flatPos, hposτ', Option.map_some, Option.some.injEq] at he
      rw [← he]
      exact ravel_unravel _ _ hk'
  obtain ⟨cs', hcs'⟩ := gatherAll_isSome hcover
  exact ⟨cs', (genCells_of_entries hes').trans hcs'⟩

theorem genCells_permute_output_full {X : Assign → Option Cell} (hX : GetInvariant X) {w w' : List Dim}
    {perm : List Nat} {cs : List Cell} (hperm : isPermOf perm w.length = true) (hw' : permuteL perm w = some w')
    (hc : Dim.concatFreeL w = true) (hcons : Consistent (Dim.leavesL w))
    (h : genCells X w (viewShape w) = some cs) :
    ∃ cs', genCells X w' (viewShape w') = some cs' ∧
      ∃ plan, planInstr [viewShape w] (.transpose 0 perm) = .ok plan ∧
        runPlan symAlg [⟨viewShape w, cs⟩] plan = ⟨viewShape w', cs'⟩ := by
  obtain ⟨cs', h'⟩ := genCells_permute_output_defined hX hperm hw' hc hcons h
  exact ⟨cs', h', genCells_permute_output_run hX hperm hw' hc hcons h h'⟩

theorem genTensor_permute_output {X : Assign → Option Cell} (hX : GetInvariant X) {w w' : List Dim}
    {perm : List Nat} {T : Tensor Cell} (hperm : isPermOf perm w.length = true) (hw' : permuteL perm w = some w')
    (hc : Dim.concatFreeL w = true) (hcons : Consistent (Dim.leavesL w))
    (h : (genCells X w (viewShape w)).map (fun cs => (⟨viewShape w, cs⟩ : Tensor Cell)) = some T) :
    ∃ T', (genCells X w' (viewShape w')).map (fun cs => (⟨viewShape w', cs⟩ : Tensor Cell)) = some T' ∧
      ∃ plan, planInstr [viewShape w] (.transpose 0 perm) = .ok plan ∧ runPlan symAlg [T] plan = T' := by
  cases hcs : genCells X w (viewShape w) with
  | none => rw [hcs] at h; nomatch h
  | some cs =>
    rw [hcs] at h
    cases h
    obtain ⟨cs', h', hplan⟩ := genCells_permute_output_full hX hperm hw' hc hcons hcs
    exact ⟨⟨viewShape w', cs'⟩, by rw [h']; rfl, hplan⟩

/-- **Permuting the output view of `id`**: the permuted operation is defined, and its result is the IR's transpose plan
run on the original result. -/
theorem idCells_permute_output_full {vi : List Dim} {si : List Nat} {i : Nat} {w w' : List Dim} {perm : List Nat}
    {cs : List Cell} (hperm : isPermOf perm w.length = true) (hw' : permuteL perm w = some w')
    (hc : Dim.concatFreeL w = true) (hcons : Consistent (Dim.leavesL w))
    (h : idCells vi si i w (viewShape w) = some cs) :
    ∃ cs', idCells vi si i w' (viewShape w') = some cs' ∧
      ∃ plan, planInstr [viewShape w] (.transpose 0 perm) = .ok plan ∧
        runPlan symAlg [⟨viewShape w, cs⟩] plan = ⟨viewShape w', cs'⟩ := by
  rw [idCells_eq_genCells] at h
  rw [idCells_eq_genCells]
  exact genCells_permute_output_full (idX_getInvariant vi si i) hperm hw' hc hcons h

end Einx.Denote
