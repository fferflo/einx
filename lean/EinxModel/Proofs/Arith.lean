import EinxModel.IR.Arith
import EinxModel.Proofs.IR
import Mathlib.Tactic.Ring
/-
Soundness of the arithmetic normalisation `IR.normArith`: for every interpretation of the function
symbols in which `add` and `multiply` (two arguments) are the integer operations, every register content
and every value of out-of-range reads, a cell and its normal form evaluate to the same integer.
-/
namespace Einx.IR
open Einx

/-- `add` / `multiply` are interpreted as the integer operations (all other symbols are arbitrary). -/
def ArithI (I : String → List Int → Int) : Prop :=
  ∀ a b : Int, I "add" [a, b] = a + b ∧ I "multiply" [a, b] = a * b

section
variable {I : String → List Int → Int} (hI : ArithI I) (bad : Int) (regs : List (Tensor Int))

def prodE (I : String → List Int → Int) (bad : Int) (regs : List (Tensor Int)) (as : List Cell) : Int :=
  (as.map (evalCell (intAlgOf I bad) regs)).foldr (· * ·) 1

def evalMono (I : String → List Int → Int) (bad : Int) (regs : List (Tensor Int)) (m : Mono) : Int :=
  m.1 * prodE I bad regs m.2

def evalPoly (I : String → List Int → Int) (bad : Int) (regs : List (Tensor Int)) (p : Poly) : Int :=
  (p.map (evalMono I bad regs)).foldr (· + ·) 0

theorem prodE_cons (a : Cell) (as : List Cell) : prodE I bad regs (a :: as) = evalCell (intAlgOf I bad) regs a * prodE I bad regs as := rfl

theorem evalPoly_cons (m : Mono) (p : Poly) :
    evalPoly I bad regs (m :: p) = evalMono I bad regs m + evalPoly I bad regs p := rfl

theorem prodE_insertCell (c : Cell) : ∀ l : List Cell,
    prodE I bad regs (insertCell c l) = evalCell (intAlgOf I bad) regs c * prodE I bad regs l
  | [] => rfl
  | d :: ds => by
    unfold insertCell
    split
    · rfl
    · rw [prodE_cons, prodE_insertCell c ds, prodE_cons]
      exact Int.mul_left_comm _ _ _

theorem prodE_foldr_insert : ∀ (l acc : List Cell),
    prodE I bad regs (l.foldr insertCell acc) = prodE I bad regs l * prodE I bad regs acc
  | [], acc => by simp [prodE]
  | a :: l, acc => by
    rw [List.foldr_cons, prodE_insertCell, prodE_foldr_insert l acc, prodE_cons, Int.mul_assoc]

theorem evalPoly_addMono (m : Mono) : ∀ p : Poly,
    evalPoly I bad regs (addMono m p) = evalMono I bad regs m + evalPoly I bad regs p
  | [] => rfl
  | n :: ns => by
    unfold addMono
    split
    · rename_i h
      have he : m.2 = n.2 := Cell.beqL_eq _ _ h
      simp only [evalPoly_cons, evalMono, he]
      rw [Int.add_mul, Int.add_assoc]
    · rw [evalPoly_cons, evalPoly_addMono m ns, evalPoly_cons]
      exact Int.add_left_comm _ _ _

theorem evalPoly_padd : ∀ (p q : Poly),
    evalPoly I bad regs (padd p q) = evalPoly I bad regs p + evalPoly I bad regs q
  | [], q => by simp [padd, evalPoly]
  | m :: p, q => by
    have ih := evalPoly_padd p q
    unfold padd at ih ⊢
    rw [List.foldr_cons, evalPoly_addMono, ih, evalPoly_cons, Int.add_assoc]

theorem evalMono_mulMono (m n : Mono) :
    evalMono I bad regs (mulMono m n) = evalMono I bad regs m * evalMono I bad regs n := by
  simp only [evalMono, mulMono, prodE_foldr_insert]
  rw [Int.mul_assoc, Int.mul_assoc, Int.mul_left_comm n.1]

theorem evalPoly_map_mulMono (m : Mono) : ∀ q : Poly,
    evalPoly I bad regs (q.map (mulMono m)) = evalMono I bad regs m * evalPoly I bad regs q
  | [] => by simp [evalPoly]
  | n :: q => by
    rw [List.map_cons, evalPoly_cons, evalMono_mulMono, evalPoly_map_mulMono m q, evalPoly_cons, Int.mul_add]

theorem evalPoly_pmul : ∀ (p q : Poly),
    evalPoly I bad regs (pmul p q) = evalPoly I bad regs p * evalPoly I bad regs q
  | [], q => by simp [pmul, evalPoly]
  | m :: p, q => by
    have ih := evalPoly_pmul p q
    unfold pmul at ih ⊢
    rw [List.foldr_cons, evalPoly_padd, evalPoly_map_mulMono, ih, evalPoly_cons, Int.add_mul]

theorem evalPoly_insertMono (m : Mono) : ∀ p : Poly,
    evalPoly I bad regs (insertMono m p) = evalMono I bad regs m + evalPoly I bad regs p
  | [] => rfl
  | n :: ns => by
    unfold insertMono
    split
    · rfl
    · rw [evalPoly_cons, evalPoly_insertMono m ns, evalPoly_cons]
      exact Int.add_left_comm _ _ _

theorem evalPoly_filter : ∀ p : Poly,
    evalPoly I bad regs (p.filter (fun m => m.1 != 0)) = evalPoly I bad regs p
  | [] => rfl
  | m :: p => by
    rw [List.filter_cons]
    split
    · rw [evalPoly_cons, evalPoly_filter p, evalPoly_cons]
    · rename_i h
      have h0 : m.1 = 0 := by simpa using h
      rw [evalPoly_filter p, evalPoly_cons, evalMono, h0, Int.zero_mul, Int.zero_add]

theorem evalPoly_sort : ∀ p : Poly,
    evalPoly I bad regs (p.foldr insertMono []) = evalPoly I bad regs p
  | [] => rfl
  | m :: p => by rw [List.foldr_cons, evalPoly_insertMono, evalPoly_sort p, evalPoly_cons]

theorem evalPoly_canon (p : Poly) : evalPoly I bad regs (canon p) = evalPoly I bad regs p := by
  unfold canon; rw [evalPoly_sort, evalPoly_filter]

include hI in
theorem ev_foldApp_mul : ∀ (ds : List Cell) (c : Cell),
    evalCell (intAlgOf I bad) regs (foldApp "multiply" c ds) = evalCell (intAlgOf I bad) regs c * prodE I bad regs ds
  | [], c => by simp [foldApp, prodE]
  | d :: ds, c => by
    have ih := ev_foldApp_mul ds (.app "multiply" [c, d])
    unfold foldApp at ih ⊢
    rw [List.foldl_cons, ih, prodE_cons]
    simp only [evalCell, evalCells, intAlgOf_app, (hI _ _).2]
    exact Int.mul_assoc _ _ _

include hI in
theorem ev_foldApp_add : ∀ (ds : List Cell) (c : Cell),
    evalCell (intAlgOf I bad) regs (foldApp "add" c ds) = evalCell (intAlgOf I bad) regs c + (ds.map (evalCell (intAlgOf I bad) regs)).foldr (· + ·) 0
  | [], c => by simp [foldApp]
  | d :: ds, c => by
    have ih := ev_foldApp_add ds (.app "add" [c, d])
    unfold foldApp at ih ⊢
    rw [List.foldl_cons, ih]
    simp only [evalCell, evalCells, intAlgOf_app, (hI _ _).1, List.map_cons, List.foldr_cons]
    exact Int.add_assoc _ _ _

include hI in
theorem ev_monoCell (m : Mono) : evalCell (intAlgOf I bad) regs (monoCell m) = evalMono I bad regs m := by
  obtain ⟨c, as⟩ := m
  unfold monoCell evalMono
  cases as with
  | nil => simp [evalCell, intAlgOf_lit, prodE]
  | cons a as =>
    simp only
    split
    · rename_i h
      have h1 : c = 1 := by simpa using h
      rw [ev_foldApp_mul hI, prodE_cons, h1, Int.one_mul]
    · rw [ev_foldApp_mul hI]; simp [evalCell, intAlgOf_lit]

include hI in
theorem ev_polyCell (p : Poly) : evalCell (intAlgOf I bad) regs (polyCell p) = evalPoly I bad regs p := by
  rw [← evalPoly_canon]
  unfold polyCell
  cases canon p with
  | nil => simp [evalCell, intAlgOf_lit, evalPoly]
  | cons m ms =>
    simp only
    rw [ev_foldApp_add hI, ev_monoCell hI, evalPoly_cons]
    congr 1
    simp only [List.map_map, evalPoly]
    congr 1
    apply List.map_congr_left
    intro n _
    exact ev_monoCell hI bad regs n

theorem evalPoly_atom (a : Cell) : evalPoly I bad regs [(1, [a])] = evalCell (intAlgOf I bad) regs a := by
  simp [evalPoly, evalMono, prodE]

end

mutual
theorem evalPoly_toPoly {I : String → List Int → Int} (hI : ArithI I) (bad : Int) (regs : List (Tensor Int)) :
    ∀ c : Cell, evalPoly I bad regs (toPoly c) = evalCell (intAlgOf I bad) regs c
  | .src r k => by rw [toPoly, evalPoly_atom]
  | .lit i => by simp [toPoly, evalPoly, evalMono, prodE, evalCell, intAlgOf_lit]
  | .bad => by rw [toPoly, evalPoly_atom]
  | .app f args => by
    have hL := evalPolyL_toPolyL hI bad regs args
    -- a symbol that is not expanded: the application to the normalised arguments is one atom
    have hatom : evalPoly I bad regs [(1, [Cell.app f ((toPolyL args).map polyCell)])] = evalCell (intAlgOf I bad) regs (.app f args) := by
      rw [evalPoly_atom, evalCell, evalCell, ← hL, evalCells_eq_map, List.map_map]
      congr 1
      exact List.map_congr_left fun p _ => ev_polyCell hI bad regs p
    rw [toPoly]
    split
    · rename_i p q hps
      have hargs : evalCell (intAlgOf I bad) regs (.app f args) = I f [evalPoly I bad regs p, evalPoly I bad regs q] := by
        rw [evalCell, ← hL, hps]
        rfl
      split
      · rename_i hf
        rw [evalPoly_padd, hargs, eq_of_beq hf, (hI _ _).1]
      · split
        · rename_i hf
          rw [evalPoly_pmul, hargs, eq_of_beq hf, (hI _ _).2]
        · exact hatom
    · exact hatom
theorem evalPolyL_toPolyL {I : String → List Int → Int} (hI : ArithI I) (bad : Int) (regs : List (Tensor Int)) :
    ∀ cs : List Cell,
    (toPolyL cs).map (evalPoly I bad regs) = evalCells (intAlgOf I bad) regs cs
  | [] => by simp [toPolyL, evalCells]
  | c :: cs => by
    rw [toPolyL, List.map_cons, evalPoly_toPoly hI bad regs c, evalPolyL_toPolyL hI bad regs cs, evalCells]
end

theorem normArith_eval {I : String → List Int → Int} (hI : ArithI I) (bad : Int) (regs : List (Tensor Int))
    (c : Cell) : evalCell (intAlgOf I bad) regs (normArith c) = evalCell (intAlgOf I bad) regs c := by
  unfold normArith
  rw [ev_polyCell hI, evalPoly_toPoly hI]

theorem normTensor_eval {I : String → List Int → Int} (hI : ArithI I) (bad : Int) (xs : List (Tensor Int))
    (t : Tensor Cell) :
    (normTensor t).map (evalCell (intAlgOf I bad) xs) = t.map (evalCell (intAlgOf I bad) xs) := by
  simp only [normTensor, Tensor.map, List.map_map, Tensor.mk.injEq, true_and]
  apply List.map_congr_left
  intro c _
  exact normArith_eval hI bad xs c

theorem normTensors_eval {I : String → List Int → Int} (hI : ArithI I) (bad : Int) (xs : List (Tensor Int))
    (ts : List (Tensor Cell)) :
    (ts.map normTensor).map (fun t => some (t.map (evalCell (intAlgOf I bad) xs))) =
      ts.map (fun t => some (t.map (evalCell (intAlgOf I bad) xs))) := by
  rw [List.map_map]
  exact List.map_congr_left fun t _ => congrArg some (normTensor_eval hI bad xs t)

theorem validateArith_sound {ι : Type} (planOf : List (List Nat) → ι → E Plan)
    (prog : List ι) (outs : List Nat) (expected : List (Tensor Cell))
    (I : String → List Int → Int) (hI : ArithI I) (bad : Int) (xs : List (Tensor Int))
    (hlen : ∀ x ∈ xs, x.data.length = prod x.shape)
    (hv : validateArith planOf prog (xs.map (·.shape)) outs expected = true) :
    ∃ regs, evalProgG planOf (intAlgOf I bad) prog xs = .ok regs ∧
      outs.map (fun r => regs[r]?) =
        expected.map (fun t => some (t.map (evalCell (intAlgOf I bad) xs))) := by
  unfold validateArith at hv
  cases hs : symRunG planOf prog (xs.map (·.shape)) outs with
  | error e => simp [hs] at hv
  | ok res =>
    simp only [hs] at hv
    obtain ⟨regs, hrun, hout⟩ := symRunG_sound planOf (intAlgOf I bad) prog outs res xs hlen hs
    refine ⟨regs, hrun, ?_⟩
    rw [hout, ← normTensors_eval hI bad xs res, tensorsBeq_eq _ _ hv, normTensors_eval hI bad xs expected]

end Einx.IR
