import EinxModel.Proofs.NotationPrintTree
import EinxModel.Proofs.NotationPrintParse
/-!
# M1 Notation — re-printing when the printed text contains two adjacent spaces

`str(t)` of a printable `t` contains two adjacent spaces exactly when the left side of `->` ends with an empty argument
(`"a,  -> b"`): `Args.__str__` ends with `", "` and `Op.__str__` joins with `" -> "`.  The duplicate-space pass of `parse_op`
drops the second space; the resulting token tree is `s1.ptree ++ [->, ␣] ++ s2.ptree`, and `parse` strips the trailing space
of the left operand as it does for every operand.
-/
namespace Einx.Notation

namespace Adj

def headIsSp (l : List Str) : Bool := l.head? == some spaceLit
def lastIsSp (l : List Str) : Bool := l.getLast? == some spaceLit

theorem lastIsSp_cons_cons (a b : Str) (r : List Str) : lastIsSp (a :: b :: r) = lastIsSp (b :: r) := by
  simp [lastIsSp, List.getLast?_cons_cons]

theorem lastIsSp_single (a : Str) : lastIsSp [a] = (a == spaceLit) := by
  simp [lastIsSp]

theorem headIsSp_cons (a : Str) (r : List Str) : headIsSp (a :: r) = (a == spaceLit) := by
  simp [headIsSp]

theorem hasAdj_append : ∀ (A B : List Str),
    hasAdjSpaces (A ++ B) = (hasAdjSpaces A || hasAdjSpaces B || (lastIsSp A && headIsSp B))
  | [], B => by simp [hasAdjSpaces, lastIsSp]
  | [a], [] => by simp [hasAdjSpaces, headIsSp]
  | [a], b :: r => by
    simp only [List.cons_append, List.nil_append, hasAdjSpaces, lastIsSp_single, headIsSp_cons, Bool.false_or]
    rw [Bool.or_comm]
  | a :: a' :: r, B => by
    have ih := hasAdj_append (a' :: r) B
    simp only [List.cons_append] at ih ⊢
    simp only [hasAdjSpaces, ih, lastIsSp_cons_cons, Bool.or_assoc]

/-- No adjacent spaces, no space at either end. -/
def tight (l : List Str) : Bool := !hasAdjSpaces l && !headIsSp l && !lastIsSp l

theorem tight_nil : tight [] = true := by decide +kernel

theorem tight_single {w : Str} (h : (w == spaceLit) = false) : tight [w] = true := by
  simp [tight, hasAdjSpaces, headIsSp_cons, lastIsSp_single, h]

theorem headIsSp_append (A B : List Str) : headIsSp (A ++ B) = (if A.isEmpty then headIsSp B else headIsSp A) := by
  cases A <;> simp [headIsSp]

theorem lastIsSp_append (A B : List Str) : lastIsSp (A ++ B) = (if B.isEmpty then lastIsSp A else lastIsSp B) := by
  cases B with
  | nil => simp
  | cons b r =>
    simp only [lastIsSp, List.getLast?_append, List.isEmpty_cons, Bool.false_eq_true, if_false]
    cases h : (b :: r).getLast? with
    | none => simp at h
    | some x => simp

theorem lastIsSp_snoc (A : List Str) (c : Str) : lastIsSp (A ++ [c]) = (c == spaceLit) := by
  rw [lastIsSp_append]; simp [lastIsSp_single]

theorem tight_iff {l : List Str} :
    tight l = true ↔ hasAdjSpaces l = false ∧ headIsSp l = false ∧ lastIsSp l = false := by
  simp [tight, and_assoc]

theorem tight_group {o c : Str} {I : List Str} (ho : (o == spaceLit) = false) (hc : (c == spaceLit) = false)
    (hI : hasAdjSpaces I = false) : tight (o :: (I ++ [c])) = true := by
  refine tight_iff.mpr ⟨?_, by rw [headIsSp_cons]; exact ho, ?_⟩
  · rw [show o :: (I ++ [c]) = [o] ++ (I ++ [c]) from rfl, hasAdj_append, hasAdj_append]
    simp [hI, hasAdjSpaces, headIsSp_cons, hc, lastIsSp_single, ho]
  · rw [show o :: (I ++ [c]) = (o :: I) ++ [c] from rfl, lastIsSp_snoc]
    exact hc

theorem tight_snoc {A : List Str} {c : Str} (hA : tight A = true) (hc : (c == spaceLit) = false) : tight (A ++ [c]) = true := by
  obtain ⟨h1, h2, h3⟩ := tight_iff.mp hA
  refine tight_iff.mpr ⟨?_, ?_, ?_⟩
  · rw [hasAdj_append]; simp [h1, hasAdjSpaces, h3]
  · rw [headIsSp_append]
    cases A with
    | nil => simp [headIsSp_cons, hc]
    | cons a r => simpa using h2
  · rw [lastIsSp_snoc]; exact hc

theorem tight_join2 {A S B : List Str} (hA : tight A = true) (hAne : A ≠ []) (hB : tight B = true) (hBne : B ≠ [])
    (hS : hasAdjSpaces S = false) : tight (A ++ S ++ B) = true := by
  obtain ⟨a1, a2, a3⟩ := tight_iff.mp hA
  obtain ⟨b1, b2, b3⟩ := tight_iff.mp hB
  refine tight_iff.mpr ⟨?_, ?_, ?_⟩
  · rw [hasAdj_append, hasAdj_append]
    simp [a1, b1, hS, a3, b2]
  · rw [List.append_assoc, headIsSp_append]
    cases A with
    | nil => exact (hAne rfl).elim
    | cons a r => simpa using a2
  · rw [lastIsSp_append]
    cases B with
    | nil => exact (hBne rfl).elim
    | cons b r => simpa using b3

theorem word_ne_space {w : Str} (h : isWord w = true) : (w == spaceLit) = false := by
  have := PrintParse.word_not_op h
  simp only [PrintParse.isOpText, Bool.or_eq_false_iff] at this
  exact this.2

theorem axisName_ne_space {n : Str} (h : isAxisName n = true) : (n == spaceLit) = false :=
  word_ne_space (isAxisName_isWord h)

theorem textsL_single (p : PTok) : textsL [p] = p.texts := by simp [textsL]

theorem tight_joinP {sep : List PTok} (hsep : hasAdjSpaces (textsL sep) = false) :
    ∀ (Ps : List (List PTok)), (∀ P ∈ Ps, tight (textsL P) = true ∧ textsL P ≠ []) →
      tight (textsL (joinP sep Ps)) = true ∧ (Ps ≠ [] → textsL (joinP sep Ps) ≠ [])
  | [], _ => ⟨by simp [joinP, textsL, tight_nil], fun h => (h rfl).elim⟩
  | [P], h => ⟨(h P (by simp)).1, fun _ => (h P (by simp)).2⟩
  | P :: Q :: r, h => by
    have ih := tight_joinP hsep (Q :: r) (fun P' hP' => h P' (List.mem_cons_of_mem _ hP'))
    have hP := h P (by simp)
    simp only [joinP, textsL_append]
    refine ⟨tight_join2 hP.1 hP.2 ih.1 (ih.2 (by simp)) hsep, ?_⟩
    intro _ h0
    have := List.append_eq_nil_iff.mp h0
    exact hP.2 (List.append_eq_nil_iff.mp this.1).1

theorem textsL_ne_nil : ∀ {P : List PTok}, P ≠ [] → textsL P ≠ []
  | [], h => (h rfl).elim
  | p :: ps, _ => by cases p <;> simp [textsL, PTok.texts]

theorem item_texts_ne {inBr : Bool} {a : Expr} (h : PT inBr false a = true) : textsL a.ptree ≠ [] :=
  textsL_ne_nil (PrintParse.clean_of_PT h rfl).ne

theorem tight_PT {inBr al : Bool} {a : Expr} (h : PT inBr al a = true) : tight (textsL a.ptree) = true := by
  induction h using PT.rules with
  | named hn =>
    simp only [Expr.ptree, textsL_single, PTok.texts]
    exact tight_single (axisName_ne_space hn)
  | @valued _ _ _ k =>
    simp only [Expr.ptree, textsL_single, PTok.texts]
    exact tight_single (word_ne_space (natStr_isWord k))
  | flat _ _ _ ih =>
    simp only [Expr.ptree, textsL_single, PTok.texts]
    exact tight_group delims_ok.1.open_ne_space delims_ok.1.close_ne_space (tight_iff.mp ih).1
  | brackets _ _ _ ih =>
    simp only [Expr.ptree, textsL_single, PTok.texts]
    exact tight_group delims_ok.2.open_ne_space delims_ok.2.close_ne_space (tight_iff.mp ih).1
  | dots =>
    simp only [Expr.ptree, isAnonAxis_anon, if_true, textsL_single, PTok.texts]
    exact tight_single ell_ok.2.2
  | ell hna _ _ ih =>
    simp only [Expr.ptree, hna, Bool.false_eq_true, if_false, textsL_append, textsL_single, PTok.texts]
    exact tight_snoc ih ell_ok.2.2
  | @concat _ _ cs _ _ _ _ hcs ih =>
    have hj := tight_joinP seps_ok.1.noAdj (ptreeL cs)
      (forall_ptreeL fun c hc => ⟨ih c hc, item_texts_ne (hcs c hc)⟩)
    simp only [Expr.ptree, textsL_single, PTok.texts]
    exact tight_group delims_ok.1.open_ne_space delims_ok.1.close_ne_space (tight_iff.mp hj.1).1
  | @list _ cs _ _ _ hcs ih =>
    simp only [Expr.ptree]
    exact (tight_joinP seps_ok.2.1.noAdj (ptreeL cs)
      (forall_ptreeL fun c hc => ⟨ih c hc, item_texts_ne (hcs c hc)⟩)).1

theorem tight_PTL (inBr : Bool) : ∀ (cs : List Expr), PTL inBr cs = true →
    ∀ P ∈ ptreeL cs, tight (textsL P) = true ∧ textsL P ≠ [] :=
  fun _ h => forall_ptreeL fun c hc => ⟨tight_PT (PTL_iff.mp h c hc), item_texts_ne (PTL_iff.mp h c hc)⟩

theorem comma_ne_space : lit "," ≠ spaceLit := PrintParse.ops_ne_space.1.2.1
theorem arrow_ne_space : lit "->" ≠ spaceLit := PrintParse.ops_ne_space.1.2.2

theorem side_joinP : ∀ (Ps : List (List PTok)), (∀ P ∈ Ps, tight (textsL P) = true) →
    hasAdjSpaces (textsL (joinP sepArgs Ps)) = false ∧ headIsSp (textsL (joinP sepArgs Ps)) = false
  | [], _ => by simp [joinP, textsL, hasAdjSpaces, headIsSp]
  | [P], h => ⟨(tight_iff.mp (h P (by simp))).1, (tight_iff.mp (h P (by simp))).2.1⟩
  | P :: Q :: r, h => by
    have ih := side_joinP (Q :: r) (fun P' hP' => h P' (List.mem_cons_of_mem _ hP'))
    obtain ⟨a1, a2, a3⟩ := tight_iff.mp (h P (by simp))
    have hs : textsL sepArgs = [lit ",", spaceLit] := rfl
    simp only [joinP, textsL_append, hs]
    constructor
    · rw [hasAdj_append, hasAdj_append]
      simp [a1, ih.1, ih.2, hasAdjSpaces, headIsSp_cons, comma_ne_space]
    · rw [List.append_assoc, headIsSp_append]
      cases hP : textsL P with
      | nil => simp [headIsSp_cons, comma_ne_space]
      | cons a r' => rw [hP] at a2; simpa using a2

/-- Nothing about the last text: it is a space when the last argument is empty. -/
theorem side_texts {s : Expr} (h : PArgs s = true) :
    hasAdjSpaces (textsL s.ptree) = false ∧ headIsSp (textsL s.ptree) = false := by
  induction h using PArgs.rules with
  | args _ has =>
    simp only [Expr.ptree]
    exact side_joinP _ (forall_ptreeL fun a ha => tight_PT (has a ha))

theorem textsL_sepOp : textsL sepOp = [spaceLit, lit "->", spaceLit] := rfl

theorem root_texts (s1 s2 : Expr) (b e : Int) :
    textsL (Expr.op [s1, s2] b e).ptree = textsL s1.ptree ++ [spaceLit, lit "->", spaceLit] ++ textsL s2.ptree := by
  simp only [Expr.ptree, ptreeL, joinP, textsL_append, textsL_sepOp]

theorem root_adj {t : Expr} (h : PRoot t = true) (hadj : hasAdjSpaces (textsL t.ptree) = true) :
    ∃ s1 s2 b e A, t = .op [s1, s2] b e ∧ PArgs s1 = true ∧ PArgs s2 = true ∧ textsL s1.ptree = A ++ [spaceLit] ∧
      hasAdjSpaces (A ++ spaceLit :: (lit "->" :: spaceLit :: textsL s2.ptree)) = false := by
  induction h using PRoot.rules with
  | one hs =>
    simp only [Expr.ptree, ptreeL, joinP] at hadj
    rw [(side_texts hs).1] at hadj
    cases hadj
  | @two s1 s2 b e hs1 hs2 =>
    have h1 := side_texts hs1
    have h2 := side_texts hs2
    rw [root_texts, hasAdj_append, hasAdj_append] at hadj
    have hl : lastIsSp (textsL s1.ptree) = true := by
      simpa [h1.1, h2.1, h2.2, hasAdjSpaces, headIsSp_cons, arrow_ne_space] using hadj
    have hg : (textsL s1.ptree).getLast? = some spaceLit := by simpa [lastIsSp] using hl
    obtain ⟨A, hA⟩ := List.getLast?_eq_some_iff.mp hg
    refine ⟨s1, s2, b, e, A, rfl, hs1, hs2, hA, ?_⟩
    have e1 : A ++ spaceLit :: (lit "->" :: spaceLit :: textsL s2.ptree) =
        textsL s1.ptree ++ [lit "->", spaceLit] ++ textsL s2.ptree := by
      rw [hA]; simp
    rw [e1, hasAdj_append, hasAdj_append]
    simp [h1.1, h2.1, h2.2, hasAdjSpaces, headIsSp_cons, arrow_ne_space]

theorem dedup_one {toks : List Token} {A B : List Str} (ht : toks.map (·.text) = A ++ spaceLit :: spaceLit :: B)
    (hna : hasAdjSpaces (A ++ spaceLit :: B) = false) :
    (dedupSpaces toks false).map (·.text) = A ++ spaceLit :: B := by
  obtain ⟨xs, rest, rfl, hxs, hrest⟩ := List.map_eq_append_iff.mp ht
  obtain ⟨s, rest2, rfl, hs, hrest2⟩ := List.map_eq_cons_iff.mp hrest
  obtain ⟨s', ys, rfl, hs', hys⟩ := List.map_eq_cons_iff.mp hrest2
  have e : (xs ++ s :: ys).map (·.text) = A ++ spaceLit :: B := by simp [hxs, hs, hys]
  rw [dedup_adjacent xs ys s s' (by simp [Token.isSpace, hs]) (by simp [Token.isSpace, hs']) false,
    dedup_no_adj _ (by rw [e]; exact hna), e]

end Adj

open Adj PrintParse in
theorem tree_of_print_adj {s1 s2 : Expr} {b e : Int} (h : PRoot (.op [s1, s2] b e) = true) {A : List Str}
    (hA : textsL s1.ptree = A ++ [spaceLit])
    (hna : hasAdjSpaces (A ++ spaceLit :: (lit "->" :: spaceLit :: textsL s2.ptree)) = false) :
    ∃ toks T, lex (Expr.op [s1, s2] b e).print = .ok toks ∧ buildTree (dedupSpaces toks false) [] [] = .ok T ∧
      eraseL T = s1.ptree ++ [.atom (lit "->"), .atom (lit " ")] ++ s2.ptree := by
  obtain ⟨h1, h2, h3⟩ := textsOK_PRoot h
  obtain ⟨toks, hl, ht⟩ := lex_pieces _ h2.1 h2.2
  have ht' : toks.map (·.text) = A ++ spaceLit :: spaceLit :: (lit "->" :: spaceLit :: textsL s2.ptree) := by
    rw [ht, root_texts, hA]; simp
  have hd := dedup_one ht' hna
  have hP : (dedupSpaces toks false).map (·.text) = textsL (s1.ptree ++ [.atom (lit "->"), .atom (lit " ")] ++ s2.ptree) := by
    rw [hd, textsL_append, textsL_append, hA]
    simp [textsL, PTok.texts, spaceLit, lit]
  have hwf : wfL (s1.ptree ++ [.atom (lit "->"), .atom (lit " ")] ++ s2.ptree) = true := by
    rw [wfL_append, wfL_append, (textsOK_PArgs (PRoot_pair.mp h).1).2.2, (textsOK_PArgs (PRoot_pair.mp h).2).2.2]
    decide +kernel
  obtain ⟨T, hT, hE⟩ := buildTree_texts _ hwf _ hP
  exact ⟨toks, T, by rw [h1]; exact hl, hT, hE⟩

open PrintParse in
theorem parse_printed_adj {s1 s2 : Expr} {b0 e0 : Int} (h : PRoot (.op [s1, s2] b0 e0) = true) (T : List Tok)
    (hT : eraseL T = s1.ptree ++ [.atom (lit "->"), .atom (lit " ")] ++ s2.ptree) :
    ∃ x, parse T 0 (lastEnd T 0) false = .ok x ∧ x.shape = (preTree (.op [s1, s2] b0 e0)).shape ∧ ValuedFresh x := by
  exact two_sides b0 e0 (PRoot_pair.mp h).1 (PRoot_pair.mp h).2 (opSep_after ops_ne_space.1.2.2) T (by rw [hT]; rfl)

end Einx.Notation
