import EinxModel.Proofs.Compile
import EinxModel.Proofs.CompileOrder
import EinxModel.Proofs.FuseSound
import EinxModel.Exec.View
/-!
The simulation behind `compile_correct` (`Props/C04.lean`): the generator's cache and the reference's memo are related by
substitution of the current environment (`Sim`, with nested graphs `Inv`), step by step and along a whole traversal.
The same walk (`emitAll_inv`) relates the tagged traces, on which `Proofs/ExecTrace.lean` and `Proofs/ExecCompiled.lean` count
call events.
-/
namespace Einx.Compile
open Exec (taggedTrace)

/-- The cache with every expression read in environment `σ`. -/
def mapσ (σ : Nat → E) (cache : List (E × E)) : List (E × E) := cache.map (fun p => (p.1, p.2.subst σ))

theorem assocGet_mapσ (σ : Nat → E) (cache : List (E × E)) (k : E) :
    assocGet (mapσ σ cache) k = (assocGet cache k).map (E.subst σ) := by
  unfold assocGet mapσ
  induction cache with
  | nil => rfl
  | cons p rest ih =>
    simp only [List.map_cons, List.find?_cons]
    cases h : p.1 == k
    · simpa only [h] using ih
    · simp only [Option.map_some]

theorem conv_mapσ (σ : Nat → E) (cache : List (E × E)) (x : E) :
    conv (mapσ σ cache) x = (conv cache x).map (E.subst σ) ∧
    convL (mapσ σ cache) x = (convL cache x).map (E.subst σ) := by
  induction x with
  | var v =>
    constructor
    · simp only [conv, assocGet_mapσ]
      cases assocGet cache (.var v) <;> rfl
    · simp [convL]; rfl
  | lit c => exact ⟨rfl, rfl⟩
  | gref g =>
    constructor
    · simp only [conv, assocGet_mapσ]
      cases assocGet cache (.gref g) <;> rfl
    · simp [convL]; rfl
  | nil => exact ⟨rfl, rfl⟩
  | cons h t ih1 ih2 =>
    have : ∀ (a b : Except String E), (do let x ← a; let y ← b; pure (E.cons x y) : Except String E).map (E.subst σ)
        = (do let x ← a.map (E.subst σ); let y ← b.map (E.subst σ); pure (E.cons x y)) := by
      intro a b; cases a <;> cases b <;> rfl
    constructor
    · simp only [conv, ih1.1, ih2.2, this]
    · simp only [convL, ih1.1, ih2.2, this]
  | node tag a ih =>
    constructor
    · have hn : ∀ (t : Tag) (b : Except String E), (do let y ← b; pure (E.node t y) : Except String E).map (E.subst σ)
          = (do let y ← b.map (E.subst σ); pure (E.node t y)) := by
        intro t b; cases b <;> rfl
      have hk : ∀ k : Option E, k.bind (assocGet (mapσ σ cache)) = (k.bind (assocGet cache)).map (E.subst σ) := by
        intro k; cases k <;> simp [assocGet_mapσ]
      cases tag <;> simp only [conv, ih.2, hn, hk] <;> try rfl
      · cases (keyOf (E.node Tag.tuple a)).bind (assocGet cache)
        · exact (hn _ _).symm
        · rfl
      · cases (keyOf (E.node Tag.list a)).bind (assocGet cache)
        · exact (hn _ _).symm
        · rfl
    · simp [convL]; rfl

theorem convTop_mapσ (σ : Nat → E) (cache : List (E × E)) (x : E) :
    convTop (mapσ σ cache) x = (convTop cache x).map (E.subst σ) := by
  unfold convTop
  split
  · rfl
  · exact (conv_mapσ σ cache x).1

theorem convL_mapσ (σ : Nat → E) (cache : List (E × E)) (x : E) :
    convL (mapσ σ cache) x = (convL cache x).map (E.subst σ) := (conv_mapσ σ cache x).2

theorem E.subst_ofList (σ : Nat → E) (l : List E) : (E.ofList l).subst σ = E.ofList (l.map (E.subst σ)) := by
  induction l with
  | nil => rfl
  | cons x xs ih => simp only [E.ofList, E.subst, ih, List.map_cons]

theorem E.subst_mk (σ : Nat → E) (tag : Tag) (l : List E) : (E.mk tag l).subst σ = E.mk tag (l.map (E.subst σ)) := by
  simp only [E.mk, E.subst, E.subst_ofList]

theorem partConv_mapσ (σ : Nat → E) (cache : List (E × E)) (p : E) :
    partConv (mapσ σ cache) p = (partConv cache p).map (E.subst σ) := by
  unfold partConv
  split
  · simp only [convL_mapσ]
    rename_i a
    cases convL cache a <;> rfl
  · exact convTop_mapσ σ cache p

theorem atExpr_mapσ (σ : Nat → E) (cache : List (E × E)) (obj key : E) :
    atExpr (mapσ σ cache) obj key = (atExpr cache obj key).map (E.subst σ) := by
  rw [atExpr_eq, atExpr_eq, mapM_map_except (E.subst σ) (partConv cache) (partConv (mapσ σ cache)) (partConv_mapσ σ cache),
    convTop_mapσ]
  cases convTop cache obj with
  | error e => rfl
  | ok o =>
    cases List.mapM (partConv cache) (keyParts key) with
    | error e => rfl
    | ok parts =>
      show Except.ok _ = Except.ok _
      rw [E.subst_mk]
      rfl

/-- A statement with its expressions read in `σ`. -/
def Stmt.substE (σ : Nat → E) : Stmt → Stmt
  | .assign v rhs eff => .assign v (rhs.subst σ) eff
  | .exprStmt e extra => .exprStmt (e.subst σ) (extra.map (E.subst σ))
  | .update t op v extra => .update (t.subst σ) op (v.subst σ) (extra.map (E.subst σ))
  | .assert_ c msg extra => .assert_ (c.subst σ) msg (extra.map (E.subst σ))
  | .return_ e => .return_ (e.subst σ)
  | s => s

def Rule.subst (σ : Nat → E) : Rule → Rule
  | .define out e eff ni f => .define out (e.subst σ) eff ni f
  | .effect s out e => .effect (s.substE σ) out (e.subst σ)
  | r => r

theorem Opd.conv_mapσ (σ : Nat → E) (cache : List (E × E)) (o : Opd) :
    o.conv (mapσ σ cache) = (o.conv cache).map (E.subst σ) := by
  cases o with
  | top x => exact convTop_mapσ σ cache x
  | kw k x =>
    simp only [Opd.conv, convTop_mapσ]
    cases convTop cache x <;> rfl
  | item obj key => exact atExpr_mapσ σ cache obj key

theorem ruleFrom_subst (g : Graph) (up : Bool) (σ : Nat → E) (a : App) (es : List E) (r : Rule)
    (h : ruleFrom g up a es = .ok r) : ruleFrom g up a (es.map (E.subst σ)) = .ok (r.subst σ) := by
  unfold ruleFrom at h
  split at h <;> cases h <;>
    simp only [ruleFrom, List.map_cons, List.map_nil, Rule.subst, Stmt.substE, E.subst_mk, E.subst, pure, Except.pure]

theorem ruleOf_mapσ (g : Graph) (up : Bool) (σ : Nat → E) (cache : List (E × E)) (a : App) (r : Rule)
    (h : ruleOf g up cache a = .ok r) : ruleOf g up (mapσ σ cache) a = .ok (r.subst σ) := by
  rw [ruleOf_eq] at h ⊢
  obtain ⟨es, hes, hr⟩ := bind_ok.1 h
  rw [mapM_map_except (E.subst σ) _ _ (Opd.conv_mapσ σ cache), hes]
  exact ruleFrom_subst g up σ a es r hr

theorem mapσ_append (σ : Nat → E) (c1 c2 : List (E × E)) : mapσ σ (c1 ++ c2) = mapσ σ c1 ++ mapσ σ c2 := by
  simp [mapσ]

theorem setCache_mapσ (σ : Nat → E) : ∀ (fuel : Nat) (cache : List (E × E)) (obj e : E),
    setCache fuel (mapσ σ cache) obj (e.subst σ) = (setCache fuel cache obj e).map (mapσ σ) := by
  intro fuel
  induction fuel with
  | zero => intro cache obj e; rfl
  | succ fuel ih =>
    intro cache obj e
    unfold setCache
    cases hk : keyOf obj with
    | none => rfl
    | some k =>
      simp only [assocGet_mapσ, Option.isSome_map]
      split
      · rfl
      · have happ : mapσ σ cache ++ [(k, e.subst σ)] = mapσ σ (cache ++ [(k, e)]) := (mapσ_append σ cache [(k, e)]).symm
        rw [happ]
        have hf : ∀ (a : E), List.foldlM (fun cache (x : E × Nat) => setCache fuel cache x.1 (E.mk (.elem (toString x.2)) [e.subst σ]))
              (mapσ σ (cache ++ [(k, e)])) a.toList.zipIdx =
            (List.foldlM (fun cache (x : E × Nat) => setCache fuel cache x.1 (E.mk (.elem (toString x.2)) [e]))
              (cache ++ [(k, e)]) a.toList.zipIdx).map (mapσ σ) := by
          intro a
          apply foldlM_map_except
          intro b x
          have := ih b x.1 (E.mk (.elem (toString x.2)) [e])
          rw [E.subst_mk] at this
          exact this
        split
        · exact hf _
        · exact hf _
        · rfl

/-- Expressions of the cache only mention variables below `n` (semantically: their reading does not depend on the
environment at or above `n`). -/
def Fresh (n : Nat) (cache : List (E × E)) : Prop :=
  ∀ σ τ : Env, (∀ v, v < n → σ v = τ v) → mapσ σ cache = mapσ τ cache

/-- Generator state `st`, reference state `r` and execution state `x` of the statements emitted so far are related:
the memo of the reference is the cache read in `σ` (`σ` is the current environment, up to function variables of
nested graphs that are still open). -/
structure Sim (σ : Env) (st : GState) (r : RState) (x : XState) : Prop where
  vals : r.vals = mapσ σ st.cache
  trace : r.trace = x.trace
  ret : r.ret = x.ret
  nconst : r.nconst = st.consts.length
  fresh : Fresh st.vars.length st.cache

theorem Fresh.mono {n m : Nat} {cache : List (E × E)} (h : Fresh n cache) (hnm : n ≤ m) : Fresh m cache :=
  fun σ τ hst => h σ τ (fun v hv => hst v (Nat.lt_of_lt_of_le hv hnm))

theorem Fresh.set {n : Nat} {cache : List (E × E)} (h : Fresh n cache) (σ : Env) (t : E) :
    mapσ (σ.set n t) cache = mapσ σ cache :=
  h _ _ (fun v hv => Env.set_other σ n v t (Nat.ne_of_lt hv))

theorem Fresh.setCache {n : Nat} {cache cache' : List (E × E)} (hf : Fresh n cache) (obj e : E)
    (he : ∀ σ τ : Env, (∀ v, v < n → σ v = τ v) → e.subst σ = e.subst τ)
    (h : setCache 64 cache obj e = .ok cache') : Fresh n cache' := by
  intro σ τ hst
  have h1 := setCache_mapσ σ 64 cache obj e
  have h2 := setCache_mapσ τ 64 cache obj e
  rw [h] at h1 h2
  rw [hf σ τ hst, he σ τ hst, h2] at h1
  simpa [Except.map] using h1.symm

/-- The generator binds a fresh variable to `obj`; the reference memoises `t`; the environment gets `t` at the
variable. -/
theorem bind_sim {σ : Env} {st : GState} {r : RState} {x : XState} (hsim : Sim σ st r x) {obj : E} {cache' : List (E × E)}
    (hset : setCache 64 st.cache obj (.var st.vars.length) = .ok cache') (t : E) :
    setCache 64 r.vals obj t = .ok (mapσ (σ.set st.vars.length t) cache') ∧ Fresh (st.vars.length + 1) cache' := by
  constructor
  · have h1 := setCache_mapσ (σ.set st.vars.length t) 64 st.cache obj (.var st.vars.length)
    rw [hset, hsim.fresh.set] at h1
    simp only [E.subst, Env.set_same] at h1
    rw [hsim.vals, h1]
    rfl
  · exact Fresh.setCache (hsim.fresh.mono (Nat.le_succ _)) obj (.var st.vars.length)
      (fun σ τ hst => hst _ (Nat.lt_succ_self _)) hset

theorem event_agree (s : Stmt) (σ τ : Env) (hr : ∀ v ∈ s.reads, σ v = τ v) :
    (s.substE σ).event? = (s.substE τ).event? := by
  cases s with
  | exprStmt e extra =>
    simp only [Stmt.substE, Stmt.event?]
    rw [E.subst_congr σ τ e (fun v hv => hr v (by simpa [Stmt.reads] using hv))]
  | update t op v extra =>
    simp only [Stmt.substE, Stmt.event?]
    rw [E.subst_congr σ τ t (fun w hw => hr w (by simp [Stmt.reads, hw])),
      E.subst_congr σ τ v (fun w hw => hr w (by simp [Stmt.reads, hw]))]
  | assert_ cnd msg extra =>
    simp only [Stmt.substE, Stmt.event?]
    rw [E.subst_congr σ τ cnd (fun v hv => hr v (by simpa [Stmt.reads] using hv))]
  | _ => rfl

theorem execStmt_event (x : XState) (s : Stmt) (h : s.isEvent = true) :
    execStmt x s = { x with trace := x.trace ++ (s.substE x.env).event?.toList } := by
  cases s <;> simp [Stmt.isEvent] at h <;> rfl

/-- The invariant with nested graphs: between `enter g` and `exit g` the function variable of `g` is cached but not yet
bound (the `def` is emitted at `exit`), so `σ` is the environment *with the pending function variables already bound to
their closures*; it agrees with the real environment on every variable that has been bound by a statement.  `en` is the
list of graphs that have been entered. -/
structure Inv (σ : Env) (st : GState) (r : RState) (x : XState) (en : List Nat) : Prop where
  sim : Sim σ st r x
  agree : ∀ v ∈ outsOf st.program, σ v = x.env v ∧ v < st.vars.length
  gclos : ∀ gi ∈ en, assocGet r.vals (.gref gi) = some (closAtom gi)

theorem gclos_setCache {vals vals' : List (E × E)} {en : List Nat} {obj t : E}
    (h : ∀ gi ∈ en, assocGet vals (.gref gi) = some (closAtom gi)) (hs : setCache 64 vals obj t = .ok vals') :
    ∀ gi ∈ en, assocGet vals' (.gref gi) = some (closAtom gi) := by
  intro gi hgi
  obtain ⟨more, hm, -⟩ := setCache_append _ _ _ _ _ hs
  rw [hm]
  exact assocGet_append_some _ _ _ _ (h gi hgi)

theorem Sim.push {σ : Env} {st : GState} {r : RState} {x : XState} (h : Sim σ st r x) (src : Option Nat)
    (new : List (Nat × Stmt)) : Sim σ (st.push src new) r x :=
  ⟨h.vals, h.trace, h.ret, h.nconst, h.fresh⟩

/-! ### The three kinds of step

Every rule and every parameter is made of three steps: cache `obj ↦ e` (`Inv.alias`); create a variable, cache `obj ↦ v` and
append one statement that binds `v` (`Inv.bind`; the four forms of that statement are `Binder`); append a statement without
output (`Inv.event`). -/

/-- The value a binding statement gives to its variable. -/
def Stmt.bval (x : XState) : Stmt → E
  | .assign _ rhs eff => if eff then resAtom x.trace.length else rhs.subst x.env
  | .import_ _ f i => modAtom f i
  | .constBind _ n => constAtom n
  | .param _ t => inAtom t
  | _ => .nil

/-- The events a binding statement produces. -/
def Stmt.bevents (x : XState) : Stmt → List Event
  | .assign _ rhs true => [.call (rhs.subst x.env)]
  | _ => []

theorem Binder.exec {v : Nat} {vi : VarInfo} {b : Nat} {s : Stmt} (h : Binder v vi b s) (x : XState) :
    execStmt x s = { x with env := x.env.set v (s.bval x), trace := x.trace ++ s.bevents x } := by
  cases h with
  | assign b e eff => cases eff <;> simp [execStmt, Stmt.bval, Stmt.bevents]
  | _ => simp [execStmt, Stmt.bval, Stmt.bevents]

/-- `nconst` and `tr` are given up to an equation, so that a caller can name them in the form in which `refRule` computes them. -/
theorem Inv.bind {σ : Env} {st : GState} {r : RState} {x : XState} {en : List Nat} (hinv : Inv σ st r x en) {obj : E}
    {cache' : List (E × E)} (hset : setCache 64 st.cache obj (.var st.vars.length) = .ok cache')
    {vi : VarInfo} {b : Nat} {s : Stmt} (hs : Binder st.vars.length vi b s)
    {st' : GState} (hc : st'.cache = cache') (hv : st'.vars = st.vars ++ [vi]) (hp : st'.program = st.program ++ [s])
    (nconst : Nat) (hn : nconst = st'.consts.length) (tr : List Event) (htr : tr = r.trace ++ s.bevents x) :
    setCache 64 r.vals obj (s.bval x) = .ok (mapσ (σ.set st.vars.length (s.bval x)) cache') ∧
    Inv (σ.set st.vars.length (s.bval x)) st'
      { vals := mapσ (σ.set st.vars.length (s.bval x)) cache', trace := tr, nconst, ret := r.ret } (execStmt x s) en := by
  obtain ⟨hvals, hfresh⟩ := bind_sim hinv.sim hset (s.bval x)
  have hlen : st'.vars.length = st.vars.length + 1 := by rw [hv]; simp
  refine ⟨hvals, ⟨?_, ?_, ?_⟩⟩
  · rw [hs.exec]
    exact ⟨by rw [hc], by rw [htr, hinv.sim.trace], hinv.sim.ret, hn, by rw [hc, hlen]; exact hfresh⟩
  · intro v hv'
    rw [hp, outsOf_append, List.mem_append] at hv'
    rw [hs.exec, hlen]
    rcases hv' with hv' | hv'
    · obtain ⟨h1, h2⟩ := hinv.agree v hv'
      exact ⟨by simp only [Env.set_other _ _ _ _ (Nat.ne_of_lt h2)]; exact h1, Nat.lt_succ_of_lt h2⟩
    · cases List.mem_singleton.1 (by simpa [outsOf, hs.out] using hv')
      exact ⟨by simp [Env.set_same], Nat.lt_succ_self _⟩
  · exact gclos_setCache hinv.gclos hvals

theorem Inv.alias {σ : Env} {st : GState} {r : RState} {x : XState} {en : List Nat} (hinv : Inv σ st r x en) {obj e : E}
    {cache' : List (E × E)} (hset : setCache 64 st.cache obj e = .ok cache')
    (hfr : ∀ σ τ : Env, (∀ v, v < st.vars.length → σ v = τ v) → e.subst σ = e.subst τ) :
    setCache 64 r.vals obj (e.subst σ) = .ok (mapσ σ cache') ∧
    Inv σ { st with cache := cache' } { r with vals := mapσ σ cache' } x en := by
  have h1 := setCache_mapσ σ 64 st.cache obj e
  rw [hset, ← hinv.sim.vals] at h1
  exact ⟨h1, ⟨rfl, hinv.sim.trace, hinv.sim.ret, hinv.sim.nconst, Fresh.setCache hinv.sim.fresh obj e hfr hset⟩,
    hinv.agree, gclos_setCache hinv.gclos h1⟩

theorem Inv.push {σ : Env} {st : GState} {r : RState} {x : XState} {en : List Nat} (h : Inv σ st r x en) (src : Option Nat)
    (new : List (Nat × Stmt)) (hnew : outsOf (new.map (·.2)) = []) : Inv σ (st.push src new) r x en :=
  ⟨h.sim.push _ _, fun v hv => h.agree v (by rwa [program_push, outsOf_append, hnew, List.append_nil] at hv), h.gclos⟩

theorem Inv.event {σ : Env} {st : GState} {r : RState} {x : XState} {en : List Nat} (hinv : Inv σ st r x en) {s : Stmt}
    (hs : s.isEvent = true) (hag : ∀ v ∈ s.reads, σ v = x.env v) (src : Option Nat) (b : Nat) :
    Inv σ (st.push src [(b, s)]) { r with trace := r.trace ++ (s.substE σ).event?.toList } (execStmt x s) en := by
  have h1 := hinv.push src [(b, s)] (by simp [outsOf, event_outs s hs])
  rw [execStmt_event x s hs, event_agree s σ x.env hag]
  exact ⟨⟨h1.sim.vals, by rw [h1.sim.trace], h1.sim.ret, h1.sim.nconst, h1.sim.fresh⟩, h1.agree, h1.gclos⟩

theorem applyRule_inv (c : Ctx) (σ : Env) (st st1 : GState) (r : RState) (x : XState) (rule : Rule) (new : List (Nat × Stmt))
    (en : List Nat) (src : Option Nat) (hinv : Inv σ st r x en) (h : applyRule c st rule = .ok (st1, new)) (hwf : rule.WF)
    (hfr : ∀ σ τ : Env, (∀ v, v < st.vars.length → σ v = τ v) → rule.subst σ = rule.subst τ)
    (hag : ∀ s ∈ new, ∀ v ∈ s.2.reads, σ v = x.env v) :
    ∃ r' σ', refRule r (rule.subst σ) = .ok r' ∧ Inv σ' (st1.push src new) r' (execBlock x (new.map (·.2))) en := by
  cases rule with
  | define out e eff ni fi =>
    have hfr' : ∀ σ τ : Env, (∀ v, v < st.vars.length → σ v = τ v) → e.subst σ = e.subst τ :=
      fun σ τ hst => (Rule.define.inj (hfr σ τ hst)).2.1
    rcases define_ok h with ⟨rfl, rfl, cache', hset, rfl⟩ | ⟨rfl, b, cache', -, hset, rfl, rfl⟩
    · obtain rfl : eff = false := Bool.eq_false_iff.2 fun h => Bool.noConfusion (hwf h)
      obtain ⟨hv, hi⟩ := hinv.alias hset hfr'
      exact ⟨_, σ, by simp only [Rule.subst, refRule, Bool.false_eq_true, if_false, hv]; rfl, hi.push src [] rfl⟩
    · have hag' : e.subst σ = e.subst x.env :=
        E.subst_congr _ _ e (fun w hw => hag (b, .assign st.vars.length e eff) (by simp) w hw)
      obtain ⟨hv, hi⟩ := hinv.bind hset (.assign b e eff) (st' := ({ st with vars := st.vars ++ [⟨b, true⟩], cache := cache' } :
        GState).push src [(b, .assign st.vars.length e eff)]) rfl rfl (program_push _ _ _) r.nconst hinv.sim.nconst _ rfl
      refine ⟨_, _, ?_, hi⟩
      cases eff
      · have hv' : setCache 64 r.vals out (e.subst x.env) = _ := hv
        simp only [Rule.subst, refRule, Bool.false_eq_true, if_false, hag', hv']
        exact congrArg Except.ok (by simp [Stmt.bevents])
      · have hv' : setCache 64 r.vals out (resAtom x.trace.length) = _ := hv
        simp only [Rule.subst, refRule, if_true, hinv.sim.trace, hag', hv']
        rfl
  | effect s out e =>
    obtain ⟨b, cache', -, hset, rfl, rfl⟩ := applyRule_effect_ok h
    have hfr' : ∀ σ τ : Env, (∀ v, v < st.vars.length → σ v = τ v) → e.subst σ = e.subst τ :=
      fun σ τ hst => (Rule.effect.inj (hfr σ τ hst)).2.2
    obtain ⟨hv, hi⟩ := hinv.alias hset hfr'
    exact ⟨_, σ, by simp only [Rule.subst, refRule, hv, bind, Except.bind]; rfl, hi.event hwf (hag (b, s) (by simp)) src b⟩
  | import_ out from_ imp hint =>
    obtain ⟨cache', -, hset, rfl, rfl⟩ := applyRule_import_ok h
    obtain ⟨hv, hi⟩ := hinv.bind hset (.import_ from_ imp)
      (st' := GState.push
        { st with
          vars := st.vars ++ [⟨0, false⟩], cache := cache',
          hints := st.hints ++ (hint.map fun n => (st.vars.length, n)).toList }
        src [(0, .import_ st.vars.length from_ imp)]) rfl rfl (program_push _ _ _) r.nconst hinv.sim.nconst r.trace
      (List.append_nil _).symm
    have hv' : setCache 64 r.vals (.var out) (modAtom from_ imp) = _ := hv
    exact ⟨_, _, by simp only [Rule.subst, refRule, bind, Except.bind, hv']; rfl, hi⟩
  | constant out str =>
    obtain ⟨b, cache', -, hset, rfl, rfl⟩ := applyRule_constant_ok h
    obtain ⟨hv, hi⟩ := hinv.bind hset (.const b (st.consts.length + 1))
      (st' := GState.push
        { st with
          vars := st.vars ++ [⟨b, false⟩], cache := cache', consts := st.consts ++ [st.vars.length],
          hints := st.hints ++ [(st.vars.length, s!"const{st.consts.length + 1}")],
          comments := s!"Constant const{st.consts.length + 1}: {replaceNl str}" :: st.comments }
        src [(0, .constBind st.vars.length (st.consts.length + 1))])
      rfl rfl (program_push _ _ _) (st.consts.length + 1) (by simp [GState.push]) r.trace (List.append_nil _).symm
    have hv' : setCache 64 r.vals (.var out) (constAtom (st.consts.length + 1)) = _ := hv
    exact ⟨_, _, by simp only [Rule.subst, refRule, bind, Except.bind, hinv.sim.nconst, hv']; rfl, hi⟩

theorem patchForce_subst (g : Graph) (cfg : UCfg) (a : App) (r : Rule) (σ : Env) :
    (patchForce g cfg a r).subst σ = patchForce g cfg a (r.subst σ) := by
  obtain ⟨φ, hφ⟩ := patchForce_eq g cfg a
  rw [hφ, hφ]
  cases r <;> rfl

theorem refRule_patchForce (g : Graph) (cfg : UCfg) (a : App) (rule : Rule) (r : RState) :
    refRule r (patchForce g cfg a rule) = refRule r rule := by
  obtain ⟨φ, hφ⟩ := patchForce_eq g cfg a
  rw [hφ]
  cases rule <;> rfl

theorem app_inv (c : Ctx) (σ : Env) (st st' : GState) (r : RState) (x : XState) (i : Nat) (en : List Nat)
    (hinv : Inv σ st r x en) (h : emitVisit c st (.app i) = .ok st')
    (hag : ∀ new, st'.program = st.program ++ new → ∀ v ∈ liveIn new, v ∈ outsOf st.program) :
    ∃ new r' σ', st'.program = st.program ++ new ∧ refVisit c.g c.cfg.unaryParens r (.app i) = .ok r' ∧
      Inv σ' st' r' (execBlock x new) en := by
  obtain ⟨a, rule, s1, new, ha, hr, hp, rfl⟩ := emitVisit_app_ok h
  obtain ⟨-, hle, -⟩ := applyRule_new c st s1 _ new hp
  -- the cache reads the same in environments that agree below `st.vars.length` (`Fresh`), hence so does the rule
  have hfr : ∀ σ τ : Env, (∀ v, v < st.vars.length → σ v = τ v) →
      (patchForce c.g c.cfg a rule).subst σ = (patchForce c.g c.cfg a rule).subst τ := by
    intro σ τ hst
    have h1 := ruleOf_mapσ c.g c.cfg.unaryParens σ st.cache a rule hr
    rw [hinv.sim.fresh σ τ hst, ruleOf_mapσ c.g c.cfg.unaryParens τ st.cache a rule hr] at h1
    rw [patchForce_subst, patchForce_subst, Except.ok.inj h1]
  have hprog := applyRule_program c st s1 _ new hp (some i)
  obtain ⟨r', σ', href, hinv'⟩ :=
    applyRule_inv c σ st s1 r x _ new en (some i) hinv hp (patchForce_wf _ _ _ _ (ruleOf_wf _ _ _ _ _ hr)) hfr
      (fun s hs v hv => (hinv.agree v (hag _ hprog v (by
        rw [eq_singleton_of_mem hle hs]
        exact List.mem_append_left _ hv))).1)
  refine ⟨new.map (·.2), r', σ', hprog, refVisit_app_ok.2 ⟨a, rule.subst σ, ha, ?_, ?_⟩, hinv'⟩
  · rw [hinv.sim.vals, ruleOf_mapσ _ _ σ _ a rule hr]
  · rw [← refRule_patchForce c.g c.cfg a, ← patchForce_subst]
    exact href

/-! ### Nested graphs -/

theorem param_inv (c : Ctx) (σ : Env) (st st' : GState) (r : RState) (x : XState) (t : Nat) (en : List Nat)
    (hinv : Inv σ st r x en) (h : enterParam c st t = .ok st') :
    ∃ σ' vals' new, setCache 64 r.vals (.var t) (inAtom t) = .ok vals' ∧
      Inv σ' st' { r with vals := vals' } (execBlock x new) en ∧ st'.program = st.program ++ new := by
  obtain ⟨b, cache', -, hset, rfl⟩ := enterParam_ok h
  obtain ⟨hvals, hinv'⟩ := hinv.bind hset (.param b t)
    (st' := ({ st with vars := st.vars ++ [⟨b, true⟩], cache := cache' } : GState).push none [(b, .param st.vars.length t)])
    rfl rfl (program_push _ _ _) r.nconst hinv.sim.nconst r.trace (List.append_nil _).symm
  exact ⟨_, _, [.param st.vars.length t], hvals, hinv', program_push _ _ _⟩

theorem params_inv (c : Ctx) (en : List Nat) (inputs : List Nat) :
    ∀ (σ : Env) (st st' : GState) (r : RState) (x : XState), Inv σ st r x en →
    inputs.foldlM (enterParam c) st = .ok st' →
    ∃ σ' vals' new, inputs.foldlM (fun vals t => setCache 64 vals (.var t) (inAtom t)) r.vals = .ok vals' ∧
      Inv σ' st' { r with vals := vals' } (execBlock x new) en ∧ st'.program = st.program ++ new := by
  induction inputs with
  | nil =>
    intro σ st st' r x hinv h
    cases h
    exact ⟨σ, r.vals, [], rfl, hinv, by simp⟩
  | cons t rest ih =>
    intro σ st st' r x hinv h
    rw [List.foldlM_cons] at h
    obtain ⟨s1, h1, h⟩ := bind_ok.1 h
    obtain ⟨σ1, vals1, new1, hs1, hinv1, hp1⟩ := param_inv c σ st s1 r x t en hinv h1
    obtain ⟨σ2, vals2, new2, hs2, hinv2, hp2⟩ := ih σ1 s1 st' _ _ hinv1 h
    refine ⟨σ2, vals2, new1 ++ new2, ?_, by rw [execBlock_append]; exact hinv2, by rw [hp2, hp1, List.append_assoc]⟩
    rw [List.foldlM_cons, hs1]
    exact hs2

theorem enter_inv (c : Ctx) (σ : Env) (st st' : GState) (r : RState) (x : XState) (gi : Nat) (en : List Nat)
    (hinv : Inv σ st r x en) (h : emitVisit c st (.enter gi) = .ok st') :
    ∃ new r' σ', st'.program = st.program ++ new ∧ refVisit c.g c.cfg.unaryParens r (.enter gi) = .ok r' ∧
      Inv σ' st' r' (execBlock x new) (gi :: en) := by
  obtain ⟨sg, b, cache', hg, -, hset, hfold⟩ := emitVisit_enter_ok h
  obtain ⟨hvals, hfresh⟩ := bind_sim hinv.sim hset (closAtom gi)
  obtain ⟨hm, hnone⟩ := setCache_gref _ _ _ _ hvals
  have hinv1 : Inv (σ.set st.vars.length (closAtom gi))
      { st with vars := st.vars ++ [⟨b, true⟩], cache := cache',
                hints := st.hints ++ (sg.name.map fun n => (st.vars.length, n)).toList }
      { r with vals := mapσ (σ.set st.vars.length (closAtom gi)) cache' } x (gi :: en) := by
    refine ⟨⟨rfl, hinv.sim.trace, hinv.sim.ret, hinv.sim.nconst, ?_⟩, ?_, ?_⟩
    · show Fresh (st.vars ++ [_]).length cache'
      rw [List.length_append]
      exact hfresh
    · intro v hv
      obtain ⟨h1, h2⟩ := hinv.agree v hv
      refine ⟨by rw [Env.set_other _ _ _ _ (Nat.ne_of_lt h2)]; exact h1, ?_⟩
      show v < (st.vars ++ [_]).length
      rw [List.length_append]
      exact Nat.lt_succ_of_lt h2
    · intro g' hg'
      show assocGet (mapσ _ cache') _ = _
      rw [hm]
      rcases List.mem_cons.1 hg' with rfl | hg'
      · exact assocGet_append_none _ _ _ hnone
      · exact assocGet_append_some _ _ _ _ (hinv.gclos g' hg')
  obtain ⟨σ', vals', new, hs, hinv', hp⟩ := params_inv c (gi :: en) sg.inputs _ _ st' _ x hinv1 hfold
  exact ⟨new, _, σ', hp, refVisit_enter_ok.2 ⟨sg, _, vals', hg, hvals, hs, rfl⟩, hinv'⟩

theorem fresh_var_lt {n : Nat} {cache : List (E × E)} (hf : Fresh n cache) (k : E) (v : Nat)
    (hmem : (k, E.var v) ∈ cache) : v < n := by
  rcases Nat.lt_or_ge v n with h | h
  · exact h
  · exfalso
    have := hf (fun _ => E.nil) (Env.set (fun _ => E.nil) v (.lit "")) (fun w hw => by
      rw [Env.set_other _ _ _ _ (by omega)])
    have h2 := (List.map_inj_left.1 this) (k, E.var v) hmem
    simp [E.subst, Env.set] at h2

theorem exit_inv (c : Ctx) (σ : Env) (st st' : GState) (r : RState) (x : XState) (gi : Nat) (en : List Nat)
    (hinv : Inv σ st r x en) (hgi : gi ∈ en) (h : emitVisit c st (.exit gi) = .ok st')
    (hag : ∀ new, st'.program = st.program ++ new → ∀ v ∈ liveIn new, v ∈ outsOf st.program) :
    ∃ new r' σ', st'.program = st.program ++ new ∧ refVisit c.g c.cfg.unaryParens r (.exit gi) = .ok r' ∧
      Inv σ' st' r' (execBlock x new) en := by
  obtain ⟨sg, outer, inner, fv, params, rr, hg, -, -, hcache, hr, rfl⟩ := emitVisit_exit_ok h
  have hprog : (st.push none [(inner, Stmt.return_ rr), (outer, Stmt.def_ fv params inner gi)]).program
      = st.program ++ [.return_ rr, .def_ fv params inner gi] :=
    program_push _ _ _
  -- the cached expression of the graph is its function variable, which `σ` already binds to the closure
  have hσfv : σ fv = closAtom gi := by
    have := hinv.gclos gi hgi
    rw [hinv.sim.vals, assocGet_mapσ, hcache] at this
    simpa [E.subst] using this
  have hfvlt : fv < st.vars.length := fresh_var_lt hinv.sim.fresh _ _ (assocGet_mem _ _ _ hcache)
  have hreads : rr.subst σ = rr.subst x.env := by
    apply E.subst_congr
    intro v hv
    exact (hinv.agree v (hag _ hprog v (by simp [liveIn, Stmt.reads, hv]))).1
  refine ⟨[.return_ rr, .def_ fv params inner gi],
    { r with ret := match r.ret with | some t => some t | none => some (rr.subst σ) }, σ, hprog, ?_, ⟨?_, ?_, hinv.gclos⟩⟩
  · exact refVisit_exit_ok.2 ⟨sg, rr.subst σ, hg, by rw [hinv.sim.vals, convTop_mapσ, hr]; rfl, rfl⟩
  · refine ⟨hinv.sim.vals, ?_, ?_, hinv.sim.nconst, hinv.sim.fresh⟩
    · simp only [execBlock, List.foldl_cons, List.foldl_nil, execStmt]
      cases x.ret <;> exact hinv.sim.trace
    · simp only [execBlock, List.foldl_cons, List.foldl_nil, execStmt]
      have := hinv.sim.ret
      cases hxr : x.ret with
      | none => rw [hxr] at this; simp only [this, hreads]
      | some t => rw [hxr] at this; simp only [this, hxr]
  · intro v hv
    rw [hprog, outsOf_append, List.mem_append] at hv
    show _ ∧ v < st.vars.length
    have henv : (execBlock x [.return_ rr, .def_ fv params inner gi]).env = x.env.set fv (closAtom gi) := by
      simp only [execBlock, List.foldl_cons, List.foldl_nil, execStmt]
      cases x.ret <;> rfl
    rw [henv]
    by_cases hvf : v = fv
    · subst hvf
      rw [Env.set_same]
      exact ⟨hσfv, hfvlt⟩
    · rw [Env.set_other _ _ _ _ hvf]
      rcases hv with hv | hv
      · exact hinv.agree v hv
      · simp [outsOf, Stmt.outputVars] at hv
        exact absurd hv hvf

/-! ### Tagged traces

`taggedTrace` (`Exec/View.lean`) tags every event of the emitted program with the source of its statement; `refTagged` tags every
event of the reference evaluation with the visit that appended it.  The two agree (last conjunct of `emitAll_inv`): whatever one
visit appends to the body carries the source of that visit. -/

theorem execStmt_trace (x : XState) (s : Stmt) : ∃ new, (execStmt x s).trace = x.trace ++ new := by
  cases s with
  | assign v rhs eff => cases eff <;> simp [execStmt]
  | return_ e => simp only [execStmt]; split <;> exact ⟨[], by simp⟩
  | _ => simp [execStmt]

theorem taggedTrace_append (x : XState) (l1 l2 : List SStmt) :
    taggedTrace x (l1 ++ l2) = taggedTrace x l1 ++ taggedTrace (execBlock x (l1.map (·.stmt))) l2 := by
  induction l1 generalizing x with
  | nil => simp [taggedTrace, execBlock]
  | cons s rest ih =>
    simp only [List.cons_append, taggedTrace, ih, List.append_assoc, List.map_cons, execBlock, List.foldl_cons]

theorem taggedTrace_events (l : List SStmt) : ∀ (x : XState),
    (execBlock x (l.map (·.stmt))).trace = x.trace ++ (taggedTrace x l).map (·.2) := by
  induction l with
  | nil => intro x; simp [taggedTrace, execBlock]
  | cons s rest ih =>
    intro x
    obtain ⟨new, hn⟩ := execStmt_trace x s.stmt
    simp only [List.map_cons, execBlock, List.foldl_cons, taggedTrace, List.map_append, List.map_map]
    have := ih (execStmt x s.stmt)
    simp only [execBlock] at this
    rw [this, hn]
    simp [Function.comp_def]

theorem mem_taggedTrace_src (l : List SStmt) : ∀ (x : XState) (p : Option Nat × Event), p ∈ taggedTrace x l →
    ∃ s ∈ l, s.src = p.1 := by
  induction l with
  | nil => intro x p hp; simp [taggedTrace] at hp
  | cons s rest ih =>
    intro x p hp
    simp only [taggedTrace, List.mem_append, List.mem_map] at hp
    rcases hp with ⟨e, _, rfl⟩ | hp
    · exact ⟨s, by simp, rfl⟩
    · obtain ⟨s', hs', h'⟩ := ih _ p hp
      exact ⟨s', List.mem_cons_of_mem _ hs', h'⟩

theorem taggedTrace_of_src (src : Option Nat) (l : List SStmt) (h : ∀ s ∈ l, s.src = src) (x : XState) :
    taggedTrace x l = ((execBlock x (l.map (·.stmt))).trace.drop x.trace.length).map (fun e => (src, e)) := by
  rw [taggedTrace_events, List.drop_left, List.map_map]
  refine (List.map_id _).symm.trans (List.map_congr_left fun p hp => ?_)
  obtain ⟨s, hs, hsrc⟩ := mem_taggedTrace_src l x p hp
  exact Prod.ext (hsrc.symm.trans (h s hs)) rfl

def stepTagged (r r' : RState) (v : Visit) : List (Option Nat × Event) := (r'.trace.drop r.trace.length).map (fun e => (v.src, e))

/-- The events of the reference evaluation from `r` along `order`, each tagged with the application whose visit appended it. -/
def refTagged (g : Graph) (up : Bool) : RState → List Visit → List (Option Nat × Event)
  | _, [] => []
  | r, v :: rest =>
    match refVisit g up r v with
    | .ok r' => stepTagged r r' v ++ refTagged g up r' rest
    | .error _ => []

theorem refTagged_cons {g : Graph} {up : Bool} {r r' : RState} {v : Visit} (h : refVisit g up r v = .ok r') (rest : List Visit) :
    refTagged g up r (v :: rest) = stepTagged r r' v ++ refTagged g up r' rest := by
  simp only [refTagged, h]

theorem stepTagged_of_trace {r r' : RState} {evs : List Event} (h : r'.trace = r.trace ++ evs) (v : Visit) :
    stepTagged r r' v = evs.map (fun e => (v.src, e)) := by
  rw [stepTagged, h, List.drop_left]

theorem refVisit_exit (g : Graph) (up : Bool) (r r' : RState) (k : Nat) (h : refVisit g up r (.exit k) = .ok r') :
    r'.vals = r.vals ∧ r'.trace = r.trace := by
  obtain ⟨_, _, -, -, rfl⟩ := refVisit_exit_ok.1 h
  exact ⟨rfl, rfl⟩

theorem refVisit_trace (g : Graph) (up : Bool) (r r' : RState) (v : Visit) (h : refVisit g up r v = .ok r') :
    ∃ evs, r'.trace = r.trace ++ evs := by
  cases v with
  | app j =>
    obtain ⟨_, rule, -, -, h⟩ := refVisit_app_ok.1 h
    cases rule with
    | define out e eff ni fi => exact ⟨_, (refRule_define r r' _ _ _ _ _ h).2⟩
    | effect s out e => exact ⟨_, (refRule_effect r r' _ _ _ h).2⟩
    | import_ out f i hint => exact ⟨_, (refRule_import r r' _ _ _ _ h).2⟩
    | constant out str => exact ⟨_, (refRule_constant r r' _ _ h).2⟩
  | enter k =>
    obtain ⟨_, _, _, -, -, -, rfl⟩ := refVisit_enter_ok.1 h
    exact ⟨[], (List.append_nil _).symm⟩
  | exit k => exact ⟨[], by rw [(refVisit_exit g up r r' k h).2, List.append_nil]⟩

theorem refTagged_append (g : Graph) (up : Bool) (l1 l2 : List Visit) (r r1 : RState)
    (h : l1.foldlM (refVisit g up) r = .ok r1) : refTagged g up r (l1 ++ l2) = refTagged g up r l1 ++ refTagged g up r1 l2 := by
  induction l1 generalizing r with
  | nil => cases h; rfl
  | cons v l1 ih =>
    rw [List.foldlM_cons, bind_ok] at h
    obtain ⟨r', hv, h⟩ := h
    rw [List.cons_append, refTagged_cons hv, refTagged_cons hv, ih r' h, List.append_assoc]

theorem refTagged_events (g : Graph) (up : Bool) (l : List Visit) (r r' : RState)
    (h : l.foldlM (refVisit g up) r = .ok r') : r'.trace = r.trace ++ (refTagged g up r l).map (·.2) := by
  induction l generalizing r with
  | nil => cases h; simp [refTagged]
  | cons v l ih =>
    rw [List.foldlM_cons, bind_ok] at h
    obtain ⟨r1, hv, h⟩ := h
    obtain ⟨evs, he⟩ := refVisit_trace g up r r1 v hv
    rw [ih r1 h, refTagged_cons hv, stepTagged_of_trace he, he]
    simp [Function.comp_def]

theorem evalGraph_trace {g : Graph} {up : Bool} {order : List Visit} {r : RState} (h : evalGraph g up order = .ok r) :
    r.trace = (refTagged g up {} order).map (·.2) :=
  refTagged_events g up order {} r h

theorem emitAll_inv (c : Ctx) (order : List Visit) :
    ∀ (en : List Nat) (σ : Env) (st st' : GState) (r : RState) (x : XState), Inv σ st r x en →
    matched order en = true → emitAll c order st = .ok st' →
    (∀ newAll, st'.program = st.program ++ newAll → ∀ v ∈ liveIn newAll, v ∈ outsOf st.program) →
    ∃ newB r' σ' en', st'.body = st.body ++ newB ∧
      order.foldlM (refVisit c.g c.cfg.unaryParens) r = .ok r' ∧
      Inv σ' st' r' (execBlock x (newB.map (·.2.stmt))) en' ∧
      taggedTrace x (newB.map (·.2)) = refTagged c.g c.cfg.unaryParens r order := by
  induction order with
  | nil =>
    intro en σ st st' r x hinv _ h _
    cases h
    exact ⟨[], r, σ, en, by simp, rfl, hinv, rfl⟩
  | cons v rest ih =>
    intro en σ st st' r x hinv hm h hcl
    obtain ⟨s1, h1, h2⟩ := emitAll_cons c v rest st st' h
    obtain ⟨b2, e2⟩ := emitAll_body c rest s1 st' h2
    replace e2 := (body_append e2).1
    obtain ⟨nb, hb1⟩ := emitVisit_new c st s1 v h1
    have hp1 := (body_append hb1).1
    have hag : ∀ new, s1.program = st.program ++ new → ∀ v ∈ liveIn new, v ∈ outsOf st.program := by
      intro new hp v hv
      exact hcl (new ++ _) (by rw [e2, hp, List.append_assoc]) v ((mem_liveIn_append _ _ _).2 (Or.inl hv))
    have hrest : ∀ newAll, st'.program = s1.program ++ newAll → ∀ v ∈ liveIn newAll, v ∈ outsOf s1.program := by
      intro newAll hpa w hw
      rw [hp1, outsOf_append, List.mem_append]
      by_cases h3 : w ∈ outsOf ((tagWith v.src nb).map (·.2.stmt))
      · exact Or.inr h3
      · exact Or.inl (hcl (_ ++ newAll) (by rw [hpa, hp1, List.append_assoc]) w ((mem_liveIn_append _ _ _).2 (Or.inr ⟨hw, h3⟩)))
    -- the three step lemmas of the simulation give the same conclusion; the rest of the traversal follows by induction
    have hfin : ∀ (en1 : List Nat) (new1 : List Stmt) (r1 : RState) (σ1 : Env), matched rest en1 = true →
        s1.program = st.program ++ new1 → refVisit c.g c.cfg.unaryParens r v = .ok r1 →
        Inv σ1 s1 r1 (execBlock x new1) en1 →
        ∃ newB r' σ' en', st'.body = st.body ++ newB ∧
          (v :: rest).foldlM (refVisit c.g c.cfg.unaryParens) r = .ok r' ∧
          Inv σ' st' r' (execBlock x (newB.map (·.2.stmt))) en' ∧
          taggedTrace x (newB.map (·.2)) = refTagged c.g c.cfg.unaryParens r (v :: rest) := by
      intro en1 new1 r1 σ1 hm1 hp1' href1 hinv1
      obtain rfl : new1 = (tagWith v.src nb).map (·.2.stmt) := List.append_cancel_left (hp1'.symm.trans hp1)
      obtain ⟨nb2, r2, σ2, en2, hb2, href2, hinv2, ht2⟩ := ih en1 σ1 s1 st' r1 _ hinv1 hm1 h2 hrest
      refine ⟨tagWith v.src nb ++ nb2, r2, σ2, en2, by rw [hb2, hb1, List.append_assoc], ?_, ?_, ?_⟩
      · simp only [List.foldlM_cons, href1, bind, Except.bind]
        exact href2
      · rw [List.map_append, execBlock_append]
        exact hinv2
      · -- what this visit appended carries `v.src`, so its tagged trace is the trace increment of the step, tagged `v.src`
        have hsrc : ∀ s ∈ (tagWith v.src nb).map (·.2), s.src = v.src := by
          intro s hs
          simp only [tagWith, List.map_map, List.mem_map, Function.comp_apply] at hs
          obtain ⟨_, _, rfl⟩ := hs
          rfl
        have e : ((tagWith v.src nb).map (·.2)).map (·.stmt) = (tagWith v.src nb).map (·.2.stmt) := List.map_map
        rw [List.map_append, taggedTrace_append, taggedTrace_of_src v.src _ hsrc, refTagged_cons href1, stepTagged, e, ht2,
          ← hinv.sim.trace, ← hinv1.sim.trace]
    cases v with
    | app i =>
      obtain ⟨new1, r1, σ1, hp1', href1, hinv1⟩ := app_inv c σ st s1 r x i en hinv h1 hag
      exact hfin en new1 r1 σ1 (by simpa [matched] using hm) hp1' href1 hinv1
    | enter gi =>
      obtain ⟨new1, r1, σ1, hp1', href1, hinv1⟩ := enter_inv c σ st s1 r x gi en hinv h1
      exact hfin (gi :: en) new1 r1 σ1 (by simpa [matched] using hm) hp1' href1 hinv1
    | exit gi =>
      simp only [matched, Bool.and_eq_true, List.contains_iff_mem] at hm
      obtain ⟨new1, r1, σ1, hp1', href1, hinv1⟩ := exit_inv c σ st s1 r x gi en hinv hm.1 h1 hag
      exact hfin en new1 r1 σ1 hm.2 hp1' href1 hinv1

theorem Inv.init : Inv unbound {} {} { env := unbound } [] :=
  ⟨⟨rfl, rfl, rfl, rfl, fun _ _ _ => rfl⟩, by intro v hv; simp [outsOf, GState.program] at hv, by intro gi h; simp at h⟩

theorem emitAll_correct (c : Ctx) (order : List Visit) (st : GState)
    (h : emitAll c order {} = .ok st) (hm : matched order [] = true) (hclosed : liveIn st.program = []) :
    ∃ r σ en, evalGraph c.g c.cfg.unaryParens order = .ok r ∧ Inv σ st r (execBlock { env := unbound } st.program) en ∧
      taggedTrace { env := unbound } (st.body.map (·.2)) = refTagged c.g c.cfg.unaryParens {} order := by
  obtain ⟨newB, r, σ, en, hb, href, hinv, ht⟩ := emitAll_inv c order [] unbound {} st {} { env := unbound } Inv.init hm h (by
    intro newAll hp v hv
    have hp' : st.program = newAll := by simpa [GState.program] using hp
    rw [← hp', hclosed] at hv
    cases hv)
  obtain rfl : st.body = newB := by simpa using hb
  exact ⟨r, σ, en, href, hinv, ht⟩

end Einx.Compile
