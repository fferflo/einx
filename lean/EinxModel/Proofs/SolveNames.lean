import EinxModel.Solve.Names
import EinxModel.Proofs.SolveNamesChars
import EinxModel.Proofs.SolveUnroll
import EinxModel.Proofs.SolveNum
import EinxModel.Proofs.SolveRename
/-!
The name hygiene of the generated value system as a theorem: `namesOK`, `freshVars`, `renOK`
(`Solve/Shorthand.lean`; hypotheses of the stage-2/3 shorthand theorems) follow from the syntactic
condition `plainNames` / `hashFree` of `Solve/Names.lean`.

Every node variable below `path` with enclosing indices `idx` reads `path ++ w ++ idxSuffix (idx ++ j)` with `w` a
dot-free string of further path steps.  This encoding is uniquely decodable, so node variables are pairwise different
for EVERY input, and they differ from all axis variables when no axis name contains `#`.  On plain names
`(name, idx) ↦ name ++ idxSuffix idx` is injective, which gives `freshVars` and `renOK`.
-/
namespace Einx.Solve

/-- `x` is a node variable below the path `p` (as characters) under the repetition indices `idx`. -/
inductive KeyForm (p : List Char) (idx : List Nat) (x : Var) : Prop
  | intro (w : List Char) (j : List Nat) (hx : x.toList = p ++ w ++ sufL (idx ++ j)) (hw : '.' ∉ w)
      (hd : ∀ c, w.head? = some c → c.isDigit = false)

theorem nodeVar_toList (path : String) (idx : List Nat) : (path ++ idxSuffix idx).toList = path.toList ++ sufL idx := by
  rw [String.toList_append]; rfl

theorem KeyForm.self (path : String) (idx : List Nat) : KeyForm path.toList idx (path ++ idxSuffix idx) :=
  ⟨[], [], by rw [nodeVar_toList]; simp, by simp, by simp⟩

theorem KeyForm.step {p : List Char} {idx : List Nat} {x : Var} (c0 : Char) (s : List Char) (hs : '.' ∉ c0 :: s)
    (hc : c0.isDigit = false) (h : KeyForm (p ++ c0 :: s) idx x) : KeyForm p idx x := by
  obtain ⟨w, j, h1, h2, _⟩ := h
  refine ⟨c0 :: s ++ w, j, by simp [h1], ?_, ?_⟩
  · simp only [List.mem_cons, List.mem_append, not_or] at hs ⊢
    exact ⟨hs, h2⟩
  · intro c hc'
    simp only [List.cons_append, List.head?_cons, Option.some.injEq] at hc'
    rw [← hc']; exact hc

theorem KeyForm.snoc {p : List Char} {idx : List Nat} {i : Nat} {x : Var} (h : KeyForm p (idx ++ [i]) x) :
    KeyForm p idx x := by
  obtain ⟨w, j, h1, h2, h3⟩ := h
  exact ⟨w, i :: j, by simp [h1], h2, h3⟩

theorem cons_digs_dotfree {c : Char} (hc : '.' ≠ c) (k : Nat) : '.' ∉ c :: digs k :=
  List.not_mem_cons_of_ne_of_not_mem hc (dot_not_mem_digs k)

theorem KeyForm.slash {p : List Char} {idx : List Nat} {k : Nat} {x : Var} (h : KeyForm (p ++ '/' :: digs k) idx x) :
    KeyForm p idx x := KeyForm.step '/' (digs k) (cons_digs_dotfree (by decide) k) (by decide) h

theorem path_slash_toList (path : String) (k : Nat) : (path ++ "/" ++ toString k).toList = path.toList ++ '/' :: digs k := by
  simp [String.toList_append, digs]

mutual
theorem nodeKeys_form (ρ : Var → Nat) : ∀ (e : Expr) (path : String) (idx : List Nat),
    ∀ x ∈ nodeKeys ρ path idx e, KeyForm path.toList idx x
  | .axis _ => fun _ _ x hx => by simp [nodeKeys] at hx
  | .num _ => fun _ _ x hx => by simp [nodeKeys] at hx
  | .brackets e => nodeKeys_form ρ e
  | .flat e => fun path idx x hx => by
    simp only [nodeKeys, List.mem_cons] at hx
    rcases hx with rfl | hx
    · exact KeyForm.self path idx
    · have := nodeKeys_form ρ e (path ++ "(") idx x hx
      rw [String.toList_append] at this
      exact KeyForm.step '(' [] (by decide) (by decide) this
  | .concat cs => fun path idx x hx => by
    simp only [nodeKeys, List.mem_cons] at hx
    rcases hx with rfl | hx
    · exact KeyForm.self path idx
    · obtain ⟨k', _, h⟩ := nodeKeysL_form ρ cs (path ++ "+") idx 0 x hx
      have := KeyForm.slash h
      rw [String.toList_append] at this
      exact KeyForm.step '+' [] (by decide) (by decide) this
  | .ellipsis id e => fun path idx x hx => by
    simp only [nodeKeys, List.mem_flatMap, List.mem_range] at hx
    obtain ⟨i, _, hx⟩ := hx
    exact KeyForm.snoc (nodeKeys_form ρ e path (idx ++ [i]) x hx)
  | .list cs => fun path idx x hx => by
    simp only [nodeKeys] at hx
    obtain ⟨k', _, h⟩ := nodeKeysL_form ρ cs path idx 0 x hx
    exact KeyForm.slash h
theorem nodeKeysL_form (ρ : Var → Nat) : ∀ (cs : List Expr) (path : String) (idx : List Nat) (k : Nat),
    ∀ x ∈ nodeKeysL ρ path idx k cs, ∃ k', k ≤ k' ∧ KeyForm (path.toList ++ '/' :: digs k') idx x
  | [] => fun _ _ _ x hx => by simp [nodeKeysL] at hx
  | c :: cs => fun path idx k x hx => by
    simp only [nodeKeysL, List.mem_append] at hx
    rcases hx with hx | hx
    · refine ⟨k, Nat.le_refl k, ?_⟩
      have := nodeKeys_form ρ c (path ++ "/" ++ toString k) idx x hx
      rwa [path_slash_toList] at this
    · obtain ⟨k', hk, h⟩ := nodeKeysL_form ρ cs path idx (k + 1) x hx
      exact ⟨k', by omega, h⟩
end

theorem keyForm_eq {p s s' : List Char} {idx idx' : List Nat} {x : Var} (hs : '.' ∉ s) (hs' : '.' ∉ s')
    (h : KeyForm (p ++ s) idx x) (h' : KeyForm (p ++ s') idx' x) :
    ∃ w w' j j', s ++ w = s' ++ w' ∧ idx ++ j = idx' ++ j' ∧
      (∀ c, w.head? = some c → c.isDigit = false) ∧ (∀ c, w'.head? = some c → c.isDigit = false) := by
  obtain ⟨w, j, h1, h2, h3⟩ := h
  obtain ⟨w', j', h1', h2', h3'⟩ := h'
  rw [h1] at h1'
  simp only [List.append_assoc, List.append_cancel_left_eq] at h1'
  rw [← List.append_assoc, ← List.append_assoc] at h1'
  have := dotfree_decode (w := s ++ w) (w' := s' ++ w') (by simp [hs, h2]) (by simp [hs', h2']) h1'
  exact ⟨w, w', j, j', this.1, this.2, h3, h3'⟩

theorem keyForm_ne_self {path : String} {idx idx' : List Nat} (c0 : Char) (s : List Char) (hs : '.' ∉ c0 :: s)
    (h : KeyForm (path.toList ++ c0 :: s) idx (path ++ idxSuffix idx')) : False := by
  obtain ⟨w, j, hx, hw, _⟩ := h
  -- after `path`, the dot-free part is empty on one side and starts with `c0` on the other
  rw [nodeVar_toList] at hx
  simp only [List.append_assoc, List.append_cancel_left_eq] at hx
  have hd : ([] : List Char) ++ sufL idx' = (c0 :: s ++ w) ++ sufL (idx ++ j) := by simpa using hx
  have := (dotfree_decode (by simp) (by
    simp only [List.mem_cons, List.mem_append, not_or] at hs ⊢
    exact ⟨hs, hw⟩) hd).1
  simp at this

theorem keyForm_idx_eq {p : List Char} {idx : List Nat} {i i' : Nat} {x : Var}
    (h : KeyForm p (idx ++ [i]) x) (h' : KeyForm p (idx ++ [i']) x) : i = i' := by
  have h0 : KeyForm (p ++ []) (idx ++ [i]) x := by rwa [List.append_nil]
  have h0' : KeyForm (p ++ []) (idx ++ [i']) x := by rwa [List.append_nil]
  obtain ⟨w, w', j, j', _, h2, _, _⟩ := keyForm_eq (by simp) (by simp) h0 h0'
  simp only [List.append_assoc, List.append_cancel_left_eq, List.cons_append, List.nil_append, List.cons.injEq] at h2
  exact h2.1

theorem keyForm_num_eq {p : List Char} {c : Char} (hc : '.' ≠ c) {idx : List Nat} {k k' : Nat} {x : Var}
    (h : KeyForm (p ++ c :: digs k) idx x) (h' : KeyForm (p ++ c :: digs k') idx x) : k = k' := by
  obtain ⟨w, w', j, j', h1, _, h3, h3'⟩ := keyForm_eq (cons_digs_dotfree hc k) (cons_digs_dotfree hc k') h h'
  simp only [List.cons_append, List.cons.injEq, true_and] at h1
  exact (digs_decode h3 h3' h1).1

theorem root_path_toList (i : Nat) : ("#" ++ toString i).toList = [] ++ '#' :: digs i := by
  simp [String.toList_append, digs]

theorem keyForm_root_eq {idx : List Nat} {k k' : Nat} {x : Var}
    (h : KeyForm ("#" ++ toString k).toList idx x) (h' : KeyForm ("#" ++ toString k').toList idx x) : k = k' := by
  rw [root_path_toList] at h h'
  exact keyForm_num_eq (by decide) h h'

theorem keyForm_root_hash {idx : List Nat} {k : Nat} {x : Var} (h : KeyForm ("#" ++ toString k).toList idx x) :
    '#' ∈ x.toList := by
  obtain ⟨w, j, h1, _, _⟩ := h
  rw [h1, root_path_toList]; simp

/-! ### Node variables are pairwise different -/

mutual
theorem nodeKeys_nodup (ρ : Var → Nat) : ∀ (e : Expr) (path : String) (idx : List Nat), (nodeKeys ρ path idx e).Nodup
  | .axis _ => fun _ _ => by simp [nodeKeys]
  | .num _ => fun _ _ => by simp [nodeKeys]
  | .brackets e => nodeKeys_nodup ρ e
  | .flat e => fun path idx => by
    simp only [nodeKeys, List.nodup_cons]
    refine ⟨fun hx => ?_, nodeKeys_nodup ρ e _ idx⟩
    have := nodeKeys_form ρ e (path ++ "(") idx _ hx
    rw [String.toList_append] at this
    exact keyForm_ne_self '(' [] (by decide) this
  | .concat cs => fun path idx => by
    simp only [nodeKeys, List.nodup_cons]
    refine ⟨fun hx => ?_, nodeKeysL_nodup ρ cs _ idx 0⟩
    obtain ⟨k', _, h⟩ := nodeKeysL_form ρ cs (path ++ "+") idx 0 _ hx
    rw [String.toList_append, List.append_assoc] at h
    exact keyForm_ne_self '+' ('/' :: digs k')
      (List.not_mem_cons_of_ne_of_not_mem (by decide) (cons_digs_dotfree (by decide) k')) h
  | .ellipsis id e => fun path idx => by
    simp only [nodeKeys]
    apply nodup_flatMap_key (fun i => i)
    · simpa using List.nodup_range
    · intro i _; exact nodeKeys_nodup ρ e path (idx ++ [i])
    · intro i _ i' _ x hx hx'
      exact keyForm_idx_eq (nodeKeys_form ρ e path (idx ++ [i]) x hx) (nodeKeys_form ρ e path (idx ++ [i']) x hx')
  | .list cs => fun path idx => nodeKeysL_nodup ρ cs path idx 0
theorem nodeKeysL_nodup (ρ : Var → Nat) : ∀ (cs : List Expr) (path : String) (idx : List Nat) (k : Nat),
    (nodeKeysL ρ path idx k cs).Nodup
  | [] => fun _ _ _ => by simp [nodeKeysL]
  | c :: cs => fun path idx k => by
    simp only [nodeKeysL]
    rw [List.nodup_append]
    refine ⟨nodeKeys_nodup ρ c _ idx, nodeKeysL_nodup ρ cs path idx (k + 1), ?_⟩
    intro x hx y hy hxy
    subst hxy
    have h1 := nodeKeys_form ρ c (path ++ "/" ++ toString k) idx x hx
    rw [path_slash_toList] at h1
    obtain ⟨k', hk, h2⟩ := nodeKeysL_form ρ cs path idx (k + 1) x hy
    have := keyForm_num_eq (by decide) h1 h2
    omega
end

theorem inputNodeKeys_nodup (inp : Input) (ρ : Var → Nat) : (inp.nodeKeys ρ).Nodup := by
  unfold Input.nodeKeys
  apply nodup_flatMap_key (fun p => p.2)
  · exact zip_range_snd_nodup inp.tensors
  · intro p _; exact nodeKeys_nodup ρ p.1.expr _ []
  · intro p _ q _ x hx hx'
    exact keyForm_root_eq (nodeKeys_form ρ p.1.expr _ [] x hx) (nodeKeys_form ρ q.1.expr _ [] x hx')

theorem inputNodeKeys_hash (inp : Input) (ρ : Var → Nat) : ∀ k ∈ inp.nodeKeys ρ, '#' ∈ k.toList := by
  intro k hk
  unfold Input.nodeKeys at hk
  obtain ⟨p, _, hk⟩ := List.mem_flatMap.mp hk
  exact keyForm_root_hash (nodeKeys_form ρ p.1.expr _ [] k hk)

/-- `namesOK` from its only real content: no axis variable contains a `#`. -/
theorem namesOK_of_axisVars (inp : Input) (ρ : Var → Nat) (h : ∀ a ∈ inp.axes ρ, '#' ∉ a.2.2.toList) :
    namesOK inp ρ = true := by
  rw [namesOK_iff]
  refine ⟨inputNodeKeys_nodup inp ρ, ?_⟩
  intro k hk a ha he
  exact h a ha (he ▸ inputNodeKeys_hash inp ρ k hk)

/-! ### Axis variables -/

theorem axesOf_var (ρ : Var → Nat) (e : Expr) : ∀ (idx : List Nat), ∀ a ∈ axesOf ρ idx e, a.2.2 = a.1 ++ idxSuffix a.2.1 := by
  induction e using Expr.induct with
  | axis n => intro idx a ha; simp only [axesOf, List.mem_singleton] at ha; subst ha; rfl
  | num _ => intro _ a ha; simp [axesOf] at ha
  | brackets e ih => exact ih
  | flat e ih => exact ih
  | concat cs ih => exact ih
  | ellipsis id e ih =>
    intro idx a ha
    simp only [axesOf, List.mem_flatMap] at ha
    obtain ⟨i, _, ha⟩ := ha
    exact ih (idx ++ [i]) a ha
  | nil => intro _ a ha; simp [axesOf, axesOfL] at ha
  | cons c cs ihc ihcs =>
    intro idx a ha
    dsimp only [axesOf, axesOfL] at ihcs ha
    exact (List.mem_append.mp ha).elim (ihc idx a) (ihcs idx a)

theorem axesOfL_var (ρ : Var → Nat) : ∀ (cs : List Expr) (idx : List Nat), ∀ a ∈ axesOfL ρ idx cs, a.2.2 = a.1 ++ idxSuffix a.2.1 :=
  fun cs => axesOf_var ρ (.list cs)

theorem inputAxes_var {inp : Input} {ρ : Var → Nat} {a : String × List Nat × Var} (ha : a ∈ inp.axes ρ) :
    a.2.2.toList = a.1.toList ++ sufL a.2.1 := by
  obtain ⟨t, _, hat⟩ := mem_inputAxes.mp ha
  rw [axesOf_var ρ t.expr [] a hat, String.toList_append]; rfl

theorem inputAxes_name {inp : Input} {ρ : Var → Nat} {a : String × List Nat × Var} (ha : a ∈ inp.axes ρ) :
    a.1 ∈ inp.axisNames := by
  obtain ⟨st, hmem, _⟩ := inputAxes_occs ha
  exact List.mem_map.mpr ⟨(a.1, st), hmem, rfl⟩

theorem hashFree_iff (inp : Input) : hashFree inp = true ↔ ∀ n ∈ inp.axisNames, '#' ∉ n.toList := by
  simp [hashFree]

theorem plainChars_iff (s : List Char) : plainChars s = true ↔ '#' ∉ s ∧ GoodTail s := by
  unfold plainChars GoodTail
  simp only [Bool.and_eq_true, Bool.not_eq_eq_eq_not, Bool.not_true, List.contains_eq_mem, decide_eq_false_iff_not,
    Bool.or_eq_true]
  apply and_congr_right
  intro _
  constructor
  · intro h hd c hc
    rcases h with h | h
    · exact absurd hd h
    · simpa [hc] using h
  · intro h
    by_cases hd : '.' ∈ s
    · right
      cases hl : s.getLast? with
      | none => rfl
      | some c => simp [h hd c hl]
    · exact Or.inl hd

theorem plainNames_iff (inp : Input) : plainNames inp = true ↔ ∀ n ∈ inp.axisNames, '#' ∉ n.toList ∧ GoodTail n.toList := by
  simp only [plainNames, List.all_eq_true, plainName, plainChars_iff]

theorem hashFree_of_plainNames {inp : Input} (h : plainNames inp = true) : hashFree inp = true :=
  (hashFree_iff inp).mpr fun n hn => ((plainNames_iff inp).mp h n hn).1

theorem inputAxes_hashFree {inp : Input} {ρ : Var → Nat} (h : hashFree inp = true) {a : String × List Nat × Var}
    (ha : a ∈ inp.axes ρ) : '#' ∉ a.2.2.toList := by
  rw [inputAxes_var ha, List.mem_append, not_or]
  exact ⟨(hashFree_iff inp).mp h a.1 (inputAxes_name ha), hash_not_mem_sufL _⟩

/-- **`namesOK` is a theorem**: the node variables `#t/k(….i` are pairwise different (always) and differ
from every axis variable as soon as no axis name contains a `#`. -/
theorem namesOK_of_hashFree (inp : Input) (ρ : Var → Nat) (h : hashFree inp = true) : namesOK inp ρ = true :=
  namesOK_of_axisVars inp ρ fun _ ha => inputAxes_hashFree h ha

/-- The written-out long form of a hash-free input is hygienic too (its axis variables are those of
the input). -/
theorem namesOK_unroll_of_hashFree (inp : Input) (ρ ρ' : Var → Nat) (h : hashFree inp = true) :
    namesOK (unrollInput inp ρ) ρ' = true := by
  apply namesOK_of_axisVars
  intro a' ha'
  rw [unrollInput_axes] at ha'
  obtain ⟨a, ha, rfl⟩ := List.mem_map.mp ha'
  exact inputAxes_hashFree (a := a) h ha

theorem axisVar_inj {inp : Input} {ρ : Var → Nat} (h : plainNames inp = true) {a b : String × List Nat × Var}
    (ha : a ∈ inp.axes ρ) (hb : b ∈ inp.axes ρ) (he : a.2.2 = b.2.2) : a.1 = b.1 ∧ a.2.1 = b.2.1 := by
  have hA := ((plainNames_iff inp).mp h a.1 (inputAxes_name ha)).2
  have hB := ((plainNames_iff inp).mp h b.1 (inputAxes_name hb)).2
  have := congrArg String.toList he
  rw [inputAxes_var ha, inputAxes_var hb] at this
  obtain ⟨h1, h2⟩ := axisVar_decode hA hB this
  exact ⟨String.toList_inj.mp h1, h2⟩

/-- **`freshVars` is a theorem** for plain names: the variables `n.i` belong to no other name. -/
theorem freshVars_of_plainNames (inp : Input) (ρ : Var → Nat) (n : String) (h : plainNames inp = true) :
    freshVars inp ρ n = true := by
  rw [freshVars_iff]
  intro a ha b hb hn he
  rw [← hn]
  exact (axisVar_inj h hb ha he).1

/-- **`renOK` is a theorem** for a renaming that is injective on the axis names and maps plain names to
plain names. -/
theorem renOK_of_plainNames (f : String → String) (inp : Input) (ρ : Var → Nat) (h : plainNames inp = true)
    (hf : ∀ n ∈ inp.axisNames, plainName (f n) = true)
    (hinj : ∀ a ∈ inp.axisNames, ∀ b ∈ inp.axisNames, f a = f b → a = b) : renOK f inp ρ = true := by
  rw [renOK_iff]
  intro a ha b hb
  obtain ⟨ta, _, hata⟩ := mem_inputAxes.mp ha
  obtain ⟨tb, _, hatb⟩ := mem_inputAxes.mp hb
  constructor
  · intro he
    obtain ⟨h1, h2⟩ := axisVar_inj h ha hb he
    simp only [renVar, h1, h2]
  · intro he
    have hA := ((plainChars_iff _).mp (hf a.1 (inputAxes_name ha))).2
    have hB := ((plainChars_iff _).mp (hf b.1 (inputAxes_name hb))).2
    have := congrArg String.toList he
    simp only [renVar, String.toList_append] at this
    obtain ⟨h1, h2⟩ := axisVar_decode (l := a.2.1) (l' := b.2.1) hA hB this
    have hn := hinj a.1 (inputAxes_name ha) b.1 (inputAxes_name hb) (String.toList_inj.mp h1)
    rw [axesOf_var ρ ta.expr [] a hata, axesOf_var ρ tb.expr [] b hatb, hn, h2]

end Einx.Solve
