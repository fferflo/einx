import EinxModel.Proofs.NotationSimCore
import EinxModel.Proofs.NotationParseCases
/-!
# M1 Notation — `parse` ignores positions and redundant space atoms

`parse_rel`: on token trees that are equal up to positions (`TSimL`) or differ by one redundant space atom (`Ins`),
`parse` returns trees equal up to positions and fresh ids, or errors of the same kind.
-/
namespace Einx.Notation

variable {φ : Nat → Nat}

theorem TSim.isText_eq {t t' : Tok} (h : TSim φ t t') (s : Str) : t'.isText s = t.isText s := by
  cases h with
  | atom h1 _ => simp [Tok.isText, h1]
  | group _ _ => rfl

theorem TSim.isSpace_eq {t t' : Tok} (h : TSim φ t t') : t'.isSpace = t.isSpace := h.isText_eq _

theorem TSim.isOp3_eq {t t' : Tok} (h : TSim φ t t') : t'.isOp3 = t.isOp3 := by
  simp only [Tok.isOp3, h.isText_eq]

theorem TSimL.any_isText {ts ts' : List Tok} (h : TSimL φ ts ts') (s : Str) : ts'.any (Tok.isText s) = ts.any (Tok.isText s) :=
  ((tsimL_iff.mp h).any_eq fun _ _ ht => (ht.isText_eq s).symm).symm

theorem TSimL.findOp_eq {ts ts' : List Tok} (h : TSimL φ ts ts') : ∀ ops, findOp ops ts' = findOp ops ts
  | [] => rfl
  | op :: ops => by simp only [findOp, h.any_isText, TSimL.findOp_eq h ops]

theorem TSimL.dropWhile_space {ts ts' : List Tok} (h : TSimL φ ts ts') :
    TSimL φ (ts.dropWhile Tok.isSpace) (ts'.dropWhile Tok.isSpace) :=
  tsimL_iff.mpr ((tsimL_iff.mp h).dropWhile fun _ _ ht => ht.isSpace_eq.symm)

theorem TSimL.eq_nil_iff {ts ts' : List Tok} (h : TSimL φ ts ts') : ts' = [] ↔ ts = [] := by
  cases h <;> simp

theorem TSimL.dtCons {t t' : Tok} {r r' : List Tok} (h1 : TSim φ t t') (ih : TSimL φ r r') :
    TSimL φ (dtCons t r) (dtCons t' r') := by
  cases ih with
  | nil =>
    simp only [Einx.Notation.dtCons, h1.isSpace_eq]
    split
    · exact TSimL.nil
    · exact TSimL.cons h1 TSimL.nil
  | cons h3 h4 => exact TSimL.cons h1 (TSimL.cons h3 h4)

theorem TSimL.dropTrail {ts ts' : List Tok} (h : TSimL φ ts ts') : TSimL φ (dropTrailSpaces ts) (dropTrailSpaces ts') := by
  replace h := tsimL_iff.mp h
  induction h with
  | nil => exact TSimL.nil
  | cons h1 _ ih =>
    rw [dropTrail_cons_eq, dropTrail_cons_eq]
    exact TSimL.dtCons h1 ih

theorem TSimL.strip {ts ts' : List Tok} (h : TSimL φ ts ts') : TSimL φ (strip ts) (strip ts') :=
  TSimL.dropTrail (TSimL.dropWhile_space h)

/-! ### `strip` on `Ins`-related lists -/

theorem InsT.ne_nil {X X' : List Tok} (h : InsT φ X X') : X ≠ [] ∧ X' ≠ [] := by
  cases h <;> simp

theorem InsT.dropWhile_space {ts ts' : List Tok} (h : InsT φ ts ts') :
    TSimL φ (ts.dropWhile Tok.isSpace) (ts'.dropWhile Tok.isSpace) ∨
      InsT φ (ts.dropWhile Tok.isSpace) (ts'.dropWhile Tok.isSpace) := by
  induction h using InsT.induct with
  | afterOp ha hop hsp hR =>
    have h1 := isOp3_not_isSpace hop
    have h2 := ha.isSpace_eq
    rw [h1] at h2
    simp only [List.dropWhile, h1, h2]
    exact Or.inr (InsT.afterOp ha hop hsp hR)
  | beforeOp hsp ha hop hR =>
    have h1 := isOp3_not_isSpace hop
    have h2 := ha.isSpace_eq
    rw [h1] at h2
    simp only [List.dropWhile, h1, h2, hsp]
    exact Or.inl (TSimL.cons ha hR)
  | inside ho hin hR =>
    simp only [List.dropWhile, group_isSpace]
    exact Or.inr (InsT.inside ho hin hR)
  | cons ht hR ih =>
    simp only [List.dropWhile, ht.isSpace_eq]
    split
    · exact ih
    · exact Or.inr (InsT.cons ht hR)

theorem InsT.dropTrail {ts ts' : List Tok} (h : InsT φ ts ts') :
    TSimL φ (dropTrailSpaces ts) (dropTrailSpaces ts') ∨ InsT φ (dropTrailSpaces ts) (dropTrailSpaces ts') := by
  induction h using InsT.induct with
  | @afterOp _ _ _ _ R' ha hop hsp hR =>
    have h1 := isOp3_not_isSpace hop
    have h2 := ha.isSpace_eq
    rw [h1] at h2
    have hd := TSimL.dropTrail hR
    rw [dropTrail_cons_nonspace h1, dropTrail_cons_nonspace h2]
    cases hr : dropTrailSpaces R' with
    | nil =>
      rw [hr] at hd
      rw [dropTrail_cons_nil hr, hsp, (hd.eq_nil_iff).mp rfl]
      exact Or.inl (TSimL.cons ha TSimL.nil)
    | cons r rs =>
      rw [dropTrail_cons_ne (by rw [hr]; simp)]
      exact Or.inr (InsT.afterOp ha hop hsp hd)
  | beforeOp hsp ha hop hR =>
    have h1 := isOp3_not_isSpace hop
    have h2 := ha.isSpace_eq
    rw [h1] at h2
    rw [dropTrail_cons_nonspace h1, dropTrail_cons_ne (by rw [dropTrail_cons_nonspace h2]; simp),
      dropTrail_cons_nonspace h2]
    exact Or.inr (InsT.beforeOp hsp ha hop (TSimL.dropTrail hR))
  | inside ho hin hR =>
    rw [dropTrail_cons_nonspace (group_isSpace _ _ _), dropTrail_cons_nonspace (group_isSpace _ _ _)]
    exact Or.inr (InsT.inside ho hin (TSimL.dropTrail hR))
  | cons ht hR ih =>
    rcases ih with ih | ih
    · rw [dropTrail_cons_eq, dropTrail_cons_eq]
      exact Or.inl (TSimL.dtCons ht ih)
    · rw [dropTrail_cons_ne ih.ne_nil.1, dropTrail_cons_ne ih.ne_nil.2]
      exact Or.inr (InsT.cons ht ih)

theorem Ins.strip {ts ts' : List Tok} (h : Ins φ ts ts') :
    TSimL φ (strip ts) (strip ts') ∨ InsT φ (strip ts) (strip ts') := by
  cases h with
  | lead hsp hR => rw [strip_cons_space hsp]; exact Or.inl hR.strip
  | trail hsp hL he => subst he; rw [strip_append_space hsp]; exact Or.inl hL.strip
  | tight ht =>
    rcases ht.dropWhile_space with h1 | h1
    · exact Or.inl h1.dropTrail
    · exact h1.dropTrail

theorem TSimL.single_group {o c : Token} {inner X' : List Tok} (h : TSimL φ [.group o c inner] X') :
    ∃ o' c' inner', X' = [.group o' c' inner'] ∧ o'.text = o.text ∧ TSimL φ inner inner' := by
  cases h with
  | cons h1 h2 =>
    cases h2
    cases h1 with
    | group ho hi => exact ⟨_, _, _, rfl, ho, hi⟩

theorem InsT.single_group {o c : Token} {inner X' : List Tok} (h : InsT φ [.group o c inner] X') :
    ∃ o' c' inner', X' = [.group o' c' inner'] ∧ o'.text = o.text ∧ Ins φ inner inner' := by
  cases h with
  | afterOp ha hop _ _ => cases ha; simp [Tok.isOp3, Tok.isText] at hop
  | beforeOp _ ha hop _ => cases ha; simp [Tok.isOp3, Tok.isText] at hop
  | inside ho hin hR => cases hR; exact ⟨_, _, _, rfl, ho, hin⟩
  | cons _ hR => cases hR

/-! ### The operator found at a level -/

theorem InsT.any_isText {s : Str} (hs : s ≠ spaceLit) {ts ts' : List Tok} (h : InsT φ ts ts') :
    ts'.any (Tok.isText s) = ts.any (Tok.isText s) := by
  induction h using InsT.induct with
  | afterOp ha _ hsp hR | beforeOp hsp ha _ hR =>
    simp only [List.any_cons, ha.isText_eq, isSpace_isText_ne hsp hs, hR.any_isText, Bool.false_or]
  | inside _ _ hR => simp only [List.any_cons, Tok.isText, hR.any_isText]
  | cons ht hR ih => simp only [List.any_cons, ht.isText_eq, ih]

theorem InsT.any_space {ts ts' : List Tok} (h : InsT φ ts ts') :
    ts'.any (Tok.isText spaceLit) = ts.any (Tok.isText spaceLit) ∨ ts.any Tok.isOp3 = true := by
  induction h using InsT.induct with
  | afterOp _ hop _ _ | beforeOp _ _ hop _ => exact Or.inr (by simp [hop])
  | inside _ _ hR => exact Or.inl (by simp only [List.any_cons, Tok.isText, hR.any_isText])
  | cons ht hR ih =>
    rcases ih with ih | ih
    · exact Or.inl (by simp only [List.any_cons, ht.isText_eq, ih])
    · exact Or.inr (by simp [ih])

theorem InsT.findOp_eq {ts ts' : List Tok} (h : InsT φ ts ts') : findOp naryOps ts' = findOp naryOps ts := by
  rw [naryOps_eq]
  simp only [findOp, h.any_isText (s := lit "->") (by decide), h.any_isText (s := lit ",") (by decide),
    h.any_isText (s := lit "+") (by decide)]
  rcases h.any_space with h4 | h4
  · rw [h4]
  · -- one of `->`, `,`, `+` occurs: the search stops before it looks for a space
    rw [any_isOp3, Bool.or_eq_true, Bool.or_eq_true] at h4
    rcases h4 with (h4 | h4) | h4 <;> simp only [h4, if_true]

/-! ### Operands of related lists -/

/-- Operand token lists: similar, or one additional redundant space. -/
def OpRel (φ : Nat → Nat) (o o' : List Tok) : Prop := TSimL φ o o' ∨ Ins φ o o'

/-- The same for the operand under construction (more tokens may still be prepended): no leading additional space. -/
def HeadRel (φ : Nat → Nat) (h h' : List Tok) : Prop :=
  TSimL φ h h' ∨ InsT φ h h' ∨ ∃ sp L', sp.isSpace = true ∧ TSimL φ h L' ∧ h' = L' ++ [sp]

theorem HeadRel.toOpRel {h h' : List Tok} (hr : HeadRel φ h h') : OpRel φ h h' := by
  rcases hr with hr | hr | ⟨sp, L', hsp, hL, he⟩
  · exact Or.inl hr
  · exact Or.inr (Ins.tight hr)
  · exact Or.inr (Ins.trail hsp hL he)

theorem HeadRel.cons {t t' : Tok} {h h' : List Tok} (ht : TSim φ t t') (hr : HeadRel φ h h') :
    HeadRel φ (t :: h) (t' :: h') := by
  rcases hr with hr | hr | ⟨sp, L', hsp, hL, he⟩
  · exact Or.inl (TSimL.cons ht hr)
  · exact Or.inr (Or.inl (InsT.cons ht hr))
  · exact Or.inr (Or.inr ⟨sp, t' :: L', hsp, TSimL.cons ht hL, by rw [he]; rfl⟩)

theorem segs_TSimL (op : Str) {X X' : List Tok} (h : TSimL φ X X') :
    TSimL φ (segH op X) (segH op X') ∧ Forall2 (TSimL φ) (segT op X) (segT op X') := by
  replace h := tsimL_iff.mp h
  induction h with
  | nil => exact ⟨TSimL.nil, Forall2.nil⟩
  | cons h1 _ ih =>
    rw [segH_cons, segH_cons, segT_cons, segT_cons, h1.isText_eq]
    split
    · exact ⟨TSimL.nil, Forall2.cons ih.1 ih.2⟩
    · exact ⟨TSimL.cons h1 ih.1, ih.2⟩

theorem segs_TSimL_opRel (op : Str) {X X' : List Tok} (h : TSimL φ X X') :
    TSimL φ (segH op X) (segH op X') ∧ Forall2 (OpRel φ) (segT op X) (segT op X') :=
  ⟨(segs_TSimL op h).1, Forall2.imp (fun _ _ h => Or.inl h) (segs_TSimL op h).2⟩

theorem segs_InsT {op : Str} (hop : op ≠ spaceLit) {X X' : List Tok} (h : InsT φ X X') :
    HeadRel φ (segH op X) (segH op X') ∧ Forall2 (OpRel φ) (segT op X) (segT op X') := by
  induction h using InsT.induct with
  | afterOp ha hop3 hsp hR =>
    have ih := segs_TSimL_opRel op hR
    rw [segH_cons, segH_cons, segT_cons, segT_cons, ha.isText_eq, segH_cons, segT_cons, isSpace_isText_ne hsp hop]
    simp only [Bool.false_eq_true, if_false]
    split
    · exact ⟨Or.inl TSimL.nil, Forall2.cons (Or.inr (Ins.lead hsp ih.1)) ih.2⟩
    · exact ⟨Or.inr (Or.inl (InsT.afterOp ha hop3 hsp ih.1)), ih.2⟩
  | beforeOp hsp ha hop3 hR =>
    have ih := segs_TSimL_opRel op hR
    rw [segH_cons, segH_cons (t := _), segT_cons, segT_cons (t := _), isSpace_isText_ne hsp hop, segH_cons, segT_cons,
      ha.isText_eq]
    simp only [Bool.false_eq_true, if_false]
    split
    · exact ⟨Or.inr (Or.inr ⟨_, [], hsp, TSimL.nil, rfl⟩), Forall2.cons (Or.inl ih.1) ih.2⟩
    · exact ⟨Or.inr (Or.inl (InsT.beforeOp hsp ha hop3 ih.1)), ih.2⟩
  | inside ho hin hR =>
    have ih := segs_TSimL_opRel op hR
    rw [segH_cons, segH_cons, segT_cons, segT_cons]
    simp only [Tok.isText, Bool.false_eq_true, if_false]
    exact ⟨Or.inr (Or.inl (InsT.inside ho hin ih.1)), ih.2⟩
  | cons ht hR ih =>
    rw [segH_cons, segH_cons, segT_cons, segT_cons, ht.isText_eq]
    split
    · exact ⟨Or.inl TSimL.nil, Forall2.cons ih.1.toOpRel ih.2⟩
    · exact ⟨ih.1.cons ht, ih.2⟩

/-- Operand token lists when no additional space stands next to an operator: similar or a tight insertion. -/
def OpRelT (φ : Nat → Nat) (o o' : List Tok) : Prop := TSimL φ o o' ∨ InsT φ o o'

theorem segs_InsT_noOp (op : Str) {X X' : List Tok} (h : InsT φ X X') (hno : X.any Tok.isOp3 = false) :
    OpRelT φ (segH op X) (segH op X') ∧ Forall2 (OpRelT φ) (segT op X) (segT op X') := by
  induction h using InsT.induct with
  | afterOp _ hop3 _ _ | beforeOp _ _ hop3 _ =>
    rw [List.any_cons, hop3] at hno; cases hno
  | inside ho hin hR =>
    have ih := segs_TSimL (φ := φ) op hR
    rw [segH_cons, segH_cons, segT_cons, segT_cons]
    simp only [Tok.isText, Bool.false_eq_true, if_false]
    exact ⟨Or.inr (InsT.inside ho hin ih.1), Forall2.imp (fun _ _ h => Or.inl h) ih.2⟩
  | cons ht hR ih =>
    rw [List.any_cons, Bool.or_eq_false_iff] at hno
    have ih := ih hno.2
    rw [segH_cons, segH_cons, segT_cons, segT_cons, ht.isText_eq]
    split
    · exact ⟨Or.inl TSimL.nil, Forall2.cons ih.1 ih.2⟩
    · refine ⟨?_, ih.2⟩
      rcases ih.1 with h1 | h1
      · exact Or.inl (TSimL.cons ht h1)
      · exact Or.inr (InsT.cons ht h1)

theorem operands_rel {P : List Tok → List Tok → Prop} (op : Str) {X X' : List Tok}
    (h : Forall2 P (segH op X :: segT op X) (segH op X' :: segT op X')) :
    Forall2 (fun o o' => P o.ts o'.ts) (operands op X) (operands op X') := by
  rw [← operands_ts, ← operands_ts] at h
  exact Forall2.of_map _ _ h

theorem OpRelT.isEmpty_eq {o o' : List Tok} (h : OpRelT φ o o') : o'.isEmpty = o.isEmpty := by
  rcases h with h | h
  · cases h <;> rfl
  · have := h.ne_nil
    cases o <;> cases o' <;> simp_all

theorem keepOperands_space_rel {l l' : List TL} (h : Forall2 (fun o o' => OpRelT φ o.ts o'.ts) l l') :
    Forall2 (fun o o' => OpRelT φ o.ts o'.ts) (keepOperands spaceLit l) (keepOperands spaceLit l') := by
  rw [keepOperands_space, keepOperands_space]
  exact h.filter fun _ _ ho => congrArg (!·) ho.isEmpty_eq.symm

theorem OpRelT.toOpRel {o o' : List Tok} (h : OpRelT φ o o') : OpRel φ o o' := by
  rcases h with h | h
  · exact Or.inl h
  · exact Or.inr (Ins.tight h)

theorem OpRel.strip {ts ts' : List Tok} (h : OpRel φ ts ts') : OpRelT φ (strip ts) (strip ts') := by
  rcases h with h | h
  · exact Or.inl h.strip
  · exact h.strip

theorem OpRelT.nil_left {X' : List Tok} (h : OpRelT φ [] X') : X' = [] := by
  rcases h with h | h
  · cases h; rfl
  · cases h

theorem OpRelT.single_group {o c : Token} {inner X' : List Tok} (h : OpRelT φ [.group o c inner] X') :
    ∃ o' c' inner', X' = [.group o' c' inner'] ∧ o'.text = o.text ∧ OpRel φ inner inner' := by
  rcases h with h | h
  · obtain ⟨o', c', inner', h1, h2, h3⟩ := h.single_group
    exact ⟨o', c', inner', h1, h2, Or.inl h3⟩
  · obtain ⟨o', c', inner', h1, h2, h3⟩ := h.single_group
    exact ⟨o', c', inner', h1, h2, Or.inr h3⟩

theorem OpRelT.cons_left {t0 : Tok} {rest X' : List Tok} (h : OpRelT φ (t0 :: rest) X') :
    ∃ t0' rest', X' = t0' :: rest' := by
  rcases h with h | h
  · cases h; exact ⟨_, _, rfl⟩
  · have := h.ne_nil.2
    cases X' with
    | nil => exact (this rfl).elim
    | cons a b => exact ⟨_, _, rfl⟩

theorem OpRelT.findOp_eq {X X' : List Tok} (h : OpRelT φ X X') : findOp naryOps X' = findOp naryOps X := by
  rcases h with h | h
  · exact h.findOp_eq _
  · exact h.findOp_eq

theorem OpRelT.keepOperands_rel {X X' : List Tok} {op : Str} (h : OpRelT φ X X') (hop : findOp naryOps X = some op) :
    Forall2 (fun o o' => OpRel φ o.ts o'.ts) (keepOperands op (operands op X)) (keepOperands op (operands op X')) := by
  by_cases hsp : op = spaceLit
  · subst hsp
    have hT : Forall2 (fun o o' => OpRelT φ o.ts o'.ts) (operands spaceLit X) (operands spaceLit X') := by
      apply operands_rel
      rcases h with h | h
      · have := segs_TSimL (φ := φ) spaceLit h
        exact Forall2.cons (Or.inl this.1) (Forall2.imp (fun _ _ h => Or.inl h) this.2)
      · have := segs_InsT_noOp spaceLit h (findOp_space hop)
        exact Forall2.cons this.1 this.2
    exact Forall2.imp (fun _ _ h => h.toOpRel) (keepOperands_space_rel hT)
  · rw [keepOperands_ne hsp, keepOperands_ne hsp]
    apply operands_rel
    rcases h with h | h
    · have := segs_TSimL_opRel op h
      exact Forall2.cons (Or.inl this.1) this.2
    · have := segs_InsT hsp h
      exact Forall2.cons this.1.toOpRel this.2

/-! ### Related lists without `->`, `,`, `+`: atoms and groups at the same places -/

def Tok.isAtom : Tok → Bool
  | .atom _ => true
  | .group .. => false

theorem TSim.isAtom_eq {t t' : Tok} (h : TSim φ t t') : t'.isAtom = t.isAtom := by cases h <;> rfl

theorem TSimL.map_isAtom {X X' : List Tok} (h : TSimL φ X X') : X'.map Tok.isAtom = X.map Tok.isAtom :=
  ((tsimL_iff.mp h).map_eq fun _ _ ht => ht.isAtom_eq.symm).symm

theorem InsT.map_isAtom {X X' : List Tok} (h : InsT φ X X') (hno : X.any Tok.isOp3 = false) :
    X'.map Tok.isAtom = X.map Tok.isAtom := by
  induction h using InsT.induct with
  | afterOp _ hop3 _ _ | beforeOp _ _ hop3 _ =>
    rw [List.any_cons, hop3] at hno; cases hno
  | inside _ _ hR => simp only [List.map_cons, Tok.isAtom, hR.map_isAtom]
  | cons ht hR ih =>
    rw [List.any_cons, Bool.or_eq_false_iff] at hno
    simp only [List.map_cons, ht.isAtom_eq, ih hno.2]

theorem OpRelT.map_isAtom {X X' : List Tok} (h : OpRelT φ X X') (hno : X.any Tok.isOp3 = false) :
    X'.map Tok.isAtom = X.map Tok.isAtom := by
  rcases h with h | h
  · exact h.map_isAtom
  · exact h.map_isAtom hno

theorem OpRelT.pair {x : Tok} {t : Token} {X' : List Tok} (h : OpRelT φ [x, .atom t] X')
    (hno : [x, Tok.atom t].any Tok.isOp3 = false) :
    ∃ x' t', X' = [x', .atom t'] ∧ OpRel φ [x] [x'] ∧ t'.text = t.text ∧ t'.b = φ t.b := by
  simp only [List.any_cons, List.any_nil, Bool.or_false, Bool.or_eq_false_iff] at hno
  rcases h with h | h
  · cases h with
    | cons hx h2 =>
      cases h2 with
      | cons ht h3 =>
        cases h3
        cases ht with
        | atom h1 h2 => exact ⟨_, _, rfl, Or.inl (TSimL.cons hx TSimL.nil), h1, h2⟩
  · cases h with
    | afterOp _ hop3 _ _ => rw [hop3] at hno; cases hno.1
    | beforeOp _ _ hop3 _ => rw [hop3] at hno; cases hno.1
    | inside ho hin hR =>
      cases hR with
      | cons ht h3 =>
        cases h3
        cases ht with
        | atom h1 h2 => exact ⟨_, _, rfl, Or.inr (Ins.tight (InsT.inside ho hin TSimL.nil)), h1, h2⟩
    | cons hx hR =>
      cases hR with
      | afterOp _ hop3 _ _ => rw [hop3] at hno; cases hno.2
      | beforeOp _ _ hop3 _ => rw [hop3] at hno; cases hno.2
      | cons _ h3 => cases h3

theorem OpRelT.single_atom {t : Token} {X' : List Tok} (h : OpRelT φ [.atom t] X')
    (hno : [Tok.atom t].any Tok.isOp3 = false) :
    ∃ t', X' = [.atom t'] ∧ t'.text = t.text ∧ t'.b = φ t.b := by
  simp only [List.any_cons, List.any_nil, Bool.or_false] at hno
  rcases h with h | h
  · cases h with
    | cons ht h3 =>
      cases h3
      cases ht with
      | atom h1 h2 => exact ⟨_, rfl, h1, h2⟩
  · cases h with
    | afterOp _ hop3 _ _ => rw [hop3] at hno; cases hno
    | beforeOp _ _ hop3 _ => rw [hop3] at hno; cases hno
    | cons _ h3 => cases h3

theorem OpRelT.invalid {t0 t0' : Tok} {rest rest' : List Tok} (h : OpRelT φ (t0 :: rest) (t0' :: rest'))
    (hno : (t0 :: rest).any Tok.isOp3 = false) (h1 : rest ≠ []) (h2 : ∀ t, rest ≠ [.atom t]) :
    rest' ≠ [] ∧ (∀ t, rest' ≠ [.atom t]) ∧ (t0' :: rest').length = (t0 :: rest).length := by
  have hm := h.map_isAtom hno
  have hlen : (t0' :: rest').length = (t0 :: rest).length := by
    have := congrArg List.length hm
    simpa only [List.length_map] using this
  simp only [List.map_cons, List.cons.injEq] at hm
  refine ⟨?_, ?_, hlen⟩
  · intro hr
    rw [hr] at hlen
    cases rest with
    | nil => exact h1 rfl
    | cons a as => simp at hlen
  · intro t' hr
    rw [hr] at hm hlen
    match rest, h1, h2, hm, hlen with
    | [.atom t], _, h2, _, _ => exact h2 t rfl
    | [.group ..], _, _, hm, _ => simp [Tok.isAtom] at hm
    | _ :: _ :: _, _, _, _, hlen => simp at hlen

/-! ### `combine`, `parseAxis` -/

theorem ESimL.filter_invalid_isEmpty {xs xs' : List Expr} (h : ESimL φ xs xs') :
    (xs'.filter (fun o => !isAxisOrFlat o)).isEmpty = (xs.filter (fun o => !isAxisOrFlat o)).isEmpty :=
  ((esimL_iff.mp h).filter fun _ _ hx => congrArg (!·) hx.isAxisOrFlat_eq).isEmpty_eq.symm

theorem combine_sim {op : Str} {xs xs' : List Expr} {b e b' e' : Nat} {ipc : Bool} {ts ts' : List Tok}
    (h : ESimL φ xs xs') : ExceptR ErrSim (ESim φ) (combine op xs b e ipc ts) (combine op xs' b' e' ipc ts') := by
  cases op using opCases with
  | space => rw [combine_space, combine_space]; exact mkList_sim h
  | arrow => rw [combine_arrow, combine_arrow]; exact ESim.op h
  | comma => rw [combine_comma, combine_comma]; exact ESim.args h
  | plus =>
    rw [combine_plus, combine_plus, h.filter_invalid_isEmpty]
    split
    · exact Eq.refl SynKind.concatOperand
    · split
      · exact Eq.refl SynKind.concatNotWrapped
      · exact mkConcat_sim h
  | other hop => rw [combine_other hop, combine_other hop]; exact Eq.refl _

theorem parseAxis_sim {t t' : Token} (h1 : t'.text = t.text) (h2 : t'.b = φ t.b) :
    ExceptR ErrSim (ESim φ) (parseAxis t) (parseAxis t') := by
  unfold parseAxis
  rw [h1, h2]
  split
  · split
    · exact ESim.axis (NameRel.unnamed φ _) (fun h => by cases h)
    · rfl
  · split
    · rename_i hn
      exact ESim.axis (NameRel.of_axisName φ hn) (fun _ => rfl)
    · rfl

theorem parse_sim (ts : List Tok) (b e : Nat) (ipc : Bool) :
    ∀ (ts' : List Tok) (b' e' : Nat), OpRel φ ts ts' → ExceptR ErrSim (ESim φ) (parse ts b e ipc) (parse ts' b' e' ipc) := by
  generalize hn : sizeL ts = n
  induction n using Nat.strongRecOn generalizing ts b e ipc with
  | _ n ih =>
    subst hn
    intro ts' b' e' hrel
    have hS := hrel.strip
    have hle := strip_le ts
    rcases strip_cases (strip ts) with hs | ⟨o, c, inner, hs⟩ | ⟨t0, rest, op, hs, hop⟩ |
      ⟨hop, ⟨t, hs⟩ | ⟨x, t, hs⟩ | ⟨t0, rest, hs, h1, h2⟩⟩
    · rw [hs] at hS
      rw [parse_nil b e ipc hs, parse_nil b' e' ipc hS.nil_left]
      exact mkList_sim ESimL.nil
    · rw [hs] at hS hle
      obtain ⟨o', c', inner', hs', ho, hin⟩ := hS.single_group
      rw [parse_group b e ipc hs, parse_group b' e' ipc hs', ho]
      have hlt : sizeL inner < sizeL ts := by simp only [sizeL, Tok.size] at hle; omega
      refine (ih _ hlt inner _ _ _ rfl _ _ _ hin).elim (fun _ _ h => h) fun x y hxy => ?_
      dsimp only
      rw [← hxy.isConcat_eq]
      split
      · split
        · exact hxy
        · exact mkFlat_sim hxy
      · split
        · exact mkBrackets_sim hxy
        · exact Eq.refl IntKind.assertDelimiter
    · rw [hs] at hS hle hop
      obtain ⟨t0', rest', hs'⟩ := hS.cons_left
      rw [hs'] at hS
      have hop' : findOp naryOps (t0' :: rest') = some op := by rw [hS.findOp_eq]; exact hop
      rw [parse_nary b e ipc hs hop, parse_nary b' e' ipc hs' hop']
      refine (ExceptR.mapM ((hS.keepOperands_rel hop).imp_mem fun o ho o' hoo => ih _ ?_ o.ts _ _ _ rfl _ _ _ hoo)).elim
        (fun _ _ h => h) fun _ _ hxy => combine_sim (esimL_iff.mpr hxy)
      exact Nat.lt_of_lt_of_le (operands_lt op _ (findOp_any hop) o (mem_keepOperands ho)) hle
    · rw [hs] at hS hop
      obtain ⟨t', hs', h1, h2⟩ := hS.single_atom (findOp_none hop).1
      rw [hs'] at hS
      have hop' : findOp naryOps [Tok.atom t'] = none := by rw [hS.findOp_eq]; exact hop
      rw [parse_atom b e ipc hs hop, parse_atom b' e' ipc hs' hop', h1, h2]
      split
      · exact mkEllipsis_sim (ESim.axis (NameRel.anon φ) (fun _ => rfl))
      · exact parseAxis_sim h1 h2
    · rw [hs] at hS hle hop
      obtain ⟨x', t', hs', hx, h1, h2⟩ := hS.pair (findOp_none hop).1
      rw [hs'] at hS
      have hop' : findOp naryOps [x', Tok.atom t'] = none := by rw [hS.findOp_eq]; exact hop
      rw [parse_ell b e ipc hs hop, parse_ell b' e' ipc hs' hop', h1, h2]
      have hlt : sizeL [x] < sizeL ts := by simp only [sizeL, Tok.size] at hle ⊢; omega
      split
      · exact (ih _ hlt [x] _ _ _ rfl _ _ _ hx).elim (fun _ _ h => h) fun _ _ hxy => mkEllipsis_sim hxy
      · exact Eq.refl (SynKind.invalidExpr true)
    · rw [hs] at hS hop
      obtain ⟨t0', rest', hs'⟩ := hS.cons_left
      rw [hs'] at hS
      have hop' : findOp naryOps (t0' :: rest') = none := by rw [hS.findOp_eq]; exact hop
      obtain ⟨h1', h2', hlen⟩ := hS.invalid (findOp_none hop).1 h1 h2
      rw [parse_invalid b e ipc hs hop h1 h2, parse_invalid b' e' ipc hs' hop' h1' h2', hlen]
      exact Eq.refl _

theorem parse_rel (ts : List Tok) (b e : Nat) (ipc : Bool) :
    ∀ (ts' : List Tok) (b' e' : Nat), OpRel φ ts ts' → RSim φ (parse ts b e ipc) (parse ts' b' e' ipc) :=
  fun ts' b' e' h => rsim_iff.mpr (parse_sim ts b e ipc ts' b' e' h)

end Einx.Notation
