import EinxModel.Proofs.CompileClosed
import EinxModel.Proofs.ExecSem
import EinxModel.Proofs.ExecVisit
/-! What `Props/C13Exec.lean` and `Props/C15Exec.lean` instantiate: the tagged trace of the program `compile` emits is the tagged
trace of the reference evaluation (`compile_tagged`); hence, for a call site (`CallSite`: a visited call of an opaque callable, the only
visited call of its kind), exactly one statement and exactly one tagged event of that kind (`callSite_tagged`), and, for tracked atoms, exactly one
call event whose function term is one (`callSite_tracked`). -/
namespace Einx.Exec
open Einx.Compile

/-- The context `compile` builds. -/
def ctxOf (cfg : UCfg) (g : Graph) (scopes : Scopes) : Ctx :=
  { g := g, cfg := cfg, counts := (usageRec g cfg g.fuel g.top {}).counts, scopes := scopes }

/-- What `compile` adds to `emitAll`: under `bindResult`, the binding of the compiled object to a fresh variable, untagged and pure. -/
theorem compile_parts (cfg : UCfg) (fc : FCfg) (g : Graph) (comp : Compiled) (h : compile cfg fc g = .ok comp) :
    ∃ scopes st, visitOrder g = .ok comp.order ∧ emitAll (ctxOf cfg g scopes) comp.order {} = .ok st ∧
      comp.st.srcs = st.srcs ∧ ∀ x, taggedTrace x (sstmts comp.st) = taggedTrace x (sstmts st) := by
  obtain ⟨scopes, order, st, obj, -, ho, he, -, rfl, -, -, hst⟩ := compile_ok h
  refine ⟨scopes, st, ho, he, ?_⟩
  rcases hst with hst | hst
  · rw [hst]
    exact ⟨rfl, fun _ => rfl⟩
  · have hs : sstmts comp.st = sstmts st ++ [⟨.assign st.vars.length obj false, none⟩] := by
      rw [hst]; simp [sstmts, GState.push]
    refine ⟨by simp [GState.srcs, hst, push_body, tagWith], fun x => ?_⟩
    rw [hs, taggedTrace_append]
    simp [taggedTrace, execStmt]

theorem byCallerOf_eq (fg : Factory.Graph) (t : Nat) : byCallerOf fg t = bySrc (Factory.callsInput fg t) := rfl

theorem byCallOf_eq (ag : Adapt.Graph) (c : Nat) : byCallOf ag c = bySrc (callsTracer ag c) := rfl

theorem compile_tagged (cfg : UCfg) (fc : FCfg) (g : Graph) (comp : Compiled) (hwf : g.WF = true)
    (h : compile cfg fc g = .ok comp) :
    ∃ r, evalGraph g cfg.unaryParens comp.order = .ok r ∧
      taggedTrace { env := unbound } (sstmts comp.st) = refTagged g cfg.unaryParens {} comp.order := by
  obtain ⟨scopes, st, ho, he, -, htail⟩ := compile_parts cfg fc g comp h
  obtain ⟨r, -, -, hr, -, ht⟩ := emitAll_correct _ _ st he (visitOrder_matched g _ ho)
    (emit_closed_of_noSelfRef _ _ st he (visitOrder_noSelfRef_of_wf g hwf _ ho).1).1
  exact ⟨r, hr, (htail _).trans ht⟩

/-- **One call, by provenance**, for the traversal and the program of a successful `compile` (any Boolean view `pred` of "calls a
`P` tracer"): the program has exactly one statement for the call site `i`, its tagged trace is the trace of the reference
evaluation, and exactly one tagged event comes from a `pred` application, the call event of `i`, with the node's arity and
keyword names. -/
theorem callSite_tagged (cfg : UCfg) (fc : FCfg) (g : Graph) (comp : Compiled) (hwf : g.WF = true)
    (hc : compile cfg fc g = .ok comp) {P : Nat → Prop} {i y : Nat} {args : List E} {kwargs : List (String × E)}
    (C : CallSite g comp.order P i y args kwargs) (pred : Nat → Bool) (hpred : ∀ j, pred j = true ↔ PCall g P j) :
    ∃ f as ks r, comp.st.srcs.count i = 1 ∧ evalGraph g cfg.unaryParens comp.order = .ok r ∧
      (taggedTrace { env := unbound } (sstmts comp.st)).map (·.2) = r.trace ∧
      (taggedTrace { env := unbound } (sstmts comp.st)).filter (bySrc pred) = [(some i, .call (E.mk .call (f :: as ++ ks)))] ∧
      as.length = args.length ∧ ks.map kwName = kwargs.map (fun kv => some kv.1) := by
  obtain ⟨scopes, st, ho, he, hsrcs, -⟩ := compile_parts cfg fc g comp hc
  obtain ⟨r, hr, htag⟩ := compile_tagged cfg fc g comp hwf hc
  obtain ⟨deps, out, ha⟩ := C.node
  obtain ⟨f, as, ks, hf, hlen, hnames⟩ :=
    tagged_call_once C (visitOrder_nodup_of_wf g hwf comp.order ho) cfg.unaryParens r hr pred hpred
  refine ⟨f, as, ks, r, ?_, hr, by rw [htag, evalGraph_trace hr], htag ▸ hf, hlen, hnames⟩
  rw [hsrcs, emitAll_once_of_wf (ctxOf cfg g scopes) hwf comp.order ho st he i _ ha
    (by show (!isAllowInline g (.var y)) = true; rw [C.noInline]; rfl), if_pos C.visited]

/-- **One call, by value** (any tracked atoms `q` that exactly the `P` tracers hold): exactly one call event of the compiled
program has a tracked atom as function term, and it has the node's arity and keyword names. -/
theorem callSite_tracked (cfg : UCfg) (fc : FCfg) (g : Graph) (fg : Factory.Graph) (comp : Compiled)
    (S : Setup g fg) (hc : compile cfg fc g = .ok comp)
    {P : Nat → Prop} {i y : Nat} {args : List E} {kwargs : List (String × E)} (C : CallSite g comp.order P i y args kwargs)
    (q : E → Bool) (hq : QOK q) (T : Track g q P (fun k' => g.top = .gref k')) :
    ∃ f as ks, (execBlock { env := unbound } comp.st.program).trace.filter (trackedCall q) =
        [.call (E.mk .call (f :: as ++ ks))] ∧ q f = true ∧
      as.length = args.length ∧ ks.map kwName = kwargs.map (fun kv => some kv.1) := by
  obtain ⟨-, -, ho, -⟩ := compile_parts cfg fc g comp hc
  obtain ⟨r, hr, htag⟩ := compile_tagged cfg fc g comp S.wf hc
  rw [show comp.st.program = (sstmts comp.st).map (·.stmt) by simp [GState.program, sstmts], taggedTrace_events, htag,
    ← evalGraph_trace hr]
  exact tracked_call_once hq T C (visitOrder_nodup_of_wf g S.wf comp.order ho)
    (visitOrder_enters g fg S comp.order ho) cfg.unaryParens r hr

end Einx.Exec
