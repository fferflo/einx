import EinxModel.Denote.Expr
/-
Induction over dimensions (`Denote.Dim`) and expressions (`Denote.Expr`) together with their lists of children.

The fuel of `Denote.viewsFuel` is sufficient: choosing a block of the leftmost top-level concatenation
strictly decreases the number of concatenation nodes, so `views` (fuel = `nconcatL + 1`) never reaches
the fuel-exhausted case `viewsFuel 0 ds = [ds]` with a concatenation left in `ds`.
-/
namespace Einx.Denote
open Einx

theorem optE_some {α : Type} (msg : String) (a : α) : optE msg (some a) = pure a := rfl
theorem optE_none {α : Type} (msg : String) : optE msg (none : Option α) = Except.error msg := rfl
theorem ok_bind {α β : Type} (a : α) (f : α → E β) : (Except.ok a : E α) >>= f = f a := rfl
theorem error_bind {α β : Type} (e : String) (f : α → E β) : (Except.error e : E α) >>= f = Except.error e := rfl

/-- Induction over dimensions with the list of children `ds` taken as the node `.flat ds`: a list function is the function
at a `flat` node by unfolding (`Dim.leavesL ds` is `(Dim.flat ds).leaves`), so in the case `cons` one `simp only` with the
definitions serves the induction hypothesis and the goal alike. -/
theorem Dim.induct {P : Dim → Prop} (axis : ∀ l, P (.axis l)) (concat : ∀ ds, P (.flat ds) → P (.concat ds))
    (off : ∀ o d t, P d → P (.off o d t)) (nil : P (.flat [])) (cons : ∀ d ds, P d → P (.flat ds) → P (.flat (d :: ds)))
    (d : Dim) : P d :=
  Dim.rec (motive_2 := fun ds => P (.flat ds)) axis (fun _ ih => ih) concat off nil cons d

/-- The same for expressions: the list of children `cs` is the node `.list cs` (`dimsL m cs` is `dims m (.list cs)`). -/
theorem Expr.induct {P : Expr → Prop} (axis : ∀ n v, P (.axis n v)) (flat : ∀ e, P e → P (.flat e))
    (concat : ∀ cs, P (.list cs) → P (.concat cs)) (br : ∀ e, P e → P (.br e))
    (nil : P (.list [])) (cons : ∀ c cs, P c → P (.list cs) → P (.list (c :: cs))) (e : Expr) : P e :=
  Expr.rec (motive_2 := fun cs => P (.list cs)) axis (fun _ ih => ih) flat concat br nil cons e

/-- Induction with a statement of its own for the lists of children. -/
theorem Dim.ind_both {P : Dim → Prop} {Q : List Dim → Prop} (axis : ∀ l, P (.axis l)) (flat : ∀ ds, Q ds → P (.flat ds))
    (concat : ∀ ds, Q ds → P (.concat ds)) (off : ∀ o d t, P d → P (.off o d t))
    (nil : Q []) (cons : ∀ d ds, P d → Q ds → Q (d :: ds)) : (∀ d, P d) ∧ ∀ ds, Q ds :=
  ⟨fun d => Dim.rec (motive_1 := P) (motive_2 := Q) axis flat concat off nil cons d,
   fun ds => Dim.rec_1 (motive_1 := P) (motive_2 := Q) axis flat concat off nil cons ds⟩

theorem Dim.nconcat_le_of_getElem? : ∀ (ds : List Dim) (k : Nat) (d : Dim), ds[k]? = some d →
    d.nconcat ≤ Dim.nconcatL ds
  | [], k, d, h => by simp at h
  | e :: es, 0, d, h => by
    simp only [List.getElem?_cons_zero, Option.some.injEq] at h
    subst h
    simp only [Dim.nconcatL]
    omega
  | e :: es, k + 1, d, h => by
    simp only [List.getElem?_cons_succ] at h
    have := Dim.nconcat_le_of_getElem? es k d h
    simp only [Dim.nconcatL]
    omega

/-- A successful `Dim.choose` / `Dim.chooseL` replaces exactly one concatenation -- the leftmost one that is not nested in
another -- by a block `off …`, under `flat`s and `off`s, leaving everything else as it is. -/
theorem Dim.choose_ind_both {P : Dim → Dim → Prop} {PL : List Dim → List Dim → Prop} (k : Nat)
    (flat : ∀ ds ds', Dim.chooseL k ds = some ds' → PL ds ds' → P (.flat ds) (.flat ds'))
    (concat : ∀ ds d, ds[k]? = some d →
      P (.concat ds) (.off ((ds.take k).foldl (fun a x => a + x.size) 0) d (Dim.sizeSum ds)))
    (off : ∀ o d d' t, d.choose k = some d' → P d d' → P (.off o d t) (.off o d' t))
    (head : ∀ d d' ds, d.nconcat > 0 → d.choose k = some d' → P d d' → PL (d :: ds) (d' :: ds))
    (tail : ∀ d ds ds', ¬ d.nconcat > 0 → Dim.chooseL k ds = some ds' → PL ds ds' → PL (d :: ds) (d :: ds')) :
    (∀ d d', d.choose k = some d' → P d d') ∧ (∀ ds ds', Dim.chooseL k ds = some ds' → PL ds ds') := by
  refine Dim.ind_both (fun l d' h => ?_) (fun ds ih d' h => ?_) (fun ds _ d' h => ?_) (fun o d t ih d' h => ?_)
    (fun ds' h => ?_) (fun d ds ihd ihds ds' h => ?_)
  · simp [Dim.choose] at h
  · simp only [Dim.choose, Option.map_eq_some_iff] at h
    obtain ⟨ds', h1, rfl⟩ := h
    exact flat ds ds' h1 (ih ds' h1)
  · simp only [Dim.choose] at h
    cases hk : ds[k]? with
    | none => simp [hk] at h
    | some d =>
      simp only [hk, Option.some.injEq] at h
      subst h
      exact concat ds d hk
  · simp only [Dim.choose, Option.map_eq_some_iff] at h
    obtain ⟨e, h1, rfl⟩ := h
    exact off o d e t h1 (ih e h1)
  · simp [Dim.chooseL] at h
  · simp only [Dim.chooseL] at h
    split at h
    · rename_i hd
      simp only [Option.map_eq_some_iff] at h
      obtain ⟨e, h1, rfl⟩ := h
      exact head d e ds hd h1 (ihd e h1)
    · rename_i hd
      simp only [Option.map_eq_some_iff] at h
      obtain ⟨es, h1, rfl⟩ := h
      exact tail d ds es hd h1 (ihds es h1)

/-- Choosing a block of the leftmost top-level concatenation removes at least that concatenation node. -/
theorem Dim.nconcat_choose_both (k : Nat) :
    (∀ d d' : Dim, d.choose k = some d' → d'.nconcat < d.nconcat) ∧
      (∀ ds ds' : List Dim, Dim.chooseL k ds = some ds' → Dim.nconcatL ds' < Dim.nconcatL ds) :=
  Dim.choose_ind_both k
    (fun _ _ _ h => h)
    (fun ds d hk => by
      have := Dim.nconcat_le_of_getElem? ds k d hk
      simp only [Dim.nconcat]; omega)
    (fun _ _ _ _ _ h => h)
    (fun _ _ _ _ _ h => by simp only [Dim.nconcatL]; omega)
    (fun _ _ _ _ _ h => by simp only [Dim.nconcatL]; omega)

theorem Dim.nconcat_choose_lt (k : Nat) (d d' : Dim) : d.choose k = some d' → d'.nconcat < d.nconcat :=
  (Dim.nconcat_choose_both k).1 d d'

theorem Dim.nconcatL_chooseL_lt (k : Nat) (ds ds' : List Dim) :
    Dim.chooseL k ds = some ds' → Dim.nconcatL ds' < Dim.nconcatL ds :=
  (Dim.nconcat_choose_both k).2 ds ds'

theorem viewsFuel_succ : ∀ (n : Nat) (ds : List Dim), Dim.nconcatL ds ≤ n →
    viewsFuel n ds = viewsFuel (n + 1) ds
  | 0, ds, h => by
    have h0 : Dim.nconcatL ds = 0 := by omega
    simp [viewsFuel, h0]
  | n + 1, ds, h => by
    simp only [viewsFuel]
    split
    · rfl
    · congr 1
      funext k
      cases hc : Dim.chooseL k ds with
      | none => rfl
      | some ds' =>
        have hlt := Dim.nconcatL_chooseL_lt k ds ds' hc
        exact viewsFuel_succ n ds' (by omega)

theorem viewsFuel_stable (ds : List Dim) : ∀ (m n : Nat), Dim.nconcatL ds ≤ n → n ≤ m →
    viewsFuel m ds = viewsFuel n ds
  | m, n, hn, hm => by
    induction m with
    | zero =>
      have : n = 0 := by omega
      subst this; rfl
    | succ m ih =>
      rcases Nat.lt_or_ge m n with h | h
      · have : n = m + 1 := by omega
        subst this; rfl
      · rw [← viewsFuel_succ m ds (by omega)]
        exact ih h

theorem viewsFuel_unfold (ds : List Dim) :
    viewsFuel (Dim.nconcatL ds + 1) ds =
      if Dim.nconcatL ds == 0 then [ds]
      else (List.range (Dim.nblocksL ds)).flatMap (fun k =>
        match Dim.chooseL k ds with
        | some ds' => viewsFuel (Dim.nconcatL ds' + 1) ds'
        | none => []) := by
  rw [viewsFuel]
  split
  · rfl
  · congr 1
    funext k
    cases hc : Dim.chooseL k ds with
    | none => rfl
    | some ds' =>
      have hlt := Dim.nconcatL_chooseL_lt k ds ds' hc
      exact viewsFuel_stable ds' _ _ (by omega) (by omega)

/-- What every choice of a block preserves holds of every view. -/
theorem viewsFuel_ind {Q : List Dim → Prop} (hstep : ∀ k ds ds', Dim.chooseL k ds = some ds' → Q ds → Q ds') :
    ∀ (n : Nat) (ds : List Dim), Q ds → ∀ v ∈ viewsFuel n ds, Q v
  | 0, ds, h, v, hv => by
    simp only [viewsFuel, List.mem_singleton] at hv
    exact hv ▸ h
  | n + 1, ds, h, v, hv => by
    rw [viewsFuel] at hv
    split at hv
    · simp only [List.mem_singleton] at hv
      exact hv ▸ h
    · simp only [List.mem_flatMap, List.mem_range] at hv
      obtain ⟨k, _, hk⟩ := hv
      cases hc : Dim.chooseL k ds with
      | none => simp [hc] at hk
      | some ds' =>
        simp only [hc] at hk
        exact viewsFuel_ind hstep n ds' (hstep k ds ds' hc h) v hk

/-- The fuel-exhausted case of `viewsFuel`, which would return a tensor that still contains a concatenation, is never
reached. -/
theorem viewsFuel_concatFree : ∀ (n : Nat) (ds : List Dim), Dim.nconcatL ds ≤ n →
    ∀ v ∈ viewsFuel n ds, Dim.nconcatL v = 0
  | 0, ds, h, v, hv => by
    simp only [viewsFuel, List.mem_singleton] at hv
    subst hv; omega
  | n + 1, ds, h, v, hv => by
    rw [viewsFuel] at hv
    split at hv
    · rename_i h0
      simp only [List.mem_singleton] at hv
      subst hv
      simpa using h0
    · simp only [List.mem_flatMap, List.mem_range] at hv
      obtain ⟨k, _, hk⟩ := hv
      cases hc : Dim.chooseL k ds with
      | none => simp [hc] at hk
      | some ds' =>
        simp only [hc] at hk
        have hlt := Dim.nconcatL_chooseL_lt k ds ds' hc
        exact viewsFuel_concatFree n ds' (by omega) v hk

end Einx.Denote
