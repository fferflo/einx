import EinxModel.Proofs.Lower
import EinxModel.Proofs.DenoteReduce
/-! Denotation side of the lowering theorems (Props/C01Lower.lean, Props/C01LowerOps.lean): the stage-3 expressions
of `Generic.G` expressions (the axes named in `m` in brackets), the iteration space of a repetition-free output with the
valuation `valOf` of its `k`-th assignment, and `Inner.correct`, where run side and denotation side meet: the pipeline for
any inner function. -/
namespace Einx.Lower
open Einx Einx.IR Einx.Generic Einx.Denote
open Einx.Update (mapOpt mapOpt_eq_some_iff)

def toLeafM (m : List String) (a : Ax) : Leaf := ⟨a.name, a.len, m.contains a.name⟩

mutual
def toDimM (m : List String) : G → Dim
  | .ax a => .axis (toLeafM m a)
  | .grp gs => .flat (toDimML m gs)
def toDimML (m : List String) : List G → List Dim
  | [] => []
  | g :: gs => toDimM m g :: toDimML m gs
end

def toLeaf (a : Ax) : Leaf := ⟨a.name, a.len, false⟩

mutual
def toDim : G → Dim
  | .ax a => .axis (toLeaf a)
  | .grp gs => .flat (toDimL gs)
def toDimL : List G → List Dim
  | [] => []
  | g :: gs => toDim g :: toDimL gs
end

mutual
theorem toDimM_nil : ∀ g : G, toDimM [] g = toDim g
  | .ax _ => rfl
  | .grp gs => by rw [toDimM, toDim, toDimML_nil gs]
theorem toDimML_nil : ∀ gs : List G, toDimML [] gs = toDimL gs
  | [] => rfl
  | g :: gs => by rw [toDimML, toDimL, toDimM_nil g, toDimML_nil gs]
end

mutual
theorem toExprM_nil : ∀ g : G, toExprM [] g = toExpr g
  | .ax _ => rfl
  | .grp gs => by rw [toExprM, toExpr, toExprML_nil gs]
theorem toExprML_nil : ∀ gs : List G, toExprML [] gs = toExprL gs
  | [] => rfl
  | g :: gs => by rw [toExprML, toExprL, toExprM_nil g, toExprML_nil gs]
end

theorem rootExprM_nil (e : List G) : rootExprM [] e = rootExpr e := by rw [rootExprM, rootExpr, toExprML_nil]

mutual
theorem dims_toExprM (m : List String) : ∀ g : G, dims false (toExprM m g) = [toDimM m g]
  | .ax a => by
    by_cases h : m.contains a.name = true
    · simp only [toExprM, h, if_true, dims, toDimM, toLeafM]
    · have h' : m.contains a.name = false := (Bool.not_eq_true _).mp h
      simp only [toExprM, h', Bool.false_eq_true, if_false, dims, toDimM, toLeafM]
  | .grp gs => by simp only [toExprM, dims, toDimM]; rw [dimsL_toExprML m gs]
theorem dimsL_toExprML (m : List String) : ∀ gs : List G, dimsL false (toExprML m gs) = toDimML m gs
  | [] => by simp [toExprML, dimsL, toDimML]
  | g :: gs => by simp only [toExprML, dimsL, toDimML, dims_toExprM m g, dimsL_toExprML m gs]; rfl
end

theorem rootDims_rootExprM (m : List String) (e : List G) : rootDims (rootExprM m e) = toDimML m e := by
  simp only [rootDims, rootExprM, dims]; exact dimsL_toExprML m e

mutual
theorem size_toDimM (m : List String) : ∀ g : G, (toDimM m g).size = g.size
  | .ax a => by simp [toDimM, Dim.size, toLeafM, G.size]
  | .grp gs => by simp only [toDimM, Dim.size, G.size]; exact sizeProd_toDimML m gs
theorem sizeProd_toDimML (m : List String) : ∀ gs : List G, Dim.sizeProd (toDimML m gs) = G.sizeL gs
  | [] => by simp [toDimML, Dim.sizeProd, G.sizeL]
  | g :: gs => by simp only [toDimML, Dim.sizeProd, G.sizeL, size_toDimM m g, sizeProd_toDimML m gs]
end

theorem viewShape_toDimML (m : List String) (e : List G) : viewShape (toDimML m e) = gShape e := by
  induction e with
  | nil => rfl
  | cons g e ih => simp only [toDimML, viewShape, gShape, List.map_cons, size_toDimM] at *; rw [ih]

theorem shapeOf_rootExprM (m : List String) (e : List G) : shapeOf (rootExprM m e) = gShape e := by
  rw [shapeOf_eq, rootDims_rootExprM, viewShape_toDimML]

mutual
theorem leaves_toDimM (m : List String) : ∀ g : G, (toDimM m g).leaves = g.leaves.map (toLeafM m)
  | .ax a => by simp [toDimM, Dim.leaves, G.leaves]
  | .grp gs => by simp only [toDimM, Dim.leaves, G.leaves]; exact leavesL_toDimML m gs
theorem leavesL_toDimML (m : List String) : ∀ gs : List G, Dim.leavesL (toDimML m gs) = (G.leavesL gs).map (toLeafM m)
  | [] => by simp [toDimML, Dim.leavesL, G.leavesL]
  | g :: gs => by
    simp only [toDimML, Dim.leavesL, G.leavesL, leaves_toDimM m g, leavesL_toDimML m gs, List.map_append]
end

mutual
theorem concatFree_toExprM (m : List String) : ∀ g : G, (toExprM m g).concatFree = true
  | .ax a => by
    by_cases h : m.contains a.name = true
    · simp only [toExprM, h, if_true, Expr.concatFree]
    · have h' : m.contains a.name = false := (Bool.not_eq_true _).mp h
      simp only [toExprM, h', Bool.false_eq_true, if_false, Expr.concatFree]
  | .grp gs => by simp only [toExprM, Expr.concatFree]; exact concatFreeL_toExprML m gs
theorem concatFreeL_toExprML (m : List String) : ∀ gs : List G, Expr.concatFreeL (toExprML m gs) = true
  | [] => by simp [toExprML, Expr.concatFreeL]
  | g :: gs => by
    simp only [toExprML, Expr.concatFreeL, concatFree_toExprM m g, concatFreeL_toExprML m gs, Bool.and_self]
end

theorem concatFree_rootExprM (m : List String) (e : List G) : (rootExprM m e).concatFree = true := by
  simp only [rootExprM, Expr.concatFree]; exact concatFreeL_toExprML m e

theorem dims_toExpr : ∀ g : G, dims false (toExpr g) = [toDim g] :=
  fun g => by rw [← toExprM_nil, ← toDimM_nil]; exact dims_toExprM [] g

theorem rootDims_rootExpr (e : List G) : rootDims (rootExpr e) = toDimL e := by
  rw [← rootExprM_nil, ← toDimML_nil]; exact rootDims_rootExprM [] e

theorem sizeProd_toDimL : ∀ gs : List G, Dim.sizeProd (toDimL gs) = G.sizeL gs :=
  fun gs => by rw [← toDimML_nil]; exact sizeProd_toDimML [] gs

theorem shapeOf_rootExpr (e : List G) : shapeOf (rootExpr e) = gShape e := by
  rw [← rootExprM_nil]; exact shapeOf_rootExprM [] e

theorem leaves_toDim : ∀ g : G, (toDim g).leaves = g.leaves.map toLeaf :=
  fun g => by rw [← toDimM_nil]; exact leaves_toDimM [] g

theorem leavesL_toDimL (gs : List G) : Dim.leavesL (toDimL gs) = (G.leavesL gs).map toLeaf := by
  rw [← toDimML_nil]; exact leavesL_toDimML [] gs

theorem concatFree_toExpr : ∀ g : G, (toExpr g).concatFree = true :=
  fun g => by rw [← toExprM_nil]; exact concatFree_toExprM [] g

theorem concatFree_rootExpr (e : List G) : (rootExpr e).concatFree = true := by
  rw [← rootExprM_nil]; exact concatFree_rootExprM [] e

/-! ### positions of the converted dimensions: parentheses are row-major ravel of the leaves, brackets do not matter -/

theorem idx_append (a b : List Ax) (val : String → Nat) : idx (a ++ b) val = idx a val ++ idx b val := by
  simp [idx]

mutual
theorem pos_toDimM (m : List String) (σ : Assign) (val : String → Nat) : ∀ g : G,
    (∀ a ∈ g.leaves, Assign.get σ a.name = some (val a.name)) →
    (toDimM m g).pos σ = some (ravel (lens g.leaves) (idx g.leaves val))
  | .ax a, h => by
    have := h a (by simp [G.leaves])
    simp [toDimM, Dim.pos, toLeafM, this, G.leaves, lens, idx, ravel, prod]
  | .grp gs, h => by
    obtain ⟨ps, hps, _, hr⟩ := posL_toDimML m σ val gs (by simpa [G.leaves] using h)
    rw [toDimM, pos_flat, position_eq, hps]
    simp only [Option.map_some, viewShape_toDimML, hr, G.leaves]
theorem posL_toDimML (m : List String) (σ : Assign) (val : String → Nat) : ∀ gs : List G,
    (∀ a ∈ G.leavesL gs, Assign.get σ a.name = some (val a.name)) →
    ∃ ps, mapOpt (Dim.pos σ) (toDimML m gs) = some ps ∧ ps.length = gs.length ∧
      ravel (gShape gs) ps = ravel (lens (G.leavesL gs)) (idx (G.leavesL gs) val)
  | [], _ => ⟨[], rfl, rfl, rfl⟩
  | g :: gs, h => by
    have h1 := pos_toDimM m σ val g (fun a ha => h a (by simp [G.leavesL, ha]))
    obtain ⟨ps, hps, hlen, hr⟩ := posL_toDimML m σ val gs (fun a ha => h a (by simp [G.leavesL, ha]))
    refine ⟨ravel (lens g.leaves) (idx g.leaves val) :: ps, by simp [toDimML, mapOpt, h1, hps], by simp [hlen], ?_⟩
    simp only [gShape, List.map_cons, ravel, G.leavesL, lens_append, idx_append]
    rw [ravel_append_len _ _ _ _ (by simp [idx, lens]), ← prod_gShape_leaves]
    simp only [gShape] at hr ⊢
    rw [hr]
end

theorem pos_toDim (σ : Assign) (val : String → Nat) : ∀ g : G,
    (∀ a ∈ g.leaves, Assign.get σ a.name = some (val a.name)) →
    (toDim g).pos σ = some (ravel (lens g.leaves) (idx g.leaves val)) :=
  fun g h => by rw [← toDimM_nil]; exact pos_toDimM [] σ val g h

theorem posL_toDimL (σ : Assign) (val : String → Nat) (gs : List G)
    (h : ∀ a ∈ G.leavesL gs, Assign.get σ a.name = some (val a.name)) :
    ∃ ps, mapOpt (Dim.pos σ) (toDimL gs) = some ps ∧ ps.length = gs.length ∧
      ravel (gShape gs) ps = ravel (lens (G.leavesL gs)) (idx (G.leavesL gs) val) := by
  rw [← toDimML_nil]; exact posL_toDimML [] σ val gs h

theorem bnd_of_valid {val : String → Nat} : ∀ {L : List Ax}, Valid (lens L) (idx L val) → Bnd val L
  | [], _ => fun _ h => by simp at h
  | a :: L, h => by
    cases h with
    | cons hi hv =>
      intro b hb
      rcases List.mem_cons.mp hb with rfl | hb'
      · exact hi
      · exact bnd_of_valid hv b hb'

theorem axesOfM_nodup (m : List String) (L : List Ax) (h : (names L).Nodup) :
    axesOf (L.map (toLeafM m)) = L.map (fun a => (a.name, a.len)) := by
  rw [axesOf_of_nodup (by rw [List.map_map]; exact h), List.map_map]
  rfl

theorem axesOf_nodup (L : List Ax) (h : (names L).Nodup) :
    axesOf (L.map toLeaf) = L.map (fun a => (a.name, a.len)) :=
  axesOfM_nodup [] L h

/-- The iteration space of a repetition-free output: the `k`-th assignment gives the output's leaf axes the
multi-index `unravel k`. -/
theorem outAssignments_toDimL (e : List G) (h : (names (G.leavesL e)).Nodup) :
    outAssignments (toDimL e) = (List.range (prod (lens (G.leavesL e)))).map
      (fun k => (names (G.leavesL e)).zip (unravel (lens (G.leavesL e)) k)) := by
  rw [outAssignments, leavesL_toDimL, axesOf_nodup _ h, assignments_eq, Update.assignments_eq]
  simp [List.map_map, Function.comp_def, names, lens]

/-- The `k`-th assignment of the iteration space of a repetition-free output. -/
def sigmaOf (Lo : List Ax) (k : Nat) : Assign := (names Lo).zip (unravel (lens Lo) k)

/-- The valuation it induces on all axis names (0 for names it does not assign). -/
def valOf (Lo : List Ax) (k : Nat) : String → Nat := fun n => (Assign.get (sigmaOf Lo k) n).getD 0

theorem sigmaOf_eq_none_iff {Lo : List Ax} {k : Nat} (hk : k < prod (lens Lo)) {n : String} :
    Assign.get (sigmaOf Lo k) n = none ↔ n ∉ names Lo := by
  rw [sigmaOf, get_zip_names _ _ _ (by rw [valid_length (unravel_valid _ _ hk)]; simp [names, lens]),
    Option.map_eq_none_iff, List.idxOf?_eq_none_iff]

theorem sigmaOf_get {Lo : List Ax} (hout : (names Lo).Nodup) {k : Nat} (hk : k < prod (lens Lo)) :
    (∀ b ∈ Lo, Assign.get (sigmaOf Lo k) b.name = some (valOf Lo k b.name)) ∧
    idx Lo (valOf Lo k) = unravel (lens Lo) k ∧ Bnd (valOf Lo k) Lo := by
  have hv : Valid (lens Lo) (unravel (lens Lo) k) := unravel_valid _ _ hk
  have hvl : (names Lo).length = (unravel (lens Lo) k).length := by rw [valid_length hv]; simp [names, lens]
  have hidx : idx Lo (valOf Lo k) = unravel (lens Lo) k := by
    apply List.ext_getElem (by simp [idx, ← hvl, names])
    intro i h1 h2
    have hi : i < Lo.length := by simpa [idx] using h1
    have hn : Lo[i].name = (names Lo)[i]'(by simpa [names] using hi) := by simp [names]
    simp only [idx, List.getElem_map, valOf, sigmaOf]
    rw [get_zip_names _ _ _ (Nat.le_of_eq hvl), hn, idxOf?_getElem_nodup hout i]
    simp [h2]
  refine ⟨fun b hb => ?_, hidx, bnd_of_valid (by rw [hidx]; exact hv)⟩
  cases h : Assign.get (sigmaOf Lo k) b.name with
  | none => exact absurd (List.mem_map.mpr ⟨b, hb, rfl⟩) ((sigmaOf_eq_none_iff hk).mp h)
  | some x => simp only [valOf, h, Option.getD_some]

theorem valOf_bnd {Li Lo : List Ax} (hout : (names Lo).Nodup)
    (hcons : ∀ a ∈ Li, ∀ b ∈ Lo, a.name = b.name → a.len = b.len)
    (hsub : ∀ a ∈ Li, a.len ≠ 1 → a.name ∈ names Lo) {k : Nat} (hk : k < prod (lens Lo)) : Bnd (valOf Lo k) Li := by
  intro a ha
  by_cases hmem : a.name ∈ names Lo
  · obtain ⟨b, hb, hbn⟩ := List.mem_map.mp hmem
    rw [hcons a ha b hb hbn.symm, ← hbn]
    exact (sigmaOf_get hout hk).2.2 b hb
  · have h1 : a.len = 1 := Decidable.byContradiction fun hne => hmem (hsub a ha hne)
    simp only [valOf, (sigmaOf_eq_none_iff hk).mpr hmem, Option.getD_none, h1]
    exact Nat.one_pos

theorem extend_valOf {Li Lo : List Ax}
    (hsub : ∀ a ∈ Li, a.len ≠ 1 → a.name ∈ names Lo) {k : Nat} (hk : k < prod (lens Lo)) :
    ∃ σ', extend (sigmaOf Lo k) (Li.map toLeaf) = some σ' ∧
      ∀ a ∈ Li, Assign.get σ' a.name = some (valOf Lo k a.name) := by
  obtain ⟨σ', he⟩ := extend_isSome_of_extendable (σ := sigmaOf Lo k) (ls := Li.map toLeaf) fun l hl => by
    obtain ⟨a, ha, rfl⟩ := List.mem_map.mp hl
    cases hg : Assign.get (sigmaOf Lo k) a.name with
    | none =>
      exact Or.inr (Decidable.byContradiction fun hne => (sigmaOf_eq_none_iff hk).mp hg (hsub a ha hne))
    | some x => exact Or.inl (by simp [toLeaf, hg])
  refine ⟨σ', he, fun a ha => ?_⟩
  rw [extend_get _ _ _ he, valOf]
  cases hg : Assign.get (sigmaOf Lo k) a.name with
  | some x => rfl
  | none =>
    have : (Li.map toLeaf).any (fun l => l.name == a.name) = true :=
      List.any_eq_true.mpr ⟨toLeaf a, List.mem_map_of_mem ha, beq_self_eq_true _⟩
    simp only [this, if_true, Option.getD_none]

theorem cellAt_valOf {e : List G} {σ' : Assign} {val : String → Nat} (i : Nat)
    (h : ∀ a ∈ G.leavesL e, Assign.get σ' a.name = some (val a.name)) :
    cellAt (toDimL e) (gShape e) i σ' = some (cOf i e val) := by
  obtain ⟨pi, hpi, _, hri⟩ := posL_toDimL σ' val e h
  simp only [cellAt, flatPos, position_eq, hpi, Option.map_some, hri, cOf]

theorem flatPos_valOf {eout : List G} (hout : (names (G.leavesL eout)).Nodup) {k : Nat}
    (hk : k < prod (lens (G.leavesL eout))) :
    flatPos (toDimL eout) (gShape eout) (sigmaOf (G.leavesL eout) k) = some k := by
  obtain ⟨hLoval, hidx, _⟩ := sigmaOf_get hout hk
  obtain ⟨po, hpo, _, hro⟩ := posL_toDimL (sigmaOf (G.leavesL eout) k) (valOf (G.leavesL eout) k) eout hLoval
  simp only [flatPos, position_eq, hpo, Option.map_some, hro, hidx, ravel_unravel _ _ hk]

/-- A functional denotation `genCells X` on a repetition-free output, cell by cell: if `X` gives the cell `c k` for the
`k`-th assignment of the iteration space, the cells are `c 0, c 1, …` (the entries are written in order, each to
its own flat position `k`). -/
theorem genCells_lower {eout : List G} (hout : (names (G.leavesL eout)).Nodup) (X : Assign → Option Cell) (c : Nat → Cell)
    (hX : ∀ k, k < prod (lens (G.leavesL eout)) → X (sigmaOf (G.leavesL eout) k) = some (c k)) :
    genCells X (toDimL eout) (gShape eout) = some ((List.range (prod (gShape eout))).map c) := by
  have hn : prod (gShape eout) = prod (lens (G.leavesL eout)) := prod_gShape_leaves eout
  have hentries : mapOpt (genEntry X (toDimL eout) (gShape eout)) (outAssignments (toDimL eout))
      = some ((List.range (prod (gShape eout))).map (fun k => (k, c k))) := by
    rw [outAssignments_toDimL eout hout, mapOpt_eq_some_iff, hn, List.map_map, List.map_map]
    apply List.map_congr_left
    intro k hk
    have hk := List.mem_range.mp hk
    show genEntry X _ _ (sigmaOf (G.leavesL eout) k) = _
    simp only [genEntry, hX k hk, flatPos_valOf hout hk, Function.comp]
  exact (genCells_of_entries hentries).trans (gatherAll_range _ c)

theorem inCell_lower {e eout : List G} (i : Nat)
    (hsub : ∀ a ∈ G.leavesL e, a.len ≠ 1 → a.name ∈ names (G.leavesL eout)) {k : Nat}
    (hk : k < prod (lens (G.leavesL eout))) :
    inCell (sigmaOf (G.leavesL eout) k) ((toDimL e, gShape e), i) = some (cOf i e (valOf (G.leavesL eout) k)) := by
  obtain ⟨σ', hext, hval⟩ := extend_valOf hsub hk
  simp only [inCell, leavesL_toDimL, hext, cellAt_valOf i hval]

/-- A tensor of the output shape that holds `c val` at the position that a valuation satisfying `P` addresses through the
output's leaf axes holds `c (valOf … k)` at `k`: the run side and the denotation side of a lowering theorem meet here. -/
theorem tensor_eq_of_reads {T : Tensor Cell} {eout : List G} {P : (String → Nat) → Prop} {c : (String → Nat) → Cell}
    (hout : (names (G.leavesL eout)).Nodup) (hsh : T.shape = gShape eout) (hlen : T.data.length = prod (gShape eout))
    (hP : ∀ k, k < prod (lens (G.leavesL eout)) → P (valOf (G.leavesL eout) k))
    (hread : ∀ val, P val → T.data[ravel (lens (G.leavesL eout)) (idx (G.leavesL eout) val)]? = some (c val)) :
    T = ⟨gShape eout, (List.range (prod (gShape eout))).map (fun k => c (valOf (G.leavesL eout) k))⟩ := by
  obtain ⟨sh, dat⟩ := T
  simp only at hsh hlen hread
  subst hsh
  rw [prod_gShape_leaves] at hlen ⊢
  congr 1
  apply List.ext_getElem?
  intro k
  by_cases hk : k < prod (lens (G.leavesL eout))
  · obtain ⟨_, hidx, _⟩ := sigmaOf_get hout hk
    have := hread _ (hP k hk)
    rw [hidx, ravel_unravel _ _ hk] at this
    rw [this, List.getElem?_map, List.getElem?_range hk]
    rfl
  · rw [List.getElem?_eq_none (by omega), List.getElem?_eq_none (by simp; omega)]

/-- What an inner function of the decomposer promises to the common tail of the pipeline: the flat expression `sq` of its
result, the cell `c val` that result holds under a valuation `val` in range (`P`), and the cell `X σ` the loop-notation
denotation assigns to an output assignment `σ`.  `over`: what `compose_run` asks of `sq` and `P`.  `den`: the two cells agree
on the iteration space of the output; its hypothesis is what a successful `transposeStep` establishes. -/
structure Inner (eout : List G) where
  sq : List Ax
  P : (String → Nat) → Prop
  c : (String → Nat) → Cell
  X : Assign → Option Cell
  over : Over P sq (G.leavesL eout)
  den : (∀ n ∈ names sq, n ∈ names (G.leavesL eout)) → ∀ k, k < prod (lens (G.leavesL eout)) →
    P (valOf (G.leavesL eout) k) ∧ X (sigmaOf (G.leavesL eout) k) = some (c (valOf (G.leavesL eout) k))

/-- **The pipeline of the decomposer.**  If the inner function left a tensor over `I.sq` that holds `I.c`, and
`_squeeze_transpose_broadcast` to the flat output succeeds, then after `_compose_next`'s reshape the current register
holds exactly the cells `genCells I.X` of the denotation. -/
theorem Inner.correct {eout : List G} (I : Inner eout) (hout : (names (G.leavesL eout)).Nodup)
    {inps regs : List (Tensor Cell)} {s r : St} {T : Tensor Cell}
    (h : Run inps s regs T) (hR : ReadsC I.P I.c T I.sq) (hstb : stb s I.sq (G.leavesL eout) = .ok r) :
    r.shape = lens (G.leavesL eout) ∧
    ∃ ext cs, Run inps (reshapeW r (gShape eout)) (regs ++ ext) ⟨gShape eout, cs⟩ ∧
      genCells I.X (toDimL eout) (gShape eout) = some cs := by
  obtain ⟨hsub, hsh3, ext, T', hrun, hsh, hread⟩ := compose_run h I.over hout hR hstb
  have hT := tensor_eq_of_reads hout hsh (by rw [hrun.len, hsh]) (fun k hk => (I.den hsub k hk).1) hread
  subst hT
  exact ⟨hsh3, ext, _, hrun, genCells_lower hout _ _ fun k hk => (I.den hsub k hk).2⟩

/-- `id` has no inner operation: the prepared input. -/
def Inner.forId {ein eout : List G} (hnd : (names (G.leavesL ein)).Nodup) (hout : (names (G.leavesL eout)).Nodup)
    (hcons : ∀ a ∈ G.leavesL ein, ∀ b ∈ G.leavesL eout, a.name = b.name → a.len = b.len) : Inner eout where
  sq := squeezedExpr [] ein
  P := fun val => Bnd val (G.leavesL ein) ∧ Bnd val (G.leavesL eout)
  c := cOf 0 ein
  X := idX (toDimL ein) (gShape ein) 0
  over :=
    { nodup := names_nodup_filter hnd _
      ne1 := fun _ ha => (mem_squeezedExpr_nil.mp ha).2
      bndSq := fun _ hP a ha => hP.1 a (mem_squeezedExpr_nil.mp ha).1
      bndOut := fun _ hP => hP.2
      cons := fun a ha => hcons a (mem_squeezedExpr_nil.mp ha).1 }
  den := fun hsub _ hk =>
    have hsub' : ∀ a ∈ G.leavesL ein, a.len ≠ 1 → a.name ∈ names (G.leavesL eout) := fun a ha hne =>
      hsub _ (List.mem_map.mpr ⟨a, mem_squeezedExpr_nil.mpr ⟨ha, hne⟩, rfl⟩)
    ⟨⟨valOf_bnd hout hcons hsub' hk, (sigmaOf_get hout hk).2.2⟩, inCell_lower 0 hsub' hk⟩

/-- The register that `lowerId`'s program computes from the symbolic input holds exactly the cells of the
loop-notation denotation. -/
theorem lowerId_cells {gi go : List G} {s : St}
    (hout : noDup (names (G.leavesL go)) = true)
    (hcons : consistentLens (G.leavesL gi) (G.leavesL go) = true)
    (h : lowerId gi go = .ok s) :
    ∃ regs cs, evalProg symAlg s.prog [symInput 0 (gShape gi)] = .ok regs ∧
      regs[s.reg]? = some ⟨gShape go, cs⟩ ∧
      idCells (toDimL gi) (gShape gi) 0 (toDimL go) (gShape go) = some cs := by
  have hout := (noDup_iff _).mp hout
  rw [lowerId_eq] at h
  obtain ⟨sq, s1, s3, hp, hstb, rfl⟩ := bind_stb_ok h
  obtain ⟨hnd, rfl, ext1, T1, hrun1, _, hR1⟩ := (prep_run (inps := [symInput 0 (gShape gi)]) ⟨rfl, rfl⟩ rfl).ok hp
  obtain ⟨_, ext, cs, hrun, hden⟩ :=
    (Inner.forId hnd hout (consistentLens_spec hcons)).correct hout hrun1 (hR1.mono fun _ hP => hP.1) hstb
  exact ⟨_, cs, hrun.ev, hrun.reg, by rw [idCells_eq_genCells]; exact hden⟩

theorem denoteId_of_cells {gi go : List G} {cs : List Cell}
    (h : idCells (toDimL gi) (gShape gi) 0 (toDimL go) (gShape go) = some cs) :
    denoteId [rootExpr gi] [rootExpr go] = .ok [⟨gShape go, cs⟩] := by
  apply ok_of_okOpt
  rw [denoteId_cells _ _ (concatFree_rootExpr gi) (concatFree_rootExpr go), rootDims_rootExpr, rootDims_rootExpr, shapeOf_rootExpr, shapeOf_rootExpr, h]
  rfl

end Einx.Lower
