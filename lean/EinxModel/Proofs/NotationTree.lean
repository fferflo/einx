import EinxModel.Proofs.NotationSim
/-!
# M1 Notation — token lists → token trees under insertion of one redundant space (`tree_insert`)

Two relations on the states of the delimiter stack (the fold `TreeIns.full` of `NotationFold`):
* `SSim`: pure similarity (all levels `TSimL`);
* `SIns`: exactly one level (a frame's items or `base`) is *marked*: its items are related by `Mk`
  (additional leading space, or `InsT`), all others by `TSimL`.
Both are preserved by `step` on `TokRel`-related tokens (`step_sim`, `step_ins`).
-/

namespace Einx.Notation
namespace TreeIns

variable {φ : Nat → Nat}

/-! ### `dedupSpaces` -/

theorem tokRel_isSpace {t t' : Token} (h : TokRel φ t t') : t'.isSpace = t.isSpace := by
  simp only [Token.isSpace, h.1]

theorem flagAfter_rel {X X' : List Token} (h : Forall2 (TokRel φ) X X') (f : Bool) :
    flagAfter X' f = flagAfter X f := by
  induction h generalizing f with
  | nil => rfl
  | cons h _ ih => simp only [flagAfter, (tokRel_isSpace h)]; exact ih _

theorem dedup_rel {X X' : List Token} (h : Forall2 (TokRel φ) X X') (f : Bool) :
    Forall2 (TokRel φ) (dedupSpaces X f) (dedupSpaces X' f) := by
  induction h generalizing f with
  | nil => exact .nil
  | cons h _ ih =>
    simp only [dedupSpaces, (tokRel_isSpace h)]
    split
    · split
      · exact ih true
      · exact .cons h (ih true)
    · exact .cons h (ih false)

theorem tokRel_tsim {t t' : Token} (h : TokRel φ t t') : TSim φ (.atom t) (.atom t') :=
  TSim.atom h.1 h.2

theorem tsimL_single {x x' : Tok} (h : TSim φ x x') : TSimL φ [x] [x'] := TSimL.cons h TSimL.nil

theorem tsimL_snoc {X X' : List Tok} {x x' : Tok} (h : TSimL φ X X') (hx : TSim φ x x') :
    TSimL φ (X ++ [x]) (X' ++ [x']) := TSimL.append h (tsimL_single hx)

theorem insT_append_right {X X' Y Y' : List Tok} (h : InsT φ X X') (hY : TSimL φ Y Y') : InsT φ (X ++ Y) (X' ++ Y') := by
  induction h using InsT.induct with
  | afterOp h1 h2 h3 h4 => exact InsT.afterOp h1 h2 h3 (TSimL.append h4 hY)
  | beforeOp h1 h2 h3 h4 => exact InsT.beforeOp h1 h2 h3 (TSimL.append h4 hY)
  | inside h1 h2 h3 => exact InsT.inside h1 h2 (TSimL.append h3 hY)
  | cons h1 h2 ih => exact InsT.cons h1 ih

theorem insT_append_left {P P' X X' : List Tok} (hP : TSimL φ P P') (hX : InsT φ X X') : InsT φ (P ++ X) (P' ++ X') := by
  replace hP := tsimL_iff.mp hP
  induction hP with
  | nil => exact hX
  | cons h1 _ ih => exact InsT.cons h1 ih

/-- Relation of the items of the *marked* level: one additional leading space, or `InsT`.  Stable under appending
    related items; yields `Ins` when the level is closed. -/
def Mk (φ : Nat → Nat) (X X' : List Tok) : Prop :=
  (∃ sp Y', sp.isSpace = true ∧ X' = sp :: Y' ∧ TSimL φ X Y') ∨ InsT φ X X'

theorem mk_snoc {X X' : List Tok} {x x' : Tok} (h : Mk φ X X') (hx : TSim φ x x') :
    Mk φ (X ++ [x]) (X' ++ [x']) := by
  rcases h with ⟨sp, Y', hsp, rfl, hY⟩ | h
  · exact Or.inl ⟨sp, Y' ++ [x'], hsp, rfl, tsimL_snoc hY hx⟩
  · exact Or.inr (insT_append_right h (tsimL_single hx))

theorem mk_ins {X X' : List Tok} (h : Mk φ X X') : Ins φ X X' := by
  rcases h with ⟨sp, Y', hsp, rfl, hY⟩ | h
  · exact Ins.lead hsp hY
  · exact Ins.tight h

theorem mk_group {P P' inner inner' : List Tok} {o c o' c' : Token} (hP : TSimL φ P P')
    (ho : o'.text = o.text) (hI : Ins φ inner inner') :
    Mk φ (P ++ [.group o c inner]) (P' ++ [.group o' c' inner']) :=
  Or.inr (insT_append_left hP (InsT.inside ho hI TSimL.nil))

theorem mk_afterOp {P P' : List Tok} {a a' sp : Tok} (hP : TSimL φ P P')
    (ha : TSim φ a a') (hop : a.isOp3 = true) (hsp : sp.isSpace = true) :
    Mk φ (P ++ [a]) (P' ++ [a', sp]) :=
  Or.inr (insT_append_left hP (InsT.afterOp ha hop hsp TSimL.nil))

theorem mk_beforeOp {P P' : List Tok} {a a' sp : Tok} (hP : TSimL φ P P')
    (ha : TSim φ a a') (hop : a.isOp3 = true) (hsp : sp.isSpace = true) :
    Mk φ (P ++ [a]) (P' ++ [sp, a']) :=
  Or.inr (insT_append_left hP (InsT.beforeOp hsp ha hop TSimL.nil))

/-! ### State relations -/

/-- Related open frames: opening tokens with equal text, similar items. -/
def FrSim (φ : Nat → Nat) (f f' : Frame) : Prop := f'.1.text = f.1.text ∧ TSimL φ f.2 f'.2

/-- Pure similarity of stack states. -/
def SSim (φ : Nat → Nat) (s s' : St) : Prop := Forall2 (FrSim φ) s.1 s'.1 ∧ TSimL φ s.2 s'.2

/-- Stack states with exactly one marked level (`Mk`); all other levels are similar. -/
inductive SIns (φ : Nat → Nat) : St → St → Prop
  | base {b b' : List Tok} : Mk φ b b' → SIns φ ([], b) ([], b')
  | here {o o' : Token} {items items' : List Tok} {rest rest' : List Frame} {base base' : List Tok} :
      o'.text = o.text → Mk φ items items' → Forall2 (FrSim φ) rest rest' → TSimL φ base base' →
      SIns φ ((o, items) :: rest, base) ((o', items') :: rest', base')
  | deeper {f f' : Frame} {rest rest' : List Frame} {base base' : List Tok} :
      FrSim φ f f' → SIns φ (rest, base) (rest', base') → SIns φ (f :: rest, base) (f' :: rest', base')

theorem closeErr_sim (t t' : Token) : ErrSim (closeErr t) (closeErr t') := by simp [closeErr, ErrSim]

theorem ssim_appTop {s s' : St} {e e' : List Tok} (h : SSim φ s s') (he : TSimL φ e e') :
    SSim φ (appTop e s) (appTop e' s') := by
  obtain ⟨fr, base⟩ := s
  obtain ⟨fr', base'⟩ := s'
  obtain ⟨hf, hb⟩ := h
  cases hf with
  | nil => exact ⟨.nil, TSimL.append hb he⟩
  | cons h1 h2 => exact ⟨.cons ⟨h1.1, TSimL.append h1.2 he⟩ h2, hb⟩

theorem ssim_to_sins {s s' : St} {e e' : List Tok} (h : SSim φ s s')
    (he : ∀ Y Y', TSimL φ Y Y' → Mk φ (Y ++ e) (Y' ++ e')) : SIns φ (appTop e s) (appTop e' s') := by
  obtain ⟨fr, base⟩ := s
  obtain ⟨fr', base'⟩ := s'
  obtain ⟨hf, hb⟩ := h
  cases hf with
  | nil => exact SIns.base (he _ _ hb)
  | cons h1 h2 => exact SIns.here h1.1 (he _ _ h1.2) h2 hb

theorem sins_appTop {s s' : St} {x x' : Tok} (h : SIns φ s s') (hx : TSim φ x x') :
    SIns φ (appTop [x] s) (appTop [x'] s') := by
  cases h with
  | base hM => exact SIns.base (mk_snoc hM hx)
  | here ho hM hr hb => exact SIns.here ho (mk_snoc hM hx) hr hb
  | deeper hf hr =>
    rename_i f f' rest rest' base base'
    obtain ⟨o, items⟩ := f
    obtain ⟨o', items'⟩ := f'
    exact SIns.deeper ⟨hf.1, tsimL_snoc hf.2 hx⟩ hr

/-! ### One step -/

theorem step_close_rel {R : St → St → Prop} {t t' o o' : Token} {items items' : List Tok} {rest rest' : List Frame}
    {base base' : List Tok} (ht : t'.text = t.text) (ho : o'.text = o.text)
    (h1 : delimsFront.contains t.text = false) (h2 : delimsBack.contains t.text = true)
    (hR : R (appTop [.group o t items] (rest, base)) (appTop [.group o' t' items'] (rest', base'))) :
    ExceptR ErrSim R (step t ((o, items) :: rest, base)) (step t' ((o', items') :: rest', base')) := by
  rw [step_back_cons _ _ _ h1 h2, step_back_cons _ _ _ (ht ▸ h1) (ht ▸ h2), ho, ht]
  split
  · exact closeErr_sim t t'
  · exact hR

theorem step_close_nil_rel {R : St → St → Prop} {t t' : Token} {base base' : List Tok} (ht : t'.text = t.text)
    (h1 : delimsFront.contains t.text = false) (h2 : delimsBack.contains t.text = true) :
    ExceptR ErrSim R (step t ([], base)) (step t' ([], base')) := by
  rw [step_back_nil _ h1 h2, step_back_nil _ (ht ▸ h1) (ht ▸ h2)]
  exact closeErr_sim t t'

theorem step_sim {s s' : St} {t t' : Token} (h : SSim φ s s') (ht : TokRel φ t t') :
    ExceptR ErrSim (SSim φ) (step t s) (step t' s') := by
  cases h1 : delimsFront.contains t.text with
  | true =>
    rw [step_front s h1, step_front s' (by rw [ht.1]; exact h1)]
    exact ⟨.cons ⟨ht.1, TSimL.nil⟩ h.1, h.2⟩
  | false =>
    have h1' : delimsFront.contains t'.text = false := by rw [ht.1]; exact h1
    cases h2 : delimsBack.contains t.text with
    | false =>
      rw [step_atom s h1 h2, step_atom s' h1' (by rw [ht.1]; exact h2)]
      exact ssim_appTop h (tsimL_single (tokRel_tsim ht))
    | true =>
      obtain ⟨fr, base⟩ := s
      obtain ⟨fr', base'⟩ := s'
      obtain ⟨hf, hb⟩ := h
      cases hf with
      | nil => exact step_close_nil_rel ht.1 h1 h2
      | cons hf1 hf2 =>
        exact step_close_rel ht.1 hf1.1 h1 h2 (ssim_appTop ⟨hf2, hb⟩ (tsimL_single (TSim.group hf1.1 hf1.2)))

theorem step_ins {s s' : St} {t t' : Token} (h : SIns φ s s') (ht : TokRel φ t t') :
    ExceptR ErrSim (SIns φ) (step t s) (step t' s') := by
  cases h1 : delimsFront.contains t.text with
  | true =>
    rw [step_front s h1, step_front s' (by rw [ht.1]; exact h1)]
    obtain ⟨fr, base⟩ := s
    obtain ⟨fr', base'⟩ := s'
    exact SIns.deeper ⟨ht.1, TSimL.nil⟩ h
  | false =>
    have h1' : delimsFront.contains t'.text = false := by rw [ht.1]; exact h1
    cases h2 : delimsBack.contains t.text with
    | false =>
      rw [step_atom s h1 h2, step_atom s' h1' (by rw [ht.1]; exact h2)]
      exact sins_appTop h (tokRel_tsim ht)
    | true =>
      cases h with
      | base hM => exact step_close_nil_rel ht.1 h1 h2
      | here ho hM hr hb =>
        exact step_close_rel ht.1 ho h1 h2 (ssim_to_sins ⟨hr, hb⟩ (fun Y Y' hY => mk_group hY ho (mk_ins hM)))
      | deeper hf hr =>
        exact step_close_rel ht.1 hf.1 h1 h2 (sins_appTop hr (TSim.group hf.1 hf.2))

theorem finishSt_open_rel (f f' : Frame) (rest rest' : List Frame) (base base' : List Tok) :
    TreeRel φ (finishSt (f :: rest, base)) (finishSt (f' :: rest', base')) := by
  obtain ⟨o, items⟩ := f
  obtain ⟨o', items'⟩ := f'
  exact Eq.refl SynKind.openingNotClosed

theorem finish_sim {φ : Nat → Nat} {s s' : St} (h : SSim φ s s') : TreeRel φ (finishSt s) (finishSt s') := by
  obtain ⟨fr, base⟩ := s
  obtain ⟨fr', base'⟩ := s'
  obtain ⟨hf, hb⟩ := h
  cases hf with
  | nil => exact Or.inl hb
  | cons hf1 hf2 => exact finishSt_open_rel ..

theorem finish_ins {s s' : St} (h : SIns φ s s') : TreeRel φ (finishSt s) (finishSt s') := by
  cases h with
  | base hM => exact Or.inr (mk_ins hM)
  | here ho hM hr hb => exact finishSt_open_rel ..
  | deeper hf hr => exact finishSt_open_rel ..

theorem treeRel_bind {R : St → St → Prop} {x x' : Res St} {k k' : St → Res (List Tok)}
    (h : ExceptR ErrSim R x x') (hk : ∀ a a', R a a' → TreeRel φ (k a) (k' a')) : TreeRel φ (x >>= k) (x' >>= k') :=
  treeRel_iff.mpr (h.bind fun _ _ _ _ ha => treeRel_iff.mp (hk _ _ ha))

/-- A relation on stack states that `step` keeps on related tokens is carried through a related prefix of the input. -/
theorem full_prefix {R : St → St → Prop}
    (hstep : ∀ {s s' : St} {t t' : Token}, R s s' → TokRel φ t t' → ExceptR ErrSim R (step t s) (step t' s'))
    {P P' Q Q' : List Token} (hP : Forall2 (TokRel φ) P P') (hk : ∀ r r', R r r' → TreeRel φ (full Q r) (full Q' r')) :
    ∀ {s s' : St}, R s s' → TreeRel φ (full (P ++ Q) s) (full (P' ++ Q') s') := by
  induction hP with
  | nil => intro s s' h; exact hk _ _ h
  | cons ht _ ih =>
    intro s s' h
    rw [List.cons_append, List.cons_append, full_cons, full_cons]
    exact treeRel_bind (hstep h ht) fun _ _ ha => ih ha

theorem full_ins {ts ts' : List Token} (hts : Forall2 (TokRel φ) ts ts') {s s' : St} (h : SIns φ s s') :
    TreeRel φ (full ts s) (full ts' s') := by
  have := full_prefix step_ins (Q := []) (Q' := []) hts (fun _ _ hr => finish_ins hr) h
  simpa using this

theorem full_sim {ts ts' : List Token} (hts : Forall2 (TokRel φ) ts ts') {s s' : St}
    (h : SSim φ s s') : TreeRel φ (full ts s) (full ts' s') := by
  have := full_prefix step_sim (Q := []) (Q' := []) hts (fun _ _ hr => finish_sim hr) h
  simpa using this

def op3Texts : List Str := [lit ",", lit "+", lit "->"]

theorem op3Texts_spec : ∀ s ∈ op3Texts, delimsFront.contains s = false ∧ delimsBack.contains s = false ∧
    (s == lit "->" || s == lit "," || s == lit "+") = true := by decide

theorem op3_front {t : Token} (h : t.text ∈ op3Texts) : delimsFront.contains t.text = false :=
  (op3Texts_spec _ h).1

theorem op3_back {t : Token} (h : t.text ∈ op3Texts) : delimsBack.contains t.text = false :=
  (op3Texts_spec _ h).2.1

theorem op3_isOp3 {t : Token} (h : t.text ∈ op3Texts) : (Tok.atom t).isOp3 = true :=
  (op3Texts_spec _ h).2.2

theorem space_front {t : Token} (h : t.text = spaceLit) : delimsFront.contains t.text = false := by
  rw [h]; decide

theorem space_back {t : Token} (h : t.text = spaceLit) : delimsBack.contains t.text = false := by
  rw [h]; decide

theorem space_isSpace {t : Token} (h : t.text = spaceLit) : (Tok.atom t).isSpace = true := by
  simp [Tok.isSpace, Tok.isText, h]

theorem step_space {sp : Token} (s : St) (h : sp.text = spaceLit) : step sp s = .ok (appTop [.atom sp] s) :=
  step_atom s (space_front h) (space_back h)

theorem afterOps_cases {s : Str} (h : s ∈ afterOps) : delimsFront.contains s = true ∨ s ∈ op3Texts := by
  revert s; decide

theorem beforeOps_cases {s : Str} (h : s ∈ beforeOps) :
    (delimsFront.contains s = false ∧ delimsBack.contains s = true) ∨ s ∈ op3Texts := by
  revert s; decide

/-! ### The four kinds of slots -/

theorem ssim_init (φ : Nat → Nat) : SSim φ ([], []) ([], []) := ⟨.nil, TSimL.nil⟩

theorem slot_begin {Q Q' : List Token} {sp : Token} (hsp : sp.text = spaceLit)
    (hQ : Forall2 (TokRel φ) Q Q') : TreeRel φ (full Q ([], [])) (full (sp :: Q') ([], [])) := by
  rw [full_cons_ok (step_space _ hsp)]
  exact full_ins hQ (SIns.base (Or.inl ⟨_, [], space_isSpace hsp, rfl, TSimL.nil⟩))

theorem slot_end {sp : Token} (hsp : sp.text = spaceLit) {r r' : St} (h : SSim φ r r') :
    TreeRel φ (full [] r) (full [sp] r') := by
  rw [full_cons_ok (step_space _ hsp)]
  obtain ⟨fr, base⟩ := r
  obtain ⟨fr', base'⟩ := r'
  obtain ⟨hf, hb⟩ := h
  cases hf with
  | nil => exact Or.inr (Ins.trail (space_isSpace hsp) hb rfl)
  | cons hf1 hf2 =>
    rename_i f f' rest rest'
    obtain ⟨o', items'⟩ := f'
    exact finishSt_open_rel ..

theorem slot_after {Q Q' : List Token} {a a' sp : Token} (hsp : sp.text = spaceLit)
    (ha : TokRel φ a a') (hmem : a.text ∈ afterOps) (hQ : Forall2 (TokRel φ) Q Q') {r r' : St} (h : SSim φ r r') :
    TreeRel φ (full (a :: Q) r) (full (a' :: sp :: Q') r') := by
  rcases afterOps_cases hmem with hf | hop
  · rw [full_cons_ok (step_front r hf), full_cons_ok (step_front r' (by rw [ha.1]; exact hf)),
      full_cons_ok (step_space _ hsp)]
    apply full_ins hQ
    exact SIns.here ha.1 (Or.inl ⟨_, [], space_isSpace hsp, rfl, TSimL.nil⟩) h.1 h.2
  · have hop' : a'.text ∈ op3Texts := by rw [ha.1]; exact hop
    rw [full_cons_ok (step_atom r (op3_front hop) (op3_back hop)),
      full_cons_ok (step_atom r' (op3_front hop') (op3_back hop')),
      full_cons_ok (step_space _ hsp), appTop_appTop]
    apply full_ins hQ
    exact ssim_to_sins h (fun Y Y' hY => mk_afterOp hY (tokRel_tsim ha) (op3_isOp3 hop) (space_isSpace hsp))

theorem slot_before {Q Q' : List Token} {b b' sp : Token} (hsp : sp.text = spaceLit)
    (hb : TokRel φ b b') (hmem : b.text ∈ beforeOps) (hQ : Forall2 (TokRel φ) Q Q') {r r' : St} (h : SSim φ r r') :
    TreeRel φ (full (b :: Q) r) (full (sp :: b' :: Q') r') := by
  rw [full_cons_ok (step_space _ hsp)]
  rcases beforeOps_cases hmem with ⟨h1, h2⟩ | hop
  · obtain ⟨fr, base⟩ := r
    obtain ⟨fr', base'⟩ := r'
    obtain ⟨hf, hbase⟩ := h
    rw [full_cons, full_cons]
    cases hf with
    | nil => exact treeRel_bind (R := SIns φ) (step_close_nil_rel hb.1 h1 h2) fun _ _ ha => full_ins hQ ha
    | cons hf1 hf2 =>
      rename_i f f' rest rest'
      obtain ⟨o, items⟩ := f
      obtain ⟨o', items'⟩ := f'
      refine treeRel_bind (step_close_rel hb.1 hf1.1 h1 h2 ?_) fun _ _ ha => full_ins hQ ha
      exact ssim_to_sins ⟨hf2, hbase⟩
        (fun Y Y' hY => mk_group hY hf1.1 (Ins.trail (space_isSpace hsp) hf1.2 rfl))
  · have hop' : b'.text ∈ op3Texts := by rw [hb.1]; exact hop
    rw [full_cons_ok (step_atom r (op3_front hop) (op3_back hop)),
      full_cons_ok (step_atom _ (op3_front hop') (op3_back hop')), appTop_appTop]
    apply full_ins hQ
    exact ssim_to_sins h (fun Y Y' hY => mk_beforeOp hY (tokRel_tsim hb) (op3_isOp3 hop) (space_isSpace hsp))

end TreeIns

open TreeIns in
/-- Token lists of a text without / with one redundant space: after duplicate-space removal and the delimiter stack both
    fail alike, or the trees are similar, or the second has exactly one additional space atom at an admissible place. -/
theorem tree_insert (φ : Nat → Nat) (A A' B B' : List Token) (sp : Token)
    (hA : Forall2 (TokRel φ) A A') (hB : Forall2 (TokRel φ) B B') (hsp : sp.text = spaceLit)
    (hc : SlotCond A B) :
    TreeRel φ (buildTree (dedupSpaces (A ++ B) false) [] []) (buildTree (dedupSpaces (A' ++ sp :: B') false) [] []) := by
  rw [buildTree_eq_full, buildTree_eq_full]
  have hspS : sp.isSpace = true := isSpace_of_text hsp
  rcases hc with ⟨a, hla, hat⟩ | ⟨hAn, hBn, hcase⟩
  · -- the additional space directly follows a space: it is dropped
    obtain ⟨A0, rfl⟩ := List.getLast?_eq_some_iff.mp hla
    have hfl : flagAfter A' false = true := by
      rw [flagAfter_rel hA, flagAfter_snoc]; exact isSpace_of_text hat
    have e : dedupSpaces (A' ++ sp :: B') false = dedupSpaces (A' ++ B') false := by
      rw [dedup_append, dedup_append, hfl]
      simp [dedupSpaces, hspS]
    rw [e]
    exact full_sim (dedup_rel (Forall2.append hA hB) false) (ssim_init φ)
  · have hfA : flagAfter A false = false := by
      cases hl : A.getLast? with
      | none => rw [List.getLast?_eq_none_iff.mp hl]; rfl
      | some a =>
        obtain ⟨A0, rfl⟩ := List.getLast?_eq_some_iff.mp hl
        rw [flagAfter_snoc]; exact not_isSpace_of_text (hAn a hl)
    have hBs : ∀ b, B.head? = some b → b.isSpace = false := fun b hb => not_isSpace_of_text (hBn b hb)
    have hBs' : ∀ b, B'.head? = some b → b.isSpace = false := by
      cases hB with
      | nil => intro b hb; cases hb
      | cons h1 h2 =>
        intro b hb
        simp only [List.head?_cons, Option.some.injEq] at hb
        subst hb
        rw [tokRel_isSpace h1]; exact hBs _ rfl
    have e1 : dedupSpaces (A ++ B) false = dedupSpaces A false ++ dedupSpaces B false := by
      rw [dedup_append, hfA]
    have e2 : dedupSpaces (A' ++ sp :: B') false = dedupSpaces A' false ++ sp :: dedupSpaces B' false := by
      rw [dedup_append, flagAfter_rel hA, hfA]
      simp only [dedupSpaces, hspS, if_true, Bool.false_eq_true, if_false]
      rw [dedup_flag _ hBs']
    rw [e1, e2]
    have hDB := dedup_rel hB false
    rcases hcase with rfl | rfl | ⟨a, hla, hmem⟩ | ⟨b, hhb, hmem⟩
    · cases hA
      exact slot_begin hsp hDB
    · cases hB
      have := full_prefix step_sim (Q := []) (Q' := [sp]) (dedup_rel hA false) (fun r r' hr => slot_end hsp hr) (ssim_init φ)
      simpa [dedupSpaces] using this
    · obtain ⟨A0, rfl⟩ := List.getLast?_eq_some_iff.mp hla
      obtain ⟨A0', a', rfl, h0, haa⟩ := hA.snoc_left
      have hna : a.isSpace = false := not_isSpace_of_text (hAn a hla)
      have hna' : a'.isSpace = false := by rw [tokRel_isSpace haa]; exact hna
      rw [dedup_snoc_nonspace _ _ _ hna, dedup_snoc_nonspace _ _ _ hna', List.append_assoc, List.append_assoc]
      exact full_prefix step_sim (dedup_rel h0 false) (fun r r' hr => slot_after hsp haa hmem hDB hr) (ssim_init φ)
    · cases hB with
      | nil => cases hhb
      | cons h1 h2 =>
        simp only [List.head?_cons, Option.some.injEq] at hhb
        subst hhb
        have hnb := hBs _ rfl
        have hnb' := hBs' _ rfl
        rw [dedup_cons_nonspace _ _ _ hnb, dedup_cons_nonspace _ _ _ hnb']
        exact full_prefix step_sim (dedup_rel hA false)
          (fun r r' hr => slot_before hsp h1 hmem (dedup_rel h2 false) hr) (ssim_init φ)

end Einx.Notation
