import EinxModel.Proofs.CompileCorrect
import EinxModel.Proofs.UtilExec
/-! For `Props/C13Exec.lean` / `Props/C15Exec.lean`: the tagged trace `refTagged` of the reference evaluation is the tagged trace of
the emitted program (`Compile.emitAll_correct`), so which event a node produces is read off the reference run. -/
namespace Einx.Exec
open Einx.Compile

theorem convKw_names (cache : List (E × E)) (kwargs : List (String × E)) (ks : List E) (h : convKw cache kwargs = .ok ks) :
    ks.map kwName = kwargs.map (fun kv => some kv.1) := by
  refine mapM_ok_image _ kwName (fun kv => some kv.1) (fun kv e h1 => ?_) kwargs ks h
  simp only [bind_ok, pure_ok] at h1
  obtain ⟨v', _, rfl⟩ := h1
  rfl

theorem refVisit_call (g : Graph) (up : Bool) (r r' : RState) (i : Nat) (fn : E) (args : List E) (kwargs : List (String × E))
    (deps : List E) (out : Nat) (ha : g.apps[i]? = some (.call fn args kwargs deps out)) (hk : isAllowInline g fn = false)
    (h : refVisit g up r (.app i) = .ok r') :
    ∃ f as ks, convTop r.vals fn = .ok f ∧ r'.trace = r.trace ++ [.call (E.mk .call (f :: as ++ ks))] ∧
      as.length = args.length ∧ ks.map kwName = kwargs.map (fun kv => some kv.1) := by
  obtain ⟨_, rule, ha', hr, h⟩ := refVisit_app_ok.1 h
  cases ha.symm.trans ha'
  simp only [ruleOf, bind_ok, pure_ok] at hr
  obtain ⟨f, hf, as, has, ks, hks, rfl⟩ := hr
  have htr := (refRule_define r r' _ _ _ _ _ h).2
  simp only [hk, Bool.not_false, if_true] at htr
  exact ⟨f, as, ks, hf, htr, mapM_ok_length _ _ _ has, convKw_names _ _ _ hks⟩

theorem refTagged_once {g : Graph} {up : Bool} (F : Option Nat × Event → Bool) (I : RState → Prop) (Q : Option Nat × Event → Prop)
    (i : Nat) (order : List Visit) (hnd : order.Nodup) (hi : Visit.app i ∈ order)
    (step : ∀ r v r', v ∈ order → I r → refVisit g up r v = .ok r' →
      I r' ∧ (v ≠ .app i → (stepTagged r r' v).filter F = []) ∧ (v = .app i → ∃ e, Q e ∧ (stepTagged r r' v).filter F = [e]))
    (r0 r : RState) (h0 : I r0) (h : order.foldlM (refVisit g up) r0 = .ok r) :
    ∃ e, Q e ∧ (refTagged g up r0 order).filter F = [e] := by
  have none : ∀ (l : List Visit), (∀ v ∈ l, v ∈ order ∧ v ≠ .app i) → ∀ r r', I r → l.foldlM (refVisit g up) r = .ok r' →
      I r' ∧ (refTagged g up r l).filter F = [] := by
    intro l
    induction l with
    | nil => intro _ r r' hI h; cases h; exact ⟨hI, rfl⟩
    | cons v l ih =>
      intro hl r r' hI h
      rw [List.foldlM_cons, bind_ok] at h
      obtain ⟨r1, hv, h⟩ := h
      obtain ⟨hI1, hne, -⟩ := step r v r1 (hl v (List.mem_cons_self ..)).1 hI hv
      obtain ⟨hI', hf⟩ := ih (fun w hw => hl w (List.mem_cons_of_mem _ hw)) r1 r' hI1 h
      exact ⟨hI', by rw [refTagged_cons hv, List.filter_append, hf, List.append_nil]; exact hne (hl v (List.mem_cons_self ..)).2⟩
  obtain ⟨pre, post, rfl, hpre, hpost⟩ := mem_split_nodup order (.app i) hnd hi
  simp only [List.foldlM_append, List.foldlM_cons, bind_ok] at h
  obtain ⟨r1, h1, r2, h2, h3⟩ := h
  obtain ⟨hI1, f1⟩ := none pre (fun v hv => ⟨List.mem_append_left _ hv, fun e => hpre (e ▸ hv)⟩) r0 r1 h0 h1
  obtain ⟨hI2, -, hone⟩ := step r1 (.app i) r2 hi hI1 h2
  obtain ⟨e, hQ, f2⟩ := hone rfl
  obtain ⟨-, f3⟩ := none post (fun v hv => ⟨List.mem_append_right _ (List.mem_cons_of_mem _ hv), fun e => hpost (e ▸ hv)⟩) r2 r hI2 h3
  refine ⟨e, hQ, ?_⟩
  rw [refTagged_append g up pre _ r0 r1 h1, refTagged_cons h2, List.filter_append, List.filter_append, f1, f3, List.nil_append,
    List.append_nil]
  exact f2

/-- Application `j` is a call whose function operand is a `P` tracer. -/
def PCall (g : Graph) (P : Nat → Prop) (j : Nat) : Prop :=
  ∃ y args kwargs deps out, g.apps[j]? = some (.call (.var y) args kwargs deps out) ∧ P y

/-- The call node the theorems about compiled programs speak of: application `i` calls the `P` tracer `y`, an opaque callable;
the traversal visits it, and it is the only visited call of a `P` tracer. -/
structure CallSite (g : Graph) (order : List Visit) (P : Nat → Prop) (i y : Nat) (args : List E) (kwargs : List (String × E)) :
    Prop where
  node : ∃ deps out, g.apps[i]? = some (.call (.var y) args kwargs deps out)
  tracer : P y
  noInline : isAllowInline g (.var y) = false
  visited : Visit.app i ∈ order
  only : ∀ j, Visit.app j ∈ order → PCall g P j → j = i

theorem CallSite.pcall {g : Graph} {order : List Visit} {P : Nat → Prop} {i y : Nat} {args : List E} {kwargs : List (String × E)}
    (C : CallSite g order P i y args kwargs) : PCall g P i :=
  let ⟨deps, out, ha⟩ := C.node
  ⟨y, args, kwargs, deps, out, ha, C.tracer⟩

theorem CallSite.step {g : Graph} {order : List Visit} {P : Nat → Prop} {i y : Nat} {args : List E} {kwargs : List (String × E)}
    (C : CallSite g order P i y args kwargs) {up : Bool} {r r' : RState} (h : refVisit g up r (.app i) = .ok r') :
    ∃ f as ks, convTop r.vals (.var y) = .ok f ∧ stepTagged r r' (.app i) = [(some i, .call (E.mk .call (f :: as ++ ks)))] ∧
      as.length = args.length ∧ ks.map kwName = kwargs.map (fun kv => some kv.1) :=
  let ⟨deps, out, ha⟩ := C.node
  let ⟨f, as, ks, hf, htr, hl, hn⟩ := refVisit_call g up r r' i _ args kwargs deps out ha C.noInline h
  ⟨f, as, ks, hf, stepTagged_of_trace htr _, hl, hn⟩

/-- Is this tagged event produced by an application that satisfies `pred`? -/
def bySrc (pred : Nat → Bool) (p : Option Nat × Event) : Bool :=
  match p.1 with
  | some j => pred j
  | none => false

/-- `refTagged_once` without an invariant: a step tags its events with its own application, and among the visited ones only `i`
satisfies `pred`. -/
theorem tagged_call_once {g : Graph} {order : List Visit} {P : Nat → Prop} {i y : Nat} {args : List E} {kwargs : List (String × E)}
    (C : CallSite g order P i y args kwargs) (hnd : order.Nodup) (up : Bool) (r : RState) (h : evalGraph g up order = .ok r)
    (pred : Nat → Bool) (hpred : ∀ j, pred j = true ↔ PCall g P j) :
    ∃ f as ks, (refTagged g up {} order).filter (bySrc pred) = [(some i, .call (E.mk .call (f :: as ++ ks)))] ∧
      as.length = args.length ∧ ks.map kwName = kwargs.map (fun kv => some kv.1) := by
  have once := refTagged_once (g := g) (up := up) (bySrc pred) (fun _ => True)
    (fun e => ∃ f as ks, e = (some i, .call (E.mk .call (f :: as ++ ks))) ∧ as.length = args.length ∧
      ks.map kwName = kwargs.map (fun kv => some kv.1))
    i order hnd C.visited (fun r1 v r2 hv _ hstep => ⟨trivial, fun hne => ?_, fun heq => ?_⟩) {} r trivial h
  · obtain ⟨e, ⟨f, as, ks, rfl, hlen, hnames⟩, hf⟩ := once
    exact ⟨f, as, ks, hf, hlen, hnames⟩
  · refine List.filter_eq_nil_iff.2 fun p hp => ?_
    obtain ⟨ev, -, rfl⟩ := List.mem_map.1 hp
    cases v with
    | app j => exact fun hj => hne (congrArg Visit.app (C.only j hv ((hpred j).1 hj)))
    | _ => exact Bool.false_ne_true
  · subst heq
    obtain ⟨f, as, ks, -, hst, hl, hn⟩ := C.step hstep
    exact ⟨_, ⟨f, as, ks, rfl, hl, hn⟩, by simp [hst, bySrc, (hpred i).2 C.pcall]⟩

end Einx.Exec
