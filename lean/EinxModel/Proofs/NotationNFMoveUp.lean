import EinxModel.Proofs.NotationNFParse
/-!
# M1 Notation — normal form, layers 1 and 2: the two `move_up` passes

`moveUp_G`: on a tree of the grammar `G ao aa`, a successful `moveUp k` returns `k.wrap alts` with at least one
alternative; every alternative is in the grammar without the lifted node kind (`G (Lift.ao k ao) (Lift.aa k aa)`), an item stays an
item or becomes the empty list, an axis / flattened axis stays one.
-/
namespace Einx.Notation

namespace NF

/-- `Op` nodes allowed after lifting `k`. -/
def Lift.ao (k : Lift) (ao : Bool) : Bool := match k with | .op => false | .args => ao
/-- `Args` nodes allowed after lifting `k`. -/
def Lift.aa (k : Lift) (aa : Bool) : Bool := match k with | .op => aa | .args => false

/-- What is known about one alternative `a` of `x`: it is in the grammar without the lifted node kind; if `x` is an item
    (`item`), `a` is one or the empty list; if `x` is an axis or flattened axis (`axf`), so is `a`. -/
structure AltOK (k : Lift) (ao aa : Bool) (item axf : Bool) (a : Expr) : Prop where
  gram : G (Lift.ao k ao) (Lift.aa k aa) true a = true
  ofItem : item = true → (isItem a || isEmptyList a) = true
  ofAxf : axf = true → isAxisOrFlat a = true

/-- What is known about the result `y` of `moveUp k` on a tree with the flags `item`, `axf`. -/
def UpOK (k : Lift) (ao aa : Bool) (item axf : Bool) (y : Expr) : Prop :=
  ∃ alts b e, y = k.wrap alts b e ∧ alts ≠ [] ∧ ∀ a ∈ alts, AltOK k ao aa item axf a

theorem AltOK.weaken {k : Lift} {ao aa item axf item' axf' : Bool} {a : Expr} (h : AltOK k ao aa item axf a)
    (hi : item' = true → item = true) (hx : axf' = true → axf = true) : AltOK k ao aa item' axf' a :=
  ⟨h.gram, fun h' => h.ofItem (hi h'), fun h' => h.ofAxf (hx h')⟩

theorem UpOK.weaken {k : Lift} {ao aa item axf item' axf' : Bool} {y : Expr} (h : UpOK k ao aa item axf y)
    (hi : item' = true → item = true) (hx : axf' = true → axf = true) : UpOK k ao aa item' axf' y := by
  obtain ⟨alts, b, e, rfl, hne, ha⟩ := h
  exact ⟨alts, b, e, rfl, hne, fun a h' => (ha a h').weaken hi hx⟩

theorem pick_mem {idx : Nat} {o : Expr} (h : o.children.length = 1 ∨ idx < o.children.length) :
    pick idx o ∈ o.children := by
  unfold pick
  split
  · rename_i c hc
    rw [hc]; simp
  · rename_i hne
    rcases h with h | h
    · match hc : o.children, h with
      | [c], _ => exact (hne c hc).elim
    · rw [List.getD_eq_getElem?_getD, List.getElem?_eq_getElem h]
      simp

theorem distribute_alts (k : Lift) (cls : Cls) {ch : List Expr} (b e : Int) (arrows : List Int)
    (hch : ∀ o ∈ ch, o.children ≠ []) :
    OkP (fun y => ∃ alts, y = k.wrap alts b e ∧ alts ≠ [] ∧ ∀ a ∈ alts, ∃ picks, a = cls.create picks b e ∧
      picks.length = ch.length ∧ ∀ p ∈ picks, ∃ o ∈ ch, p ∈ o.children) (distribute k cls ch b e arrows) := by
  refine distribute_elim k cls ch b e arrows (fun _ => trivial) fun num hnum hall => ⟨_, rfl, ?_, fun a ha => ?_⟩
  · have hpos : 1 ≤ num := hnum.elim (fun h => h ▸ Nat.le_refl 1) fun ⟨o, ho, hn⟩ =>
      hn ▸ Nat.pos_of_ne_zero fun h0 => hch o ho (List.eq_nil_of_length_eq_zero h0)
    intro h0
    have := congrArg List.length h0
    simp only [List.length_map, List.length_range, List.length_nil] at this
    omega
  · obtain ⟨idx, hidx, rfl⟩ := List.mem_map.mp ha
    rw [List.mem_range] at hidx
    refine ⟨ch.map (pick idx), rfl, by simp, fun p hp => ?_⟩
    obtain ⟨o, ho, rfl⟩ := List.mem_map.mp hp
    exact ⟨o, ho, pick_mem ((hall o ho).imp_right fun h => by rw [h]; exact hidx)⟩

/-- What is known about the results of `moveUpL` on a list of children with the flags `item`, `axf`. -/
def UpsOK (k : Lift) (ao aa : Bool) (item axf : Bool) (n : Nat) (ch : List Expr) : Prop :=
  ch.length = n ∧ ∀ o ∈ ch, UpOK k ao aa item axf o

theorem UpOK.children_ne {k : Lift} {ao aa item axf : Bool} {o : Expr} (h : UpOK k ao aa item axf o) : o.children ≠ [] := by
  obtain ⟨alts, b, e, rfl, hne, _⟩ := h
  rw [children_wrap]; exact hne

theorem UpOK.alt {k : Lift} {ao aa item axf : Bool} {o p : Expr} (h : UpOK k ao aa item axf o) (hp : p ∈ o.children) :
    AltOK k ao aa item axf p := by
  obtain ⟨alts, b, e, rfl, _, ha⟩ := h
  rw [children_wrap] at hp
  exact ha p hp

theorem UpOK.map {k : Lift} {ao aa item axf item' axf' : Bool} {o : Expr} (mk : Expr → Expr)
    (h : UpOK k ao aa item axf o) (hmk : ∀ a, AltOK k ao aa item axf a → AltOK k ao aa item' axf' (mk a)) :
    UpOK k ao aa item' axf' (k.wrap (o.children.map mk) o.b o.e) := by
  obtain ⟨alts, b, e, rfl, hne, ha⟩ := h
  rw [children_wrap]
  refine ⟨_, _, _, rfl, by simpa using hne, ?_⟩
  intro a' ha'
  obtain ⟨a, haa, rfl⟩ := List.mem_map.mp ha'
  exact hmk a (ha a haa)

theorem distribute_ups (k : Lift) (cls : Cls) {ao aa item axf item' axf' : Bool} {n : Nat} {ch : List Expr} (b e : Int)
    (arrows : List Int) (h : UpsOK k ao aa item axf n ch)
    (hc : ∀ picks : List Expr, picks.length = n → (∀ p ∈ picks, AltOK k ao aa item axf p) →
      AltOK k ao aa item' axf' (cls.create picks b e)) :
    OkP (UpOK k ao aa item' axf') (distribute k cls ch b e arrows) := by
  refine (distribute_alts k cls b e arrows fun o ho => (h.2 o ho).children_ne).mono (fun _ h => h) fun y ⟨alts, hy, hne, ha⟩ => ?_
  refine ⟨alts, b, e, hy, hne, fun a haa => ?_⟩
  obtain ⟨picks, rfl, hl, hp⟩ := ha a haa
  refine hc picks (by rw [hl, h.1]) fun p hpp => ?_
  obtain ⟨o, ho, hpo⟩ := hp p hpp
  exact (h.2 o ho).alt hpo

theorem UpsOK.flatMap {k : Lift} {ao aa item axf : Bool} {n : Nat} {ch : List Expr} (h : UpsOK k ao aa item axf n ch)
    (hn : 1 ≤ n) (b e : Int) : UpOK k ao aa (item := false) (axf := false) (k.wrap (ch.flatMap Expr.children) b e) := by
  refine ⟨_, b, e, rfl, ?_, ?_⟩
  · match ch, h with
    | [], h => have := h.1; simp at this; omega
    | o :: os, h =>
      have := (h.2 o (by simp)).children_ne
      simp only [List.flatMap_cons, ne_eq, List.append_eq_nil_iff, not_and]
      intro h0; exact (this h0).elim
  · intro a ha
    obtain ⟨o, ho, hao⟩ := List.mem_flatMap.mp ha
    exact ((h.2 o ho).alt hao).weaken (fun h' => by cases h') (fun h' => by cases h')

/-- `moveUpL` on children whose results all satisfy `P`. -/
theorem moveUpL_okP {P : Expr → Prop} (k : Lift) (arrows : List Int) (cs : List Expr)
    (h : ∀ c ∈ cs, OkP P (moveUp k arrows c)) :
    OkP (fun ch => ch.length = cs.length ∧ ∀ o ∈ ch, P o) (moveUpL k arrows cs) := by
  refine ExceptP.of_ok (fun ch hch => ?_) fun _ _ => trivial
  rw [moveUpL_eq_mapM] at hch
  exact ⟨mapM_ok_length _ _ _ hch, (ExceptP.mapM_forall h).ok hch⟩

/-- The results of `moveUpL` on the children of a node, from the results of `moveUp` on each. -/
theorem moveUpL_ups {k : Lift} {arrows : List Int} {ao aa item : Bool} {cs : List Expr}
    (hit : item = true → ∀ c ∈ cs, isItem c = true)
    (ih : ∀ c ∈ cs, OkP (UpOK k ao aa (item := isItem c) (axf := isAxisOrFlat c)) (moveUp k arrows c)) :
    OkP (UpsOK k ao aa item (cs.all isAxisOrFlat) cs.length) (moveUpL k arrows cs) :=
  moveUpL_okP k arrows cs fun c hc => (ih c hc).mono (fun _ h => h) fun _ ho =>
    ho.weaken (fun h => hit h c hc) fun hx => List.all_eq_true.mp hx c hc

theorem moveUp_G (k : Lift) (arrows : List Int) (ao aa : Bool) {al : Bool} (x : Expr) (h : G ao aa al x = true) :
    OkP (UpOK k ao aa (item := isItem x) (axf := isAxisOrFlat x)) (moveUp k arrows x) := by
  induction h using G.rules with
  | @axis _ n v b e hax =>
    refine ⟨[.axis n v b e], -1, -1, rfl, by simp, fun a ha => ?_⟩
    rw [List.mem_singleton.mp ha]
    exact ⟨by simpa only [G] using hax, fun _ => rfl, fun _ => rfl⟩
  | @flat _ _ b e _ ih =>
    simp only [moveUp]
    refine ih.elim (fun _ _ => trivial) fun o _ ho => ho.map _ fun a ha => ?_
    have hf := isAxisOrFlat_mkFlat a b e
    exact ⟨G_mkFlat b e ha.gram, fun _ => by rw [isItem_of_axisOrFlat hf]; rfl, fun _ => hf⟩
  | @brackets _ _ b e _ _ ih =>
    simp only [moveUp]
    refine ih.elim (fun _ _ => trivial) fun o _ ho => ho.map _ fun a ha => ?_
    have hc := G_mkBrackets b e ha.gram
    exact ⟨hc.1, fun _ => hc.2.1, fun hx => (by cases hx)⟩
  | @dots _ bi ei d b e =>
    simp only [moveUp, children_wrap, List.map_cons, List.map_nil, ExceptP]
    refine ⟨_, _, _, rfl, by simp, fun a ha => ?_⟩
    rw [List.mem_singleton.mp ha, mkEllipsis_nf (i := .axis anonName none bi ei) b e d rfl]
    exact ⟨by simp only [G, isAnonAxisNone_anon, Bool.true_or], fun _ => rfl, fun hx => (by cases hx)⟩
  | @ellipsis _ _ d b e _ hit _ ih =>
    simp only [moveUp]
    refine ih.elim (fun _ _ => trivial) fun o _ ho => ho.map _ fun a ha => ?_
    have hc := G_mkEllipsis b e d ha.gram (ha.ofItem hit)
    exact ⟨hc.1, fun _ => hc.2, fun hx => (by cases hx)⟩
  | @concat _ cs b e h2 hax hit _ ih =>
    simp only [moveUp]
    refine (moveUpL_ups (item := true) (fun _ => hit) ih).elim (fun _ _ => trivial) fun ch _ hch => ?_
    refine distribute_ups k .concat b e arrows hch fun picks hl hp => ?_
    have h2' : 2 ≤ picks.length := by rw [hl]; exact h2
    refine ⟨G_mkConcat b e h2' (fun p hpp => (hp p hpp).ofAxf hax) (fun p hpp => (hp p hpp).gram), fun _ => ?_,
      fun hx => (by cases hx)⟩
    simp only [Cls.create, mkConcat_two b e h2', isItem, Bool.true_or]
  | @list cs b e hit _ ih =>
    simp only [moveUp]
    refine (moveUpL_ups (item := true) (fun _ => hit) ih).elim (fun _ _ => trivial) fun ch _ hch => ?_
    refine distribute_ups k .list b e arrows hch fun picks _ hp => ?_
    exact ⟨G_mkList b e (fun p hpp => (hp p hpp).gram) (fun p hpp => (hp p hpp).ofItem rfl),
      fun hx => (by cases hx), fun hx => (by cases hx)⟩
  | @args cs b e haa hne _ ih =>
    simp only [moveUp]
    refine (moveUpL_ups (item := false) (fun h => by cases h) ih).elim (fun _ _ => trivial) fun ch _ hch => ?_
    cases k with
    | op =>
      subst haa
      refine distribute_ups .op .args b e arrows hch fun picks hl hp => ?_
      have hn : 1 ≤ cs.length := List.length_pos_iff.mpr hne
      exact ⟨G_args b e (List.ne_nil_of_length_pos (by omega)) (fun p hpp => (hp p hpp).gram),
        fun hx => (by cases hx), fun hx => (by cases hx)⟩
    | args => exact hch.flatMap (List.length_pos_iff.mpr hne) b e
  | @op cs b e _ hne _ ih =>
    cases k with
    | args => simp [moveUp, ExceptP]
    | op =>
      simp only [moveUp]
      refine (moveUpL_ups (item := false) (fun h => by cases h) ih).elim (fun _ _ => trivial) fun ch _ hch => ?_
      exact hch.flatMap (List.length_pos_iff.mpr hne) b e

end NF

end Einx.Notation
