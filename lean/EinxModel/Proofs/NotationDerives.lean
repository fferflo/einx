import EinxModel.Proofs.NotationParseCases
/-!
# M1 Notation — the successful runs of `parse` as an inductive relation

`Derives ts b e ipc x` holds exactly when `parse ts b e ipc` returns the tree `x` (`parse_derives`, `derives_parse`): one rule per
successful branch, the trees of the operands of an operator given by a function on the operands, as their kinds are in `Gram.nary`.
A property of every tree that `parse` returns is an induction over `Derives`, which has neither the failing branches nor the `mapM`;
`Gram` is its projection to kinds (Proofs/GrammarParse.lean).
-/
namespace Einx.Notation

inductive Derives : List Tok → Nat → Nat → Bool → Expr → Prop where
  | nil {ts : List Tok} {b e : Nat} {ipc : Bool} : strip ts = [] → Derives ts b e ipc (mkList [] b e)
  | parenConcat {ts : List Tok} {b e : Nat} {ipc : Bool} {o c : Token} {inner : List Tok} {x : Expr} :
      strip ts = [.group o c inner] → o.text = ['('] →
      Derives inner (firstInnerPos inner c) (lastEnd inner (firstInnerPos inner c)) true x → x.isConcat = true →
      Derives ts b e ipc x
  | parenFlat {ts : List Tok} {b e : Nat} {ipc : Bool} {o c : Token} {inner : List Tok} {x : Expr} :
      strip ts = [.group o c inner] → o.text = ['('] →
      Derives inner (firstInnerPos inner c) (lastEnd inner (firstInnerPos inner c)) true x → ¬ x.isConcat = true →
      Derives ts b e ipc (mkFlat x o.b c.e)
  | bracket {ts : List Tok} {b e : Nat} {ipc : Bool} {o c : Token} {inner : List Tok} {x : Expr} :
      strip ts = [.group o c inner] → o.text = ['['] →
      Derives inner (firstInnerPos inner c) (lastEnd inner (firstInnerPos inner c)) false x →
      Derives ts b e ipc (mkBrackets x o.b c.e)
  | nary {ts : List Tok} {b e : Nat} {ipc : Bool} {t0 : Tok} {rest : List Tok} {op : Str} {r : Expr} (xs : TL → Expr) :
      strip ts = t0 :: rest → findOp naryOps (t0 :: rest) = some op →
      (∀ o ∈ keepOperands op (operands op (t0 :: rest)), Derives o.ts o.b o.e false (xs o)) →
      combine op ((keepOperands op (operands op (t0 :: rest))).map xs) t0.b (lastEnd (t0 :: rest) 0) ipc (t0 :: rest) = .ok r →
      Derives ts b e ipc r
  | axis {ts : List Tok} {b e : Nat} {ipc : Bool} {t : Token} {r : Expr} :
      strip ts = [.atom t] → findOp naryOps [.atom t] = none → t.text ≠ ellipsisLit → parseAxis t = .ok r →
      Derives ts b e ipc r
  | dots {ts : List Tok} {b e : Nat} {ipc : Bool} {t : Token} :
      strip ts = [.atom t] → t.text = ellipsisLit →
      Derives ts b e ipc (mkEllipsis (.axis anonName none t.b t.b) t.b t.e t.b)
  | ell {ts : List Tok} {b e : Nat} {ipc : Bool} {x : Tok} {t : Token} {y : Expr} :
      strip ts = [x, .atom t] → findOp naryOps [x, .atom t] = none → t.text = ellipsisLit →
      Derives [x] x.b x.e false y → Derives ts b e ipc (mkEllipsis y x.b t.e t.b)

/-- The tree that `parse` returns for an operand (`emptyList` if it fails). -/
def treeOfTL (o : TL) : Expr :=
  match parse o.ts o.b o.e false with
  | .ok x => x
  | .error _ => emptyList

theorem parse_derives (ts : List Tok) (b e : Nat) (ipc : Bool) : ∀ r, parse ts b e ipc = .ok r → Derives ts b e ipc r := by
  fun_induction parse ts b e ipc with
  | case1 ts b e ipc hs => intro r hr; cases hr; exact .nil hs
  | case2 | case6 | case7 | case11 | case13 | case14 => intro r hr; cases hr
  | case3 ts b e ipc o c inner hs ib x heq ho hc ih =>
    intro r hr; cases hr
    rw [ho] at ih heq
    exact .parenConcat hs (beq_iff_eq.mp ho) (ih x heq) hc
  | case4 ts b e ipc o c inner hs ib x heq ho hc ih =>
    intro r hr; cases hr
    rw [ho] at ih heq
    exact .parenFlat hs (beq_iff_eq.mp ho) (ih x heq) hc
  | case5 ts b e ipc o c inner hs ib x heq ho hb ih =>
    intro r hr; cases hr
    rw [Bool.eq_false_iff.mpr ho] at ih heq
    exact .bracket hs (beq_iff_eq.mp hb) (ih x heq)
  | case8 ts b e ipc t0 rest _ hs ts1 b1 e1 op hop xs heq ih =>
    intro r hr
    rw [mapM_attach_eq _ (fun (o : TL) => parse o.ts o.b o.e false)] at heq
    have hx : ∀ o ∈ keepOperands op (operands op ts1), parse o.ts o.b o.e false = .ok (treeOfTL o) := by
      intro o ho
      obtain ⟨x, _, hx⟩ := mapM_ok_all _ _ _ heq o ho
      rw [treeOfTL, hx]
    cases heq.symm.trans (mapM_ok_map _ treeOfTL _ hx)
    exact .nary treeOfTL hs hop (fun o ho => ih ⟨o, ho⟩ _ (hx o ho)) hr
  | case9 ts b e ipc t hs h1 h2 h3 ts1 hop => intro r hr; cases hr; exact .dots hs (beq_iff_eq.mp h1)
  | case10 ts b e ipc t hs ht _ _ ts1 hop => intro r hr; exact .axis hs hop (by simpa using ht) hr
  | case12 ts b e ipc x t hs ht operand heq _ _ ts1 hop ih =>
    intro r hr; cases hr
    exact .ell hs hop (beq_iff_eq.mp ht) (ih operand heq)

theorem derives_parse {ts : List Tok} {b e : Nat} {ipc : Bool} {r : Expr} (h : Derives ts b e ipc r) :
    parse ts b e ipc = .ok r := by
  induction h with
  | nil hs => exact parse_nil _ _ _ hs
  | parenConcat hs ho _ hc ih =>
    rw [parse_group _ _ _ hs, beq_iff_eq.mpr (show _ = lit "(" from ho), ih]
    exact if_pos hc
  | parenFlat hs ho _ hc ih =>
    rw [parse_group _ _ _ hs, beq_iff_eq.mpr (show _ = lit "(" from ho), ih]
    exact if_neg hc
  | bracket hs ho _ ih =>
    have h1 : (_ == lit "(") = false := ho ▸ (by decide : (['['] == lit "(") = false)
    rw [parse_group _ _ _ hs, h1, ih]
    simp only [Bool.false_eq_true, if_false]
    rw [if_pos (beq_iff_eq.mpr (show _ = lit "[" from ho))]
  | @nary ts b e ipc t0 rest op r xs hs hop _ hc ih =>
    rw [parse_nary b e ipc hs hop, mapM_ok_map _ xs _ ih]
    exact hc
  | axis hs hop hne hr =>
    rw [parse_atom _ _ _ hs hop, if_neg (by simpa using hne)]
    exact hr
  | dots hs ht =>
    rw [parse_atom _ _ _ hs (findOp_dots_none ht), if_pos (beq_iff_eq.mpr ht)]
  | ell hs hop ht _ ih =>
    rw [parse_ell _ _ _ hs hop, if_pos (beq_iff_eq.mpr ht), ih]

theorem treeOfTL_eq {o : TL} {x : Expr} (h : Derives o.ts o.b o.e false x) : treeOfTL o = x := by
  rw [treeOfTL, derives_parse h]

end Einx.Notation
