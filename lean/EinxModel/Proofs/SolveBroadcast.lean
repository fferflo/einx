import EinxModel.Proofs.SolveRankSem
/-!
A scalar (or lower-rank) constraint array against the same array repeated along a new leading
dimension (`Constraint.broadcast`): same value equations under the rank system, one more rank equation.
-/
namespace Einx.Solve

theorem constraintValue_broadcast (c : Constraint) (d : Nat) (hwf : c.vals.length = c.shape.foldr (· * ·) 1)
    (ipre isuf : List Nat) (i : Nat) (hi : i < d) (hs : isuf.length = c.shape.length) :
    constraintValue (c.broadcast d) (ipre ++ i :: isuf) = constraintValue c (ipre ++ i :: isuf) := by
  unfold constraintValue Constraint.broadcast
  have h1 : ¬ (ipre ++ i :: isuf).length < (d :: c.shape).length := by simp; omega
  have h2 : ¬ (ipre ++ i :: isuf).length < c.shape.length := by simp; omega
  simp only [h1, h2, ↓reduceIte]
  rw [drop_length_sub ipre (i :: isuf) (by simp [hs]),
    show ipre ++ i :: isuf = (ipre ++ [i]) ++ isuf by simp, drop_length_sub (ipre ++ [i]) isuf hs]
  simp only [ravel?, hi, ↓reduceIte]
  cases hr : ravel? c.shape isuf with
  | none => rfl
  | some r =>
    have hlt := ravel?_lt hr
    simp only [Option.map_some]
    rw [← hwf] at hlt ⊢
    exact flatten_replicate_getElem? c.vals d i r hi hlt

theorem split_idx {ρ : Var → Nat} {id : Var} {suf : List Var} : ∀ (pre : List Var) (idx : List Nat) (st' : List Var),
    bounded ρ idx st' → (pre ++ id :: suf).map ρ = st'.map ρ →
    ∃ ipre i isuf, idx = ipre ++ i :: isuf ∧ isuf.length = suf.length ∧ i < ρ id
  | [], i :: is, b :: bs => fun hb hs => by
    simp only [List.nil_append, List.map_cons, List.cons.injEq] at hs
    refine ⟨[], i, is, rfl, ?_, hs.1 ▸ hb.1⟩
    rw [bounded_length hb.2]
    simpa using (congrArg List.length hs.2).symm
  | p :: pre, j :: js, b :: bs => fun hb hs => by
    simp only [List.cons_append, List.map_cons, List.cons.injEq] at hs
    obtain ⟨ipre, i, isuf, he, h1, h2⟩ := split_idx pre js bs hb.2 hs.2
    exact ⟨j :: ipre, i, isuf, by rw [he]; rfl, h1, h2⟩
  | [], [], _ :: _ => fun hb _ => hb.elim
  | _ :: _, [], _ :: _ => fun hb _ => hb.elim
  | [], _, [] => fun _ hs => by simp at hs
  | _ :: _, _, [] => fun _ hs => by simp at hs

/-- Rank level: the repeated array adds the equation "count of the new level = d". -/
theorem broadcast_rank (ρ : Var → Nat) (occ : List (String × List Var)) (c : Constraint) (d : Nat)
    (pre suf : List Var) (id : Var) (hst : occ.lookup c.name = some (pre ++ id :: suf))
    (hsuf : suf.length = c.shape.length) :
    (∀ q ∈ constraintRankEqns true occ (c.broadcast d), holds ρ q) ↔
      (∀ q ∈ constraintRankEqns true occ c, holds ρ q) ∧ ρ id = d := by
  rw [constraintRank_holds ρ occ c _ hst, constraintRank_holds ρ occ (c.broadcast d) _ hst]
  have hsh : (c.broadcast d).shape = d :: c.shape := rfl
  rw [hsh, drop_length_sub pre (id :: suf) (by simp [hsuf]),
    show pre ++ id :: suf = (pre ++ [id]) ++ suf by simp, drop_length_sub (pre ++ [id]) suf hsuf]
  simp only [List.map_cons, List.cons.injEq, List.length_cons, List.length_append]
  constructor
  · rintro ⟨_, h1, h2⟩; exact ⟨⟨by omega, h2⟩, h1⟩
  · rintro ⟨⟨_, h2⟩, h1⟩; exact ⟨by omega, h1, h2⟩

/-- Value level: under the rank system (and the count of the new level being `d`) the repeated array
gives every expanded axis the value the original array gives. -/
theorem broadcast_value_eq (inp : Input) (ρ : Var → Nat) (hR : Sat (rankSystem true inp) ρ)
    (c : Constraint) (d : Nat) (hwf : c.vals.length = c.shape.foldr (· * ·) 1)
    (pre suf : List Var) (id : Var) (hst : inp.occs.lookup c.name = some (pre ++ id :: suf))
    (hsuf : suf.length = c.shape.length) (hd : ρ id = d) :
    ∀ a ∈ inp.axes ρ, a.1 = c.name → constraintValue (c.broadcast d) a.2.1 = constraintValue c a.2.1 := by
  intro a ha hn
  rw [sat_rankSystem_iff] at hR
  obtain ⟨_, hsame, _⟩ := hR
  obtain ⟨st', hmem, hb⟩ := inputAxes_occs ha
  have hsc : (pre ++ id :: suf).map ρ = st'.map ρ :=
    (sameName_holds ρ inp.occs []).mp hsame (a.1, st') hmem (pre ++ id :: suf) (hn ▸ hst)
  obtain ⟨ipre, i, isuf, he, h1, h2⟩ := split_idx pre a.2.1 st' hb hsc
  rw [he]
  exact constraintValue_broadcast c d hwf ipre isuf i (by omega) (by omega)

end Einx.Solve
