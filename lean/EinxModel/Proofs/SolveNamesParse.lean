import EinxModel.Proofs.NotationNFTraverse
import EinxModel.Solve.FromNotation
import EinxModel.Proofs.SolveNames
/-!
`plainNames` holds for every input whose expressions come from the parser model: by the grammar of
`parseOp`'s results (`Proofs/NotationNF*.lean`, `NF.parseOp_NRoot`) a named axis carries a name
matching `[a-zA-Z_][a-zA-Z0-9_]*` or — directly under an ellipsis — the anonymous ellipsis name.
-/
namespace Einx.Solve
open Einx.Notation (N NL NArgs NRoot isAxisName anonName axisOK anonNone_inv)

/-- What the stage-1 parser can give a named axis: an identifier or the anonymous ellipsis name. -/
def ParserName (s : String) : Prop := identName s = true ∨ s = Einx.Extracted.anonymousVariableName

/-- An occurrence (name, enclosing ellipses) as the stage-1 parser can produce it: an identifier
anywhere, or the anonymous name under at least one ellipsis. -/
def ParserOcc (p : String × List Var) : Prop :=
  identName p.1 = true ∨ (p.1 = Einx.Extracted.anonymousVariableName ∧ p.2 ≠ [])

theorem ParserOcc.name {p : String × List Var} (h : ParserOcc p) : ParserName p.1 :=
  h.elim Or.inl (fun h => Or.inr h.1)

theorem isIdentStart_eq (c : Char) : isIdentStart c = Einx.Notation.isNameStart c := by
  simp [isIdentStart, Einx.Notation.isNameStart, Einx.Notation.isAsciiLetter]

theorem isIdentCont_eq (c : Char) : isIdentCont c = Einx.Notation.isNameCont c := by
  simp only [isIdentCont, isIdentStart, Einx.Notation.isNameCont, Einx.Notation.isAsciiLetter, Einx.Notation.isAsciiDigit]
  cases (decide ('a' ≤ c) && decide (c ≤ 'z') || decide ('A' ≤ c) && decide (c ≤ 'Z')) <;>
    cases (c == '_') <;> cases (decide ('0' ≤ c) && decide (c ≤ '9')) <;> rfl

theorem identChars_eq_isAxisName (n : List Char) : identChars n = isAxisName n := by
  cases n with
  | nil => rfl
  | cons c cs =>
    simp only [identChars, isAxisName, isIdentStart_eq]
    congr 1
    have : isIdentCont = Einx.Notation.isNameCont := funext isIdentCont_eq
    rw [this]

theorem identChars_plain {s : List Char} (h : identChars s = true) : plainChars s = true := by
  have hall : ∀ c ∈ s, isIdentCont c = true := by
    cases s with
    | nil => simp [identChars] at h
    | cons c cs =>
      simp only [identChars, Bool.and_eq_true, List.all_eq_true] at h
      intro d hd
      rcases List.mem_cons.mp hd with rfl | hd
      · simp [isIdentCont, h.1]
      · exact h.2 d hd
  -- neither `#` nor `.` is an identifier character
  rw [plainChars_iff]
  exact ⟨fun hm => absurd (hall _ hm) (by decide), fun hm => absurd (hall _ hm) (by decide)⟩

theorem anonName_plain : plainName Einx.Extracted.anonymousVariableName = true := by
  -- `toList` of the literal by the theorem about `String.ofList`; evaluating it in the kernel is dear
  rw [plainName, Einx.Extracted.anonymousVariableName, String.toList_ofList]
  decide +kernel

theorem parserName_plain {s : String} (h : ParserName s) : plainName s = true := by
  rcases h with h | h
  · exact identChars_plain h
  · subst h; exact anonName_plain

theorem occsL_toSolveL {P : String × List Var → Prop} {st : List Var} : ∀ {cs : List Einx.Notation.Expr},
    (∀ c ∈ cs, ∀ p ∈ occs st (toSolve c), P p) → ∀ p ∈ occsL st (toSolveL cs), P p
  | [], _, p, hp => by simp [toSolveL, occsL] at hp
  | c :: cs, h, p, hp => by
    simp only [toSolveL, occsL, List.mem_append] at hp
    exact hp.elim (h c List.mem_cons_self p) (occsL_toSolveL (fun c' hc' => h c' (List.mem_cons_of_mem _ hc')) p)

theorem N_occs {x : Einx.Notation.Expr} {inBr al : Bool} (h : N inBr al x = true) :
    ∀ st, ∀ p ∈ occs st (toSolve x), ParserOcc p := by
  induction h using Einx.Notation.N.rules with
  | @axis _ _ _ v _ _ hax =>
    intro st p hp
    cases v with
    | none =>
      simp only [toSolve, occs, List.mem_singleton] at hp
      subst hp
      left
      simp only [identName, String.toList_ofList, identChars_eq_isAxisName]
      exact hax
    | some k => simp [toSolve, occs] at hp
  | flat _ _ ih | brackets _ _ _ ih | ellipsis _ _ ih =>
    intro st p hp
    simp only [toSolve, occs] at hp
    exact ih _ p hp
  | dots =>
    intro st p hp
    simp only [toSolve, occs, List.mem_singleton] at hp
    subst hp
    right
    exact ⟨by simp only [anonName, String.ofList_toList], by simp⟩
  | concat _ _ _ ih | list _ _ ih =>
    intro st p hp
    simp only [toSolve, occs] at hp
    exact occsL_toSolveL (fun c hc => ih c hc _) p hp

theorem NL_occs : ∀ (cs : List Einx.Notation.Expr) (inBr : Bool), NL inBr cs = true →
    ∀ st, ∀ p ∈ occsL st (toSolveL cs), ParserOcc p :=
  fun _ _ h st => occsL_toSolveL fun c hc => N_occs (Einx.Notation.NF.NL_iff.mp h c hc) st

theorem parseOp_names (text : Einx.Notation.Str) (t : Einx.Notation.Expr) (h : Einx.Notation.parseOp text = .ok t) :
    ∀ e ∈ operandExprs t, ∀ st, ∀ p ∈ occs st e, ParserOcc p := by
  have hr := (Einx.Notation.NF.parseOp_NRoot text t h).1
  intro e he st p hp
  cases t with
  | op cs b0 e0 =>
    simp only [NRoot, Bool.and_eq_true, List.all_eq_true] at hr
    simp only [operandExprs, Einx.Notation.Expr.children, List.mem_flatMap, List.mem_map] at he
    obtain ⟨side, hside, x, hx, rfl⟩ := he
    have hs := hr.2 side hside
    cases side with
    | args as b1 e1 =>
      simp only [NArgs, Bool.and_eq_true, List.all_eq_true] at hs
      simp only at hx
      exact N_occs (hs.2 x hx) st p hp
    | _ => simp [NArgs] at hs
  | _ => simp [NRoot] at hr

theorem parseOp_plainNames (text : Einx.Notation.Str) (t : Einx.Notation.Expr) (h : Einx.Notation.parseOp text = .ok t)
    (inp : Input) (hts : ∀ tn ∈ inp.tensors, tn.expr ∈ operandExprs t) : plainNames inp = true := by
  simp only [plainNames, Input.axisNames, List.all_eq_true, List.mem_map]
  rintro n ⟨p, hp, rfl⟩
  unfold Input.occs at hp
  obtain ⟨tn, htn, hp⟩ := List.mem_flatMap.mp hp
  exact parserName_plain (parseOp_names text t h _ (hts tn htn) [] p hp).name

end Einx.Solve
