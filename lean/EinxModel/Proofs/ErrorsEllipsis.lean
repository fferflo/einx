import EinxModel.Proofs.Errors
import EinxModel.Proofs.NotationDerives
/-!
# C03 — the extra invariant `get_pos_for_ellipses` needs, derived from the parser model

`get_pos_for_ellipses` reports `range(end_pos - 3, end_pos)` for every `Ellipsis` node with `begin_pos >= 0`.  For that to
lie inside the string the node must end at least three characters into the string and inside it (`EllP`).  This is true of parser
output because the last token of every ellipsis node is the literal `...`: "a token is as long as its text" is carried from the
lexer through the delimiter stack to `parse`, which makes the positions; `EllP` is node-wise, so both `move_up` passes and the
redundant-bracket pass keep it.
-/
namespace Einx.Errors
open Einx.Notation

/-- An ellipsis node is at the default position or ends ≥ 3 characters into a string of length `n`, inside it. -/
def EllR (n : Nat) (b e : Int) : Prop := b < 0 ∨ (3 ≤ e ∧ e ≤ n)

mutual
def EllP (n : Nat) : Expr → Prop
  | .axis .. => True
  | .flat i _ _ => EllP n i
  | .brackets i _ _ => EllP n i
  | .ellipsis i _ b e => EllR n b e ∧ EllP n i
  | .concat cs _ _ => EllPL n cs
  | .list cs _ _ => EllPL n cs
  | .args cs _ _ => EllPL n cs
  | .op cs _ _ => EllPL n cs
def EllPL (n : Nat) : List Expr → Prop
  | [] => True
  | c :: cs => EllP n c ∧ EllPL n cs
end

theorem ellPL_iff {n : Nat} {cs : List Expr} : EllPL n cs ↔ ∀ c ∈ cs, EllP n c := by
  induction cs with
  | nil => simp [EllPL]
  | cons c cs ih => simp [EllPL, ih]

/-- What `EllP` asks of one node. -/
def EllNode (n : Nat) : Expr → Prop
  | .ellipsis _ _ b e => EllR n b e
  | _ => True

theorem ellP_nodeWise (n : Nat) : NodeWise (EllNode n) (EllP n) :=
  have t : ∀ {p : Prop}, p ↔ True ∧ p := ⟨fun h => ⟨trivial, h⟩, And.right⟩
  have l : ∀ cs, EllPL n cs ↔ True ∧ ∀ c ∈ cs, EllP n c := fun _ => ellPL_iff.trans t
  .of_cases (fun _ _ _ _ => Iff.rfl) (fun _ _ _ => t) (fun _ _ _ => t) (fun _ _ _ _ => Iff.rfl)
    (fun cs _ _ => l cs) (fun cs _ _ => l cs) (fun cs _ _ => l cs) (fun cs _ _ => l cs) trivial

theorem ellNode_headOnly (n : Nat) : HeadOnly (EllNode n) :=
  ⟨fun _ h => h, fun _ h => h, fun _ h => h, fun _ h => h, fun _ h => h, fun _ h => h, fun _ h => h⟩

theorem ellNode_wrapClosed (n : Nat) : WrapClosed (EllNode n) :=
  ⟨fun k _ => by cases k <;> trivial, fun k _ _ _ => by cases k <;> trivial⟩

theorem EllP.children {n : Nat} {x : Expr} (h : EllP n x) : ∀ c ∈ x.children, EllP n c :=
  (ellP_nodeWise n).children h

/-! ### Tokens are as long as their text -/

def TokenL (n : Nat) (t : Token) : Prop := t.e = t.b + t.text.length ∧ t.e ≤ n

/-- Every atom of a token tree is as long as its text. -/
abbrev TokL (n : Nat) : Tok → Prop := TokAll (TokenL n) fun _ _ => True

theorem lex_len (text : Str) : OkP (fun ts => ∀ t ∈ ts, TokenL text.length t) (lex text) := by
  have hok := segment_ok literals text 0 0 [] text.length (by simp) (by simp)
  have hlen := segment_len literals text 0 0 [] (by simp)
  exact lex_elim text (fun _ _ _ => trivial) fun _ t ht => ⟨hlen t ht, (hok t ht).2⟩

theorem buildTree_len (n : Nat) {ts : List Token} (hts : ∀ t ∈ ts, TokenL n t) :
    OkP (TokAllL (TokenL n) fun _ _ => True) (buildTree ts [] []) :=
  buildTree_all (T := TokenL n) (O := fun _ => True) (fun _ _ _ => trivial) (fun _ h _ _ => h) (fun _ _ _ _ _ _ => trivial)
    (fun _ _ => trivial) (fun _ _ => trivial) hts

/-! ### `parse` establishes the invariant, `finish` keeps it -/

theorem combine_ell {n : Nat} {op : Str} {xs : List Expr} {b e : Nat} {ipc : Bool} {ts : List Tok}
    (hxs : ∀ x ∈ xs, EllP n x) : OkP (EllP n) (combine op xs b e ipc ts) :=
  combine_elim op xs b e ipc ts (fun _ => (ellP_nodeWise n).mkList (fun _ => trivial) hxs) (fun _ => ellPL_iff.mpr hxs)
    (fun _ => ellPL_iff.mpr hxs) (fun _ _ => trivial) (fun _ _ _ => trivial) (fun _ _ _ => (ellP_nodeWise n).mkConcat trivial hxs)
    fun _ => trivial

theorem parseAxis_ell {n : Nat} (t : Token) : OkP (EllP n) (parseAxis t) :=
  parseAxis_elim t (fun _ _ => trivial) (fun _ _ => trivial) (fun _ _ => trivial) fun _ _ => trivial

theorem ellToken {n : Nat} {t : Token} (ht : TokenL n t) (htext : t.text = ellipsisLit) (b : Int) :
    EllR n b (Int.ofNat t.e) := by
  have hl : ellipsisLit.length = 3 := by decide
  unfold TokenL at ht
  rw [htext, hl] at ht
  right
  simp only [Int.ofNat_eq_natCast]
  omega

theorem tokL_of_strip_group {n : Nat} {ts inner : List Tok} {o c : Token} (hts : ∀ t ∈ ts, TokL n t)
    (hs : strip ts = [Tok.group o c inner]) : ∀ t ∈ inner, TokL n t :=
  (tokAll_group.mp (hts (Tok.group o c inner) (mem_strip (by rw [hs]; simp)))).2

theorem derives_ell {n : Nat} {ts : List Tok} {b e : Nat} {ipc : Bool} {r : Expr} (h : Derives ts b e ipc r) :
    (∀ t ∈ ts, TokL n t) → EllP n r := by
  have hw := ellP_nodeWise n
  induction h with
  | nil => exact fun _ => hw.mkList (fun _ => trivial) fun _ h => nomatch h
  | parenConcat hs _ _ _ ih => exact fun hts => ih (tokL_of_strip_group hts hs)
  | parenFlat hs _ _ _ ih => exact fun hts => hw.mkFlat trivial (ih (tokL_of_strip_group hts hs))
  | bracket hs _ _ ih => exact fun hts => hw.mkBrackets trivial (ih (tokL_of_strip_group hts hs))
  | nary xs hs _ _ hc ih =>
    intro hts
    refine (combine_ell (List.forall_mem_map.mpr fun o ho => ih o ho fun t ht => hts t (mem_strip ?_))).ok hc
    rw [hs]
    exact (operands_mem (mem_keepOperands ho) ht).1
  | axis _ _ _ hr => exact fun _ => (parseAxis_ell _).ok hr
  | @dots _ _ _ _ t hs ht =>
    intro hts
    have htk : TokL n (Tok.atom t) := hts _ (mem_strip (by rw [hs]; simp))
    exact hw.mkEllipsis (i := Expr.axis anonName none t.b t.b) (id := t.b) (ellToken htk ht _) trivial
  | @ell _ _ _ _ x t _ hs _ ht _ ih =>
    intro hts
    have hx : TokL n x := hts x (mem_strip (by rw [hs]; simp))
    have htk : TokL n (Tok.atom t) := hts _ (mem_strip (by rw [hs]; simp))
    exact hw.mkEllipsis (ellToken htk ht _) (ih (by simpa using hx))

theorem checkBrackets_ell {n : Nat} {x : Expr} (h : EllP n x) : OkP (EllP n) (checkBrackets x) :=
  checkBrackets_elim x (fun _ => h) fun _ _ _ => trivial

theorem finish_ell {n : Nat} (arrows : List Int) {x : Expr} (h : EllP n x) : OkP (EllP n) (finish arrows x) :=
  (ellP_nodeWise n).finish (ellNode_headOnly n) (ellNode_wrapClosed n) arrows (fun _ => trivial) (fun _ => trivial)
    (fun _ => checkBrackets_ell) h

/-- Every ellipsis node of a tree returned by `parse_op` is at the default position or ends with a `...` inside the string. -/
theorem parseOp_ell (text : Str) : OkP (EllP text.length) (parseOp text) := by
  rw [parseOp_bind]
  refine (lex_len text).bind fun toks _ htoks => ?_
  refine (buildTree_len text.length fun t ht => htoks t (mem_dedupSpaces ht)).bind fun tree _ htree => ?_
  exact (ExceptP.of_ok (fun x hp => derives_ell (parse_derives _ _ _ _ x hp) (tokAllL_iff.mp htree)) fun _ _ => trivial).bind
    fun x _ hx => finish_ell _ hx

/-! ### Sub-expressions and `stage1.map` keep the invariant -/

theorem nodesL_ell {n : Nat} : ∀ (cs : List Expr), EllPL n cs → ∀ y ∈ nodesL cs, EllP n y :=
  fun _ h => (ellP_nodeWise n).nodesL (ellPL_iff.mp h)

theorem mapExprL_ell {n : Nat} (f : Expr → Option Expr) (hf : ∀ y z, f y = some z → EllP n z) :
    ∀ (cs : List Expr), EllPL n cs → ∀ c ∈ mapExprL f cs, EllP n c :=
  fun _ h => (ellP_nodeWise n).mapExprL (ellNode_headOnly n) f (fun y z _ => hf y z) (ellPL_iff.mp h)

/-! ### From the invariant to the decidable hypothesis of `indicator_ellipses_in_range_partial` -/

theorem ellNodeOK_of_EllP {n : Nat} {y : Expr} (h : EllP n y) : ellNodeOK n y = true := by
  cases y <;> try rfl
  simp only [ellNodeOK, Bool.or_eq_true, Bool.and_eq_true, decide_eq_true_eq]
  exact h.1

theorem ellNodesL_of_EllPL {n : Nat} : ∀ (cs : List Expr), EllPL n cs → ∀ y ∈ nodesL cs, ellNodeOK n y = true :=
  fun cs h y hy => ellNodeOK_of_EllP (nodesL_ell cs h y hy)

theorem ellOK_of_EllP {n : Nat} {x : Expr} (h : EllP n x) : ellOK n x = true :=
  List.all_eq_true.mpr fun y hy => ellNodeOK_of_EllP ((ellP_nodeWise n).nodes x h y hy)

end Einx.Errors
