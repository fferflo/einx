import EinxModel.Proofs.NotationSim
import EinxModel.Proofs.NotationDerives
/-!
# M1 Notation — the fresh names of numeric axes in a result of `parse` are pairwise distinct

`parse` names a numeric axis `unnamed.<begin position of its token>`.  The tokens of the lexer have strictly increasing begin
positions (`segment_tiles`), the duplicate-space pass and the delimiter stack keep their order (`dedupSpaces_sublist`,
`buildTree_abL`), and `parse` uses every token at most once (`derives_vnames`).  Hence the names of the numeric axes of a
result of `parse` are pairwise distinct (`parse_fresh_nodup`).
-/
namespace Einx.Notation

namespace Fresh
open scoped List

mutual
/-- Begin positions of the atoms (not the delimiters), in source order. -/
def abT : Tok → List Nat
  | .atom t => [t.b]
  | .group _ _ inner => abL inner
def abL : List Tok → List Nat
  | [] => []
  | t :: ts => abT t ++ abL ts
end

mutual
/-- Names of the numeric axes, in pre-order. -/
def vnames : Expr → List Str
  | .axis n v _ _ => match v with | none => [] | some _ => [n]
  | .flat i _ _ | .brackets i _ _ | .ellipsis i _ _ _ => vnames i
  | .concat cs _ _ | .list cs _ _ | .args cs _ _ | .op cs _ _ => vnamesL cs
def vnamesL : List Expr → List Str
  | [] => []
  | c :: cs => vnames c ++ vnamesL cs
end

/-- The fresh names that the atoms of a token tree can give rise to. -/
def FN (ts : List Tok) : List Str := (abL ts).map unnamedName

theorem abL_append : ∀ (xs ys : List Tok), abL (xs ++ ys) = abL xs ++ abL ys
  | [], ys => by simp [abL]
  | x :: xs, ys => by simp only [List.cons_append, abL, abL_append xs ys, List.append_assoc]

theorem abL_sublist {xs ys : List Tok} (h : xs <+ ys) : abL xs <+ abL ys := by
  induction h with
  | slnil => exact List.Sublist.refl _
  | cons a _ ih => simp only [abL]; exact ih.trans (List.sublist_append_right _ _)
  | cons_cons a _ ih => simp only [abL]; exact List.Sublist.append (List.Sublist.refl _) ih

theorem FN_sublist {xs ys : List Tok} (h : xs <+ ys) : FN xs <+ FN ys := (abL_sublist h).map _

theorem vnamesL_eq_flatMap : ∀ cs : List Expr, vnamesL cs = cs.flatMap vnames
  | [] => rfl
  | c :: cs => by rw [vnamesL, List.flatMap_cons, vnamesL_eq_flatMap cs]

theorem flattenAll_vnames_of {cs : List Expr} (h : ∀ c ∈ cs, vnamesL (flattenOne c) = vnames c) :
    vnamesL (flattenAll cs) = vnamesL cs := by
  rw [flattenAll_eq_flatMap, vnamesL_eq_flatMap, vnamesL_eq_flatMap, List.flatMap_assoc, List.flatMap_def, List.flatMap_def]
  exact congrArg List.flatten (List.map_congr_left fun c hc => (vnamesL_eq_flatMap _).symm.trans (h c hc))

theorem flattenOne_vnames : ∀ (x : Expr), vnamesL (flattenOne x) = vnames x := by
  intro x
  induction x using Expr.memInduction with
  | list cs _ _ ih => exact flattenAll_vnames_of ih
  | axis | flat | brackets | ellipsis | concat | args | op => simp only [flattenOne, vnamesL, List.append_nil]

theorem flattenAll_vnames (cs : List Expr) : vnamesL (flattenAll cs) = vnamesL cs :=
  flattenAll_vnames_of fun c _ => flattenOne_vnames c

theorem vnames_mkList (xs : List Expr) (b e : Int) : vnames (mkList xs b e) = vnamesL xs :=
  mkList_elim (motive := fun r => vnames r = vnamesL xs)
    (fun c hc => by rw [← flattenAll_vnames xs, hc, vnamesL, vnamesL, List.append_nil]) fun _ => flattenAll_vnames xs

theorem vnames_mkConcat (xs : List Expr) (b e : Int) : vnames (mkConcat xs b e) = vnamesL xs :=
  mkConcat_elim (motive := fun r => vnames r = vnamesL xs) (fun c hc => by rw [hc, vnamesL, vnamesL, List.append_nil]) fun _ => rfl

theorem vnames_mkFlat (a : Expr) (b e : Int) : vnames (mkFlat a b e) = vnames a :=
  mkFlat_elim (motive := fun r => vnames r = vnames a) (fun _ => rfl) fun _ => rfl

theorem vnames_mkBrackets (a : Expr) (b e : Int) : vnames (mkBrackets a b e) <+ vnames a :=
  mkBrackets_elim (motive := fun r => vnames r <+ vnames a) (fun _ => List.Sublist.refl _) (fun _ => List.nil_sublist _)
    fun _ _ => List.Sublist.refl _

theorem vnames_mkEllipsis (a : Expr) (b e : Int) (d : Nat) : vnames (mkEllipsis a b e d) <+ vnames a :=
  mkEllipsis_elim (motive := fun r => vnames r <+ vnames a) (fun _ => List.nil_sublist _) fun _ => List.Sublist.refl _

theorem flatMap_sublist {α β : Type} (g : α → List β) {l1 l2 : List α} (h : l1 <+ l2) : l1.flatMap g <+ l2.flatMap g := by
  induction h with
  | slnil => exact List.Sublist.refl _
  | cons a _ ih => simp only [List.flatMap_cons]; exact ih.trans (List.sublist_append_right _ _)
  | cons_cons a _ ih => simp only [List.flatMap_cons]; exact List.Sublist.append (List.Sublist.refl _) ih

theorem abL_flatten : ∀ l : List (List Tok), abL l.flatten = l.flatMap abL
  | [] => rfl
  | a :: l => by rw [List.flatten_cons, abL_append, abL_flatten l, List.flatMap_cons]

theorem operands_abL (op : Str) (ts : List Tok) : (operands op ts).flatMap (fun o => abL o.ts) <+ abL ts := by
  have := abL_sublist (List.filter_sublist (l := ts) (p := fun t => !t.isText op))
  rw [← operands_flatMap_ts, List.flatMap_def, abL_flatten, List.flatMap_map] at this
  exact this

theorem map_vnames {α : Type} (xs : α → Expr) (g : α → List Nat) : ∀ (l : List α),
    (∀ a ∈ l, vnames (xs a) <+ (g a).map unnamedName) → vnamesL (l.map xs) <+ (l.flatMap g).map unnamedName
  | [], _ => List.Sublist.refl _
  | a :: l, hf => by
    simp only [List.map_cons, vnamesL, List.flatMap_cons, List.map_append]
    exact List.Sublist.append (hf a List.mem_cons_self) (map_vnames xs g l fun a' ha' => hf a' (List.mem_cons_of_mem _ ha'))

theorem combine_vnames (op : Str) (xs : List Expr) (b e : Nat) (ipc : Bool) (ts : List Tok) :
    OkP (fun y => vnames y = vnamesL xs) (combine op xs b e ipc ts) :=
  combine_elim op xs b e ipc ts (fun _ => vnames_mkList _ _ _) (fun _ => rfl) (fun _ => rfl) (fun _ _ => trivial)
    (fun _ _ _ => trivial) (fun _ _ _ => vnames_mkConcat _ _ _) fun _ => trivial

theorem parseAxis_vnames (t : Token) : OkP (fun y => vnames y <+ [unnamedName t.b]) (parseAxis t) :=
  parseAxis_elim t (fun _ _ => List.Sublist.refl _) (fun _ _ => trivial) (fun _ _ => List.nil_sublist _) fun _ _ => trivial

theorem FN_strip {ts X : List Tok} (hs : strip ts = X) : FN X <+ FN ts :=
  FN_sublist (hs ▸ strip_sublist ts)

theorem FN_group (o c : Token) (inner : List Tok) : FN [Tok.group o c inner] = FN inner := by
  simp only [FN, abL, abT, List.append_nil]

theorem derives_vnames {ts : List Tok} {b e : Nat} {ipc : Bool} {r : Expr} (h : Derives ts b e ipc r) : vnames r <+ FN ts := by
  induction h with
  | nil => rw [vnames_mkList]; exact List.nil_sublist _
  | @parenConcat _ _ _ _ o c inner _ hs _ _ _ ih => exact ih.trans (FN_group o c inner ▸ FN_strip hs)
  | @parenFlat _ _ _ _ o c inner _ hs _ _ _ ih => rw [vnames_mkFlat]; exact ih.trans (FN_group o c inner ▸ FN_strip hs)
  | @bracket _ _ _ _ o c inner _ hs _ _ ih =>
    exact (vnames_mkBrackets _ _ _).trans (ih.trans (FN_group o c inner ▸ FN_strip hs))
  | @nary ts _ _ _ t0 rest op _ xs hs _ _ hc ih =>
    rw [(combine_vnames op _ _ _ _ _).ok hc]
    refine (map_vnames xs (fun o : TL => abL o.ts) _ ih).trans (List.Sublist.map _ ?_)
    exact (flatMap_sublist _ (keepOperands_sublist op _)).trans
      ((operands_abL op (t0 :: rest)).trans (abL_sublist (show t0 :: rest <+ ts from hs ▸ strip_sublist ts)))
  | axis hs _ _ hr => exact ((parseAxis_vnames _).ok hr).trans (FN_strip hs)
  | dots => exact (vnames_mkEllipsis _ _ _ _).trans (List.nil_sublist _)
  | @ell _ _ _ _ x t _ hs _ _ _ ih =>
    have h3 : FN [x] <+ FN [x, Tok.atom t] := FN_sublist (List.Sublist.cons_cons _ (List.nil_sublist _))
    exact (vnames_mkEllipsis _ _ _ _).trans (ih.trans (h3.trans (FN_strip hs)))

def isAtomTok (t : Token) : Bool := !delimsFront.contains t.text && !delimsBack.contains t.text

def atomBs (ts : List Token) : List Nat := (ts.filter isAtomTok).map (·.b)

/-- Atoms of the open frames, outermost first. -/
def abF : List (Token × List Tok) → List Nat
  | [] => []
  | f :: fs => abF fs ++ abL f.2

theorem atomBs_cons_delim {t : Token} (ts : List Token) (h : isAtomTok t = false) : atomBs (t :: ts) = atomBs ts := by
  simp [atomBs, h]

theorem atomBs_cons_atom {t : Token} (ts : List Token) (h : isAtomTok t = true) : atomBs (t :: ts) = t.b :: atomBs ts := by
  simp [atomBs, h]

def abS (s : TreeIns.St) : List Nat := abL s.2 ++ abF s.1

theorem abS_appTop (xs : List Tok) (s : TreeIns.St) : abS (TreeIns.appTop xs s) = abS s ++ abL xs := by
  obtain ⟨fr, base⟩ := s
  cases fr with
  | nil => simp only [TreeIns.appTop, abS, abF, abL_append, List.append_nil]
  | cons f rest => obtain ⟨o, items⟩ := f; simp only [TreeIns.appTop, abS, abF, abL_append, List.append_assoc]

theorem buildTree_abL (ts : List Token) (frames : List (Token × List Tok)) (base T : List Tok)
    (h : buildTree ts frames base = .ok T) : abL T = abL base ++ abF frames ++ atomBs ts := by
  rw [TreeIns.buildTree_eq_full] at h
  refine (TreeIns.full_inv (I := fun ts' s => abS s ++ atomBs ts' = abL base ++ abF frames ++ atomBs ts)
    (E := fun _ => True) (Q := fun T => abL T = abL base ++ abF frames ++ atomBs ts)
    ?_ ?_ ?_ (fun _ _ _ _ _ => trivial) ?_ (fun _ _ _ _ _ => trivial) ts (frames, base) rfl).ok h
  · intro t ts' s h1 hI
    rw [atomBs_cons_delim ts' (by simp only [isAtomTok, h1, Bool.not_true, Bool.false_and])] at hI
    simpa only [abS, abF, abL, List.append_nil] using hI
  · intro t ts' s h1 h2 hI
    rw [atomBs_cons_atom ts' (by simp only [isAtomTok, h1, h2, Bool.not_false, Bool.and_self])] at hI
    simpa only [abS_appTop, abL, abT, List.append_nil, List.append_assoc, List.singleton_append] using hI
  · intro t ts' o items rest base' h1 h2 _ hI
    rw [atomBs_cons_delim ts' (by simp only [isAtomTok, h2, Bool.not_true, Bool.and_false])] at hI
    rw [abS_appTop]
    simpa only [abS, abF, abL, abT, List.append_nil, List.append_assoc] using hI
  · intro base' hI
    simpa only [abS, abF, atomBs, List.filter_nil, List.map_nil, List.append_nil] using hI

theorem tree_nodup {text : Str} {toks : List Token} {T : List Tok} (hl : lex text = .ok toks)
    (hb : buildTree (dedupSpaces toks false) [] [] = .ok T) : (FN T).Nodup := by
  have hab := buildTree_abL _ _ _ _ hb
  simp only [abL, abF, List.nil_append] at hab
  have ht := segment_tiles literals text 0 0 [] (by simp)
  have hs : ((segment literals text 0 0 []).map (·.b)).Pairwise (· < ·) :=
    List.pairwise_map.mpr (ht.2.imp_of_mem fun hs _ hst => Nat.lt_of_lt_of_le (ht.1 _ hs).2.1 hst)
  rw [← (lex_ok_tokens hl).1] at hs
  have hsub : abL T <+ toks.map (·.b) := by
    rw [hab, atomBs]
    exact List.Sublist.map _ (List.filter_sublist.trans (dedupSpaces_sublist toks false))
  have hp : (abL T).Pairwise (· < ·) := hs.sublist hsub
  simp only [FN, List.Nodup, List.pairwise_map]
  refine hp.imp ?_
  intro a b hab' heq
  have := unnamedName_inj heq
  omega

theorem parse_fresh_nodup {text : Str} {toks : List Token} {T : List Tok} {x : Expr} {b e : Nat} {ipc : Bool}
    (hl : lex text = .ok toks) (hb : buildTree (dedupSpaces toks false) [] [] = .ok T) (hp : parse T b e ipc = .ok x) :
    (vnames x).Nodup :=
  List.Nodup.sublist (derives_vnames (parse_derives T b e ipc x hp)) (tree_nodup hl hb)

end Fresh

end Einx.Notation
