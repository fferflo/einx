import EinxModel.Proofs.NotationSmart
/-!
# M1 Notation — the grammars `G`, `N`, `PT`, `Q` by their rules

Each of the Boolean grammars is a recursion over the nested type `Expr` with a twin on lists.  `G.rules`, `N.rules`, `PT.rules`,
`Q.rules` (`PArgs.rules`, `PRoot.rules` for the two levels above `PT`) state it as an induction principle over
`h : PT inBr al a = true`: one case per rule of the grammar, its side conditions as hypotheses, the children of a list node by
membership, the impossible node kinds gone, `...` as the ellipsis over the anonymous axis itself.  The motive takes `h` itself
(every premise ends in `∀ h, motive … h`): that is what makes `h` the major premise for `induction`; no client looks at it.
-/
namespace Einx.Notation

theorem isAnonAxisNone_anon (b e : Int) : isAnonAxisNone (.axis anonName none b e) = true := by
  simp only [isAnonAxisNone, beq_self_eq_true]

theorem isAnonAxis_anon (v : Option Nat) (b e : Int) : isAnonAxis (.axis anonName v b e) = true := by
  simp only [isAnonAxis, beq_self_eq_true]

theorem anonNone_inv {i : Expr} (h : isAnonAxisNone i = true) : ∃ b e, i = .axis anonName none b e := by
  cases i with
  | axis n v b e =>
    cases v with
    | none => exact ⟨b, e, by rw [beq_iff_eq.mp h]⟩
    | some k => simp [isAnonAxisNone] at h
  | _ => simp [isAnonAxisNone] at h

theorem anonNone_anon {i : Expr} (h : isAnonAxisNone i = true) : isAnonAxis i = true := by
  obtain ⟨b, e, rfl⟩ := anonNone_inv h
  exact isAnonAxis_anon none b e

namespace NF

theorem G_item {ao aa al al' : Bool} {x : Expr} (h : G ao aa al x = true) (hi : isItem x = true) :
    G ao aa al' x = true := by
  cases x <;> first | (simpa only [G] using h) | (simp [isItem] at hi)

theorem G_mono {ao aa : Bool} {x : Expr} (h : G ao aa false x = true) : G ao aa true x = true := by
  cases x <;> first | (simpa only [G] using h) | (simp [G] at h)

theorem G_false_item {ao aa : Bool} {x : Expr} (h : G ao aa false x = true) : isItem x = true := by
  cases x <;> first | rfl | (simp [G] at h)

theorem GL_iff {ao aa al : Bool} : ∀ {cs : List Expr}, GL ao aa al cs = true ↔ ∀ c ∈ cs, G ao aa al c = true
  | [] => by simp [GL]
  | c :: cs => by simp [GL, GL_iff (cs := cs)]

theorem N_notList {inBr al al' : Bool} {x : Expr} (h : N inBr al x = true) (hl : x.isList = false) :
    N inBr al' x = true := by
  cases x <;> first | (simpa only [N] using h) | (simp [Expr.isList] at hl)

theorem N_false_notList {inBr : Bool} {x : Expr} (h : N inBr false x = true) : x.isList = false := by
  cases x <;> first | rfl | (simp [N] at h)

theorem NL_iff {inBr : Bool} : ∀ {cs : List Expr}, NL inBr cs = true ↔ ∀ c ∈ cs, N inBr false c = true
  | [] => by simp [NL]
  | c :: cs => by simp [NL, NL_iff (cs := cs)]

end NF

theorem PTL_iff {inBr : Bool} : ∀ {cs : List Expr}, PTL inBr cs = true ↔ ∀ c ∈ cs, PT inBr false c = true
  | [] => by simp [PTL]
  | c :: cs => by simp [PTL, PTL_iff (cs := cs)]

theorem notList_of_PT {a : Expr} {inBr : Bool} (h : PT inBr false a = true) : a.isList = false := by
  cases a with
  | list cs b e => simp [PT] at h
  | _ => rfl

theorem PT_notList {a : Expr} {inBr al : Bool} (h : PT inBr al a = true) (hl : a.isList = false) :
    PT inBr false a = true := by
  cases a with
  | list cs b e => cases hl
  | axis _ _ _ _ | flat _ _ _ | brackets _ _ _ | ellipsis _ _ _ _ | concat _ _ _ => simpa only [PT] using h
  | args _ _ _ | op _ _ _ => simp [PT] at h

theorem QL_iff {inBr : Bool} : ∀ {cs : List Expr}, QL inBr cs = true ↔ ∀ c ∈ cs, Q inBr false c = true
  | [] => by simp [QL]
  | c :: cs => by simp [QL, QL_iff (cs := cs)]

theorem notList_of_Q {inBr : Bool} {c : Expr} (h : Q inBr false c = true) : c.isList = false := by
  cases c <;> first | rfl | simp [Q] at h

theorem ndim_operand {inBr : Bool} {i : Expr}
    (h1 : (i.isAxis || i.isFlat || i.isBrackets || i.isConcat || i.isEllipsis) = true) (h2 : Q inBr false i = true) :
    (i.ndim != some 0) = true := by
  induction i using Expr.memInduction with
  | axis | flat | concat => rfl
  | brackets j b e _ =>
    simp only [Q, Bool.and_eq_true] at h2
    simpa [Expr.ndim] using h2.1.2
  | ellipsis j d b e ih =>
    simp only [Q, Bool.and_eq_true] at h2
    have hj : (j.ndim == some 0) = false := by simpa using ih h2.1 h2.2
    simp [Expr.ndim, hj]
  | list | args | op => cases h1

/-- By `NF.G_mono` every child stands in the grammar at `al = true`; where the rule asks for an item the child is one. -/
theorem G.rules {ao aa : Bool} {motive : (al : Bool) → (x : Expr) → G ao aa al x = true → Prop}
    (axis : ∀ {al n v b e}, axisOK n v b = true → ∀ h, motive al (.axis n v b e) h)
    (flat : ∀ {al i b e} (hi : G ao aa true i = true), motive true i hi → ∀ h, motive al (.flat i b e) h)
    (brackets : ∀ {al i b e}, (i.ndim != some 0) = true → (hi : G ao aa true i = true) → motive true i hi →
      ∀ h, motive al (.brackets i b e) h)
    (dots : ∀ {al bi ei d b e} h, motive al (.ellipsis (.axis anonName none bi ei) d b e) h)
    (ellipsis : ∀ {al i d b e}, (i.ndim != some 0) = true → isItem i = true → (hi : G ao aa true i = true) →
      motive true i hi → ∀ h, motive al (.ellipsis i d b e) h)
    (concat : ∀ {al cs b e}, 2 ≤ cs.length → cs.all isAxisOrFlat = true → (∀ c ∈ cs, isItem c = true) →
      (hcs : ∀ c ∈ cs, G ao aa true c = true) → (∀ c (hc : c ∈ cs), motive true c (hcs c hc)) →
      ∀ h, motive al (.concat cs b e) h)
    (list : ∀ {cs b e}, (∀ c ∈ cs, isItem c = true) → (hcs : ∀ c ∈ cs, G ao aa true c = true) →
      (∀ c (hc : c ∈ cs), motive true c (hcs c hc)) → ∀ h, motive true (.list cs b e) h)
    (args : ∀ {cs b e}, aa = true → cs ≠ [] → (hcs : ∀ c ∈ cs, G ao aa true c = true) →
      (∀ c (hc : c ∈ cs), motive true c (hcs c hc)) → ∀ h, motive true (.args cs b e) h)
    (op : ∀ {cs b e}, ao = true → cs ≠ [] → (hcs : ∀ c ∈ cs, G ao aa true c = true) →
      (∀ c (hc : c ∈ cs), motive true c (hcs c hc)) → ∀ h, motive true (.op cs b e) h)
    {al : Bool} {x : Expr} (h : G ao aa al x = true) : motive al x h := by
  induction x using Expr.memInduction generalizing al with
  | axis n v b e => exact axis (by simpa only [G] using h) h
  | flat i b e ih =>
    have h' := h
    simp only [G, Bool.and_eq_true] at h'
    exact flat h'.2 (ih h'.2) h
  | brackets i b e ih =>
    have h' := h
    simp only [G, Bool.and_eq_true] at h'
    exact brackets h'.1.2 h'.2 (ih h'.2) h
  | ellipsis i d b e ih =>
    have h' := h
    simp only [G, Bool.or_eq_true, Bool.and_eq_true] at h'
    rcases h' with h' | h'
    · obtain ⟨bi, ei, rfl⟩ := anonNone_inv h'
      exact dots h
    · exact ellipsis h'.1 (NF.G_false_item h'.2) (NF.G_mono h'.2) (ih _) h
  | concat cs b e ih =>
    have h' := h
    simp only [G, Bool.and_eq_true, decide_eq_true_eq] at h'
    have hcs := NF.GL_iff.mp h'.2
    exact concat h'.1.1 h'.1.2 (fun c hc => NF.G_false_item (hcs c hc)) (fun c hc => NF.G_mono (hcs c hc))
      (fun c hc => ih c hc _) h
  | list cs b e ih =>
    have h' := h
    simp only [G, Bool.and_eq_true] at h'
    obtain ⟨⟨rfl, _⟩, h2⟩ := h'
    have hcs := NF.GL_iff.mp h2
    exact list (fun c hc => NF.G_false_item (hcs c hc)) (fun c hc => NF.G_mono (hcs c hc)) (fun c hc => ih c hc _) h
  | args cs b e ih =>
    have h' := h
    simp only [G, Bool.and_eq_true, Bool.not_eq_true', List.isEmpty_eq_false_iff] at h'
    obtain ⟨⟨⟨rfl, h1⟩, h2⟩, h3⟩ := h'
    exact args h1 h2 (NF.GL_iff.mp h3) (fun c hc => ih c hc _) h
  | op cs b e ih =>
    have h' := h
    simp only [G, Bool.and_eq_true, Bool.not_eq_true', List.isEmpty_eq_false_iff] at h'
    obtain ⟨⟨⟨rfl, h1⟩, h2⟩, h3⟩ := h'
    exact op h1 h2 (NF.GL_iff.mp h3) (fun c hc => ih c hc _) h

theorem N.rules {motive : (inBr al : Bool) → (x : Expr) → N inBr al x = true → Prop}
    (axis : ∀ {inBr al n v b e}, axisOK n v b = true → ∀ h, motive inBr al (.axis n v b e) h)
    (flat : ∀ {inBr al i b e}, i.isFlat = false → (hi : N inBr true i = true) → motive inBr true i hi →
      ∀ h, motive inBr al (.flat i b e) h)
    (brackets : ∀ {al i b e}, i.isBrackets = false → (i.ndim != some 0) = true → (hi : N true true i = true) →
      motive true true i hi → ∀ h, motive false al (.brackets i b e) h)
    (dots : ∀ {inBr al bi ei d b e} h, motive inBr al (.ellipsis (.axis anonName none bi ei) d b e) h)
    (ellipsis : ∀ {inBr al i d b e}, (i.ndim != some 0) = true → (hi : N inBr true i = true) → motive inBr true i hi →
      ∀ h, motive inBr al (.ellipsis i d b e) h)
    (concat : ∀ {inBr al cs b e}, 2 ≤ cs.length → cs.all isAxisOrFlat = true → (hcs : ∀ c ∈ cs, N inBr false c = true) →
      (∀ c (hc : c ∈ cs), motive inBr false c (hcs c hc)) → ∀ h, motive inBr al (.concat cs b e) h)
    (list : ∀ {inBr cs b e}, cs.length ≠ 1 → (hcs : ∀ c ∈ cs, N inBr false c = true) →
      (∀ c (hc : c ∈ cs), motive inBr false c (hcs c hc)) → ∀ h, motive inBr true (.list cs b e) h)
    {inBr al : Bool} {x : Expr} (h : N inBr al x = true) : motive inBr al x h := by
  induction x using Expr.memInduction generalizing inBr al with
  | axis n v b e => exact axis (by simpa only [N] using h) h
  | flat i b e ih =>
    have h' := h
    simp only [N, Bool.and_eq_true, Bool.not_eq_true'] at h'
    exact flat h'.1 h'.2 (ih _) h
  | brackets i b e ih =>
    have h' := h
    simp only [N, Bool.and_eq_true, Bool.not_eq_true'] at h'
    obtain ⟨⟨⟨rfl, h1⟩, h2⟩, h3⟩ := h'
    exact brackets h1 h2 h3 (ih _) h
  | ellipsis i d b e ih =>
    have h' := h
    simp only [N, Bool.or_eq_true, Bool.and_eq_true] at h'
    rcases h' with h' | h'
    · obtain ⟨bi, ei, rfl⟩ := anonNone_inv h'
      exact dots h
    · exact ellipsis h'.1 h'.2 (ih _) h
  | concat cs b e ih =>
    have h' := h
    simp only [N, Bool.and_eq_true, decide_eq_true_eq] at h'
    exact concat h'.1.1 h'.1.2 (NF.NL_iff.mp h'.2) (fun c hc => ih c hc _) h
  | list cs b e ih =>
    have h' := h
    simp only [N, Bool.and_eq_true, bne_iff_ne, ne_eq] at h'
    obtain ⟨⟨rfl, h1⟩, h2⟩ := h'
    exact list h1 (NF.NL_iff.mp h2) (fun c hc => ih c hc _) h
  | args cs b e _ => simp [N] at h
  | op cs b e _ => simp [N] at h

theorem PT.rules {motive : (inBr al : Bool) → (a : Expr) → PT inBr al a = true → Prop}
    (named : ∀ {inBr al n b e}, isAxisName n = true → ∀ h, motive inBr al (.axis n none b e) h)
    (valued : ∀ {inBr al n k b e} h, motive inBr al (.axis n (some k) b e) h)
    (flat : ∀ {inBr al i b e}, i.isFlat = false → i.isConcat = false → (hi : PT inBr true i = true) →
      motive inBr true i hi → ∀ h, motive inBr al (.flat i b e) h)
    (brackets : ∀ {al i b e}, i.isBrackets = false → (i.ndim != some 0) = true → (hi : PT true true i = true) →
      motive true true i hi → ∀ h, motive false al (.brackets i b e) h)
    (dots : ∀ {inBr al bi ei d b e} h, motive inBr al (.ellipsis (.axis anonName none bi ei) d b e) h)
    (ell : ∀ {inBr al i d b e}, isAnonAxis i = false → ellOperand i = true → (hi : PT inBr false i = true) →
      motive inBr false i hi → ∀ h, motive inBr al (.ellipsis i d b e) h)
    (concat : ∀ {inBr al cs b e}, 2 ≤ cs.length → cs.all isAxisOrFlat = true →
      (hcs : ∀ c ∈ cs, PT inBr false c = true) → (∀ c (hc : c ∈ cs), motive inBr false c (hcs c hc)) →
      ∀ h, motive inBr al (.concat cs b e) h)
    (list : ∀ {inBr cs b e}, cs.length ≠ 1 → (hcs : ∀ c ∈ cs, PT inBr false c = true) →
      (∀ c (hc : c ∈ cs), motive inBr false c (hcs c hc)) → ∀ h, motive inBr true (.list cs b e) h)
    {inBr al : Bool} {a : Expr} (h : PT inBr al a = true) : motive inBr al a h := by
  induction a using Expr.memInduction generalizing inBr al with
  | axis n v b e =>
    cases v with
    | none => exact named (by simpa only [PT] using h) h
    | some k => exact valued h
  | flat i b e ih =>
    have h' := h
    simp only [PT, Bool.and_eq_true, Bool.not_eq_true'] at h'
    exact flat h'.1.1 h'.1.2 h'.2 (ih _) h
  | brackets i b e ih =>
    have h' := h
    simp only [PT, Bool.and_eq_true, Bool.not_eq_true'] at h'
    obtain ⟨⟨⟨rfl, h1⟩, h2⟩, h3⟩ := h'
    exact brackets h1 h2 h3 (ih _) h
  | ellipsis i d b e ih =>
    have h' := h
    simp only [PT, Bool.or_eq_true, Bool.and_eq_true, Bool.not_eq_true'] at h'
    rcases h' with h' | h'
    · obtain ⟨bi, ei, rfl⟩ := anonNone_inv h'
      exact dots h
    · exact ell h'.1.1 h'.1.2 h'.2 (ih _) h
  | concat cs b e ih =>
    have h' := h
    simp only [PT, Bool.and_eq_true, decide_eq_true_eq] at h'
    exact concat h'.1.1 h'.1.2 (PTL_iff.mp h'.2) (fun c hc => ih c hc _) h
  | list cs b e ih =>
    have h' := h
    simp only [PT, Bool.and_eq_true, bne_iff_ne, ne_eq] at h'
    obtain ⟨⟨rfl, h1⟩, h2⟩ := h'
    exact list h1 (PTL_iff.mp h2) (fun c hc => ih c hc _) h
  | args cs b e _ => simp [PT] at h
  | op cs b e _ => simp [PT] at h

/-- Each rule with what the smart constructor of its node asks of the children. -/
theorem Q.rules {motive : (inBr al : Bool) → (a : Expr) → Q inBr al a = true → Prop}
    (axis : ∀ {inBr al n v b e} h, motive inBr al (.axis n v b e) h)
    (flat : ∀ {inBr al i b e}, i.isFlat = false → (hi : Q inBr true i = true) → motive inBr true i hi →
      ∀ h, motive inBr al (.flat i b e) h)
    (brackets : ∀ {al i b e}, i.isBrackets = false → (i.ndim != some 0) = true → (hi : Q true true i = true) →
      motive true true i hi → ∀ h, motive false al (.brackets i b e) h)
    (ellipsis : ∀ {inBr al i d b e}, (i.ndim != some 0) = true → (hi : Q inBr false i = true) → motive inBr false i hi →
      ∀ h, motive inBr al (.ellipsis i d b e) h)
    (concat : ∀ {inBr al cs b e}, 2 ≤ cs.length → (hcs : ∀ c ∈ cs, Q inBr false c = true) →
      (∀ c (hc : c ∈ cs), motive inBr false c (hcs c hc)) → ∀ h, motive inBr al (.concat cs b e) h)
    (list : ∀ {inBr cs b e}, cs.length ≠ 1 → (hcs : ∀ c ∈ cs, Q inBr false c = true) →
      (∀ c (hc : c ∈ cs), motive inBr false c (hcs c hc)) → ∀ h, motive inBr true (.list cs b e) h)
    {inBr al : Bool} {a : Expr} (h : Q inBr al a = true) : motive inBr al a h := by
  induction a using Expr.memInduction generalizing inBr al with
  | axis n v b e => exact axis h
  | flat i b e ih =>
    have h' := h
    simp only [Q, Bool.and_eq_true, Bool.not_eq_true'] at h'
    exact flat h'.1 h'.2 (ih _) h
  | brackets i b e ih =>
    have h' := h
    simp only [Q, Bool.and_eq_true, Bool.not_eq_true'] at h'
    obtain ⟨⟨⟨rfl, h1⟩, h2⟩, h3⟩ := h'
    exact brackets h1 h2 h3 (ih _) h
  | ellipsis i d b e ih =>
    have h' := h
    simp only [Q, Bool.and_eq_true] at h'
    exact ellipsis (ndim_operand h'.1 h'.2) h'.2 (ih _) h
  | concat cs b e ih =>
    have h' := h
    simp only [Q, Bool.and_eq_true, decide_eq_true_eq] at h'
    exact concat h'.1 (QL_iff.mp h'.2) (fun c hc => ih c hc _) h
  | list cs b e ih =>
    have h' := h
    simp only [Q, Bool.and_eq_true, bne_iff_ne, ne_eq] at h'
    obtain ⟨⟨rfl, h1⟩, h2⟩ := h'
    exact list h1 (QL_iff.mp h2) (fun c hc => ih c hc _) h
  | args cs b e _ => simp [Q] at h
  | op cs b e _ => simp [Q] at h

theorem PArgs.rules {motive : (a : Expr) → PArgs a = true → Prop}
    (args : ∀ {as b e}, as ≠ [] → (∀ c ∈ as, PT false true c = true) → ∀ h, motive (.args as b e) h)
    {a : Expr} (h : PArgs a = true) : motive a h := by
  cases a with
  | args as b e =>
    have h' := h
    simp only [PArgs, Bool.and_eq_true, Bool.not_eq_true', List.isEmpty_eq_false_iff, List.all_eq_true] at h'
    exact args h'.1 h'.2 h
  | _ => simp [PArgs] at h

theorem PRoot_pair {s1 s2 : Expr} {b e : Int} : PRoot (.op [s1, s2] b e) = true ↔ PArgs s1 = true ∧ PArgs s2 = true := by
  simp [PRoot]

theorem PRoot.rules {motive : (t : Expr) → PRoot t = true → Prop}
    (one : ∀ {s b e}, PArgs s = true → ∀ h, motive (.op [s] b e) h)
    (two : ∀ {s1 s2 b e}, PArgs s1 = true → PArgs s2 = true → ∀ h, motive (.op [s1, s2] b e) h)
    {t : Expr} (h : PRoot t = true) : motive t h := by
  cases t with
  | op cs b e =>
    match cs, h with
    | [s], h => exact one (by simpa [PRoot] using h) h
    | [s1, s2], h => exact two (PRoot_pair.mp h).1 (PRoot_pair.mp h).2 h
    | [], h | _ :: _ :: _ :: _, h => simp [PRoot] at h
  | _ => simp [PRoot] at h

end Einx.Notation
