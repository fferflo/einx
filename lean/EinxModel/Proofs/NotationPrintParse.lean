import EinxModel.Proofs.NotationDerives
import EinxModel.Proofs.NotationPrintShape
import EinxModel.Proofs.NotationPrintTree
import EinxModel.Proofs.NotationPrintTokens
/-!
# M1 Notation — `parse` on the token tree of a printed expression (`parse_printed`)

`Parses Q y`: every token list whose stripped erasure is `Q` parses to a tree with the shape of `y`.  `parse` inverts every
printing rule: one lemma each for a name, a number, `...`, a delimiter group, a postfix `...` (each exhibits the rule of
`Derives` that applies), and for the joins by ` + `, ` `, `, `, ` -> ` (`nary_join`: a join of pieces that parse, split at its
operator, parses to `combine` of their trees).
-/
namespace Einx.Notation
namespace PrintParse

theorem shapeL_ndimSum : ∀ cs : List Expr, ndimSum (shapeL cs) = ndimSum cs :=
  ndimSum_shapeL

theorem all_of_shapeL {q : Expr → Bool} (hq : ∀ x : Expr, q x.shape = q x) {xs ys : List Expr}
    (h : shapeL xs = shapeL ys) : xs.all q = ys.all q := by
  rw [← all_shapeL hq xs, h, all_shapeL hq]

theorem length_of_shapeL {xs ys : List Expr} (h : shapeL xs = shapeL ys) : xs.length = ys.length := by
  rw [← shapeL_length xs, h, shapeL_length]

theorem word_not_op {w : Str} (h : isWord w = true) : isOpText w = false := by
  cases hn : isOpText w with
  | false => rfl
  | true =>
    simp only [isOpText, Bool.or_eq_true, beq_iff_eq] at hn
    rcases hn with ((hn | hn) | hn) | hn <;> (subst hn; revert h; decide +kernel)

theorem word_not_ell {w : Str} (h : isWord w = true) : w ≠ ellipsisLit := by
  intro hn; subst hn; revert h; decide +kernel

theorem axisName_not_op {n : Str} (h : isAxisName n = true) : isOpText n = false :=
  word_not_op (isAxisName_isWord h)

theorem axisName_not_ell {n : Str} (h : isAxisName n = true) : n ≠ ellipsisLit :=
  word_not_ell (isAxisName_isWord h)

theorem axisName_not_digit {n : Str} (h : isAxisName n = true) : isDigitStr n = false := by
  cases n with
  | nil => rfl
  | cons c cs =>
    simp only [isAxisName, Bool.and_eq_true] at h
    cases hd : isDigitChar c with
    | false => simp [isDigitStr, hd]
    | true =>
      have hr : 48 ≤ c.toNat ∧ c.toNat ≤ 57 := by
        simpa [isDigitChar, inRanges, Einx.Extracted.digitRanges] using hd
      rw [not_isNameStart_of_range hr] at h
      cases h.1

theorem clean_of_PT {inBr al : Bool} {a : Expr} (h : PT inBr al a = true) (hal : al = false) : CleanP a.ptree := by
  induction h using PT.rules with
  | named hn => exact clean_atom (axisName_not_op hn)
  | @valued _ _ _ k => exact clean_atom (word_not_op (natStr_isWord k))
  | flat | brackets | concat => exact clean_group _ _ _
  | dots =>
    simp only [Expr.ptree, isAnonAxis_anon, if_true]
    exact clean_atom (by decide +kernel)
  | ell hna _ _ ih =>
    simp only [Expr.ptree, hna, Bool.false_eq_true, if_false]
    exact clean_append (ih rfl) (clean_atom (by decide +kernel))
  | list => cases hal

theorem lvl_of_PT {a : Expr} {inBr al : Bool} (h : PT inBr al a = true) : Lvl a.ptree := by
  cases hl : a.isList with
  | false => exact lvl_of_clean (clean_of_PT (PT_notList h hl) rfl)
  | true =>
    cases a with
    | list cs b e =>
      simp only [PT, Bool.and_eq_true] at h
      simp only [Expr.ptree]
      exact lvl_join (forall_ptreeL fun c hc => clean_of_PT (PTL_iff.mp h.2 c hc) rfl)
    | _ => cases hl

theorem ellOperand_single {i : Expr} (h : ellOperand i = true) : ∃ p, i.ptree = [p] := by
  cases i with
  | axis n v b e => cases v <;> (simp only [Expr.ptree]; exact ⟨_, rfl⟩)
  | flat i b e => simp only [Expr.ptree]; exact ⟨_, rfl⟩
  | brackets i b e => simp only [Expr.ptree]; exact ⟨_, rfl⟩
  | concat cs b e => simp only [Expr.ptree]; exact ⟨_, rfl⟩
  | ellipsis j d b e =>
    have hj : isAnonAxisNone j = true := h
    simp only [Expr.ptree, anonNone_anon hj, if_true]
    exact ⟨_, rfl⟩
  | list _ _ _ | args _ _ _ | op _ _ _ => cases h

/-- Every token list whose stripped erasure is `Q` parses to a tree with the shape of `y`. -/
def Parses (Q : List PTok) (y : Expr) : Prop :=
  ∀ (T : List Tok) (b e : Nat) (ipc : Bool), pstrip (eraseL T) = Q →
    ∃ x, parse T b e ipc = .ok x ∧ x.shape = y.shape ∧ ValuedFresh x

theorem mapM_parse {f : Expr → List PTok} {g : Expr → Expr} : ∀ (ys : List Expr) (l : List TL),
    (∀ y ∈ ys, Parses (f y) (g y)) → l.map (fun o => pstrip (eraseL o.ts)) = ys.map f →
    ∃ xs, l.mapM (fun o => parse o.ts o.b o.e false) = .ok xs ∧ shapeL xs = shapeL (ys.map g) ∧ ValuedFreshL xs
  | [], l, _, hl => by
    have : l = [] := by simpa using hl
    subst this
    exact ⟨[], rfl, rfl, by simp only [ValuedFreshL]⟩
  | y :: ys, l, hg, hl => by
    cases l with
    | nil => simp at hl
    | cons o os =>
      simp only [List.map_cons, List.cons.injEq] at hl
      obtain ⟨x, hx, hsx, hvx⟩ := hg y (by simp) o.ts o.b o.e false hl.1
      obtain ⟨xs, hxs, hss, hvs⟩ := mapM_parse ys os (fun y' hy' => hg y' (by simp [hy'])) hl.2
      refine ⟨x :: xs, ?_, ?_, ?_⟩
      · exact mapM_cons_ok.mpr ⟨x, xs, hx, hxs, rfl⟩
      · simp only [shapeL, List.map_cons, hsx, hss]
      · simp only [ValuedFreshL]
        exact ⟨hvx, hvs⟩

theorem nary_step {op : Str} {f : Expr → List PTok} {g : Expr → Expr} {ys : List Expr}
    (T : List Tok) (b e : Nat) (ipc : Bool)
    (hfind : pfindOp naryOps (pstrip (eraseL T)) = some op)
    (hsplit : (psplit op (pstrip (eraseL T))).map pstrip = ys.map f)
    (hkeep : op = spaceLit → ∀ Q ∈ psplit op (pstrip (eraseL T)), Q ≠ [])
    (hgood : ∀ y ∈ ys, Parses (f y) (g y)) :
    ∃ xs b' e' S, parse T b e ipc = combine op xs b' e' ipc S ∧ shapeL xs = shapeL (ys.map g) ∧ ValuedFreshL xs := by
  have hS := erase_strip T
  generalize hs : strip T = S at hS
  rw [← hS] at hfind hsplit hkeep
  have hf : findOp naryOps S = some op := by rw [findOp_erase]; exact hfind
  obtain ⟨t0, rest, rfl⟩ := findOp_cons hf
  have hoe := operands_erase op (t0 :: rest)
  have hk : keepOperands op (operands op (t0 :: rest)) = operands op (t0 :: rest) := by
    by_cases hsp : op = spaceLit
    · rw [hsp, keepOperands_space, List.filter_eq_self, ← hsp]
      intro o ho
      have hm : eraseL o.ts ∈ psplit op (eraseL (t0 :: rest)) := by
        rw [← hoe]
        exact List.mem_map.mpr ⟨o, ho, rfl⟩
      have hne := hkeep hsp _ hm
      cases hts : o.ts with
      | nil => rw [hts, eraseL_nil] at hne; exact (hne rfl).elim
      | cons a as => rfl
    · exact keepOperands_ne hsp _
  have hops : (operands op (t0 :: rest)).map (fun o => pstrip (eraseL o.ts)) = ys.map f := by
    rw [← hsplit, ← hoe, List.map_map]
    rfl
  obtain ⟨xs, hxs, hss, hvs⟩ := mapM_parse ys _ hgood hops
  refine ⟨xs, t0.b, lastEnd (t0 :: rest) 0, t0 :: rest, ?_, hss, hvs⟩
  rw [parse_nary b e ipc hs hf, hk, hxs]

theorem nary_join {op : Str} {pre post sep : List PTok} {o : PTok} {g : Expr → Expr} {ys : List Expr}
    (hs : OpSep op pre o post) (hsep : sep = pre ++ o :: post) (hlen : 2 ≤ ys.length) (hys : ∀ y ∈ ys, noT op y.ptree)
    (hgood : ∀ y ∈ ys, Parses (pstrip y.ptree) (g y))
    (hfind : (pstrip (joinP sep (ptreeL ys))).any (pIsText op) = true →
      pfindOp naryOps (pstrip (joinP sep (ptreeL ys))) = some op)
    (T : List Tok) (b e : Nat) (ipc : Bool) (hT : pstrip (eraseL T) = pstrip (joinP sep (ptreeL ys))) :
    ∃ xs b' e' S, parse T b e ipc = combine op xs b' e' ipc S ∧ shapeL xs = shapeL (ys.map g) ∧ ValuedFreshL xs := by
  subst hsep
  have hne : ptreeL ys ≠ [] := by
    rw [ptreeL_eq_map]
    cases ys with
    | nil => simp at hlen
    | cons y r => simp
  have hsplit : (psplit op (pstrip (eraseL T))).map pstrip = ys.map (fun y => pstrip y.ptree) := by
    rw [hT, split_join hs hne, ptreeL_eq_map, List.map_map]
    · rfl
    · exact forall_ptreeL hys
  have hany : (pstrip (eraseL T)).any (pIsText op) = true := by
    have hl := congrArg List.length hsplit
    rw [List.length_map, List.length_map] at hl
    exact any_of_split hl hlen
  refine nary_step T b e ipc ?_ hsplit (fun h => (hs.ne_space h).elim) hgood
  rw [hT] at hany ⊢
  exact hfind hany

theorem strip_atom {s : Str} (hop : isOpText s = false) {T : List Tok} (hT : pstrip (eraseL T) = [.atom s]) :
    ∃ tk : Token, strip T = [.atom tk] ∧ tk.text = s ∧ findOp naryOps [.atom tk] = none := by
  have hS := erase_strip T
  rw [hT] at hS
  obtain ⟨t, hs, ht⟩ := eraseL_single hS
  obtain ⟨tk, rfl, htk⟩ := erase_atom ht
  refine ⟨tk, hs, htk, ?_⟩
  rw [findOp_erase, ← hs, hS]
  exact pfindOp_clean (clean_atom hop)

theorem strip_group {o c : Str} {I : List PTok} {T : List Tok} (hT : pstrip (eraseL T) = [.group o c I]) :
    ∃ (ot ct : Token) (inner : List Tok), strip T = [.group ot ct inner] ∧ ot.text = o ∧ eraseL inner = I := by
  have hS := erase_strip T
  rw [hT] at hS
  obtain ⟨t, hs, ht⟩ := eraseL_single hS
  obtain ⟨ot, ct, inner, rfl, hot, hin⟩ := erase_group ht
  exact ⟨ot, ct, inner, hs, hot, hin⟩

theorem axis_named {n : Str} (h : isAxisName n = true) (b0 e0 : Int) : Parses [.atom n] (.axis n none b0 e0) := by
  intro T b e ipc hT
  obtain ⟨tk, hs, htk, hf⟩ := strip_atom (axisName_not_op h) hT
  refine ⟨.axis n none tk.b tk.e, derives_parse (.axis hs hf (by rw [htk]; exact axisName_not_ell h) ?_), ?_, ?_⟩
  · rw [parseAxis, htk, if_neg (by simp [axisName_not_digit h]), if_pos h]
  · simp only [Expr.shape]
  · simp only [ValuedFresh]
    intro h
    exact (h rfl).elim

theorem axis_num (k : Nat) (n0 : Str) (b0 e0 : Int) : Parses [.atom (natStr k)] (.axis n0 (some k) b0 e0) := by
  intro T b e ipc hT
  obtain ⟨tk, hs, htk, hf⟩ := strip_atom (word_not_op (natStr_isWord k)) hT
  refine ⟨.axis (unnamedName tk.b) (some k) tk.b tk.e,
    derives_parse (.axis hs hf (by rw [htk]; exact word_not_ell (natStr_isWord k)) ?_), ?_, ?_⟩
  · rw [parseAxis, htk, if_pos (natStr_isDigitStr k), if_pos (natStr_all_decimal k), natStr_value]
  · simp only [Expr.shape]
  · simp only [ValuedFresh]
    intro _
    exact ⟨_, rfl⟩

theorem ell_anon (bi ei : Int) (d : Nat) (b0 e0 : Int) :
    Parses [.atom (lit "...")] (.ellipsis (.axis anonName none bi ei) d b0 e0) := by
  intro T b e ipc hT
  obtain ⟨tk, hs, htk, -⟩ := strip_atom (s := lit "...") (by decide +kernel) hT
  refine ⟨.ellipsis (.axis anonName none tk.b tk.b) tk.b tk.b tk.e, ?_, ?_, ?_⟩
  · rw [← NF.mkEllipsis_nf (i := .axis anonName none tk.b tk.b) tk.b tk.e tk.b rfl]
    exact derives_parse (.dots hs htk)
  · simp only [Expr.shape]
  · simp only [ValuedFresh]
    intro h
    exact (h rfl).elim

theorem flat_case {i : Expr} (hi : Parses i.ptree i) (ht : pstrip i.ptree = i.ptree) (hf : i.isFlat = false)
    (hc : i.isConcat = false) (b0 e0 : Int) : Parses [.group (lit "(") (lit ")") i.ptree] (.flat i b0 e0) := by
  intro T b e ipc hT
  obtain ⟨ot, ct, inner, hs, hot, hin⟩ := strip_group hT
  obtain ⟨x, hx, hsx, hvx⟩ := hi inner (firstInnerPos inner ct) (lastEnd inner (firstInnerPos inner ct)) true
    (by rw [hin, ht])
  have h2 : ¬ x.isConcat = true := by rw [eq_of_shape isConcat_shape hsx, hc]; exact Bool.false_ne_true
  have h3 : x.isFlat = false := by rw [eq_of_shape isFlat_shape hsx]; exact hf
  refine ⟨.flat x ot.b ct.e, ?_, ?_, ?_⟩
  · rw [← NF.mkFlat_nf ot.b ct.e h3]
    exact derives_parse (.parenFlat hs hot (parse_derives _ _ _ _ _ hx) h2)
  · simp only [Expr.shape, hsx]
  · simp only [ValuedFresh]
    exact hvx

theorem brackets_case {i : Expr} (hi : Parses i.ptree i) (ht : pstrip i.ptree = i.ptree) (hb : i.isBrackets = false)
    (hn : (i.ndim != some 0) = true) (b0 e0 : Int) :
    Parses [.group (lit "[") (lit "]") i.ptree] (.brackets i b0 e0) := by
  intro T b e ipc hT
  obtain ⟨ot, ct, inner, hs, hot, hin⟩ := strip_group hT
  obtain ⟨x, hx, hsx, hvx⟩ := hi inner (firstInnerPos inner ct) (lastEnd inner (firstInnerPos inner ct)) false
    (by rw [hin, ht])
  have h2 : x.isBrackets = false := by rw [eq_of_shape isBrackets_shape hsx]; exact hb
  have h3 : (x.ndim != some 0) = true := by rw [eq_of_shape ndim_shape hsx]; exact hn
  refine ⟨.brackets x ot.b ct.e, ?_, ?_, ?_⟩
  · rw [← NF.mkBrackets_nf ot.b ct.e h2 h3]
    exact derives_parse (.bracket hs hot (parse_derives _ _ _ _ _ hx))
  · simp only [Expr.shape, hsx]
  · simp only [ValuedFresh]
    exact hvx

theorem ell_case {i : Expr} (hi : Parses i.ptree i) (hcl : CleanP i.ptree) (hsg : ∃ p, i.ptree = [p])
    (hn : (i.ndim != some 0) = true) (d : Nat) (b0 e0 : Int) :
    Parses (i.ptree ++ [.atom (lit "...")]) (.ellipsis i d b0 e0) := by
  intro T b e ipc hT
  obtain ⟨p, hp⟩ := hsg
  have hS := erase_strip T
  rw [hT, hp] at hS
  obtain ⟨X, U, hs, hX, hU⟩ := eraseL_pair hS
  obtain ⟨tk, rfl, htk⟩ := erase_atom hU
  have hf : findOp naryOps [X, .atom tk] = none := by
    rw [findOp_erase, ← hs, hS]
    exact pfindOp_clean (P := [p] ++ [.atom (lit "...")]) (clean_append (hp ▸ hcl) (clean_atom (by decide +kernel)))
  have hXe : pstrip (eraseL [X]) = i.ptree := by
    rw [eraseL_cons, eraseL_nil, hX, ← hp, clean_tight hcl]
  obtain ⟨x, hx, hsx, hvx⟩ := hi [X] X.b X.e false hXe
  have h3 : (x.ndim != some 0) = true := by rw [eq_of_shape ndim_shape hsx]; exact hn
  refine ⟨.ellipsis x tk.b X.b tk.e, ?_, ?_, ?_⟩
  · rw [← NF.mkEllipsis_nf X.b tk.e tk.b h3]
    exact derives_parse (.ell hs hf htk (parse_derives _ _ _ _ _ hx))
  · simp only [Expr.shape, hsx]
  · simp only [ValuedFresh]
    exact hvx

theorem concat_inner {cs : List Expr} (hgood : ∀ c ∈ cs, Parses c.ptree c) (hclean : ∀ c ∈ cs, CleanP c.ptree)
    (hlen : 2 ≤ cs.length) (hall : cs.all isAxisOrFlat = true) (T : List Tok) (b e : Nat)
    (hT : pstrip (eraseL T) = pstrip (joinP sepPlus (ptreeL cs))) :
    ∃ xs b' e', parse T b e true = .ok (.concat xs b' e') ∧ shapeL xs = shapeL cs ∧ ValuedFreshL xs := by
  have hJ1 : noT (lit "->") (joinP sepPlus (ptreeL cs)) :=
    noT_joinP seps_noT.2.1.1 (forall_ptreeL fun c hc => (hclean c hc).noArrow)
  have hJ2 : noT (lit ",") (joinP sepPlus (ptreeL cs)) :=
    noT_joinP seps_noT.2.1.2 (forall_ptreeL fun c hc => (hclean c hc).noComma)
  obtain ⟨xs, b', e', S, hp, hss, hvs⟩ := nary_join (sep := sepPlus) (g := id) (ys := cs) (opSep_spaced ops_ne_space.1.1) rfl hlen
    (fun y hy => (hclean y hy).noPlus)
    (fun y hy => by rw [clean_tight (hclean y hy)]; exact hgood y hy)
    (fun hany => by
      rw [naryOps_eq, pfindOp_cons_of_noT (noT_pstrip hJ1), pfindOp_cons_of_noT (noT_pstrip hJ2)]
      exact pfindOp_cons_of_any hany) T b e true hT
  rw [List.map_id] at hss
  have hall' : xs.all isAxisOrFlat = true := by
    rw [all_of_shapeL isAxisOrFlat_shape hss]; exact hall
  rw [combine_plus_ok hall'] at hp
  have hm := NF.mkConcat_two (cs := xs) b' e' (by rw [length_of_shapeL hss]; exact hlen)
  exact ⟨xs, b', e', by rw [hp, hm], hss, hvs⟩

theorem concat_case {cs : List Expr} (hgood : ∀ c ∈ cs, Parses c.ptree c) (hclean : ∀ c ∈ cs, CleanP c.ptree)
    (hlen : 2 ≤ cs.length) (hall : cs.all isAxisOrFlat = true) (b0 e0 : Int) :
    Parses [.group (lit "(") (lit ")") (joinP sepPlus (ptreeL cs))] (.concat cs b0 e0) := by
  intro T b e ipc hT
  obtain ⟨ot, ct, inner, hs, hot, hin⟩ := strip_group hT
  obtain ⟨xs, b', e', hx, hss, hvs⟩ := concat_inner hgood hclean hlen hall inner
    (firstInnerPos inner ct) (lastEnd inner (firstInnerPos inner ct)) (by rw [hin])
  refine ⟨.concat xs b' e', derives_parse (.parenConcat hs hot (parse_derives _ _ _ _ _ hx) rfl), ?_, ?_⟩
  · simp only [Expr.shape, hss]
  · simp only [ValuedFresh]
    exact hvs

theorem list_nil (b0 e0 : Int) : Parses [] (.list [] b0 e0) := by
  intro T b e ipc hT
  have hS := erase_strip T
  rw [hT] at hS
  refine ⟨.list [] b e, ?_, ?_, ?_⟩
  · rw [parse_nil b e ipc (eraseL_eq_nil hS)]
    simp [mkList, flattenAll]
  · simp only [Expr.shape]
  · simp only [ValuedFresh, ValuedFreshL]

theorem list_case {cs : List Expr} (hgood : ∀ c ∈ cs, Parses c.ptree c) (hclean : ∀ c ∈ cs, CleanP c.ptree)
    (hlen : 2 ≤ cs.length) (hnl : cs.all (fun c => !c.isList) = true) (b0 e0 : Int) :
    Parses (joinP sepList (ptreeL cs)) (.list cs b0 e0) := by
  intro T b e ipc hT
  have hcl : ∀ Q ∈ ptreeL cs, CleanP Q := forall_ptreeL hclean
  have hlv := lvl_join hcl
  have hsp : psplit spaceLit (joinP sepList (ptreeL cs)) = ptreeL cs :=
    split_join_space (by rw [ptreeL_eq_map]; cases cs <;> simp at hlen ⊢) fun Q hQ => (hcl Q hQ).noSpace
  have hlen' : (psplit spaceLit (joinP sepList (ptreeL cs))).length = cs.length := by
    rw [hsp, ptreeL_eq_map, List.length_map]
  obtain ⟨xs, b', e', S, hp, hss, hvs⟩ := nary_step (op := spaceLit) (f := Expr.ptree) (g := id) (ys := cs) T b e ipc
    (by
      rw [hT, naryOps_eq, pfindOp_cons_of_noT hlv.noArrow, pfindOp_cons_of_noT hlv.noComma, pfindOp_cons_of_noT hlv.noPlus]
      exact pfindOp_cons_of_any (any_of_split hlen' hlen))
    (by
      rw [hT, hsp, ptreeL_eq_map, List.map_map]
      apply List.map_congr_left
      intro c hc
      exact clean_tight (hclean c hc))
    (by
      intro _ Q hQ
      rw [hT, hsp] at hQ
      exact (hcl Q hQ).ne)
    hgood
  rw [List.map_id] at hss
  have hp := hp.trans (combine_space xs b' e' ipc S)
  have hnl' : xs.all (fun c => !c.isList) = true := by
    rw [all_of_shapeL (q := fun c => !c.isList) (fun x => by rw [isList_shape]) hss]; exact hnl
  have hm := NF.mkList_nf (cs := xs) b' e'
    (NF.flattenAll_notList fun z hz => by simpa using List.all_eq_true.mp hnl' z hz)
    (by rw [length_of_shapeL hss]; omega)
  refine ⟨.list xs b' e', by rw [hp, hm], ?_, ?_⟩
  · simp only [Expr.shape, hss]
  · simp only [ValuedFresh]
    exact hvs

theorem term_good {inBr al : Bool} {a : Expr} (h : PT inBr al a = true) : Parses a.ptree a := by
  induction h using PT.rules with
  | @named _ _ _ b0 e0 hn =>
    simp only [Expr.ptree]
    exact axis_named hn b0 e0
  | @valued _ _ n k b0 e0 =>
    simp only [Expr.ptree]
    exact axis_num k n b0 e0
  | @flat _ _ _ b0 e0 hf hc hi ih =>
    simp only [Expr.ptree]
    exact flat_case ih (lvl_of_PT hi).tight hf hc b0 e0
  | @brackets _ _ b0 e0 hb hn hi ih =>
    simp only [Expr.ptree]
    exact brackets_case ih (lvl_of_PT hi).tight hb hn b0 e0
  | @dots _ _ bi ei d b0 e0 =>
    simp only [Expr.ptree, isAnonAxis_anon, if_true]
    exact ell_anon bi ei d b0 e0
  | @ell _ _ _ d b0 e0 hna hop hi ih =>
    simp only [Expr.ptree, hna, Bool.false_eq_true, if_false]
    exact ell_case ih (clean_of_PT hi rfl) (ellOperand_single hop) (ellOperand_ndim hop hi) d b0 e0
  | @concat _ _ _ b0 e0 h2 hax hcs ih =>
    simp only [Expr.ptree]
    exact concat_case ih (fun c hc => clean_of_PT (hcs c hc) rfl) h2 hax b0 e0
  | @list _ cs b0 e0 h1 hcs ih =>
    simp only [Expr.ptree]
    match cs, h1, hcs, ih with
    | [], _, _, _ => exact list_nil b0 e0
    | [_], h1, _, _ => exact (h1 rfl).elim
    | c :: d :: r, _, hcs, ih =>
      exact list_case ih (fun c hc => clean_of_PT (hcs c hc) rfl) (by simp)
        (List.all_eq_true.mpr fun c hc => by rw [notList_of_PT (hcs c hc)]; rfl) b0 e0

theorem terms_good : ∀ (cs : List Expr) (inBr : Bool), PTL inBr cs = true → ∀ c ∈ cs, Parses c.ptree c :=
  fun _ _ h c hc => term_good (PTL_iff.mp h c hc)

theorem side_noArrow {s : Expr} (h : PArgs s = true) : noT (lit "->") s.ptree := by
  induction h using PArgs.rules with
  | args _ has =>
    simp only [Expr.ptree]
    exact noT_joinP seps_noT.2.2 (forall_ptreeL fun a ha => (lvl_of_PT (has a ha)).noArrow)

theorem side_good {s : Expr} (h : PArgs s = true) : Parses (pstrip s.ptree) (unwrapArgs s) := by
  have hna := side_noArrow h
  induction h using PArgs.rules with
  | @args as b0 e0 hne has =>
    match as, hne, has, hna with
    | [], hne, _, _ => exact (hne rfl).elim
    | [a], _, has, _ =>
      have ha := has a (by simp)
      have e : (Expr.args [a] b0 e0).ptree = a.ptree := by simp only [Expr.ptree, ptreeL, joinP]
      rw [e, (lvl_of_PT ha).tight]
      exact term_good ha
    | a1 :: a2 :: r, _, has, hna =>
      intro T b e ipc hT
      simp only [Expr.ptree] at hT hna
      obtain ⟨xs, b', e', S, hp, hss, hvs⟩ := nary_join (sep := sepArgs) (g := id) (ys := a1 :: a2 :: r)
        (opSep_after ops_ne_space.1.2.1) rfl (by simp)
        (fun y hy => (lvl_of_PT (has y hy)).noComma)
        (fun y hy => by rw [(lvl_of_PT (has y hy)).tight]; exact term_good (has y hy))
        (fun hany => by
          rw [naryOps_eq, pfindOp_cons_of_noT (noT_pstrip hna)]
          exact pfindOp_cons_of_any hany) T b e ipc hT
      rw [List.map_id] at hss
      rw [combine_comma] at hp
      refine ⟨.args xs b' e', hp, ?_, ?_⟩
      · simp only [unwrapArgs, Expr.shape, hss]
      · simp only [ValuedFresh]
        exact hvs

/-- `pre` is a space, or nothing when the duplicate-space pass dropped it. -/
theorem two_sides {s1 s2 : Expr} (b0 e0 : Int) (h1 : PArgs s1 = true) (h2 : PArgs s2 = true) {pre : List PTok}
    (hs : OpSep (lit "->") pre (.atom (lit "->")) [.atom (lit " ")]) (T : List Tok)
    (hT : pstrip (eraseL T) = pstrip (joinP (pre ++ .atom (lit "->") :: [.atom (lit " ")]) (ptreeL [s1, s2]))) :
    ∃ x, parse T 0 (lastEnd T 0) false = .ok x ∧ x.shape = (preTree (.op [s1, s2] b0 e0)).shape ∧ ValuedFresh x := by
  have h : ∀ s ∈ [s1, s2], PArgs s = true := by simp [h1, h2]
  obtain ⟨xs, b', e', S, hp, hss, hvs⟩ := nary_join (g := unwrapArgs) (ys := [s1, s2]) hs rfl (by simp)
    (fun y hy => side_noArrow (h y hy))
    (fun y hy => side_good (h y hy))
    (fun hany => naryOps_eq ▸ pfindOp_cons_of_any hany) T 0 (lastEnd T 0) false hT
  rw [combine_arrow] at hp
  refine ⟨.op xs b' e', hp, ?_, ?_⟩
  · simp only [preTree, Expr.shape, hss]
  · simp only [ValuedFresh]
    exact hvs

end PrintParse

open PrintParse in
/-- `parse` on a token tree that erases to the token tree of the printed form of a printable `t` returns `preTree t`
    (sides with one argument not wrapped in `Args`, a single side not wrapped in `Op`) up to positions and fresh names. -/
theorem parse_printed {t : Expr} (h : PRoot t = true) (T : List Tok) (hT : eraseL T = t.ptree) :
    ∃ x, parse T 0 (lastEnd T 0) false = .ok x ∧ x.shape = (preTree t).shape ∧ ValuedFresh x := by
  induction h using PRoot.rules with
  | @one s1 b0 e0 hs =>
    have e : (Expr.op [s1] b0 e0).ptree = s1.ptree := by simp only [Expr.ptree, ptreeL, joinP]
    rw [e] at hT
    obtain ⟨x, hx, hsx, hvx⟩ := side_good hs T 0 (lastEnd T 0) false (by rw [hT])
    exact ⟨x, hx, by simpa only [preTree] using hsx, hvx⟩
  | @two _ _ b0 e0 h1 h2 =>
    simp only [Expr.ptree] at hT
    exact two_sides b0 e0 h1 h2 (opSep_spaced ops_ne_space.1.2.2) T (by rw [hT]; rfl)

end Einx.Notation
