/-!
# `Except`: one theory of results

`ExceptP E P r`: `P` of the value, `E` of the error — the weakest precondition of `r` for the pair of postconditions `(P, E)`, with
one rule per construct of a `do` block; `OkP Q r` says nothing of errors.  `ExceptR E R r r'`: two runs end alike.
-/
namespace Einx

def ExceptP {ε α : Type} (E : ε → Prop) (P : α → Prop) : Except ε α → Prop
  | .ok x => P x
  | .error e => E e

theorem ExceptP.ok {ε α : Type} {E : ε → Prop} {P : α → Prop} {r : Except ε α} {x : α}
    (h : ExceptP E P r) (hr : r = .ok x) : P x := by
  subst hr; exact h

theorem ExceptP.error {ε α : Type} {E : ε → Prop} {P : α → Prop} {r : Except ε α} {e : ε}
    (h : ExceptP E P r) (hr : r = .error e) : E e := by
  subst hr; exact h

theorem ExceptP.mono {ε α : Type} {E E' : ε → Prop} {P P' : α → Prop} {r : Except ε α}
    (hE : ∀ e, E e → E' e) (hP : ∀ x, P x → P' x) (h : ExceptP E P r) : ExceptP E' P' r := by
  cases r with
  | ok x => exact hP x h
  | error e => exact hE e h

theorem ExceptP.forget {ε α : Type} {E : ε → Prop} {P : α → Prop} {r : Except ε α} (h : ExceptP E P r) :
    ExceptP E (fun _ => True) r :=
  h.mono (fun _ he => he) fun _ _ => trivial

section unary
variable {ε α β σ : Type} {E : ε → Prop} {P : β → Prop} {Q : α → Prop} {x : Except ε α} {f : α → Except ε β}

theorem ExceptP.bind (h : ExceptP E Q x) (hf : ∀ a, x = .ok a → Q a → ExceptP E P (f a)) : ExceptP E P (x >>= f) := by
  cases x with
  | error e => exact h
  | ok a => exact hf a rfl h

/-- The rule for a `match` on the result that hands the error on.  `motive` is found by abstracting `x` from the goal, so the
rule applies whatever matcher the definition uses (a `bind`-shaped rule does not unify with a definition's own matcher). -/
@[elab_as_elim]
theorem ExceptP.elim {motive : Except ε α → Prop} (h : ExceptP E Q x) (herr : ∀ e, E e → motive (.error e))
    (hok : ∀ a, x = .ok a → Q a → motive (.ok a)) : motive x := by
  cases x with
  | error e => exact herr e h
  | ok a => exact hok a rfl h

theorem ExceptP.pure {b : β} (h : P b) : ExceptP E P (Pure.pure b : Except ε β) := h

theorem ExceptP.throw {e : ε} (h : E e) : ExceptP E P (MonadExcept.throw e : Except ε β) := h

theorem ExceptP.of_ok (h : ∀ a, x = .ok a → Q a) (h' : ∀ e, x = .error e → E e) : ExceptP E Q x := by
  cases x with
  | error e => exact h' e rfl
  | ok a => exact h a rfl

/-- `if c then throw e; rest`, as a `do` block spells it. -/
theorem ExceptP.guard {γ : Type} {c : Prop} [Decidable c] {e : ε} {k : γ → Except ε β} {y : Except ε β} (he : c → E e)
    (h : ¬ c → ExceptP E P y) : ExceptP E P (if c then MonadExcept.throw e >>= k else y) := by
  split
  · exact he ‹_›
  · exact h ‹_›

theorem ExceptP.mapM {R : α → β → Prop} {f : α → Except ε β} : ∀ {l : List α}, (∀ a ∈ l, ExceptP E (R a) (f a)) →
    ExceptP E (fun ys => ys.length = l.length ∧ ∀ p ∈ l.zip ys, R p.1 p.2) (l.mapM f)
  | [], _ => ⟨rfl, fun _ h => nomatch h⟩
  | a :: l, h => by
    rw [List.mapM_cons]
    refine ExceptP.bind (h a List.mem_cons_self) fun y _ hy => ?_
    refine ExceptP.bind (ExceptP.mapM fun a' ha' => h a' (List.mem_cons_of_mem _ ha')) fun ys _ hys => ?_
    exact ⟨congrArg (· + 1) hys.1, List.forall_mem_cons.2 ⟨hy, hys.2⟩⟩

theorem ExceptP.mapM_forall {f : α → Except ε β} {l : List α} (h : ∀ a ∈ l, ExceptP E P (f a)) :
    ExceptP E (fun ys => ∀ y ∈ ys, P y) (l.mapM f) :=
  (ExceptP.mapM (R := fun _ y => P y) h).mono (fun _ he => he) fun ys hys => by
    rw [← List.map_snd_zip (l₁ := l) (Nat.le_of_eq hys.1)]
    exact List.forall_mem_map.mpr hys.2

theorem ExceptP.foldlM {I : σ → Prop} {f : σ → α → Except ε σ} : ∀ {l : List α} {s : σ}, I s →
    (∀ s, ∀ a ∈ l, I s → ExceptP E I (f s a)) → ExceptP E I (l.foldlM f s)
  | [], _, h, _ => h
  | a :: l, s, h, hf => by
    rw [List.foldlM_cons]
    exact ExceptP.bind (hf s a List.mem_cons_self h) fun s' _ hs' =>
      ExceptP.foldlM hs' fun s a' ha' => hf s a' (List.mem_cons_of_mem _ ha')

theorem ExceptP.anyM {f : α → Except ε Bool} : ∀ {l : List α},
    (∀ x ∈ l, ExceptP E (fun _ => True) (f x)) → ExceptP E (fun _ => True) (l.anyM f)
  | [], _ => by
    rw [List.anyM]
    exact trivial
  | x :: xs, h => by
    rw [List.anyM]
    refine ExceptP.bind (h x List.mem_cons_self) fun b _ _ => ?_
    cases b with
    | true => exact trivial
    | false => exact ExceptP.anyM fun y hy => h y (List.mem_cons_of_mem _ hy)

end unary

/-- If `x` succeeds, `Q` holds of its result: nothing is said of errors. -/
abbrev OkP {ε α : Type} (Q : α → Prop) : Except ε α → Prop := ExceptP (fun _ => True) Q

theorem OkP.step {ε α β : Type} {P : β → Prop} {x : Except ε α} {f : α → Except ε β}
    (hf : ∀ a, x = .ok a → OkP P (f a)) : OkP P (x >>= f) :=
  ExceptP.bind (Q := fun _ => True) (by cases x <;> trivial) fun a h _ => hf a h

theorem OkP.guard {ε α γ : Type} {Q : α → Prop} {c : Prop} [Decidable c] {e : ε} {k : γ → Except ε α} {x : Except ε α}
    (h : ¬ c → OkP Q x) : OkP Q (if c then throw e >>= k else x) :=
  ExceptP.guard (fun _ => trivial) h

section binary
variable {ε ε' α α' β β' : Type}

/-- Two runs end alike: both values in `R`, or both errors in `E`. -/
def ExceptR (E : ε → ε' → Prop) (R : α → α' → Prop) : Except ε α → Except ε' α' → Prop
  | .ok a, .ok b => R a b
  | .error e, .error e' => E e e'
  | _, _ => False

variable {E : ε → ε' → Prop} {R : α → α' → Prop} {S : β → β' → Prop} {x : Except ε α} {y : Except ε' α'}
  {f : α → Except ε β} {g : α' → Except ε' β'}

theorem ExceptR.bind (h : ExceptR E R x y) (hf : ∀ a b, x = .ok a → y = .ok b → R a b → ExceptR E S (f a) (g b)) :
    ExceptR E S (x >>= f) (y >>= g) := by
  cases x <;> cases y <;> first | exact False.elim h | exact h | exact hf _ _ rfl rfl h

@[elab_as_elim]
theorem ExceptR.elim {motive : Except ε α → Except ε' α' → Prop} (h : ExceptR E R x y)
    (herr : ∀ e e', E e e' → motive (.error e) (.error e')) (hok : ∀ a b, R a b → motive (.ok a) (.ok b)) : motive x y := by
  cases x <;> cases y <;> first | exact False.elim h | exact herr _ _ h | exact hok _ _ h

theorem ExceptR.pure {a : β} {b : β'} (h : S a b) : ExceptR E S (Pure.pure a : Except ε β) (Pure.pure b) := h

theorem ExceptR.ok_left {a : α} (h : ExceptR E R (.ok a) y) : ∃ b, y = .ok b ∧ R a b := by
  cases y with
  | error _ => exact False.elim h
  | ok b => exact ⟨b, rfl, h⟩

theorem ExceptR.error_left {e : ε} (h : ExceptR E R (.error e) y) : ∃ e', y = .error e' ∧ E e e' := by
  cases y with
  | error e' => exact ⟨e', rfl, h⟩
  | ok _ => exact False.elim h

end binary

theorem bind_ok {ε α β : Type} {x : Except ε α} {f : α → Except ε β} {b : β} :
    (x >>= f) = .ok b ↔ ∃ a, x = .ok a ∧ f a = .ok b := by
  cases x with
  | error e => exact ⟨fun h => (nomatch h), fun ⟨_, h, _⟩ => (nomatch h)⟩
  | ok a => exact ⟨fun h => ⟨a, rfl, h⟩, fun ⟨_, h, hf⟩ => by cases h; exact hf⟩

theorem ok_of_isOk {ε α : Type} {r : Except ε α} (h : r.isOk = true) : ∃ x, r = .ok x := by
  cases r with
  | ok x => exact ⟨x, rfl⟩
  | error _ => cases h

theorem pure_ok {ε α : Type} {a b : α} : (pure a : Except ε α) = .ok b ↔ a = b :=
  ⟨fun h => by cases h; rfl, fun h => by rw [h]; rfl⟩

theorem mapM_cons_ok {ε α β : Type} {f : α → Except ε β} {a : α} {l : List α} {ys : List β} :
    (a :: l).mapM f = .ok ys ↔ ∃ y ys', f a = .ok y ∧ l.mapM f = .ok ys' ∧ ys = y :: ys' := by
  rw [List.mapM_cons]
  cases f a with
  | error e => simp [bind, Except.bind]
  | ok y =>
    cases l.mapM f with
    | error e => simp [bind, Except.bind]
    | ok ys' => simp [bind, Except.bind, pure, Except.pure, eq_comm]

theorem mapM_spec {ε α β : Type} (f : α → Except ε β) (l : List α) :
    ExceptP (fun e => ∃ a ∈ l, f a = .error e) (fun ys => ys.length = l.length ∧ ∀ p ∈ l.zip ys, f p.1 = .ok p.2) (l.mapM f) :=
  ExceptP.mapM fun a ha => ExceptP.of_ok (fun _ h => h) fun _ h => ⟨a, ha, h⟩

theorem mapM_ok_length {ε α β : Type} (f : α → Except ε β) (l : List α) (xs : List β) (h : l.mapM f = .ok xs) :
    xs.length = l.length :=
  ((mapM_spec f l).ok h).1

theorem mapM_ok_iff {ε α β : Type} (f : α → Except ε β) : ∀ (l : List α) (ys : List β),
    l.mapM f = .ok ys ↔ l.map f = ys.map .ok
  | [], ys => by
    cases ys with
    | nil => exact ⟨fun _ => rfl, fun _ => rfl⟩
    | cons _ _ => exact ⟨nofun, nofun⟩
  | a :: l, ys => by
    rw [mapM_cons_ok]
    constructor
    · rintro ⟨y, ys', hy, hl, rfl⟩
      rw [List.map_cons, List.map_cons, hy, (mapM_ok_iff f l ys').1 hl]
    · intro h
      cases ys with
      | nil => exact nomatch h
      | cons y ys' =>
        rw [List.map_cons, List.map_cons, List.cons.injEq] at h
        exact ⟨y, ys', h.1, (mapM_ok_iff f l ys').2 h.2, rfl⟩

theorem mapM_ok_mem {ε α β : Type} (f : α → Except ε β) (l : List α) (xs : List β) (h : l.mapM f = .ok xs) :
    ∀ x ∈ xs, ∃ a ∈ l, f a = .ok x := fun _ hx =>
  List.mem_map.1 ((mapM_ok_iff f l xs).1 h ▸ List.mem_map_of_mem (f := Except.ok) hx)

theorem mapM_ok_all {ε α β : Type} (f : α → Except ε β) (l : List α) (xs : List β) (h : l.mapM f = .ok xs) :
    ∀ a ∈ l, ∃ x ∈ xs, f a = .ok x := fun _ ha =>
  let ⟨x, hx, e⟩ := List.mem_map.1 ((mapM_ok_iff f l xs).1 h ▸ List.mem_map_of_mem (f := f) ha)
  ⟨x, hx, e.symm⟩

theorem mapM_err_mem {ε α β : Type} (f : α → Except ε β) (l : List α) (err : ε) (h : l.mapM f = .error err) :
    ∃ a ∈ l, f a = .error err :=
  (mapM_spec f l).error h

theorem mapM_attach_eq {ε α β : Type} (l : List α) (f : α → Except ε β) :
    l.attach.mapM (fun o => f o.1) = l.mapM f := by
  rw [List.mapM_subtype (g := f) (by intros; rfl), List.unattach_attach]

theorem mapM_ok_map {ε α β : Type} (f : α → Except ε β) (g : α → β) (l : List α)
    (h : ∀ a ∈ l, f a = .ok (g a)) : l.mapM f = .ok (l.map g) :=
  (mapM_ok_iff f l _).2 ((List.map_congr_left h).trans (List.map_map ..).symm)

theorem mapM_ok_imp {ε α β : Type} {f g : α → Except ε β} (hfg : ∀ x r, f x = .ok r → g x = .ok r)
    (xs : List α) (rs : List β) (h : xs.mapM f = .ok rs) : xs.mapM g = .ok rs := by
  rw [mapM_ok_iff] at h ⊢
  refine (List.map_congr_left fun a ha => ?_).trans h
  obtain ⟨r, -, hr⟩ := List.mem_map.1 (h ▸ List.mem_map_of_mem (f := f) ha)
  rw [← hr, hfg a r hr.symm]

theorem mapM_ok_image {ε α β γ : Type} (f : α → Except ε β) (p : β → γ) (q : α → γ)
    (hf : ∀ a b, f a = .ok b → p b = q a) : ∀ (l : List α) (bs : List β), l.mapM f = .ok bs → bs.map p = l.map q
  | [], bs, h => by cases h; rfl
  | a :: rest, bs, h => by
    simp only [List.mapM_cons, bind_ok, pure_ok] at h
    obtain ⟨b, hb, bs', hbs, rfl⟩ := h
    rw [List.map_cons, List.map_cons, hf a b hb, mapM_ok_image f p q hf rest bs' hbs]

end Einx
