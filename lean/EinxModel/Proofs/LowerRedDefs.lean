import EinxModel.Proofs.Lower
/-! Shared definitions of the two halves of `lower_reduce_correct` (run side: `Proofs/LowerRedRun.lean`, denotation
side: `Proofs/LowerRedDenote.lean`): the cell a reduction computes for a valuation of the un-bracketed axis names. -/
namespace Einx.Lower
open Einx Einx.IR Einx.Generic Einx.Denote

/-- The bracketed axes of a flat expression (`m` lists the bracketed names). -/
def markedAxes (m : List String) (L : List Ax) : List Ax := L.filter (fun a => m.contains a.name)

/-- The valuation `val` with the axes of `Mk` overridden by the multi-index `τ` (position by position). -/
def ovr (Mk : List Ax) (τ : List Nat) (val : String → Nat) : String → Nat :=
  fun n => match (names Mk).idxOf? n with
    | some j => τ.getD j 0
    | none => val n

/-- The cell of a reduction `f` over the bracketed axes of the input with leaf axes `Li`: the canonical reduction
cell of the input elements addressed by `val` on the un-bracketed axes and by every multi-index of the bracketed
axes, in row-major order. -/
def redCell (f : String) (m : List String) (Li : List Ax) (val : String → Nat) : Cell :=
  mkRed f ((allIndices (lens (markedAxes m Li))).map
    (fun τ => .src 0 (ravel (lens Li) (idx Li (ovr (markedAxes m Li) τ val)))))

end Einx.Lower
