import EinxModel.Proofs.NotationNFTraverse
/-!
# M1 Notation — on the results of `parseOp`, `Printable` is the complement of `Excluded`

Below `Args` the grammar `N` of the normal form and the grammar `PT` of printable expressions differ by the three bad
patterns only (`PT_of_N`, `noBad_of_PT`); the bracket check is part of both `parseOp_NRoot` and `Printable`.
-/
namespace Einx.Notation

namespace NF

theorem isAxisName_anon : isAxisName anonName = false := by decide +kernel

theorem not_anon_of_axisOK {n : Str} {v : Option Nat} {b : Int} (h : axisOK n v b = true) : (n == anonName) = false := by
  cases hn : n == anonName with
  | false => rfl
  | true =>
    rw [beq_iff_eq.mp hn] at h
    cases v with
    | none => rw [axisOK, isAxisName_anon] at h; cases h
    | some k => exact (anonName_ne_unnamed _ (beq_iff_eq.mp h)).elim

/-- The three bad patterns do not occur anywhere in `x`. -/
def NoBad (x : Expr) : Prop :=
  anyNode patEllList x = false ∧ anyNode patEllEll x = false ∧ anyNode patFlatConcat x = false

def NoBadL (cs : List Expr) : Prop :=
  anyNodeL patEllList cs = false ∧ anyNodeL patEllEll cs = false ∧ anyNodeL patFlatConcat cs = false

theorem noBad_axis (n : Str) (v : Option Nat) (b e : Int) : NoBad (.axis n v b e) := ⟨rfl, rfl, rfl⟩

theorem noBad_flat {i : Expr} {b e : Int} : NoBad (.flat i b e) ↔ i.isConcat = false ∧ NoBad i := by
  have : patFlatConcat (.flat i b e) = i.isConcat := by cases i <;> rfl
  simp only [NoBad, anyNode, Bool.or_eq_false_iff, this, patEllList, patEllEll, true_and]
  exact ⟨fun ⟨h1, h2, h3, h4⟩ => ⟨h3, h1, h2, h4⟩, fun ⟨h3, h1, h2, h4⟩ => ⟨h1, h2, h3, h4⟩⟩

theorem noBad_brackets {i : Expr} {b e : Int} : NoBad (.brackets i b e) ↔ NoBad i := by
  simp only [NoBad, anyNode, patEllList, patEllEll, patFlatConcat, Bool.false_or]

theorem noBad_ellipsis {i : Expr} {d : Nat} {b e : Int} :
    NoBad (.ellipsis i d b e) ↔ i.isList = false ∧ patEllEll (.ellipsis i d b e) = false ∧ NoBad i := by
  have : patEllList (.ellipsis i d b e) = i.isList := by cases i <;> rfl
  simp only [NoBad, anyNode, Bool.or_eq_false_iff, this, patFlatConcat, true_and]
  exact ⟨fun ⟨⟨h1, h2⟩, ⟨h3, h4⟩, h5⟩ => ⟨h1, h3, h2, h4, h5⟩, fun ⟨h1, h3, h2, h4, h5⟩ => ⟨⟨h1, h2⟩, ⟨h3, h4⟩, h5⟩⟩

theorem noBad_concat {cs : List Expr} {b e : Int} : NoBad (.concat cs b e) ↔ NoBadL cs := by
  simp only [NoBad, NoBadL, anyNode, patEllList, patEllEll, patFlatConcat, Bool.false_or]

theorem noBad_list {cs : List Expr} {b e : Int} : NoBad (.list cs b e) ↔ NoBadL cs := by
  simp only [NoBad, NoBadL, anyNode, patEllList, patEllEll, patFlatConcat, Bool.false_or]

theorem noBad_args {cs : List Expr} {b e : Int} : NoBad (.args cs b e) ↔ NoBadL cs := by
  simp only [NoBad, NoBadL, anyNode, patEllList, patEllEll, patFlatConcat, Bool.false_or]

theorem noBad_op {cs : List Expr} {b e : Int} : NoBad (.op cs b e) ↔ NoBadL cs := by
  simp only [NoBad, NoBadL, anyNode, patEllList, patEllEll, patFlatConcat, Bool.false_or]

theorem noBadL_cons {c : Expr} {cs : List Expr} : NoBadL (c :: cs) ↔ NoBad c ∧ NoBadL cs := by
  simp only [NoBad, NoBadL, anyNodeL, Bool.or_eq_false_iff]
  exact ⟨fun ⟨⟨a1, b1⟩, ⟨a2, b2⟩, a3, b3⟩ => ⟨⟨a1, a2, a3⟩, b1, b2, b3⟩,
    fun ⟨⟨a1, a2, a3⟩, b1, b2, b3⟩ => ⟨⟨a1, b1⟩, ⟨a2, b2⟩, a3, b3⟩⟩

theorem noBadL_iff : ∀ {cs : List Expr}, NoBadL cs ↔ ∀ c ∈ cs, NoBad c
  | [] => ⟨fun _ _ hc => (nomatch hc), fun _ => ⟨rfl, rfl, rfl⟩⟩
  | c :: cs => by simp only [noBadL_cons, noBadL_iff (cs := cs), List.forall_mem_cons]

theorem NoBadL.mem {cs : List Expr} (h : NoBadL cs) {c : Expr} (hc : c ∈ cs) : NoBad c :=
  noBadL_iff.mp h c hc

theorem PT_of_N {x : Expr} {inBr al : Bool} (h : N inBr al x = true) (hb : NoBad x) : PT inBr al x = true := by
  induction h using N.rules with
  | @axis _ _ _ v _ _ hax =>
    cases v with
    | none => simpa only [axisOK, PT] using hax
    | some k => simp only [PT]
  | flat hf _ ih =>
    obtain ⟨hc, hi⟩ := noBad_flat.mp hb
    simp only [PT, Bool.and_eq_true, Bool.not_eq_true']
    exact ⟨⟨hf, hc⟩, ih hi⟩
  | brackets hnb hnd _ ih =>
    simp only [PT, Bool.not_false, Bool.true_and, Bool.and_eq_true, Bool.not_eq_true']
    exact ⟨⟨hnb, hnd⟩, ih (noBad_brackets.mp hb)⟩
  | dots => simp only [PT, isAnonAxisNone_anon, Bool.true_or]
  | @ellipsis _ _ i _ _ _ _ hi ih =>
    obtain ⟨hl, hee, hbi⟩ := noBad_ellipsis.mp hb
    simp only [PT, Bool.or_eq_true, Bool.and_eq_true, Bool.not_eq_true']
    refine Or.inr ⟨⟨?_, ?_⟩, PT_notList (ih hbi) hl⟩
    · cases i with
      | axis n v bi ei =>
        simp only [N] at hi
        simpa only [isAnonAxis] using not_anon_of_axisOK hi
      | _ => rfl
    · cases i with
      | list => cases hl
      | ellipsis j dj bj ej =>
        have : isAnonAxisNone j = true := by simpa [patEllEll] using hee
        simp [ellOperand, isEllAnon, this]
      | args => simp [N] at hi
      | op => simp [N] at hi
      | _ => rfl
  | concat h2 hax _ ih =>
    simp only [PT, Bool.and_eq_true, decide_eq_true_eq]
    exact ⟨⟨h2, hax⟩, PTL_iff.mpr fun c hc => ih c hc ((noBad_concat.mp hb).mem hc)⟩
  | list h1 _ ih =>
    simp only [PT, Bool.true_and, Bool.and_eq_true, bne_iff_ne, ne_eq]
    exact ⟨h1, PTL_iff.mpr fun c hc => ih c hc ((noBad_list.mp hb).mem hc)⟩

theorem PTL_of_NL : ∀ (cs : List Expr) (inBr : Bool), NL inBr cs = true → NoBadL cs →
    PTL inBr cs = true :=
  fun _ _ h hb => PTL_iff.mpr fun c hc => PT_of_N (NL_iff.mp h c hc) (hb.mem hc)

theorem noBad_of_PT {x : Expr} {inBr al : Bool} (h : PT inBr al x = true) : NoBad x := by
  induction h using PT.rules with
  | named | valued => exact noBad_axis ..
  | flat _ hc _ ih => exact noBad_flat.mpr ⟨hc, ih⟩
  | brackets _ _ _ ih => exact noBad_brackets.mpr ih
  | dots => exact ⟨rfl, rfl, rfl⟩
  | @ell _ _ i _ _ _ _ hop _ ih =>
    refine noBad_ellipsis.mpr ⟨?_, ?_, ih⟩
    · cases i <;> first | rfl | cases hop
    · cases i with
      | ellipsis j dj bj ej =>
        have : isAnonAxisNone j = true := hop
        simp [patEllEll, this]
      | _ => rfl
  | concat _ _ _ ih => exact noBad_concat.mpr (noBadL_iff.mpr ih)
  | list _ _ ih => exact noBad_list.mpr (noBadL_iff.mpr ih)

theorem noBadL_of_PTL : ∀ (cs : List Expr) (inBr : Bool), PTL inBr cs = true → NoBadL cs :=
  fun _ _ h => noBadL_iff.mpr fun c hc => noBad_of_PT (PTL_iff.mp h c hc)

theorem PArgs_iff_noBad {a : Expr} (h : NArgs a = true) : PArgs a = true ↔ NoBad a := by
  cases a with
  | args as b e =>
    simp only [NArgs, Bool.and_eq_true, List.all_eq_true] at h
    simp only [PArgs, Bool.and_eq_true, List.all_eq_true, noBad_args, noBadL_iff]
    exact ⟨fun hp c hc => noBad_of_PT (hp.2 c hc),
      fun hb => ⟨h.1, fun c hc => PT_of_N (h.2 c hc) (hb c hc)⟩⟩
  | _ => simp [NArgs] at h

theorem PRoot_iff_noBad {t : Expr} (h : NRoot t = true) : PRoot t = true ↔ hasBadPattern t = false := by
  have hb : hasBadPattern t = false ↔ NoBad t := by
    simp only [hasBadPattern, Bool.or_eq_false_iff, NoBad, and_assoc]
  cases t with
  | op cs b e =>
    simp only [NRoot, Bool.and_eq_true, List.all_eq_true] at h
    simp only [hb, PRoot, Bool.and_eq_true, List.all_eq_true, noBad_op, noBadL_iff]
    exact ⟨fun hp c hc => (PArgs_iff_noBad (h.2 c hc)).mp (hp.2 c hc),
      fun hn => ⟨h.1, fun c hc => (PArgs_iff_noBad (h.2 c hc)).mpr (hn c hc)⟩⟩
  | _ => simp [NRoot] at h

end NF

open NF in
theorem printable_iff_not_excluded (text : Str) (t : Expr) (h : parseOp text = .ok t) :
    Printable t = !Excluded t := by
  obtain ⟨hroot, hconf⟩ := parseOp_NRoot text t h
  have := PRoot_iff_noBad hroot
  simp only [Printable, hconf, List.isEmpty_nil, Bool.and_true, Excluded]
  cases hp : PRoot t <;> cases hx : hasBadPattern t <;> simp_all

end Einx.Notation
