import EinxModel.Proofs.NotationGrammars
import EinxModel.Proofs.Forall2
/-!
# M1 Notation — the passes after `parse` on trees in normal form (`finish_nf`)

On a `QRoot` tree the two `move_up` passes only add the missing `Op`/`Args` wrappers, and the redundant-brackets pass
is the identity.
-/
namespace Einx.Notation

namespace FinNF
open NF

/-- Every element of `ch` is a node over the one child that stands at its place in `cs`. -/
def Wraps : List Expr → List Expr → Prop :=
  Forall2 fun c o => o.children = [c]

theorem wraps_pick {cs ch : List Expr} (h : Wraps cs ch) (idx : Nat) : ch.map (pick idx) = cs := by
  induction h with
  | nil => rfl
  | cons h _ ih => simp only [List.map_cons, pick, h, ih]

theorem wraps_flatMap {cs ch : List Expr} (h : Wraps cs ch) : ch.flatMap Expr.children = cs := by
  induction h with
  | nil => rfl
  | cons h _ ih => simp only [List.flatMap_cons, h, ih, List.singleton_append]

theorem distribute_wraps (k : Lift) (cls : Cls) {cs ch : List Expr} (b e : Int) (arrows : List Int)
    (h : Wraps cs ch) : distribute k cls ch b e arrows = .ok (k.wrap [cls.create cs b e] b e) := by
  have h1 : ∀ o ∈ ch, o.children.length = 1 := fun o ho => by
    obtain ⟨c, _, hc⟩ := h.mem_right o ho
    rw [hc]; rfl
  refine distribute_elim (motive := (· = _)) k cls ch b e arrows (fun ⟨o, ho, hne⟩ => (hne (h1 o ho)).elim) fun num hnum _ => ?_
  obtain rfl : num = 1 := hnum.elim id fun ⟨o, ho, hn⟩ => hn ▸ h1 o ho
  simp only [List.range_one, List.map_cons, List.map_nil, wraps_pick h]

theorem moveUpL_forall (k : Lift) (arrows : List Int) : ∀ (cs : List Expr),
    (∀ c ∈ cs, ∃ b e, moveUp k arrows c = .ok (k.wrap [c] b e)) → ∃ ch, moveUpL k arrows cs = .ok ch ∧ Wraps cs ch
  | [], _ => ⟨[], rfl, .nil⟩
  | c :: cs, h => by
    obtain ⟨b, e, hc⟩ := h c (by simp)
    obtain ⟨ch, hch, hw⟩ := moveUpL_forall k arrows cs (fun c' hc' => h c' (by simp [hc']))
    refine ⟨k.wrap [c] b e :: ch, ?_, .cons (children_wrap ..) hw⟩
    simp only [moveUpL, hc, hch]

theorem flattenAll_nf {inBr : Bool} {cs : List Expr} (h : ∀ c ∈ cs, Q inBr false c = true) : flattenAll cs = cs :=
  flattenAll_notList fun z hz => notList_of_Q (h z hz)

theorem moveUp_nf (k : Lift) (arrows : List Int) {inBr al : Bool} {x : Expr} (h : Q inBr al x = true) :
    ∃ b' e', moveUp k arrows x = .ok (k.wrap [x] b' e') := by
  induction h using Q.rules with
  | axis => exact ⟨-1, -1, by simp only [moveUp]⟩
  | @flat _ _ _ b e hf _ ih =>
    obtain ⟨b', e', hm⟩ := ih
    exact ⟨b', e', by simp only [moveUp, hm, children_wrap, b_wrap, e_wrap, List.map_cons, List.map_nil, mkFlat_nf b e hf]⟩
  | @brackets _ _ b e hb hn _ ih =>
    obtain ⟨b', e', hm⟩ := ih
    exact ⟨b', e', by
      simp only [moveUp, hm, children_wrap, b_wrap, e_wrap, List.map_cons, List.map_nil, mkBrackets_nf b e hb hn]⟩
  | @ellipsis _ _ _ d b e hn _ ih =>
    obtain ⟨b', e', hm⟩ := ih
    exact ⟨b', e', by
      simp only [moveUp, hm, children_wrap, b_wrap, e_wrap, List.map_cons, List.map_nil, mkEllipsis_nf b e d hn]⟩
  | @concat _ _ cs b e h2 _ ih =>
    obtain ⟨ch, hch, hw⟩ := moveUpL_forall k arrows cs ih
    exact ⟨b, e, by simp only [moveUp, hch, distribute_wraps k .concat b e arrows hw, Cls.create, mkConcat_two b e h2]⟩
  | @list _ cs b e h1 hcs ih =>
    obtain ⟨ch, hch, hw⟩ := moveUpL_forall k arrows cs ih
    exact ⟨b, e, by
      simp only [moveUp, hch, distribute_wraps k .list b e arrows hw, Cls.create, mkList_nf b e (flattenAll_nf hcs) h1]⟩

theorem moveUpL_nf (k : Lift) (arrows : List Int) : ∀ (cs : List Expr) (inBr : Bool), QL inBr cs = true →
    ∀ c ∈ cs, ∃ b e, moveUp k arrows c = .ok (k.wrap [c] b e) :=
  fun _ _ h c hc => moveUp_nf k arrows (QL_iff.mp h c hc)

theorem traverseL_id {inBr : Bool} {cs : List Expr} (h : ∀ c ∈ cs, traverse inBr c = c) : traverseL inBr cs = cs := by
  rw [traverseL_eq_map]
  exact (List.map_congr_left h).trans (List.map_id cs)

theorem traverse_nf {inBr al : Bool} {x : Expr} (h : Q inBr al x = true) : traverse inBr x = x := by
  induction h using Q.rules with
  | axis => simp only [traverse]
  | @flat _ _ _ b e hf _ ih => simp only [traverse, ih, mkFlat_nf b e hf]
  | @brackets _ _ b e hb hn _ ih => simp only [traverse, ih, mkBrackets_nf b e hb hn]; rfl
  | @ellipsis _ _ _ d b e hn _ ih => simp only [traverse, ih, mkEllipsis_nf b e d hn]
  | @concat _ _ _ b e h2 _ ih => simp only [traverse, traverseL_id ih, mkConcat_two b e h2]
  | @list _ _ b e h1 hcs ih => simp only [traverse, traverseL_id ih, mkList_nf b e (flattenAll_nf hcs) h1]

theorem traverseL_nf : ∀ (cs : List Expr) (inBr : Bool), QL inBr cs = true → traverseL inBr cs = cs :=
  fun _ _ h => traverseL_id fun c hc => traverse_nf (QL_iff.mp h c hc)

theorem moveUp_op_side (arrows : List Int) (a : Expr) (h : QArgs a = true) :
    ∃ b e, moveUp .op arrows a = .ok (.op [a] b e) := by
  cases a with
  | args as b e =>
    simp only [QArgs, List.all_eq_true] at h
    obtain ⟨ch, hch, hw⟩ := moveUpL_forall .op arrows as (fun c hc => moveUp_nf .op arrows (h c hc))
    refine ⟨b, e, ?_⟩
    simp only [moveUp, hch, distribute_wraps .op .args b e arrows hw, Cls.create, Lift.wrap]
  | axis | flat | brackets | ellipsis | concat | list => exact moveUp_nf .op arrows (inBr := false) (al := true) h
  | op cs b e => simp [QArgs, Q] at h

/-- The properties of the `Args` node that the second pass returns for the side `a`. -/
def SideRes (arrows : List Int) (a : Expr) (sh : Expr) : Prop :=
  ∃ as b e, moveUp .args arrows a = .ok (.args as b e) ∧ traverseL false as = as ∧
    (Expr.args as b e).shape = sh ∧ ∀ br m, occsL br m as = occs br m a

theorem side_single (arrows : List Int) (a : Expr) (h : Q false true a = true) :
    SideRes arrows a (.args [a.shape] 0 0) := by
  obtain ⟨b, e, hm⟩ := moveUp_nf .args arrows h
  refine ⟨[a], b, e, hm, ?_, ?_, ?_⟩
  · simp only [traverseL, traverse_nf h]
  · simp only [Expr.shape, shapeL]
  · intro br m
    simp only [occsL, List.append_nil]

theorem moveUp_args_side (arrows : List Int) (a : Expr) (h : QArgs a = true) : SideRes arrows a (wrapArgsS a) := by
  cases a with
  | args as b e =>
    simp only [QArgs] at h
    have h' := List.all_eq_true.mp h
    obtain ⟨ch, hch, hw⟩ := moveUpL_forall .args arrows as (fun c hc => moveUp_nf .args arrows (h' c hc))
    refine ⟨as, b, e, ?_, traverseL_id fun c hc => traverse_nf (h' c hc), ?_, ?_⟩
    · simp only [moveUp, hch, wraps_flatMap hw]
    · simp only [Expr.shape, wrapArgsS]
    · intro br m
      simp only [occs]
  | axis | flat | brackets | ellipsis | concat | list => exact side_single arrows _ h
  | op cs b e => simp [QArgs, Q] at h

theorem finish_single (arrows : List Int) (a : Expr) (h : QArgs a = true) :
    ∃ y, finish arrows a = checkBrackets y ∧ y.shape = .op [wrapArgsS a] 0 0 ∧ occs [] false y = occs [] false a := by
  obtain ⟨b1, e1, hm1⟩ := moveUp_op_side arrows a h
  obtain ⟨as, b, e, hm2, ht, hs, ho⟩ := moveUp_args_side arrows a h
  have h2 : moveUpL .args arrows [a] = .ok [.args as b e] := by simp only [moveUpL, hm2]
  have ht' : traverseL false [.args as b e] = [.args as b e] := by simp only [traverseL, traverse, ht]
  refine ⟨.op [.args as b e] b1 e1, ?_, ?_, ?_⟩
  · rw [finish_of_passes hm1 h2 (by rw [ht']; exact Nat.le_succ 1), ht']
  · simp only [Expr.shape, shapeL] at hs ⊢
    rw [hs]
  · simp only [occs, occsL, ho, List.append_nil]

end FinNF

open FinNF

/-- On a tree in the normal form that `parse` produces for printed text (`QRoot`), the passes after `parse` only add the
    missing `Op`/`Args` wrappers: the result is `checkBrackets y` for a tree `y` whose shape is `canonShape x` and which has
    the same axis occurrences (names, own positions, enclosing brackets) as `x`. -/
theorem finish_nf (arrows : List Int) (x : Expr) (h : QRoot x = true) :
    ∃ y, finish arrows x = checkBrackets y ∧ y.shape = canonShape x ∧ occs [] false y = occs [] false x := by
  cases x with
  | op cs b e =>
    simp only [QRoot, Bool.and_eq_true, beq_iff_eq] at h
    obtain ⟨hl, hq⟩ := h
    match cs, hl, hq with
    | [a1, a2], _, hq =>
      simp only [List.all_cons, List.all_nil, Bool.and_true, Bool.and_eq_true] at hq
      obtain ⟨c1, d1, ho1⟩ := moveUp_op_side arrows a1 hq.1
      obtain ⟨c2, d2, ho2⟩ := moveUp_op_side arrows a2 hq.2
      obtain ⟨as1, b1, e1, hm1, ht1, hs1, hc1⟩ := moveUp_args_side arrows a1 hq.1
      obtain ⟨as2, b2, e2, hm2, ht2, hs2, hc2⟩ := moveUp_args_side arrows a2 hq.2
      -- the first pass wraps each side in an `Op` and the root merges them; the second returns the sides' `Args`, which the
      -- bracket pass leaves as they are
      have h1 : moveUp .op arrows (.op [a1, a2] b e) = .ok (.op [a1, a2] b e) := by
        simp only [moveUp, moveUpL, ho1, ho2, List.flatMap_cons, List.flatMap_nil, Expr.children, List.append_nil,
          List.singleton_append]
      have h2 : moveUpL .args arrows [a1, a2] = .ok [.args as1 b1 e1, .args as2 b2 e2] := by simp only [moveUpL, hm1, hm2]
      have ht : traverseL false [.args as1 b1 e1, .args as2 b2 e2] = [.args as1 b1 e1, .args as2 b2 e2] := by
        simp only [traverseL, traverse, ht1, ht2]
      refine ⟨.op [.args as1 b1 e1, .args as2 b2 e2] b e, ?_, ?_, ?_⟩
      · rw [finish_of_passes h1 h2 (by rw [ht]; exact Nat.le_refl 2), ht]
      · simp only [Expr.shape, shapeL, canonShape, List.map_cons, List.map_nil] at hs1 hs2 ⊢
        rw [hs1, hs2]
      · simp only [occs, occsL, hc1, hc2, List.append_nil]
  | axis | flat | brackets | ellipsis | concat | list | args => exact finish_single arrows _ h

end Einx.Notation
