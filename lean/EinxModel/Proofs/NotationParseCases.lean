import EinxModel.Proofs.NotationInternal
/-!
# M1 Notation — one equation per branch of `parse`

`parse` is defined by well-founded recursion; these lemmas state its unfolding branch by branch so that proofs about two
runs of `parse` (space invariance) or about `parse` on a known token tree (re-parsing printed text) can rewrite with
them instead of unfolding the definition; `strip_cases` lists the shapes of the stripped token list that the branches
distinguish.
-/
namespace Einx.Notation

theorem parse_nil {ts : List Tok} (b e : Nat) (ipc : Bool) (h : strip ts = []) :
    parse ts b e ipc = .ok (mkList [] b e) := by
  rw [parse]
  split
  · rfl
  all_goals simp_all

theorem parse_group {ts : List Tok} (b e : Nat) (ipc : Bool) {o c : Token} {inner : List Tok}
    (h : strip ts = [.group o c inner]) :
    parse ts b e ipc =
      match parse inner (firstInnerPos inner c) (lastEnd inner (firstInnerPos inner c)) (o.text == lit "(") with
      | .error err => .error err
      | .ok x =>
        if o.text == lit "(" then
          if x.isConcat then .ok x else .ok (mkFlat x o.b c.e)
        else if o.text == lit "[" then .ok (mkBrackets x o.b c.e)
        else .error (.internal .assertDelimiter) := by
  rw [parse]
  split
  · simp_all
  · rename_i o' c' inner' hs
    rw [h] at hs
    simp only [List.cons.injEq, Tok.group.injEq, and_true] at hs
    obtain ⟨rfl, rfl, rfl⟩ := hs
    rfl
  · rename_i t0 rest hng hs
    rw [h] at hs
    simp only [List.cons.injEq] at hs
    exact (hng _ _ _ hs.1.symm hs.2.symm).elim

theorem parse_nary {ts : List Tok} (b e : Nat) (ipc : Bool) {t0 : Tok} {rest : List Tok} {op : Str}
    (h : strip ts = t0 :: rest) (hop : findOp naryOps (t0 :: rest) = some op) :
    parse ts b e ipc =
      match (keepOperands op (operands op (t0 :: rest))).mapM (fun o => parse o.ts o.b o.e false) with
      | .error err => .error err
      | .ok xs => combine op xs t0.b (lastEnd (t0 :: rest) 0) ipc (t0 :: rest) := by
  rw [parse]
  split
  · simp_all
  · rename_i o' c' inner' hs
    rw [h] at hs
    -- not a single group: `findOp` found an operator in the list
    rw [hs, findOp_group_none] at hop
    cases hop
  · rename_i t0' rest' _ hs
    rw [h] at hs
    simp only [List.cons.injEq] at hs
    obtain ⟨rfl, rfl⟩ := hs
    simp only
    split
    · rename_i op' hop'
      rw [hop] at hop'
      cases hop'
      rw [mapM_attach_eq _ (fun (o : TL) => parse o.ts o.b o.e false)]
      rfl
    · rename_i hop'
      rw [hop] at hop'
      cases hop'

theorem parse_atom {ts : List Tok} (b e : Nat) (ipc : Bool) {t : Token}
    (h : strip ts = [.atom t]) (hop : findOp naryOps [.atom t] = none) :
    parse ts b e ipc =
      if t.text == ellipsisLit then .ok (mkEllipsis (.axis anonName none t.b t.b) t.b t.e t.b) else parseAxis t := by
  rw [parse]
  split
  · simp_all
  · rename_i o' c' inner' hs
    rw [h] at hs
    simp at hs
  · rename_i t0' rest' _ hs
    rw [h] at hs
    simp only [List.cons.injEq] at hs
    obtain ⟨rfl, rfl⟩ := hs
    simp only
    split
    · rename_i op' hop'
      rw [hop] at hop'
      cases hop'
    · rfl

theorem parse_ell {ts : List Tok} (b e : Nat) (ipc : Bool) {x : Tok} {t : Token}
    (h : strip ts = [x, .atom t]) (hop : findOp naryOps [x, .atom t] = none) :
    parse ts b e ipc =
      if t.text == ellipsisLit then
        match parse [x] x.b x.e false with
        | .error err => .error err
        | .ok operand => .ok (mkEllipsis operand x.b t.e t.b)
      else .error (.syntax (.invalidExpr true) (posRange (Int.ofNat x.b) (Int.ofNat (lastEnd [x, .atom t] 0))) []) := by
  rw [parse]
  split
  · simp_all
  · rename_i o' c' inner' hs
    rw [h] at hs
    simp at hs
  · rename_i t0' rest' _ hs
    rw [h] at hs
    simp only [List.cons.injEq] at hs
    obtain ⟨rfl, rfl⟩ := hs
    simp only
    split
    · rename_i op' hop'
      rw [hop] at hop'
      cases hop'
    · rfl

theorem parse_invalid {ts : List Tok} (b e : Nat) (ipc : Bool) {t0 : Tok} {rest : List Tok}
    (h : strip ts = t0 :: rest) (hop : findOp naryOps (t0 :: rest) = none)
    (h1 : rest ≠ []) (h2 : ∀ t, rest ≠ [.atom t]) :
    parse ts b e ipc =
      .error (.syntax (.invalidExpr (decide ((t0 :: rest).length > 1)))
        (posRange (Int.ofNat t0.b) (Int.ofNat (lastEnd (t0 :: rest) 0))) []) := by
  rw [parse]
  split
  · simp_all
  · rename_i o' c' inner' hs
    rw [h] at hs
    simp only [List.cons.injEq] at hs
    exact (h1 hs.2).elim
  · rename_i t0' rest' _ hs
    rw [h] at hs
    simp only [List.cons.injEq] at hs
    obtain ⟨rfl, rfl⟩ := hs
    simp only
    split
    · rename_i op' hop'
      rw [hop] at hop'
      cases hop'
    · split
      · exact (h1 rfl).elim
      · exact (h2 _ rfl).elim
      · rfl

theorem strip_cases (X : List Tok) :
    X = [] ∨ (∃ o c inner, X = [.group o c inner]) ∨
      (∃ t0 rest op, X = t0 :: rest ∧ findOp naryOps X = some op) ∨
      (findOp naryOps X = none ∧ ((∃ t, X = [.atom t]) ∨ (∃ x t, X = [x, .atom t]) ∨
        ∃ t0 rest, X = t0 :: rest ∧ rest ≠ [] ∧ ∀ t, rest ≠ [.atom t])) := by
  match X with
  | [] => exact Or.inl rfl
  | [.group o c inner] => exact Or.inr (Or.inl ⟨o, c, inner, rfl⟩)
  | [.atom t] =>
    cases hop : findOp naryOps [.atom t] with
    | some op => exact Or.inr (Or.inr (Or.inl ⟨_, _, op, rfl, rfl⟩))
    | none => exact Or.inr (Or.inr (Or.inr ⟨rfl, Or.inl ⟨t, rfl⟩⟩))
  | t0 :: t1 :: rest =>
    cases hop : findOp naryOps (t0 :: t1 :: rest) with
    | some op => exact Or.inr (Or.inr (Or.inl ⟨_, _, op, rfl, rfl⟩))
    | none =>
      refine Or.inr (Or.inr (Or.inr ⟨rfl, ?_⟩))
      match t1, rest with
      | .atom t, [] => exact Or.inr (Or.inl ⟨t0, t, rfl⟩)
      | .group .., [] => exact Or.inr (Or.inr ⟨_, _, rfl, List.cons_ne_nil _ _, fun _ h => nomatch h⟩)
      | _, _ :: _ => exact Or.inr (Or.inr ⟨_, _, rfl, List.cons_ne_nil _ _, fun _ h => nomatch h⟩)

end Einx.Notation
