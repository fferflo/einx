import EinxModel.Proofs.RejectLex
import EinxModel.Proofs.NotationParseCases
/-!
# A `+` outside every pair of delimiters is rejected (helper lemmas for `parse_rejects_unwrapped_concat`, Props/C03Reject.lean)

String-level defect: `atDepth0 '+' text []` (Notation/Spec.lean) — some `+` of the text stands where the bracket scan has an
empty stack.  Chain: the lexer makes an operator literal at that place a token of its own, preceded by the tokens of the text
before it (`segment_split_lit`); the duplicate-space pass keeps it; the delimiter stack puts it into the top-level token list
(`full_depth0`) — together `depth0_atom`, for any operator literal.  `parse` without an enclosing parenthesis
(`is_parent_composition=False`) cannot succeed on a token list that has a `+` atom (`parse_plus_fails`: the lowest-precedence
operator is `->`, `,` or `+`; the first two hand the `+` to an operand, parsed again with `is_parent_composition=False`; `+`
itself raises l.210 or l.216).
-/
namespace Einx.Notation

open TreeIns

theorem naryOps_eq' : naryOps = [lit "->", lit ",", lit "+", spaceLit] := naryOps_eq

theorem atDepth0_split (c : Char) : ∀ (s : Str) (st : List Char), atDepth0 c s st = true →
    ∃ u v, s = u ++ c :: v ∧ delimRun u st = some []
  | [], _, h => by cases h
  | x :: xs, st, h => by
    simp only [atDepth0, Bool.or_eq_true, Bool.and_eq_true, List.isEmpty_iff, beq_iff_eq] at h
    rcases h with ⟨rfl, rfl⟩ | h
    · exact ⟨[], xs, rfl, rfl⟩
    · cases hd : delimStep st x with
      | none => rw [hd] at h; cases h
      | some st' =>
        rw [hd] at h
        obtain ⟨u, v, hs, hr⟩ := atDepth0_split c xs st' h
        refine ⟨x :: u, v, by rw [hs]; rfl, ?_⟩
        simp only [delimRun, hd]
        exact hr

theorem mem_base_appTop {x : Tok} (xs : List Tok) {s : St} (h : x ∈ s.2) : x ∈ (appTop xs s).2 := by
  obtain ⟨_ | ⟨⟨o, items⟩, rest⟩, base⟩ := s
  · exact List.mem_append_left _ h
  · exact h

theorem full_depth0 {t : Token} {pre post : List Token} {s : St} {tree : List Tok} (ht : ∀ c ∈ t.text, isDelimChar c = false)
    (hpre : ∀ p ∈ pre, TokenClean p) (hs : Opened s) (hrun : delimRun (pre.flatMap (·.text)) (closers s) = some [])
    (h : full (pre ++ t :: post) s = .ok tree) : Tok.atom t ∈ tree := by
  obtain ⟨⟨frames, base⟩, hf, hcl, _⟩ := (full_append (t :: post) pre s hpre hs).2 _ hrun
  cases List.map_eq_nil_iff.mp hcl
  obtain ⟨h1, h2⟩ := not_delim_of_clean ht
  rw [hf, full_cons, step_atom _ h1 h2] at h
  -- the top-level list only grows
  exact (full_inv (I := fun _ s => Tok.atom t ∈ s.2) (E := fun _ => True) (Q := fun tree => Tok.atom t ∈ tree)
    (fun _ _ _ _ hx => hx) (fun _ _ _ _ _ hx => mem_base_appTop _ hx)
    (fun _ _ _ _ rest base _ _ _ hx => mem_base_appTop (s := (rest, base)) _ hx)
    (fun _ _ _ _ _ => trivial) (fun _ hx => hx) (fun _ _ _ _ _ => trivial)
    post _ (List.mem_append_right _ List.mem_cons_self)).ok h

theorem depth0_atom {text u l v : Str} {toks : List Token} {tree : List Tok}
    (hl : l ∈ literals) (hh : l.head?.all (fun c => c != '>' && c != '.') = true) (hld : ∀ c ∈ l, isDelimChar c = false)
    (hsp : l ≠ spaceLit)
    (hs : text = u ++ l ++ v) (hrun : delimRun u [] = some [])
    (hlex : lex text = .ok toks) (hb : buildTree (dedupSpaces toks false) [] [] = .ok tree) :
    Tok.atom ⟨l, u.length, u.length + l.length⟩ ∈ tree := by
  have hseg := segment_split_lit hl hh u v 0 0 []
  rw [← hs, ← (lex_ok_tokens hlex).1, Nat.zero_add] at hseg
  have hclean := lex_clean hlex
  rw [hseg, dedup_append, dedup_cons_nonspace _ _ _ (beq_eq_false_iff_ne.mpr hsp)] at hb hclean
  rw [buildTree_eq_full] at hb
  refine full_depth0 (s := ([], [])) hld (fun p hp => hclean p (List.mem_append_left _ hp)) (fun _ hf => nomatch hf) ?_ hb
  show delimRun _ [] = some []
  rw [delimRun_dedup, segment_concat]
  exact hrun

theorem strip_of_atom {ts : List Tok} {l : Str} (h : ts.any (Tok.isText l) = true) (hl : l ≠ spaceLit) :
    ∃ t0 rest, strip ts = t0 :: rest ∧ (t0 :: rest).any (Tok.isText l) = true := by
  obtain ⟨x, hx, hxl⟩ := List.any_eq_true.mp h
  have hxs := mem_strip_of hx (isText_ne hxl hl)
  cases hs : strip ts with
  | nil => rw [hs] at hxs; cases hxs
  | cons t0 rest =>
    rw [hs] at hxs
    exact ⟨t0, rest, rfl, List.any_eq_true.mpr ⟨x, hxs, hxl⟩⟩

theorem findOp_of_plus {ts : List Tok} (h : ts.any (Tok.isText (lit "+")) = true) :
    ∃ op, findOp naryOps ts = some op ∧ op ≠ spaceLit := by
  rw [naryOps_eq]
  simp only [findOp, h, if_true]
  split
  · exact ⟨_, rfl, by decide⟩
  · split <;> exact ⟨_, rfl, by decide⟩

theorem combine_plus_fails (xs : List Expr) (b e : Nat) (ts : List Tok) : ∀ r, combine (lit "+") xs b e false ts ≠ .ok r := by
  intro r hr
  rw [combine_plus] at hr
  split at hr <;> cases hr

theorem parse_plus_fails (ts : List Tok) (b e : Nat) (h : ts.any (Tok.isText (lit "+")) = true) :
    ∀ r, parse ts b e false ≠ .ok r := by
  induction hn : sizeL ts using Nat.strongRecOn generalizing ts b e with
  | ind n ih =>
    intro r hr
    obtain ⟨t0, rest, hs, hany⟩ := strip_of_atom h (by decide)
    obtain ⟨op, hop, hsp⟩ := findOp_of_plus hany
    rw [parse_nary b e false hs hop, keepOperands_ne hsp] at hr
    split at hr
    · cases hr
    · rename_i xs heq
      by_cases hne : op = lit "+"
      · subst hne
        exact combine_plus_fails _ _ _ _ r hr
      · obtain ⟨x, hx, hxp⟩ := List.any_eq_true.mp hany
        obtain ⟨o, ho, hxo⟩ := operands_mem_inv hx (isText_ne hxp (Ne.symm hne))
        obtain ⟨y, _, hy⟩ := mapM_ok_all _ _ _ heq o ho
        have hlt : sizeL o.ts < n :=
          hn ▸ Nat.lt_of_lt_of_le (operands_lt op _ (findOp_any hop) o ho) (hs ▸ strip_le ts)
        exact ih _ hlt o.ts o.b o.e (List.any_eq_true.mpr ⟨x, hxo, hxp⟩) rfl y hy

theorem parseOp_plus_depth0 (text : Str) (h : atDepth0 '+' text [] = true) : ∀ x, parseOp text ≠ .ok x := by
  intro x hx
  obtain ⟨u, v, hs, hrun⟩ := atDepth0_split '+' text [] h
  obtain ⟨toks, tree, y, hl, hb, hp, _⟩ := parseOp_ok_inv hx
  have hmem := depth0_atom (l := ['+']) (v := v) (by rw [literals_eq]; decide) rfl (by decide) (by decide)
    (by rw [hs, List.append_assoc]; rfl) hrun hl hb
  exact parse_plus_fails tree 0 _ (List.any_eq_true.mpr ⟨_, hmem, rfl⟩) y hp

end Einx.Notation
