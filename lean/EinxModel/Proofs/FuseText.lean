import EinxModel.Proofs.FuseLoop
/-!
C04, name re-use: the interference condition in *text order*, block by block (the verdict `fuse_safe` of the driver).

The text of block `b` is a header `H` (comments, hoisted imports: no reads, output variables that do not allow re-use) followed by
the statements of `body` that belong to the block, in emission order.  With the invariant `FInv` for the final groups:
`fuseSafe ρ T` (a statement that writes a shared name is not followed, in the block, by a read of another variable of that name
before its definition) and `entrySafe ρ T` (the variables a block reads from outside — parameters, variables of enclosing blocks —
have pairwise distinct names).
-/
namespace Einx.Compile

theorem text_safe (body : List (Nat × Stmt)) (blockOf : Nat → Nat) (reuse : Nat → Bool) (n : Nat) (grp : List Nat)
    (hinv : FInv body blockOf reuse n [] grp) (hnd : (outsOf (body.map (·.2))).Nodup) (hcl : liveIn (body.map (·.2)) = [])
    (hinfo : ∀ p ∈ body, ∀ o ∈ p.2.outputVars, (p.2.isParam = false → blockOf o = p.1) ∧ (p.2.isImport = true → reuse o = false))
    (b : Nat) (H : List Stmt) (hH : ∀ s ∈ H, s.reads = [] ∧ ∀ o ∈ s.outputVars, reuse o = false) :
    fuseSafe (ρOf grp) (H ++ (body.filter (pb b)).map (·.2)) = true ∧
    entrySafe (ρOf grp) (H ++ (body.filter (pb b)).map (·.2)) = true := by
  have pb_assign : ∀ w rhs eff, pb b (b, Stmt.assign w rhs eff) = true := fun _ _ _ => (pb_iff b _).2 ⟨rfl, rfl, rfl⟩
  have defined_in_text : ∀ w1 w2, w1 ≠ w2 → ρOf grp w1 = ρOf grp w2 → Before (body.map (·.2)) w1 w2 → blockOf w2 = b →
      ∃ bpre rhs eff brest, body = bpre ++ (b, Stmt.assign w2 rhs eff) :: brest ∧
        (∀ r ∈ bpre.map (·.2), w2 ∉ r.reads) ∧ w2 ∉ (Stmt.assign w2 rhs eff).reads := by
    intro w1 w2 hne hρ hB hb2
    obtain ⟨bpre, rhs, eff, brest, hbody⟩ := hinv.asg w1 w2 hne hρ hB
    rw [hb2] at hbody
    have hP : body.map (·.2) = bpre.map (·.2) ++ Stmt.assign w2 rhs eff :: brest.map (·.2) := by rw [hbody]; simp
    obtain ⟨h1, h2⟩ := no_read_before_def _ hnd hcl _ _ _ hP w2 (by simp [Stmt.outputVars])
    exact ⟨bpre, rhs, eff, brest, hbody, h1, h2⟩
  constructor
  · refine text_safe_of_ordered (·.2) (pb b) body (ρOf grp) H hnd hcl hinv.ord ?_ ?_
    · -- the later of two variables that share a name is defined by an assignment in the same block
      intro y hy hqy o ho w hwo hρ hb
      obtain ⟨hyb, _, hypar⟩ := (pb_iff b y).1 hqy
      have hbw : blockOf w = b := by rw [hinv.blk w o hρ, (hinfo y hy o ho).1 hypar, hyb]
      obtain ⟨bpre, rhs, eff, brest, hbody2, -, -⟩ := defined_in_text o w (Ne.symm hwo) hρ.symm hb hbw
      exact ⟨bpre, _, brest, hbody2, pb_assign w rhs eff, by simp [Stmt.outputVars]⟩
    · -- an output variable of the header does not allow re-use
      intro s hs o ho w hwo hρ
      have h2 := hinv.ru o w (Ne.symm hwo) hρ.symm
      rw [(hH s hs).2 o ho] at h2
      exact Bool.noConfusion h2
  · have key : ∀ w1 w2, w1 ≠ w2 → ρOf grp w1 = ρOf grp w2 → Before (body.map (·.2)) w1 w2 →
        w1 ∈ liveIn (H ++ (body.filter (pb b)).map (·.2)) → w2 ∉ liveIn (H ++ (body.filter (pb b)).map (·.2)) := by
      intro w1 w2 hne hρ hB h1
      -- a reader of `w1` in the text: it lies in block `b`, so `w1`, `w2` belong to block `b`
      obtain ⟨x, hx, hwx⟩ := mem_liveIn_reads _ w1 h1
      have hxF : x ∈ (body.filter (pb b)).map (·.2) := by
        rcases List.mem_append.1 hx with hx | hx
        · rw [(hH x hx).1] at hwx; simp at hwx
        · exact hx
      obtain ⟨y, hy, rfl⟩ := List.mem_map.1 hxF
      obtain ⟨hybody, hypb⟩ := List.mem_filter.1 hy
      have hb1 : blockOf w1 = b := by
        rw [← hinv.rd w1 w2 hne hρ hB y hybody (Stmt.reads_sub_inputVars _ _ hwx)]
        exact ((pb_iff b y).1 hypb).1
      have hb2 : blockOf w2 = b := by rw [← hinv.blk w1 w2 hρ, hb1]
      obtain ⟨bpre, rhs, eff, brest, hbody2, hnr, hnd2⟩ := defined_in_text w1 w2 hne hρ hB hb2
      rw [hbody2, filter_map_of_split (pb b) (·.2) bpre brest _ (pb_assign w2 rhs eff), ← List.append_assoc]
      refine not_live_of_defined_first _ _ _ w2 (by simp [Stmt.outputVars]) ?_ hnd2
      intro r hr
      rcases List.mem_append.1 hr with hr | hr
      · rw [(hH r hr).1]; simp
      · apply hnr r
        obtain ⟨z, hz, rfl⟩ := List.mem_map.1 hr
        exact List.mem_map.2 ⟨z, (List.mem_filter.1 hz).1, rfl⟩
    simp only [entrySafe, List.all_eq_true, Bool.or_eq_true, beq_iff_eq, bne_iff_ne, ne_eq]
    intro v hv w hw
    by_cases hvw : v = w
    · exact Or.inl hvw
    refine Or.inr ?_
    intro hρ
    rcases hinv.ord v w hvw hρ with hb | hb
    · exact key v w hvw hρ hb hv hw
    · exact key w v (Ne.symm hvw) hρ.symm hb hw hv

end Einx.Compile
