import EinxModel.Errors.Indicator
import EinxModel.Proofs.NotationEqns
import EinxModel.Proofs.ExceptList
/-!
# Tree predicates of the form "a condition `q` holds at every node"

Caret ranges inside the string, ellipses that end with `...`, no `Op` below the root, no concatenation: each says that a condition on
the head of a node (constructor and positions) holds at every node.  Positions are made by `parse` from the tokens; every later
stage — both `move_up` passes, the redundant-bracket pass, `stage1.map` in `_parse_op` — only moves existing heads around, so every
such predicate survives them.  All of it follows from the one-step unfolding `NodeWise.iff`.
-/
namespace Einx

/-- The `match` by which `stage1.map` takes the replacement of a node or rebuilds it. -/
theorem Errors.mapNode_ind {P : Notation.Expr → Prop} {o : Option Notation.Expr} {d : Notation.Expr}
    (ho : ∀ z, o = some z → P z) (hd : P d) :
    P (match (generalizing := false) o with | some y => y | none => d) := by
  cases o with
  | none => exact hd
  | some z => exact ho z rfl

namespace Notation
open Einx.Errors (nodes nodesL)

theorem Expr.childInduction {motive : Expr → Prop} (step : ∀ x, (∀ c ∈ x.children, motive c) → motive x) (x : Expr) : motive x :=
  Expr.memInduction (fun _ _ _ _ => step _ fun _ h => nomatch h)
    (fun _ _ _ ih => step _ (List.forall_mem_singleton.mpr ih)) (fun _ _ _ ih => step _ (List.forall_mem_singleton.mpr ih))
    (fun _ _ _ _ ih => step _ (List.forall_mem_singleton.mpr ih))
    (fun _ _ _ ih => step _ ih) (fun _ _ _ ih => step _ ih) (fun _ _ _ ih => step _ ih) (fun _ _ _ ih => step _ ih) x

theorem nodesL_eq_flatMap : ∀ cs : List Expr, nodesL cs = cs.flatMap nodes
  | [] => rfl
  | c :: cs => by rw [nodesL, List.flatMap_cons, nodesL_eq_flatMap cs]

theorem nodes_eq (x : Expr) : nodes x = x :: x.children.flatMap nodes := by
  cases x <;> simp [nodes, Expr.children, nodesL_eq_flatMap]

theorem mapExprL_eq_map (f : Expr → Option Expr) : ∀ cs : List Expr, Errors.mapExprL f cs = cs.map (Errors.mapExpr f)
  | [] => rfl
  | c :: cs => by rw [Errors.mapExprL, List.map_cons, mapExprL_eq_map f cs]

/-- `P x` says: `q` holds at every node of `x`. -/
structure NodeWise (q P : Expr → Prop) : Prop where
  iff : ∀ x, P x ↔ q x ∧ ∀ c ∈ x.children, P c
  empty : q emptyList

/-- `q` looks at the constructor and the positions of a node only. -/
structure HeadOnly (q : Expr → Prop) : Prop where
  flat : ∀ {i b e} (i' : Expr), q (.flat i b e) → q (.flat i' b e)
  brackets : ∀ {i b e} (i' : Expr), q (.brackets i b e) → q (.brackets i' b e)
  ellipsis : ∀ {i id b e} (i' : Expr), q (.ellipsis i id b e) → q (.ellipsis i' id b e)
  concat : ∀ {cs b e} (cs' : List Expr), q (.concat cs b e) → q (.concat cs' b e)
  list : ∀ {cs b e} (cs' : List Expr), q (.list cs b e) → q (.list cs' b e)
  args : ∀ {cs b e} (cs' : List Expr), q (.args cs b e) → q (.args cs' b e)
  op : ∀ {cs b e} (cs' : List Expr), q (.op cs b e) → q (.op cs' b e)

/-- `q` holds of the `Op`/`Args` node that a `move_up` pass creates: at the default position, and at the position of a node of
which `q` holds. -/
structure WrapClosed (q : Expr → Prop) : Prop where
  neg : ∀ (k : Lift) cs, q (k.wrap cs (-1) (-1))
  at_ : ∀ (k : Lift) (x : Expr) cs, q x → q (k.wrap cs x.b x.e)

theorem NodeWise.of_cases {q P : Expr → Prop}
    (axis : ∀ n v b e, P (.axis n v b e) ↔ q (.axis n v b e))
    (flat : ∀ i b e, P (.flat i b e) ↔ q (.flat i b e) ∧ P i)
    (brackets : ∀ i b e, P (.brackets i b e) ↔ q (.brackets i b e) ∧ P i)
    (ellipsis : ∀ i id b e, P (.ellipsis i id b e) ↔ q (.ellipsis i id b e) ∧ P i)
    (concat : ∀ cs b e, P (.concat cs b e) ↔ q (.concat cs b e) ∧ ∀ c ∈ cs, P c)
    (list : ∀ cs b e, P (.list cs b e) ↔ q (.list cs b e) ∧ ∀ c ∈ cs, P c)
    (args : ∀ cs b e, P (.args cs b e) ↔ q (.args cs b e) ∧ ∀ c ∈ cs, P c)
    (op : ∀ cs b e, P (.op cs b e) ↔ q (.op cs b e) ∧ ∀ c ∈ cs, P c)
    (empty : q Notation.emptyList) : NodeWise q P where
  iff
    | .axis n v b e => (axis n v b e).trans ⟨fun h => ⟨h, nofun⟩, fun h => h.1⟩
    | .flat i b e => (flat i b e).trans (and_congr_right fun _ => List.forall_mem_singleton.symm)
    | .brackets i b e => (brackets i b e).trans (and_congr_right fun _ => List.forall_mem_singleton.symm)
    | .ellipsis i id b e => (ellipsis i id b e).trans (and_congr_right fun _ => List.forall_mem_singleton.symm)
    | .concat cs b e => concat cs b e
    | .list cs b e => list cs b e
    | .args cs b e => args cs b e
    | .op cs b e => op cs b e
  empty := empty

namespace NodeWise

variable {q P : Expr → Prop} (h : NodeWise q P)
include h

theorem node {x : Expr} (hx : P x) : q x := ((h.iff x).mp hx).1

theorem children {x : Expr} (hx : P x) : ∀ c ∈ x.children, P c := ((h.iff x).mp hx).2

theorem intro {x : Expr} (hq : q x) (hc : ∀ c ∈ x.children, P c) : P x := (h.iff x).mpr ⟨hq, hc⟩

theorem emptyList : P emptyList := h.intro h.empty fun _ hc => nomatch hc

theorem mkFlat {i : Expr} {b e : Int} (hq : q (.flat i b e)) (hi : P i) : P (mkFlat i b e) :=
  mkFlat_elim (fun _ => hi) fun _ => h.intro hq (List.forall_mem_singleton.mpr hi)

theorem mkBrackets {i : Expr} {b e : Int} (hq : q (.brackets i b e)) (hi : P i) : P (mkBrackets i b e) :=
  mkBrackets_elim (fun _ => hi) (fun _ => h.emptyList) fun _ _ => h.intro hq (List.forall_mem_singleton.mpr hi)

theorem mkEllipsis {i : Expr} {b e : Int} {id : Nat} (hq : q (.ellipsis i id b e)) (hi : P i) : P (mkEllipsis i b e id) :=
  mkEllipsis_elim (fun _ => h.emptyList) fun _ => h.intro hq (List.forall_mem_singleton.mpr hi)

theorem mkConcat {cs : List Expr} {b e : Int} (hq : q (.concat cs b e)) (hc : ∀ c ∈ cs, P c) : P (mkConcat cs b e) :=
  mkConcat_elim (fun c hcs => hc c (hcs ▸ List.mem_cons_self)) fun _ => h.intro hq hc

theorem flattenOne : ∀ x : Expr, P x → ∀ c ∈ flattenOne x, P c := by
  intro x
  induction x using Expr.memInduction with
  | list cs b e ih =>
    intro hx c hc
    rw [Notation.flattenOne, flattenAll_eq_flatMap] at hc
    obtain ⟨x, hxs, hcx⟩ := List.mem_flatMap.mp hc
    exact ih x hxs (h.children hx x hxs) c hcx
  | _ => intro hx c hc; rw [List.mem_singleton.mp hc]; exact hx

theorem flattenAll {cs : List Expr} (hc : ∀ c ∈ cs, P c) : ∀ c ∈ flattenAll cs, P c := by
  rw [flattenAll_eq_flatMap]
  exact List.forall_mem_flatMap.mpr fun x hx => h.flattenOne x (hc x hx)

/-- The `List` node may come out with other children than it was given, so `q` is asked of every child list. -/
theorem mkList {cs : List Expr} {b e : Int} (hq : ∀ cs', q (.list cs' b e)) (hc : ∀ c ∈ cs, P c) : P (mkList cs b e) :=
  mkList_elim (fun c hfc => h.flattenAll hc c (hfc ▸ List.mem_cons_self)) fun _ => h.intro (hq _) (h.flattenAll hc)

theorem nodes : ∀ x : Expr, P x → ∀ y ∈ nodes x, P y :=
  Expr.childInduction fun x ih hx => by
    rw [nodes_eq]
    exact List.forall_mem_cons.mpr ⟨hx, List.forall_mem_flatMap.mpr fun c hc => ih c hc (h.children hx c hc)⟩

theorem nodesL {cs : List Expr} (hcs : ∀ c ∈ cs, P c) : ∀ y ∈ nodesL cs, P y := by
  rw [nodesL_eq_flatMap]
  exact List.forall_mem_flatMap.mpr fun c hc => h.nodes c (hcs c hc)

theorem iff_nodes (x : Expr) : P x ↔ ∀ y ∈ Errors.nodes x, q y := by
  refine ⟨fun hx y hy => h.node (h.nodes x hx y hy), ?_⟩
  induction x using Expr.childInduction with
  | step x ih =>
    intro hx
    rw [nodes_eq] at hx
    obtain ⟨h1, h2⟩ := List.forall_mem_cons.mp hx
    exact h.intro h1 fun c hc => ih c hc fun y hy => h2 y (List.mem_flatMap.mpr ⟨c, hc, hy⟩)

theorem imp {q' P' : Expr → Prop} (h' : NodeWise q' P') (hqq : ∀ y, q y → q' y) {x : Expr} (hx : P x) : P' x :=
  (h'.iff_nodes x).mpr fun y hy => hqq y ((h.iff_nodes x).mp hx y hy)

theorem mapExpr (hl : HeadOnly q) (f : Expr → Option Expr) (hf : ∀ y z, P y → f y = some z → P z) :
    ∀ x : Expr, P x → P (Errors.mapExpr f x) := by
  have hL : ∀ {cs : List Expr}, (∀ c ∈ cs, P c → P (Errors.mapExpr f c)) → (∀ c ∈ cs, P c) →
      ∀ c ∈ Errors.mapExprL f cs, P c := fun ih hcs => by
    rw [mapExprL_eq_map]
    exact List.forall_mem_map.mpr fun c hc => ih c hc (hcs c hc)
  intro x
  induction x using Expr.memInduction with
  | axis n v b e => exact fun hx => Errors.mapNode_ind (fun _ => hf _ _ hx) hx
  | flat i b e ih =>
    intro hx
    have hi := ih (h.children hx i List.mem_cons_self)
    exact Errors.mapNode_ind (fun _ => hf _ _ hx) (h.mkFlat (hl.flat _ (h.node hx)) hi)
  | brackets i b e ih =>
    intro hx
    have hi := ih (h.children hx i List.mem_cons_self)
    exact Errors.mapNode_ind (fun _ => hf _ _ hx) (h.mkBrackets (hl.brackets _ (h.node hx)) hi)
  | ellipsis i id b e ih =>
    intro hx
    have hi := ih (h.children hx i List.mem_cons_self)
    exact Errors.mapNode_ind (fun _ => hf _ _ hx) (h.mkEllipsis (hl.ellipsis _ (h.node hx)) hi)
  | concat cs b e ih =>
    exact fun hx => Errors.mapNode_ind (fun _ => hf _ _ hx) (h.mkConcat (hl.concat _ (h.node hx)) (hL ih (h.children hx)))
  | list cs b e ih =>
    exact fun hx => Errors.mapNode_ind (fun _ => hf _ _ hx) (h.mkList (fun _ => hl.list _ (h.node hx)) (hL ih (h.children hx)))
  | args cs b e ih =>
    exact fun hx => Errors.mapNode_ind (fun _ => hf _ _ hx) (h.intro (hl.args _ (h.node hx)) (hL ih (h.children hx)))
  | op cs b e ih =>
    exact fun hx => Errors.mapNode_ind (fun _ => hf _ _ hx) (h.intro (hl.op _ (h.node hx)) (hL ih (h.children hx)))

theorem mapExprL (hl : HeadOnly q) (f : Expr → Option Expr) (hf : ∀ y z, P y → f y = some z → P z) {cs : List Expr}
    (hcs : ∀ c ∈ cs, P c) : ∀ c ∈ Errors.mapExprL f cs, P c := by
  rw [mapExprL_eq_map]
  exact List.forall_mem_map.mpr fun c hc => h.mapExpr hl f hf c (hcs c hc)

theorem removeBrackets (hl : HeadOnly q) {x : Expr} (hx : P x) : P (Errors.removeBrackets x) := by
  refine h.mapExpr hl _ (fun y z _ hyz => ?_) x hx
  cases y <;> simp at hyz
  subst hyz
  exact h.emptyList

theorem toOutput (hl : HeadOnly q) (hout : P (Notation.mkBrackets (.axis (lit "output.axis") none (-1) (-1)) (-1) (-1)))
    {x : Expr} (hx : P x) : P (Errors.toOutput x) := by
  refine h.mapExpr hl _ (fun y z _ hyz => ?_) x hx
  cases y <;> simp at hyz
  subst hyz
  exact hout

theorem markAxes (hl : HeadOnly q) (hmark : ∀ n v b e, P (.axis n v b e) → P (.brackets (.axis n v b e) (-1) (-1)))
    (names : List Str) {x : Expr} (hx : P x) : P (Errors.markAxes names x) := by
  refine h.mapExpr hl _ (fun y z hy hyz => ?_) x hx
  cases y <;> simp at hyz
  obtain ⟨_, hyz⟩ := hyz
  subst hyz
  exact hmark _ _ _ _ hy

theorem traverse (hl : HeadOnly q) : ∀ (x : Expr) (inBr : Bool), P x → P (traverse inBr x) := by
  have hL : ∀ {cs : List Expr} {inBr : Bool}, (∀ c ∈ cs, ∀ inBr, P c → P (Notation.traverse inBr c)) → (∀ c ∈ cs, P c) →
      ∀ c ∈ traverseL inBr cs, P c := fun ih hcs => by
    rw [traverseL_eq_map]
    exact List.forall_mem_map.mpr fun c hc => ih c hc _ (hcs c hc)
  intro x
  induction x using Expr.memInduction with
  | axis n v b e => exact fun _ hx => hx
  | flat i b e ih => exact fun inBr hx => h.mkFlat (hl.flat _ (h.node hx)) (ih inBr (h.children hx i List.mem_cons_self))
  | brackets i b e ih =>
    intro inBr hx
    have hi := ih true (h.children hx i List.mem_cons_self)
    rw [Notation.traverse]
    split
    · exact hi
    · exact h.mkBrackets (hl.brackets _ (h.node hx)) hi
  | ellipsis i id b e ih => exact fun inBr hx => h.mkEllipsis (hl.ellipsis _ (h.node hx)) (ih inBr (h.children hx i List.mem_cons_self))
  | concat cs b e ih => exact fun inBr hx => h.mkConcat (hl.concat _ (h.node hx)) (hL ih (h.children hx))
  | list cs b e ih => exact fun inBr hx => h.mkList (fun _ => hl.list _ (h.node hx)) (hL ih (h.children hx))
  | args cs b e ih => exact fun inBr hx => h.intro (hl.args _ (h.node hx)) (hL ih (h.children hx))
  | op cs b e ih => exact fun inBr hx => h.intro (hl.op _ (h.node hx)) (hL ih (h.children hx))

/-- `pick` reads the children only, so the node itself need not satisfy `P`. -/
theorem pick (idx : Nat) {x : Expr} (hc : ∀ c ∈ x.children, P c) : P (pick idx x) := by
  unfold Notation.pick
  split
  · rename_i c hxc
    exact hc c (by rw [hxc]; exact List.mem_cons_self)
  · rw [List.getD_eq_getElem?_getD]
    cases hi : x.children[idx]? with
    | none => exact h.emptyList
    | some y => exact hc y (List.mem_of_getElem? hi)

theorem distribute (hw : WrapClosed q) {E : Err → Prop} {arrows : List Int} (hE : ∀ kind, E (.syntax kind arrows []))
    (k : Lift) (cls : Cls) {children : List Expr} (x : Expr)
    (hcreate : ∀ cs', (∀ c ∈ cs', P c) → P (cls.create cs' x.b x.e)) (hx : q x)
    (hcs : ∀ c ∈ children, P c) : ExceptP E P (Notation.distribute k cls children x.b x.e arrows) := by
  refine distribute_elim k cls children x.b x.e arrows (fun _ => hE _) fun _ _ _ => h.intro (hw.at_ k x _ hx) ?_
  cases k <;>
    exact List.forall_mem_map.mpr fun idx _ => hcreate _ (List.forall_mem_map.mpr fun c hc => h.pick idx (h.children (hcs c hc)))

theorem moveUp (hl : HeadOnly q) (hw : WrapClosed q) {E : Err → Prop} (k : Lift) (arrows : List Int)
    (hE : ∀ kind, E (.syntax kind arrows [])) (hI : E (.internal .assertMoveUp)) :
    ∀ x : Expr, P x → ExceptP E P (moveUp k arrows x) := by
  have wrapMap : ∀ {o : Expr} {f : Expr → Expr}, P o → (∀ a, P a → P (f a)) → P (k.wrap (o.children.map f) o.b o.e) :=
    fun {o f} ho hf => h.intro (hw.at_ k o _ (h.node ho)) (by
      cases k <;> exact List.forall_mem_map.mpr fun a ha => hf a (h.children ho a ha))
  have flatCh : ∀ {ch : List Expr}, (∀ c ∈ ch, P c) → ∀ c ∈ ch.flatMap Expr.children, P c :=
    fun hch => List.forall_mem_flatMap.mpr fun y hy => h.children (hch y hy)
  intro x
  induction x using Expr.memInduction with
  | axis n v b e =>
    intro hx
    rw [Notation.moveUp]
    exact h.intro (hw.neg k _) (by cases k <;> exact List.forall_mem_singleton.mpr hx)
  | flat i b e ih =>
    intro hx
    rw [moveUp_flat]
    exact (ih (h.children hx i List.mem_cons_self)).bind fun o _ ho => wrapMap ho fun a ha => h.mkFlat (hl.flat a (h.node hx)) ha
  | brackets i b e ih =>
    intro hx
    rw [moveUp_brackets]
    exact (ih (h.children hx i List.mem_cons_self)).bind fun o _ ho =>
      wrapMap ho fun a ha => h.mkBrackets (hl.brackets a (h.node hx)) ha
  | ellipsis i id b e ih =>
    intro hx
    rw [moveUp_ellipsis]
    exact (ih (h.children hx i List.mem_cons_self)).bind fun o _ ho =>
      wrapMap ho fun a ha => h.mkEllipsis (hl.ellipsis a (h.node hx)) ha
  | list cs b e ih =>
    intro hx
    rw [moveUp_list]
    exact (ExceptP.mapM_forall fun c hc => ih c hc (h.children hx c hc)).bind fun ch _ hch =>
      h.distribute hw hE k .list (.list cs b e) (fun cs' hcs' => h.mkList (fun _ => hl.list _ (h.node hx)) hcs') (h.node hx) hch
  | concat cs b e ih =>
    intro hx
    rw [moveUp_concat]
    exact (ExceptP.mapM_forall fun c hc => ih c hc (h.children hx c hc)).bind fun ch _ hch =>
      h.distribute hw hE k .concat (.concat cs b e) (fun cs' hcs' => h.mkConcat (hl.concat _ (h.node hx)) hcs') (h.node hx) hch
  | args cs b e ih =>
    intro hx
    rw [moveUp_args]
    refine (ExceptP.mapM_forall fun c hc => ih c hc (h.children hx c hc)).bind fun ch _ hch => ?_
    cases k with
    | op =>
      exact h.distribute hw hE .op .args (.args cs b e) (fun cs' hcs' => h.intro (hl.args _ (h.node hx)) hcs') (h.node hx) hch
    | args => exact h.intro (hl.args _ (h.node hx)) (flatCh hch)
  | op cs b e ih =>
    intro hx
    cases k with
    | args => rw [moveUp_args_op]; exact hI
    | op =>
      rw [moveUp_op_op]
      exact (ExceptP.mapM_forall fun c hc => ih c hc (h.children hx c hc)).bind fun ch _ hch =>
        h.intro (hl.op _ (h.node hx)) (flatCh hch)

theorem finish (hl : HeadOnly q) (hw : WrapClosed q) {E : Err → Prop} (arrows : List Int)
    (hE : ∀ kind, E (.syntax kind arrows [])) (hI : ∀ k, E (.internal k))
    (hB : ∀ x, P x → ExceptP E P (checkBrackets x)) {x : Expr} (hx : P x) : ExceptP E P (finish arrows x) := by
  rw [finish_eq]
  refine (h.moveUp hl hw .op arrows hE (hI _) x hx).bind fun x1 _ h1 => ?_
  cases x1 with
  | op cs b e =>
    refine (ExceptP.mapM_forall fun c hc => h.moveUp hl hw .args arrows hE (hI _) c (h.children h1 c hc)).bind fun cs2 _ h2 => ?_
    split
    · exact hE _
    · exact hB _ (h.traverse hl (.op cs2 b e) false (h.intro (hl.op _ (h.node h1)) h2))
  | _ => exact hI _

end NodeWise
end Notation
end Einx
