import EinxModel.Proofs.NotationNFParse
import EinxModel.Proofs.NotationFreshParse
/-!
# M1 Notation — an occurrence with a fresh name is determined by the name

In a tree of the grammar `G` the fresh names are the names of the numeric axes (`occs_fresh_mem`); where those are pairwise
distinct (`parse_fresh_nodup`), an occurrence with a fresh name is determined by that name (`fresh_unique`): the
inconsistent-brackets check can never fire on a numeric axis of a freshly parsed tree.
-/
namespace Einx.Notation

namespace Fresh
open NF

/-- In a duplicate-free `flatMap` an element determines the member it comes from. -/
theorem nodup_flatMap_inj {α β : Type} {f : α → List β} : ∀ {l : List α}, (l.flatMap f).Nodup →
    ∀ {a b : α}, a ∈ l → b ∈ l → ∀ {x : β}, x ∈ f a → x ∈ f b → a = b
  | c :: l, h, a, b, ha, hb, x, hxa, hxb => by
    rw [List.flatMap_cons, List.nodup_append] at h
    have hne : ∀ {d}, d ∈ l → x ∈ f c → x ∈ f d → False := fun hd hc hxd =>
      h.2.2 x hc x (List.mem_flatMap.mpr ⟨_, hd, hxd⟩) rfl
    rcases List.mem_cons.mp ha with rfl | hal <;> rcases List.mem_cons.mp hb with rfl | hbl
    · rfl
    · exact (hne hbl hxa hxb).elim
    · exact (hne hal hxb hxa).elim
    · exact nodup_flatMap_inj h.2.1 hal hbl hxa hxb

/-- The list half of `occs_fresh_mem`, given the statement for the members. -/
theorem occsL_fresh_mem_of {cs : List Expr}
    (ih : ∀ c ∈ cs, ∀ (br : List Int) (m : Bool), ∀ o ∈ occs br m c, ∀ q, o.name = unnamedName q → o.name ∈ vnames c) :
    ∀ (br : List Int) (m : Bool), ∀ o ∈ occsL br m cs, ∀ q, o.name = unnamedName q → o.name ∈ vnamesL cs := by
  intro br m o ho q hq
  rw [occsL_eq_flatMap] at ho
  obtain ⟨c, hc, hoc⟩ := List.mem_flatMap.mp ho
  rw [vnamesL_eq_flatMap]
  exact List.mem_flatMap.mpr ⟨c, hc, ih c hc br m o hoc q hq⟩

theorem occs_fresh_mem (ao aa al : Bool) : ∀ (x : Expr), G ao aa al x = true → ∀ (br : List Int) (m : Bool),
    ∀ o ∈ occs br m x, ∀ q, o.name = unnamedName q → o.name ∈ vnames x := by
  intro x h
  induction h using G.rules with
  | @axis _ _ v _ _ hax =>
    intro br m o ho q hq
    simp only [occs, List.mem_singleton] at ho
    subst ho
    simp only at hq ⊢
    cases v with
    | none => exact (isAxisName_ne_unnamed hax q hq).elim
    | some k => simp [vnames]
  | flat _ ih | brackets _ _ ih | ellipsis _ _ _ ih =>
    intro br m o ho q hq
    simp only [occs] at ho
    simp only [vnames]
    exact ih _ _ o ho q hq
  | dots =>
    intro br m o ho q hq
    simp only [occs, List.mem_singleton] at ho
    subst ho
    simp only at hq  -- the projection, left to `exact`, makes the unifier unfold `anonName`
    exact (anonName_ne_unnamed q hq).elim
  | concat _ _ _ _ ih | list _ _ ih | args _ _ _ ih | op _ _ _ ih =>
    intro br m o ho q hq
    simp only [occs] at ho
    simp only [vnames]
    exact occsL_fresh_mem_of ih br m o ho q hq

/-- The list half of `fresh_unique`, given the statement for the members: by `occs_fresh_mem` the two occurrences lie in
    members that share a numeric axis name, so in the same member. -/
theorem freshL_unique_of {cs : List Expr} {ao aa al : Bool} (hg : ∀ c ∈ cs, G ao aa al c = true) (hn : (vnamesL cs).Nodup)
    (ih : ∀ c ∈ cs, (vnames c).Nodup → ∀ (br : List Int) (m : Bool),
      ∀ o1 ∈ occs br m c, ∀ o2 ∈ occs br m c, ∀ q, o1.name = unnamedName q → o2.name = o1.name → o1 = o2) :
    ∀ (br : List Int) (m : Bool), ∀ o1 ∈ occsL br m cs, ∀ o2 ∈ occsL br m cs, ∀ q, o1.name = unnamedName q →
      o2.name = o1.name → o1 = o2 := by
  intro br m o1 ho1 o2 ho2 q hq he
  rw [occsL_eq_flatMap] at ho1 ho2
  obtain ⟨c1, hc1, ho1⟩ := List.mem_flatMap.mp ho1
  obtain ⟨c2, hc2, ho2⟩ := List.mem_flatMap.mp ho2
  have m1 := occs_fresh_mem ao aa al c1 (hg c1 hc1) br m o1 ho1 q hq
  have m2 := occs_fresh_mem ao aa al c2 (hg c2 hc2) br m o2 ho2 q (he.trans hq)
  rw [vnamesL_eq_flatMap] at hn
  obtain rfl : c1 = c2 := nodup_flatMap_inj hn hc1 hc2 m1 (he ▸ m2)
  exact ih c1 hc1 (hn.sublist (List.sublist_flatten_of_mem (List.mem_map_of_mem hc1))) br m o1 ho1 o2 ho2 q hq he

theorem fresh_unique (ao aa al : Bool) : ∀ (x : Expr), G ao aa al x = true → (vnames x).Nodup → ∀ (br : List Int) (m : Bool),
    ∀ o1 ∈ occs br m x, ∀ o2 ∈ occs br m x, ∀ q, o1.name = unnamedName q → o2.name = o1.name → o1 = o2 := by
  intro x h
  induction h using G.rules with
  | axis | dots =>
    intro _ br m o1 ho1 o2 ho2 _ _ _
    simp only [occs, List.mem_singleton] at ho1 ho2
    rw [ho1, ho2]
  | flat _ ih | brackets _ _ ih | ellipsis _ _ _ ih =>
    intro hn br m o1 ho1 o2 ho2 q hq he
    simp only [occs] at ho1 ho2
    simp only [vnames] at hn
    exact ih hn _ _ o1 ho1 o2 ho2 q hq he
  | concat _ _ _ hcs ih | list _ hcs ih | args _ _ hcs ih | op _ _ hcs ih =>
    intro hn br m o1 ho1 o2 ho2 q hq he
    simp only [occs] at ho1 ho2
    simp only [vnames] at hn
    exact freshL_unique_of hcs hn ih br m o1 ho1 o2 ho2 q hq he

theorem freshL_unique (ao aa al : Bool) : ∀ (cs : List Expr), GL ao aa al cs = true → (vnamesL cs).Nodup →
    ∀ (br : List Int) (m : Bool), ∀ o1 ∈ occsL br m cs, ∀ o2 ∈ occsL br m cs, ∀ q, o1.name = unnamedName q →
      o2.name = o1.name → o1 = o2 :=
  fun _ h hn => freshL_unique_of (GL_iff.mp h) hn fun c hc => fresh_unique ao aa al c (GL_iff.mp h c hc)

end Fresh

end Einx.Notation
