import EinxModel.Proofs.NotationSimCore
/-!
# M1 Notation — the passes after `parse` respect `ESim` (`finish_sim`)

Both `move_up` passes, redundant-bracket removal, the "more than one `->`" check and the inconsistent-brackets check never
look at positions, ellipsis ids or the numbers inside fresh names except for comparing names for equality.
-/
namespace Einx.Notation

variable {φ : Nat → Nat}

theorem ESimL.map {f g : Expr → Expr} (hfg : ∀ a a', ESim φ a a' → ESim φ (f a) (g a')) {cs cs' : List Expr}
    (h : ESimL φ cs cs') : ESimL φ (cs.map f) (cs'.map g) :=
  esimL_iff.mpr ((esimL_iff.mp h).map hfg)

theorem ESimL.mapIdx {f g : Nat → Expr} (hfg : ∀ i, ESim φ (f i) (g i)) :
    ∀ (l : List Nat), ESimL φ (l.map f) (l.map g)
  | [] => ESimL.nil
  | i :: l => ESimL.cons (hfg i) (ESimL.mapIdx hfg l)

theorem ESimL.getD {d d' : Expr} (hd : ESim φ d d') {cs cs' : List Expr} (idx : Nat) (h : ESimL φ cs cs') :
    ESim φ (cs.getD idx d) (cs'.getD idx d') :=
  (esimL_iff.mp h).getD hd idx

theorem ESimL.flatMap_children {cs cs' : List Expr} (h : ESimL φ cs cs') :
    ESimL φ (cs.flatMap Expr.children) (cs'.flatMap Expr.children) :=
  esimL_iff.mpr ((esimL_iff.mp h).flatMap fun _ _ hx => esimL_iff.mp hx.children)

theorem ESimL.childLens_eq {cs cs' : List Expr} (h : ESimL φ cs cs') :
    cs.map (fun c => c.children.length) = cs'.map (fun c => c.children.length) :=
  (esimL_iff.mp h).map_eq fun _ _ hx => hx.children.length_eq

/-! ### `move_up` -/

theorem wrap_sim (k : Lift) {cs cs' : List Expr} {b e b' e' : Int} (h : ESimL φ cs cs') :
    ESim φ (k.wrap cs b e) (k.wrap cs' b' e') := by
  cases k
  · exact ESim.op h
  · exact ESim.args h

theorem cls_create_sim (cls : Cls) {cs cs' : List Expr} {b e b' e' : Int} (h : ESimL φ cs cs') :
    ESim φ (cls.create cs b e) (cls.create cs' b' e') := by
  cases cls
  · exact mkList_sim h
  · exact mkConcat_sim h
  · exact ESim.args h

theorem pick_sim (idx : Nat) {x y : Expr} (h : ESim φ x y) : ESim φ (pick idx x) (pick idx y) := by
  unfold pick
  have hc := h.children
  generalize x.children = l at hc
  generalize y.children = l' at hc
  cases hc with
  | nil => exact ESimL.getD emptyList_sim idx ESimL.nil
  | cons h1 h2 =>
    cases h2 with
    | nil => exact h1
    | cons h2 h3 => exact ESimL.getD emptyList_sim idx (ESimL.cons h1 (ESimL.cons h2 h3))

theorem distribute_sim (k : Lift) (cls : Cls) {ch ch' : List Expr} {b e b' e' : Int} (a a' : List Int)
    (h : ESimL φ ch ch') : ExceptR ErrSim (ESim φ) (distribute k cls ch b e a) (distribute k cls ch' b' e' a') :=
  distribute_elim₂ k cls b e b' e' a a' (ESimL.childLens_eq h) (fun kind => by cases kind <;> exact rfl) fun _ =>
    wrap_sim k (ESimL.mapIdx (fun idx => cls_create_sim cls (ESimL.map (fun _ _ hx => pick_sim idx hx) h)) _)

theorem liftOne_sim (k : Lift) {mk mk' : Expr → Expr} (hmk : ∀ a a', ESim φ a a' → ESim φ (mk a) (mk' a')) {o o' : Expr}
    (h : ESim φ o o') : ExceptR ErrSim (ESim φ) (liftOne k mk o) (liftOne k mk' o') :=
  wrap_sim k (ESimL.map hmk h.children)

theorem moveUp_sim (k : Lift) (a a' : List Int) {x y : Expr} (h : ESim φ x y) :
    ExceptR ErrSim (ESim φ) (moveUp k a x) (moveUp k a' y) := by
  have children : ∀ {cs cs' : List Expr},
      Forall2 (fun c c' => ESim φ c c' ∧ ExceptR ErrSim (ESim φ) (moveUp k a c) (moveUp k a' c')) cs cs' →
      ∀ {g g' : List Expr → Res Expr}, (∀ ch ch', ESimL φ ch ch' → ExceptR ErrSim (ESim φ) (g ch) (g' ch')) →
      ExceptR ErrSim (ESim φ) (cs.mapM (moveUp k a) >>= g) (cs'.mapM (moveUp k a') >>= g') :=
    fun ih _ _ hg => (ExceptR.mapM (ih.imp fun _ _ h => h.2)).bind fun _ _ _ _ hch => hg _ _ (esimL_iff.mpr hch)
  refine ESim.induct1 (P := fun x y => ExceptR ErrSim (ESim φ) (moveUp k a x) (moveUp k a' y))
    ?axis ?flat ?brackets ?ellipsis ?concat ?list ?args ?op h
  case axis =>
    intro _ _ _ _ _ _ _ hn hv
    simp only [moveUp]
    exact wrap_sim k (ESimL.cons (.axis hn hv) .nil)
  case flat =>
    intro _ _ _ _ _ _ _ ih
    rw [moveUp_flat, moveUp_flat]
    exact ih.bind fun _ _ _ _ => liftOne_sim k fun _ _ => mkFlat_sim
  case brackets =>
    intro _ _ _ _ _ _ _ ih
    rw [moveUp_brackets, moveUp_brackets]
    exact ih.bind fun _ _ _ _ => liftOne_sim k fun _ _ => mkBrackets_sim
  case ellipsis =>
    intro _ _ _ _ _ _ _ _ ih
    rw [moveUp_ellipsis, moveUp_ellipsis]
    exact ih.bind fun _ _ _ _ => liftOne_sim k fun _ _ => mkEllipsis_sim
  case list =>
    intro _ _ _ _ _ _ ih
    rw [moveUp_list, moveUp_list]
    exact children ih fun _ _ => distribute_sim k _ a a'
  case concat =>
    intro _ _ _ _ _ _ ih
    rw [moveUp_concat, moveUp_concat]
    exact children ih fun _ _ => distribute_sim k _ a a'
  case args =>
    intro _ _ _ _ _ _ ih
    rw [moveUp_args, moveUp_args]
    cases k with
    | op => exact children ih fun _ _ => distribute_sim .op .args a a'
    | args => exact children ih fun _ _ h => ESim.args h.flatMap_children
  case op =>
    intro _ _ _ _ _ _ ih
    cases k with
    | args =>
      rw [moveUp_args_op, moveUp_args_op]
      exact Eq.refl IntKind.assertMoveUp
    | op =>
      rw [moveUp_op_op, moveUp_op_op]
      exact children ih fun _ _ h => ESim.op h.flatMap_children

/-! ### Redundant brackets -/

theorem traverse_sim (inBr : Bool) : ∀ (x y : Expr), ESim φ x y → ESim φ (traverse inBr x) (traverse inBr y) := fun _ _ h => by
  have children : ∀ {cs cs' : List Expr},
      Forall2 (fun c c' => ESim φ c c' ∧ ∀ inBr, ESim φ (traverse inBr c) (traverse inBr c')) cs cs' →
      ∀ inBr, ESimL φ (traverseL inBr cs) (traverseL inBr cs') := fun ih inBr => by
    rw [traverseL_eq_map, traverseL_eq_map]
    exact esimL_iff.mpr (ih.map fun _ _ h => h.2 inBr)
  exact ESim.induct1 (P := fun x y => ∀ inBr, ESim φ (traverse inBr x) (traverse inBr y))
    (axis := fun hn hv inBr => by simp only [traverse]; exact ESim.axis hn hv)
    (flat := fun _ ih inBr => by simp only [traverse]; exact mkFlat_sim (ih inBr))
    (list := fun ih inBr => by simp only [traverse]; exact mkList_sim (children ih inBr))
    (concat := fun ih inBr => by simp only [traverse]; exact mkConcat_sim (children ih inBr))
    (brackets := fun _ ih inBr => by
      simp only [traverse]
      cases inBr
      · exact mkBrackets_sim (ih true)
      · exact ih true)
    (ellipsis := fun _ ih inBr => by simp only [traverse]; exact mkEllipsis_sim (ih inBr))
    (op := fun ih inBr => by simp only [traverse]; exact ESim.op (children ih inBr))
    (args := fun ih inBr => by simp only [traverse]; exact ESim.args (children ih inBr)) h inBr

theorem traverseL_sim (inBr : Bool) :
    ∀ (cs cs' : List Expr), ESimL φ cs cs' → ESimL φ (traverseL inBr cs) (traverseL inBr cs') := fun _ _ h => by
  rw [traverseL_eq_map, traverseL_eq_map]
  exact ESimL.map (traverse_sim inBr) h

/-! ### Inconsistent brackets -/

/-- Occurrences related: names related by `NameRel φ`, same `marked` flag (positions are arbitrary). -/
def OccRel (φ : Nat → Nat) (o o' : Occ) : Prop := NameRel φ o.name o'.name ∧ o.marked = o'.marked

theorem occs_occsL_rel :
    (∀ {x y : Expr}, ESim φ x y → ∀ (br br' : List Int) (m : Bool), PW (OccRel φ) (occs br m x) (occs br' m y)) ∧
      (∀ {cs cs' : List Expr}, ESimL φ cs cs' → ∀ (br br' : List Int) (m : Bool),
        PW (OccRel φ) (occsL br m cs) (occsL br' m cs')) :=
  ESim.induct (P := fun x y => ∀ (br br' : List Int) (m : Bool), PW (OccRel φ) (occs br m x) (occs br' m y))
    (Q := fun cs cs' => ∀ (br br' : List Int) (m : Bool), PW (OccRel φ) (occsL br m cs) (occsL br' m cs'))
    (axis := fun hn _ _ _ _ => PW.cons ⟨hn, rfl⟩ PW.nil)
    (flat := fun _ ih br br' m => by simp only [occs]; exact ih _ _ _)
    (brackets := fun _ ih br br' m => by simp only [occs]; exact ih _ _ _)
    (ellipsis := fun _ ih br br' m => by simp only [occs]; exact ih _ _ _)
    (concat := fun _ ih br br' m => by simp only [occs]; exact ih _ _ _)
    (list := fun _ ih br br' m => by simp only [occs]; exact ih _ _ _)
    (args := fun _ ih br br' m => by simp only [occs]; exact ih _ _ _)
    (op := fun _ ih br br' m => by simp only [occs]; exact ih _ _ _)
    (nil := fun _ _ _ => PW.nil)
    (cons := fun _ _ ih1 ih2 br br' m => by simp only [occsL]; exact PW.append (ih1 _ _ _) (ih2 _ _ _))

theorem occs_rel : ∀ (x y : Expr), ESim φ x y → ∀ (br br' : List Int) (m : Bool),
    PW (OccRel φ) (occs br m x) (occs br' m y) :=
  fun _ _ h => occs_occsL_rel.1 h

theorem occsL_rel : ∀ (cs cs' : List Expr), ESimL φ cs cs' → ∀ (br br' : List Int) (m : Bool),
    PW (OccRel φ) (occsL br m cs) (occsL br' m cs') :=
  fun _ _ h => occs_occsL_rel.2 h

theorem conflict_transfer (hφ : Function.Injective φ) {os os' : List Occ}
    (h : PW (OccRel φ) os os') : Conflict os ↔ Conflict os' := by
  constructor
  · rintro ⟨o1, ho1, o2, ho2, hn, hm1, hm2⟩
    obtain ⟨p1, hp1, hr1⟩ := PW.mem_left h o1 ho1
    obtain ⟨p2, hp2, hr2⟩ := PW.mem_left h o2 ho2
    exact ⟨p1, hp1, p2, hp2, (NameRel.eq_iff hφ hr1.1 hr2.1).mp hn, hr1.2 ▸ hm1, hr2.2 ▸ hm2⟩
  · rintro ⟨p1, hp1, p2, hp2, hn, hm1, hm2⟩
    obtain ⟨o1, ho1, hr1⟩ := PW.mem_right h p1 hp1
    obtain ⟨o2, ho2, hr2⟩ := PW.mem_right h p2 hp2
    exact ⟨o1, ho1, o2, ho2, (NameRel.eq_iff hφ hr1.1 hr2.1).mpr hn, hr1.2.symm ▸ hm1, hr2.2.symm ▸ hm2⟩

theorem checkBrackets_eq_error {x : Expr} (h : conflictNames (occs [] false x) ≠ []) :
    ∃ p ps, checkBrackets x = .error (.syntax .inconsistentBrackets p ps) :=
  checkBrackets_elim (motive := fun r => ∃ p ps, r = .error (.syntax .inconsistentBrackets p ps)) x (fun hc => absurd hc h)
    fun _ _ _ => ⟨_, _, rfl⟩

theorem checkBrackets_sim (hφ : Function.Injective φ) {x y : Expr} (h : ESim φ x y) :
    ExceptR ErrSim (ESim φ) (checkBrackets x) (checkBrackets y) := by
  have hiff : conflictNames (occs [] false x) ≠ [] ↔ conflictNames (occs [] false y) ≠ [] :=
    (conflictNames_ne_nil_iff _).trans
      ((conflict_transfer hφ (occs_rel x y h [] [] false)).trans (conflictNames_ne_nil_iff _).symm)
  by_cases hc : conflictNames (occs [] false x) = []
  · rw [checkBrackets_eq_ok_iff.mpr ⟨rfl, hc⟩,
      checkBrackets_eq_ok_iff.mpr ⟨rfl, Classical.byContradiction fun hne => hiff.mpr hne hc⟩]
    exact h
  · obtain ⟨p, ps, he⟩ := checkBrackets_eq_error hc
    obtain ⟨p', ps', he'⟩ := checkBrackets_eq_error (hiff.mp hc)
    rw [he, he']
    exact rfl

theorem finish_sim {φ : Nat → Nat} (hφ : Function.Injective φ) (arrows arrows' : List Int) {x y : Expr}
    (h : ESim φ x y) : RSim φ (finish arrows x) (finish arrows' y) := by
  rw [finish_eq, finish_eq]
  refine rsim_iff.mpr ((moveUp_sim .op arrows arrows' h).bind fun x1 y1 _ _ h1 => ?_)
  cases h1 with
  | @op _ _ b e b' e' hcs =>
    refine (ExceptR.mapM ((esimL_iff.mp hcs).imp fun _ _ hc => moveUp_sim .args arrows arrows' hc)).bind fun c2 c2' _ _ h2 => ?_
    have ht : ESim φ (traverse false (.op c2 b e)) (traverse false (.op c2' b' e')) :=
      traverse_sim false _ _ (ESim.op (esimL_iff.mpr h2))
    rw [ht.children.length_eq]
    split
    · exact Eq.refl SynKind.multipleArrows
    · exact checkBrackets_sim hφ ht
  | axis | flat | brackets | ellipsis | concat | list | args => exact Eq.refl IntKind.assertRoot

end Einx.Notation
