import EinxModel.Proofs.DenoteTie
/-!
The tie between the executable loop form `Denote.denoteId` and a loop-free functional form for *arbitrary* solved
expressions -- concatenations included (`Denote.denoteIdFunG`, `Denote/Fun2.lean`).
-/
namespace Einx.Denote
open Einx Einx.IR
open Einx.Update (mapOpt mapOpt_eq_some_iff mapOpt_length mapOpt_congr mapOpt_map)

theorem applyEntries_cons (s : Outs) (ke : Nat × List (Nat × Cell)) (kes : List (Nat × List (Nat × Cell))) :
    applyEntries s (ke :: kes) = applyEntries (s.set ke.1 (ke.2.foldl setter (s.getD ke.1 []))) kes := rfl

theorem entriesFor_eq (k : Nat) (kes : List (Nat × List (Nat × Cell))) : entriesFor k kes = (writesTo k kes).flatten := by
  simp [entriesFor, writesTo, List.flatMap_def]

theorem applyEntries_length (s : Outs) (kes : List (Nat × List (Nat × Cell))) : (applyEntries s kes).length = s.length := by
  induction kes generalizing s with
  | nil => rfl
  | cons ke kes ih => rw [applyEntries_cons, ih, List.length_set]

theorem applyEntries_slot (kes : List (Nat × List (Nat × Cell))) (s : Outs) :
    (applyEntries s kes).length = s.length ∧
      ∀ k, k < s.length → (applyEntries s kes).getD k [] = (entriesFor k kes).foldl setter (s.getD k []) := by
  refine ⟨applyEntries_length s kes, fun k hk => ?_⟩
  rw [List.getD_eq_getElem?_getD, applyEntries_getElem?, List.getD_eq_getElem?_getD, List.getElem?_eq_getElem hk,
    entriesFor_eq, List.foldl_flatten]
  rfl

theorem zip_of_slots {α : Type} (d : α) (l : List Expr) (s : List α) (h : s.length = l.length) :
    l.zip s = l.zipIdx.map (fun x => (x.1, s.getD x.2 d)) := by
  apply List.ext_getElem
  · simp [h]
  · intro i h1 h2
    have hi : i < s.length := by simp at h1; omega
    simp [List.getD_eq_getElem?_getD, List.getElem?_eq_getElem hi]

theorem denoteId_eq_denoteIdFunG (exprsIn exprsOut : List Expr) :
    okOpt (denoteId exprsIn exprsOut) = denoteIdFunG exprsIn exprsOut := by
  rw [denoteId_eq]
  unfold denoteIdFunG
  simp only []
  have hvin : (exprsIn.zipIdx).flatMap (fun (x : Expr × Nat) => (views x.1).map (fun v => (v, x.2, shapeOf x.1))) = idVin exprsIn := rfl
  have hvout : (exprsOut.zipIdx).flatMap (fun (x : Expr × Nat) => (views x.1).map (fun v => (v, x.2))) = idVout exprsOut := rfl
  simp only [hvin, hvout]
  by_cases hlen : ((idVin exprsIn).length != (idVout exprsOut).length) = true
  · simp only [hlen, if_true]; rfl
  · simp only [hlen, Bool.false_eq_true, if_false]
    rw [okOpt_bind, outer_loop]
    cases hm : mapOpt (idPairEntries exprsOut) (List.zip (idVin exprsIn) (idVout exprsOut)) with
    | none => rfl
    | some ess =>
      simp only [Option.map_some, Option.bind_some]
      rw [final_loop]
      obtain ⟨hl, hs⟩ := applyEntries_slot
        (List.zip ((List.zip (idVin exprsIn) (idVout exprsOut)).map (fun x => x.2.2)) ess)
        (exprsOut.map (fun e => List.replicate (prod (shapeOf e)) none))
      rw [zip_of_slots [] exprsOut _ (by rw [hl, List.length_map]), mapOpt_map]
      simp only [List.nil_append, Option.map_id']
      apply mapOpt_congr
      intro x hx
      have hx2 : x.2 < exprsOut.length ∧ exprsOut[x.2]? = some x.1 := by
        have := List.mem_zipIdx hx
        simp only [Nat.zero_add, Nat.sub_zero] at this
        exact ⟨by omega, by rw [List.getElem?_eq_getElem (by omega)]; simp [this.2.2]⟩
      have hinit : (exprsOut.map (fun e => List.replicate (prod (shapeOf e)) (none : Option Cell))).getD x.2 []
          = List.replicate (prod (shapeOf x.1)) none := by
        simp [List.getD_eq_getElem?_getD, List.getElem?_map, hx2.2]
      rw [hs x.2 (by rw [List.length_map]; exact hx2.1), hinit]
      rfl

end Einx.Denote
