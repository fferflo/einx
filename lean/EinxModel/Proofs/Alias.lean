import EinxModel.Alias.Model
import EinxModel.Proofs.UtilMisc
/-!
Helper lemmas for C09: the may-alias analysis over-approximates the root sharing of the store
semantics (`Inv`, preserved by every step), the written set only grows, and objects that no written
input denotes keep their contents.
-/
namespace Einx.Alias
open Einx.Util

/-- The alias table with every name replaced by its code: looking a name up through codes is the same lookup
(`effectOf_eq_coded`) and is what the table obligations of C09 evaluate, numbers being far cheaper for the kernel
to compare than strings. -/
def codedTable : List (Nat × Effect) := aliasTable.map fun r => (nameCode r.1, r.2)

theorem effectOf_eq_coded (f : String) : effectOf f = codedTable.lookup (nameCode f) :=
  (lookup_map_key nameCode nameCode_inj f aliasTable).symm

theorem mem_dedup {x : Nat} : ∀ {l : List Nat}, x ∈ dedup l ↔ x ∈ l
  | [] => by simp [dedup]
  | y :: ys => by
    have ih := @mem_dedup x ys
    by_cases h : x = y
    · subst h; simp [dedup]
    · simp [dedup, List.mem_filter, ih, h]

theorem dedup_nodup : ∀ (l : List Nat), (dedup l).Nodup
  | [] => by simp [dedup]
  | y :: ys => by
    have ih := dedup_nodup ys
    simp only [dedup, List.nodup_cons, List.mem_filter]
    refine ⟨by simp, ih.filter _⟩

theorem Abs.step_regs (a : Abs) (nd : Node) : ∃ roots, (a.step nd).regs = a.regs ++ [roots] := by
  cases nd <;> exact ⟨_, rfl⟩

theorem Abs.step_regs_length (a : Abs) (nd : Node) : (a.step nd).regs.length = a.regs.length + 1 := by
  obtain ⟨roots, h⟩ := a.step_regs nd
  rw [h, List.length_append, List.length_singleton]

theorem step_rootsOf_old (a : Abs) (nd : Node) {r : Nat} (h : r < a.regs.length) :
    rootsOf (a.step nd).regs r = rootsOf a.regs r := by
  obtain ⟨roots, hs⟩ := a.step_regs nd
  rw [rootsOf, rootsOf, hs, List.getElem?_append_left h]

theorem analyseFrom_append (ns ms : List Node) (a : Abs) : analyseFrom (ns ++ ms) a = analyseFrom ms (analyseFrom ns a) := by
  induction ns generalizing a with
  | nil => rfl
  | cons nd rest ih => exact ih _

theorem analyseFrom_regs_length : ∀ (ns : List Node) (a : Abs), (analyseFrom ns a).regs.length = a.regs.length + ns.length
  | [], _ => rfl
  | nd :: rest, a => by
    rw [analyseFrom, analyseFrom_regs_length rest, a.step_regs_length, List.length_cons]
    omega

theorem analyseFrom_rootsOf_old : ∀ (ns : List Node) (a : Abs) {r : Nat}, r < a.regs.length →
    rootsOf (analyseFrom ns a).regs r = rootsOf a.regs r
  | [], _, _, _ => rfl
  | nd :: rest, a, r, h => by
    rw [analyseFrom, analyseFrom_rootsOf_old rest (a.step nd) (by rw [a.step_regs_length]; omega), step_rootsOf_old a nd h]

theorem State.step_regs {V} (b : Behav V) (n : Nat) (st : State V) (nd : Node) :
    ∃ o, (st.step b n nd).regs = st.regs ++ [o] := by
  cases nd with
  | fresh _ => exact ⟨_, rfl⟩
  | view _ | same _ | inplace _ _ => simp only [State.step]; split <;> exact ⟨_, rfl⟩

theorem State.step_regs_length {V} (b : Behav V) (n : Nat) (st : State V) (nd : Node) :
    (st.step b n nd).regs.length = st.regs.length + 1 := by
  obtain ⟨o, h⟩ := st.step_regs b n nd
  rw [h, List.length_append, List.length_singleton]

theorem execFrom_regs_length {V} (b : Behav V) : ∀ (ns : List Node) (n : Nat) (st : State V),
    (execFrom b n ns st).regs.length = st.regs.length + ns.length
  | [], _, _ => rfl
  | nd :: rest, n, st => by
    rw [execFrom, execFrom_regs_length b rest, st.step_regs_length, List.length_cons]
    omega

theorem step_written_mono (a : Abs) (nd : Node) {x : Nat} (h : x ∈ a.written) : x ∈ (a.step nd).written := by
  cases nd with
  | inplace t rd => exact List.mem_append_left _ h
  | _ => exact h

theorem step_written_of_not_inplace (a : Abs) {nd : Node} (h : nd.isInplace = false) :
    (a.step nd).written = a.written := by
  cases nd with
  | inplace t rd => cases h
  | _ => rfl

theorem analyseFrom_written_mono : ∀ (ns : List Node) (a : Abs) {x : Nat}, x ∈ a.written → x ∈ (analyseFrom ns a).written
  | [], _, _, h => h
  | nd :: rest, a, _, h => analyseFrom_written_mono rest (a.step nd) (step_written_mono a nd h)

theorem analyseFrom_written_noInplace : ∀ (ns : List Node) (a : Abs), ns.all (fun nd => !nd.isInplace) = true →
    (analyseFrom ns a).written = a.written
  | [], _, _ => rfl
  | nd :: rest, a, h => by
    rw [List.all_cons, Bool.and_eq_true, Bool.not_eq_true'] at h
    rw [analyseFrom, analyseFrom_written_noInplace rest _ h.2, step_written_of_not_inplace a h.1]

/-- The analysis over-approximates the store: registers and abstract registers are in step, the
initial objects `0 … N0-1` are still there, and whenever a register denotes an *initial* object `o`,
that object is the object of one of the inputs the analysis lists for the register. -/
structure Inv {V} (N0 : Nat) (inObjs : List Nat) (st : State V) (a : Abs) : Prop where
  regs_length : st.regs.length = a.regs.length
  objs_length : N0 ≤ st.objs.length
  covered : ∀ r o, st.regs[r]? = some o → o < N0 → ∃ i ∈ rootsOf a.regs r, inObjs[i]? = some o

theorem inv_init {V} (inObjs : List Nat) (objs : List V) :
    Inv objs.length inObjs ({ regs := inObjs, objs := objs } : State V) (Abs.init inObjs.length) := by
  refine ⟨by simp [Abs.init], Nat.le_refl _, fun r o hr _ => ⟨r, ?_, hr⟩⟩
  have hlt : r < inObjs.length := (List.getElem?_eq_some_iff.mp hr).1
  simp [rootsOf, Abs.init, hlt]

theorem inv_push {V} {N0 : Nat} {inObjs : List Nat} {st : State V} {a : Abs} (h : Inv N0 inObjs st a)
    (o' : Nat) (roots : List Nat) (objs' : List V) (hlen : N0 ≤ objs'.length)
    (hcov : o' < N0 → ∃ i ∈ roots, inObjs[i]? = some o') :
    Inv N0 inObjs ({ regs := st.regs ++ [o'], objs := objs' } : State V) { regs := a.regs ++ [roots], written := a.written } := by
  obtain ⟨hl, _, hc⟩ := h
  refine ⟨by rw [List.length_append, List.length_append, hl]; rfl, hlen, fun r o hr ho => ?_⟩
  rw [rootsOf]
  rcases Nat.lt_or_ge r st.regs.length with hlt | hge
  · rw [List.getElem?_append_left hlt] at hr
    rw [List.getElem?_append_left (hl ▸ hlt)]
    exact hc r o hr ho
  · rw [List.getElem?_append_right hge, List.getElem?_singleton] at hr
    split at hr
    · obtain rfl : r = a.regs.length := by omega
      cases hr
      rw [List.getElem?_concat_length]
      exact hcov ho
    · cases hr

theorem inv_written_irrel {V} {N0 : Nat} {inObjs : List Nat} {st : State V} {a : Abs} (w : List Nat)
    (h : Inv N0 inObjs st a) : Inv N0 inObjs st { a with written := w } :=
  ⟨h.regs_length, h.objs_length, h.covered⟩

theorem inv_alloc {V} {N0 : Nat} {inObjs : List Nat} {st : State V} {a : Abs} (h : Inv N0 inObjs st a)
    (b : Behav V) (n : Nat) (roots : List Nat) :
    Inv N0 inObjs (st.alloc b n) { regs := a.regs ++ [roots], written := a.written } :=
  inv_push h _ roots _ (by rw [List.length_append]; exact Nat.le_add_right_of_le h.objs_length)
    (fun hlt => absurd hlt (Nat.not_lt.mpr h.objs_length))

theorem inv_step {V} {N0 : Nat} {inObjs : List Nat} {st : State V} {a : Abs} (h : Inv N0 inObjs st a)
    (b : Behav V) (n : Nat) (nd : Node) : Inv N0 inObjs (st.step b n nd) (a.step nd) := by
  cases nd with
  | fresh rd => exact inv_alloc h b n []
  | view srcs =>
    simp only [State.step, Abs.step]
    split
    · rename_i o heq
      apply inv_push h o _ st.objs h.objs_length
      intro ho
      obtain ⟨s, hs, hso⟩ := Option.bind_eq_some_iff.mp heq
      obtain ⟨k, -, hk⟩ := Option.bind_eq_some_iff.mp hs
      obtain ⟨i, hi, hio⟩ := h.covered s o hso ho
      exact ⟨i, List.mem_flatMap.mpr ⟨s, List.mem_of_getElem? hk, hi⟩, hio⟩
    · exact inv_alloc h b n _
  | same s =>
    simp only [State.step, Abs.step]
    split
    · rename_i o heq
      exact inv_push h o _ st.objs h.objs_length (h.covered s o heq)
    · exact inv_alloc h b n _
  | inplace t rd =>
    simp only [State.step, Abs.step]
    split
    · rename_i o heq
      exact inv_written_irrel _ (inv_push h o (rootsOf a.regs t) (st.objs.set o (b.newVal n st))
        (by rw [List.length_set]; exact h.objs_length) (h.covered t o heq))
    · exact inv_written_irrel _ (inv_alloc h b n _)

theorem step_frame {V} {N0 : Nat} {inObjs : List Nat} {st : State V} {a : Abs} (h : Inv N0 inObjs st a)
    (b : Behav V) (n : Nat) (nd : Node) (o : Nat) (ho : o < N0)
    (hw : ∀ i ∈ (a.step nd).written, inObjs[i]? ≠ some o) : (st.step b n nd).objs[o]? = st.objs[o]? := by
  have hlen : o < st.objs.length := Nat.lt_of_lt_of_le ho h.objs_length
  have halloc : (st.alloc b n).objs[o]? = st.objs[o]? := by
    simp [State.alloc, List.getElem?_append_left hlen]
  cases nd with
  | fresh rd => exact halloc
  | view _ | same _ =>
    simp only [State.step]
    split
    · rfl
    · exact halloc
  | inplace t rd =>
    simp only [State.step]
    split
    · rename_i ot heq
      have hne : ot ≠ o := by
        intro he
        subst he
        obtain ⟨i, hi, hio⟩ := h.covered t ot heq ho
        exact hw i (by simp [Abs.step, hi]) hio
      simp [List.getElem?_set_ne hne]
    · exact halloc

theorem execFrom_spec {V} {N0 : Nat} {inObjs : List Nat} (b : Behav V) :
    ∀ (ns : List Node) (n : Nat) (st : State V) (a : Abs), Inv N0 inObjs st a →
      Inv N0 inObjs (execFrom b n ns st) (analyseFrom ns a) ∧
      ∀ o, o < N0 → (∀ i ∈ (analyseFrom ns a).written, inObjs[i]? ≠ some o) →
        (execFrom b n ns st).objs[o]? = st.objs[o]?
  | [], _, _, _, h => ⟨h, fun _ _ _ => rfl⟩
  | nd :: rest, n, st, a, h => by
    obtain ⟨hinv, hfr⟩ := execFrom_spec b rest (n + 1) _ _ (inv_step h b n nd)
    refine ⟨hinv, fun o ho hw => (hfr o ho hw).trans (step_frame h b n nd o ho fun i hi => ?_)⟩
    exact hw i (analyseFrom_written_mono rest _ hi)

end Einx.Alias
