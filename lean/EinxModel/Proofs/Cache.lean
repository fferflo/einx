import EinxModel.Cache.Stack
import EinxModel.Proofs.CacheEq
/-! Helper lemmas for C06 (memo machine invariant, `with` protocol, freezing and typed observation). -/
namespace Einx.Cache

section Memo
variable {C K F : Type} (key : C → K) (hit : K → K → Bool) (trim : Memo K F → Memo K F) (compute : C → Outcome F)
  (P : C → Prop)

/-- Every stored entry is the successful result of the computation for some (admissible) call with that key. -/
def MemoInv (m : Memo K F) : Prop := ∀ e ∈ m, ∃ a : C, P a ∧ e.1 = key a ∧ compute a = .ok e.2

theorem step_spec
    (htrim : ∀ m e, e ∈ trim m → e ∈ m)
    (hcomp : ∀ a b, P a → P b → hit (key a) (key b) = true → compute a = compute b)
    (m : Memo K F) (inv : MemoInv key compute P m) (c : C) (hP : P c) :
    (step key hit trim compute m c).2 = compute c ∧ MemoInv key compute P (step key hit trim compute m c).1 := by
  unfold step
  cases hf : m.find? (fun e => hit (key c) e.1) with
  | some e =>
    have hm : e ∈ m := List.mem_of_find?_eq_some hf
    have hh : hit (key c) e.1 = true := by simpa using List.find?_some hf
    obtain ⟨a, hPa, ha, hc⟩ := inv e hm
    rw [ha] at hh
    exact ⟨by simp [hcomp c a hP hPa hh, hc], inv⟩
  | none =>
    cases hc : compute c with
    | ok f =>
      refine ⟨rfl, ?_⟩
      intro e he
      have := htrim _ _ he
      rcases List.mem_cons.mp this with h | h
      · exact ⟨c, hP, by simp [h], by simp [h, hc]⟩
      · exact inv e h
    | raised e => exact ⟨rfl, inv⟩

theorem run_spec
    (htrim : ∀ m e, e ∈ trim m → e ∈ m)
    (hcomp : ∀ a b, P a → P b → hit (key a) (key b) = true → compute a = compute b)
    (h : List C) : ∀ (m : Memo K F), MemoInv key compute P m → (∀ c ∈ h, P c) →
      (run key hit trim compute m h).2 = h.map compute ∧ MemoInv key compute P (run key hit trim compute m h).1 := by
  induction h with
  | nil => intro m inv _; exact ⟨rfl, inv⟩
  | cons c cs ih =>
    intro m inv hall
    have hs := step_spec key hit trim compute P htrim hcomp m inv c (hall c (List.mem_cons_self ..))
    have hr := ih _ hs.2 (fun x hx => hall x (List.mem_cons_of_mem _ hx))
    simp only [run, List.map_cons]
    exact ⟨by rw [hs.1, hr.1], hr.2⟩

theorem run_nil_spec
    (htrim : ∀ m e, e ∈ trim m → e ∈ m)
    (hcomp : ∀ a b, P a → P b → hit (key a) (key b) = true → compute a = compute b)
    (h : List C) (hall : ∀ c ∈ h, P c) :
    (run key hit trim compute [] h).2 = h.map compute ∧ MemoInv key compute P (after key hit trim compute [] h) :=
  run_spec key hit trim compute P htrim hcomp h [] (fun _ he => nomatch he) hall

end Memo

theorem exitUse_push (b : Nat) (s : Stacks) : exitUse b { s with use := s.use ++ [b] } = some s := by
  simp [exitUse]

theorem exitDep_push (d : List Nat) (s : Stacks) : exitDep { s with dep := s.dep ++ [d] } = some s := by
  unfold exitDep
  cases h : s.dep ++ [d] with
  | nil => simp at h
  | cons x xs => simp [← h]

theorem exec_restores (cfg : StackCfg) (hc : cfg.ok = true) (p : Prog) :
    ∀ s, (exec cfg p s).1 = s ∧ (exec cfg p s).2 ≠ .corrupt := by
  simp only [StackCfg.ok, Bool.and_eq_true] at hc
  obtain ⟨⟨⟨⟨h1, h2⟩, h3⟩, h4⟩, _⟩ := hc
  induction p with
  | prim r => intro s; cases r <;> simp [exec]
  | seq p q ihp ihq =>
    intro s
    have hp := ihp s
    simp only [exec]
    generalize exec cfg p s = r at hp
    obtain ⟨s1, st⟩ := r
    cases st with
    | normal => simp only at hp ⊢; rw [hp.1]; exact ihq s
    | raised => simpa using hp.1
    | corrupt => exact absurd rfl hp.2
  | withBackend b body ih =>
    intro s
    have hb := ih { s with use := s.use ++ [b] }
    simp only [exec]
    generalize exec cfg body { s with use := s.use ++ [b] } = r at hb
    obtain ⟨s1, st⟩ := r
    simp only at hb
    obtain ⟨rfl, hne⟩ := hb
    cases st with
    | normal => simp [exitUse_push]
    | raised => simp [exitUse_push, h1, h3]
    | corrupt => exact absurd rfl hne
  | withDeps d body ih =>
    intro s
    have hb := ih { s with dep := s.dep ++ [d] }
    simp only [exec]
    generalize exec cfg body { s with dep := s.dep ++ [d] } = r at hb
    obtain ⟨s1, st⟩ := r
    simp only at hb
    obtain ⟨rfl, hne⟩ := hb
    cases st with
    | normal => simp [exitDep_push]
    | raised => simp [exitDep_push, h2, h4]
    | corrupt => exact absurd rfl hne
  | tryExcept body ih =>
    intro s
    have hb := ih s
    simp only [exec]
    generalize exec cfg body s = r at hb
    obtain ⟨s1, st⟩ := r
    cases st <;> simp_all

/-! ### Freezing depends on the table only through `Table.act` -/

mutual
theorem freeze_congr (T T' : Table) (h : ∀ s, T.act s = T'.act s) : ∀ v, freeze T v = freeze T' v
  | .num k d => by simp only [freeze, freezeLeaf, h]
  | .str _ | .none | .cls _ | .obj _ | .tensor _ | .conv _ _ => by simp only [freeze, freezeLeaf]
  | .tuple xs | .list xs => by simp only [freeze, h, freezeList_congr T T' h xs]
  | .ndarray d x => by simp only [freeze, h, freeze_congr T T' h x]
  | .dict kvs | .ns kvs => by simp only [freeze, h, freezeKVs_congr T T' h kvs]
  | .param n d a k => by simp only [freeze, freezeLeaf, h, freeze_congr T T' h d, freeze_congr T T' h a]
theorem freezeList_congr (T T' : Table) (h : ∀ s, T.act s = T'.act s) : ∀ xs, freezeList T xs = freezeList T' xs
  | [] => by simp only [freezeList]
  | x :: xs => by simp only [freezeList, freeze_congr T T' h x, freezeList_congr T T' h xs]
theorem freezeKVs_congr (T T' : Table) (h : ∀ s, T.act s = T'.act s) : ∀ kvs, freezeKVs T kvs = freezeKVs T' kvs
  | [] => by simp only [freezeKVs]
  | (k, v) :: r => by simp only [freezeKVs, freeze_congr T T' h v, freezeKVs_congr T T' h r]
end

/-- Container and leaf branches of a table that `respects` the pinned treatment. -/
structure Respects (T : Table) : Prop where
  tuple : T.act .tuple = .mapTuple
  list : T.act .list = .mapTuple
  ndarray : T.act .ndarray = .tolist
  dict : T.act .dict = .mapDict
  ns : T.act .ns = .vars
  param : T.act .param = .fields
  str : T.act .str = .ident
  none : T.act .none = .ident
  cls : T.act .cls = .ident
  obj : T.act .obj = .ident
  tensor : T.act .tensor = .ident
  conv : T.act .conv = .ident

theorem respects_of {T : Table} (h : T.respects = true) : Respects T := by
  simp only [Table.respects, containerShapes, leafShapes, List.all_cons, List.all_nil, Bool.and_true,
    Bool.and_eq_true, beq_iff_eq] at h
  obtain ⟨⟨a, b, c, d, e, f⟩, g, i, j, k, l, m⟩ := h
  exact ⟨by rw [a]; rfl, by rw [b]; rfl, by rw [c]; rfl, by rw [d]; rfl, by rw [e]; rfl, by rw [f]; rfl, g, i, j, k, l, m⟩

theorem pinned_respects : Respects pinnedTable := respects_of (by decide +kernel)

theorem tagsAll_of {T : Table} (h : T.tagsAll = true) (k : NumKind) : T.act (.num k) = .tagType :=
  eq_of_beq (List.all_eq_true.mp h k (NumKind.mem_all k))

theorem tagsNone_of {T : Table} (h : T.tagsNone = true) (k : NumKind) : T.act (.num k) = .ident :=
  eq_of_beq (List.all_eq_true.mp h k (NumKind.mem_all k))

theorem pinned_num (k : NumKind) : pinnedTable.act (.num k) = .ident := tagsNone_of (by decide +kernel) k

theorem freeze_untagged {T : Table} (hr : T.respects = true) (hn : T.tagsNone = true) (v : PyVal) :
    freeze T v = freeze pinnedTable v := by
  apply freeze_congr
  intro s
  have r := respects_of hr
  have p := pinned_respects
  cases s with
  | num k => rw [tagsNone_of hn k, pinned_num k]
  | str => rw [r.str, p.str]
  | none => rw [r.none, p.none]
  | cls => rw [r.cls, p.cls]
  | obj => rw [r.obj, p.obj]
  | tuple => rw [r.tuple, p.tuple]
  | list => rw [r.list, p.list]
  | ndarray => rw [r.ndarray, p.ndarray]
  | dict => rw [r.dict, p.dict]
  | ns => rw [r.ns, p.ns]
  | param => rw [r.param, p.param]
  | tensor => rw [r.tensor, p.tensor]
  | conv => rw [r.conv, p.conv]

mutual
/-- With every scalar tagged, freezing is the pinned freezing followed by tagging every number. -/
theorem freeze_factor (T : Table) (r : Respects T) (t : ∀ k, T.act (.num k) = .tagType) :
    ∀ v, freeze T v = tagNums (freeze pinnedTable v)
  | .num k d => by simp only [freeze, freezeLeaf, t, pinned_num, tagNums]
  | .str _ | .none | .cls _ | .obj _ | .tensor _ | .conv _ _ => by simp only [freeze, freezeLeaf, tagNums]
  | .tuple xs => by
      simp only [freeze, r.tuple, pinned_respects.tuple, finishSeq, tagNums, freezeList_factor T r t xs]
  | .list xs => by
      simp only [freeze, r.list, pinned_respects.list, finishSeq, tagNums, freezeList_factor T r t xs]
  | .ndarray d x => by simp only [freeze, r.ndarray, pinned_respects.ndarray, freeze_factor T r t x]
  | .dict kvs => by
      simp only [freeze, r.dict, pinned_respects.dict, finishDict, tagNums, freezeKVs_factor T r t kvs]
  | .ns kvs => by
      simp only [freeze, r.ns, r.dict, pinned_respects.ns, pinned_respects.dict, finishDict, tagNums, freezeKVs_factor T r t kvs]
  | .param n d a k => by
      simp only [freeze, freezeLeaf, r.param, r.tuple, pinned_respects.param, pinned_respects.tuple, finishSeq, tagNums,
        tagNumsList, freeze_factor T r t d, freeze_factor T r t a, t .paramKind, pinned_num .paramKind]
theorem freezeList_factor (T : Table) (r : Respects T) (t : ∀ k, T.act (.num k) = .tagType) :
    ∀ xs, freezeList T xs = tagNumsList (freezeList pinnedTable xs)
  | [] => by simp only [freezeList, tagNumsList]
  | x :: xs => by simp only [freezeList, tagNumsList, freeze_factor T r t x, freezeList_factor T r t xs]
theorem freezeKVs_factor (T : Table) (r : Respects T) (t : ∀ k, T.act (.num k) = .tagType) :
    ∀ kvs, freezeKVs T kvs = tagNumsKVs (freezeKVs pinnedTable kvs)
  | [] => by simp only [freezeKVs, tagNumsKVs]
  | (k, v) :: rest => by simp only [freezeKVs, tagNumsKVs, freeze_factor T r t v, freezeKVs_factor T r t rest]
end

/-! ### Tagged keys determine the typed observation -/

theorem cls_of_kind {k k' : NumKind} (h : (k == k') = true) : (k.cls == k'.cls) = true := by
  rw [eq_of_beq h]
  exact beq_self_eq_true _

/-- `pyEq` of tagged values compares numbers with their kinds (`eqWith_tagNums`); `typedEq` asks for the class only. -/
theorem tag_typed_all :
    (∀ x y, pyEq (tagNums x) (tagNums y) = true → typedEq x y = true) ∧
    (∀ a b, pyEqSub (tagNumsKVs a) (tagNumsKVs b) = true → typedEqSub a b = true) ∧
    (∀ xs ys, pyEqList (tagNumsList xs) (tagNumsList ys) = true → typedEqList xs ys = true) := by
  simp only [pyEq_eqWith.1, pyEq_eqWith.2.1, pyEq_eqWith.2.2, eqWith_tagNums.1, eqWith_tagNums.2.1, eqWith_tagNums.2.2,
    typedEq_eqWith.1, typedEq_eqWith.2.1, typedEq_eqWith.2.2, Bool.and_true]
  exact eqWith_mono (fun _ _ => cls_of_kind) fun _ _ h => h

theorem tag_typed (x y : PyVal) (h : pyEq (tagNums x) (tagNums y) = true) : typedEq x y = true :=
  tag_typed_all.1 x y h

theorem tag_typedList : ∀ xs ys, pyEqList (tagNumsList xs) (tagNumsList ys) = true → typedEqList xs ys = true :=
  tag_typed_all.2.2

theorem tag_typedSub : ∀ a b, pyEqSub (tagNumsKVs a) (tagNumsKVs b) = true → typedEqSub a b = true :=
  tag_typed_all.2.1

/-! ### Without tags: keys determine the observation when all numbers have one class -/

theorem singleClass_lookup (c : NumClass) : ∀ (b : KVs) (k : String) (w : PyVal),
    singleClassKVs c b = true → lookupKV b k = some w → singleClass c w = true
  | [], _, _, _, h => by simp [lookupKV] at h
  | (k', v) :: r, k, w, hb, h => by
    simp only [singleClassKVs, Bool.and_eq_true] at hb
    simp only [lookupKV] at h
    split at h
    · cases h; exact hb.1
    · exact singleClass_lookup c r k w hb.2 h

theorem eqWith_single {kind : NumKind → NumKind → Bool} {conv : PyVal → PyVal → Bool} (c : NumClass) :
    (∀ x y, eqWith kind conv x y = true → singleClass c x = true → singleClass c y = true →
      eqWith (fun k k' => k.cls == k'.cls) conv x y = true) ∧
    (∀ a b, eqWithSub kind conv a b = true → singleClassKVs c a = true → singleClassKVs c b = true →
      eqWithSub (fun k k' => k.cls == k'.cls) conv a b = true) ∧
    (∀ xs ys, eqWithList kind conv xs ys = true → singleClassList c xs = true → singleClassList c ys = true →
      eqWithList (fun k k' => k.cls == k'.cls) conv xs ys = true) := by
  apply eqWith_induct
  case num =>
    intro k k' a _ hx hy
    simp only [singleClass, beq_iff_eq] at hx hy
    simp only [eqWith, hx, hy, beq_self_eq_true, Bool.and_self]
  case tuple | list =>
    intro xs ys ih hx hy
    simp only [singleClass] at hx hy
    simp only [eqWith, ih hx hy]
  case dict | ns =>
    intro a b hl ih hx hy
    simp only [singleClass] at hx hy
    simp only [eqWith, hl, ih hx hy, beq_self_eq_true, Bool.and_self]
  case param =>
    intro n k d d' a a' ihd iha hx hy
    simp only [singleClass, Bool.and_eq_true] at hx hy
    simp only [eqWith, ihd hx.1 hy.1, iha hx.2 hy.2, beq_self_eq_true, Bool.and_self]
  case cons =>
    intro x y xs ys ih ihs hx hy
    simp only [singleClassList, Bool.and_eq_true] at hx hy
    simp only [eqWithList, ih hx.1 hy.1, ihs hx.2 hy.2, Bool.and_self]
  case subCons =>
    intro k v w r b hl ih ihr hx hy
    simp only [singleClassKVs, Bool.and_eq_true] at hx
    simp only [eqWithSub, hl, ih hx.1 (singleClass_lookup c b k w hy hl), ihr hx.2 hy, Bool.and_self]
  all_goals intros; simp only [eqWith, eqWithList, eqWithSub, beq_self_eq_true, Bool.and_self, *]

theorem single_typed (c : NumClass) (x y : PyVal) (hx : singleClass c x = true) (hy : singleClass c y = true)
    (h : pyEq x y = true) : typedEq x y = true :=
  typedEq_eqWith.1 x y ▸ (eqWith_single c).1 x y (pyEq_eqWith.1 x y ▸ h) hx hy

theorem single_typedList (c : NumClass) : ∀ xs ys, singleClassList c xs = true → singleClassList c ys = true →
    pyEqList xs ys = true → typedEqList xs ys = true :=
  fun xs ys hx hy h => typedEq_eqWith.2.2 xs ys ▸ (eqWith_single c).2.2 xs ys (pyEq_eqWith.2.2 xs ys ▸ h) hx hy

theorem single_typedSub (c : NumClass) : ∀ a b, singleClassKVs c a = true → singleClassKVs c b = true →
    pyEqSub a b = true → typedEqSub a b = true :=
  fun a b hx hy h => typedEq_eqWith.2.1 a b ▸ (eqWith_single c).2.1 a b (pyEq_eqWith.2.1 a b ▸ h) hx hy

end Einx.Cache
