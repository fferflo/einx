import EinxModel.Proofs.LowerRedDefs
import EinxModel.Proofs.CellOrder
import EinxModel.Proofs.IndexSpace
/-! Helper lemmas for `lower_reduce_correct` (Props/C01LowerOps.lean), run side: the positions `_expr_to_axis` lists
(`posOf`), the overridden valuation `ovr`, what the plan of the one numpy reduction reads from the prepared input
(`reduce_reads`), and the parts of a successful `Generic.lowerReduce`. -/
namespace Einx.Lower
open Einx Einx.IR Einx.Generic Einx.Denote

theorem cmp_src (r k d : Nat) : Cell.cmp (.src r k) (.src r d) = compare k d := by
  simp [Cell.cmp]

/-- A reduction cell over elements of a register that holds the input unchanged (same elements in the same
order) is the reduction cell over the input's elements. -/
theorem evalCell_mkRed_src {regs : List (Tensor Cell)} {x : Nat} {T : Tensor Cell} (hx : regs[x]? = some T)
    (hid : ∀ k, k < T.data.length → T.data[k]? = some (.src 0 k)) (f : String) (ks : List Nat)
    (hks : ∀ k ∈ ks, k < T.data.length) :
    evalCell symAlg regs (mkRed f (ks.map (Cell.src x))) = mkRed f (ks.map (Cell.src 0)) := by
  have hev : ∀ k ∈ ks, evalCell symAlg regs (.src x k) = .src 0 k := by
    intro k hk
    rw [evalCell_src symAlg hx, hid k (hks k hk)]; rfl
  have hmap : (ks.map (Cell.src x)).map (evalCell symAlg regs) = ks.map (Cell.src 0) := by
    rw [List.map_map]; exact List.map_congr_left hev
  match ks, hks, hev, hmap with
  | [], _, _, _ => simp [mkRed, evalCell, evalCells, sortCells, symAlg]
  | [k], _, hev, _ => simpa [mkRed] using hev k (by simp)
  | k1 :: k2 :: rest, _, hev, hmap =>
    have e1 : mkRed f ((k1 :: k2 :: rest).map (Cell.src x)) = .app ("red:" ++ f) (sortCells ((k1 :: k2 :: rest).map (Cell.src x))) := rfl
    have e2 : mkRed f ((k1 :: k2 :: rest).map (Cell.src 0)) = .app ("red:" ++ f) (sortCells ((k1 :: k2 :: rest).map (Cell.src 0))) := rfl
    rw [e1, e2, ← hmap, sortCells_map]
    · simp only [evalCell, evalCells_eq_map, symAlg]
    · intro a ha b hb
      obtain ⟨k, hk, rfl⟩ := List.mem_map.mp ha
      obtain ⟨d, hd, rfl⟩ := List.mem_map.mp hb
      rw [hev k hk, hev d hd, cmp_src, cmp_src]

/-- Positions of the elements of `L` that satisfy `p` (the form of `_expr_to_axis`). -/
def posOf (p : Ax → Bool) (L : List Ax) : List Nat :=
  (List.range L.length).filter (fun k => match L[k]? with
    | some a => p a
    | none => false)

theorem exprToAxis_eq_posOf (m : List String) (sq : List Ax) : exprToAxis m sq = posOf (fun a => m.contains a.name) sq := rfl

theorem mem_posOf {p : Ax → Bool} {L : List Ax} {k : Nat} : k ∈ posOf p L ↔ ∃ h : k < L.length, p L[k] = true := by
  simp only [posOf, List.mem_filter, List.mem_range]
  constructor
  · rintro ⟨hk, hp⟩
    rw [List.getElem?_eq_getElem hk] at hp
    exact ⟨hk, hp⟩
  · rintro ⟨hk, hp⟩
    rw [List.getElem?_eq_getElem hk]
    exact ⟨hk, hp⟩

theorem posOf_nodup (p : Ax → Bool) (L : List Ax) : (posOf p L).Nodup :=
  List.nodup_range.sublist List.filter_sublist

theorem filter_eq_map_posOf (d : Ax) : ∀ (L : List Ax) (p : Ax → Bool),
    L.filter p = (posOf p L).map (fun k => L.getD k d)
  | [], _ => rfl
  | a :: L, p => by
    have ih := filter_eq_map_posOf d L p
    simp only [posOf, List.length_cons, List.range_succ_eq_map, List.filter_cons, List.getElem?_cons_zero, List.filter_map,
      Function.comp_def, List.getElem?_cons_succ] at ih ⊢
    have hmm : ∀ l : List Nat, List.map (fun k => (a :: L).getD k d) (List.map Nat.succ l) = List.map (fun k => L.getD k d) l := by
      intro l
      rw [List.map_map]
      apply List.map_congr_left
      intro k _
      simp [Function.comp]
    by_cases hp : p a = true
    · simp only [hp, if_true, List.map_cons, List.getD_cons_zero, List.cons.injEq, true_and]
      rw [hmm]; exact ih
    · simp only [hp, Bool.false_eq_true, if_false]
      rw [hmm]; exact ih

theorem idxOf?_of_mem_nodup {l : List Nat} (h : l.Nodup) {a : Nat} (ha : a ∈ l) :
    ∃ i, ∃ hi : i < l.length, l.idxOf? a = some i ∧ l[i] = a := by
  obtain ⟨i, hi, he⟩ := List.getElem_of_mem ha
  exact ⟨i, hi, by rw [← he]; exact idxOf?_getElem_nodup h i hi, he⟩

theorem contains_posOf (p : Ax → Bool) (L : List Ax) {a : Nat} (ha : a < L.length) :
    (posOf p L).contains a = p L[a] := by
  rw [Bool.eq_iff_iff, List.contains_iff_mem, mem_posOf]
  constructor
  · rintro ⟨_, h⟩; exact h
  · intro h; exact ⟨ha, h⟩

theorem posOf_self (p : Ax → Bool) (L : List Ax) :
    (List.range L.length).filter (fun a => (posOf p L).contains a) = posOf p L := by
  simp only [posOf]
  apply List.filter_congr
  intro a ha
  have ha' : a < L.length := List.mem_range.mp ha
  have := contains_posOf p L ha'
  simp only [posOf] at this
  rw [this, List.getElem?_eq_getElem ha']

theorem posOf_compl (p : Ax → Bool) (L : List Ax) :
    (List.range L.length).filter (fun a => !(posOf p L).contains a) = posOf (fun x => !p x) L := by
  simp only [posOf]
  apply List.filter_congr
  intro a ha
  have ha' : a < L.length := List.mem_range.mp ha
  have := contains_posOf p L ha'
  simp only [posOf] at this
  rw [this, List.getElem?_eq_getElem ha']

theorem ovr_getElem {Mk : List Ax} (h : (names Mk).Nodup) (i : Nat) (hi : i < Mk.length) (τ : List Nat) (val : String → Nat) :
    ovr Mk τ val Mk[i].name = τ.getD i 0 := by
  have hn : Mk[i].name = (names Mk)[i]'(by simpa [names] using hi) := by simp [names]
  simp only [ovr, hn, idxOf?_getElem_nodup h i]

theorem ovr_unmarked {m : List String} {L : List Ax} {n : String} (hn : m.contains n = false) (τ : List Nat)
    (val : String → Nat) : ovr (markedAxes m L) τ val n = val n := by
  have : n ∉ names (markedAxes m L) := by
    intro hin
    obtain ⟨b, hb, hbn⟩ := List.mem_map.mp hin
    have := (List.mem_filter.mp hb).2
    rw [hbn, hn] at this
    cases this
  simp only [ovr, List.idxOf?_eq_none_iff.mpr this]

/-- The multi-index numpy's reduction plan reads the operand at — output index on the kept positions, reduction
index on the reduced positions — is the index that the overridden valuation gives to the operand's axes. -/
theorem reduce_index_eq {sq : List Ax} (m : List String) (hnd : (names sq).Nodup) (val : String → Nat) (τ : List Nat) :
    (List.range sq.length).map (fun a =>
        match ((List.range sq.length).filter (fun a => !(exprToAxis m sq).contains a)).idxOf? a with
        | some i => (idx (sq.filter (fun a => !m.contains a.name)) val).getD i 0
        | none => τ.getD ((((List.range sq.length).filter (fun a => (exprToAxis m sq).contains a)).idxOf? a).getD 0) 0)
      = idx sq (ovr (markedAxes m sq) τ val) := by
  rw [exprToAxis_eq_posOf, posOf_self, posOf_compl]
  have hMk : markedAxes m sq = (posOf (fun a => m.contains a.name) sq).map (fun k => sq.getD k default) :=
    filter_eq_map_posOf default sq _
  have hUn : sq.filter (fun a => !m.contains a.name) = (posOf (fun a => !m.contains a.name) sq).map (fun k => sq.getD k default) :=
    filter_eq_map_posOf default sq _
  have hMknd : (names (markedAxes m sq)).Nodup := names_nodup_filter hnd _
  apply List.ext_getElem
  · simp [idx]
  · intro a h1 _
    have ha : a < sq.length := by simpa using h1
    simp only [List.getElem_map, List.getElem_range, idx]
    by_cases hm : m.contains sq[a].name = true
    · have hmem : a ∈ posOf (fun a => m.contains a.name) sq := mem_posOf.mpr ⟨ha, hm⟩
      have hnot : a ∉ posOf (fun a => !m.contains a.name) sq := by
        rw [mem_posOf]; rintro ⟨_, h⟩; rw [hm] at h; cases h
      rw [List.idxOf?_eq_none_iff.mpr hnot]
      obtain ⟨i, hi, hidx, hget⟩ := idxOf?_of_mem_nodup (posOf_nodup _ _) hmem
      simp only [hidx, Option.getD_some]
      have hi' : i < (markedAxes m sq).length := by rw [hMk, List.length_map]; exact hi
      have hsa : (markedAxes m sq)[i] = sq[a] := by
        simp only [hMk, List.getElem_map, hget]
        simp [List.getD_eq_getElem?_getD, List.getElem?_eq_getElem ha]
      rw [← hsa, ovr_getElem hMknd i hi']
    · have hm' : m.contains sq[a].name = false := by simpa using hm
      have hmem : a ∈ posOf (fun a => !m.contains a.name) sq := mem_posOf.mpr ⟨ha, by rw [hm']; rfl⟩
      obtain ⟨i, hi, hidx, hget⟩ := idxOf?_of_mem_nodup (posOf_nodup _ _) hmem
      simp only [hidx]
      rw [ovr_unmarked hm']
      rw [hUn]
      simp only [List.map_map, List.getD_eq_getElem?_getD, List.getElem?_map, List.getElem?_eq_getElem hi, Option.map_some,
        Function.comp, hget, List.getElem?_eq_getElem ha, Option.getD_some]

theorem eraseDups_of_nodup : ∀ {l : List Nat}, l.Nodup → l.eraseDups = l
  | [], _ => rfl
  | a :: as, h => by
    have ⟨h1, h2⟩ := List.nodup_cons.mp h
    rw [List.eraseDups_cons]
    have : as.filter (fun b => !b == a) = as := by
      rw [List.filter_eq_self]
      intro b hb
      have : b ≠ a := fun e => h1 (e ▸ hb)
      simpa using this
    rw [this, eraseDups_of_nodup h2]

theorem ovr_bnd {m : List String} {L : List Ax} (hnd : (names L).Nodup) {τ : List Nat} {val : String → Nat}
    (hτ : Valid (lens (markedAxes m L)) τ) (hv : ∀ a ∈ L, m.contains a.name = false → val a.name < a.len) :
    Bnd (ovr (markedAxes m L) τ val) L := by
  intro a ha
  by_cases hm : m.contains a.name = true
  · have hmem : a ∈ markedAxes m L := List.mem_filter.mpr ⟨ha, hm⟩
    obtain ⟨i, hi, he⟩ := List.getElem_of_mem hmem
    rw [← he, ovr_getElem (Mk := markedAxes m L) (names_nodup_filter hnd _) i hi]
    have hg := valid_getD hτ i (by simp only [lens, List.length_map]; exact hi)
    simpa [lens, List.getD_eq_getElem?_getD, List.getElem?_eq_getElem hi] using hg
  · have hm' : m.contains a.name = false := by simpa using hm
    rw [ovr_unmarked hm']
    exact hv a ha hm'

theorem markedAxes_squeezed (m : List String) (e : List G) :
    markedAxes m (squeezedExpr m e) = markedAxes m (G.leavesL e) := by
  simp only [markedAxes, squeezedExpr, List.filter_filter]
  apply List.filter_congr
  intro a _
  by_cases hm : m.contains a.name = true
  · rw [hm]; simp
  · have hm' : m.contains a.name = false := by simpa using hm
    rw [hm']; rfl

theorem lens_marked_eq (m : List String) (sq : List Ax) :
    (posOf (fun a => m.contains a.name) sq).map (fun a => (lens sq).getD a 0) = lens (markedAxes m sq) := by
  have hMk : markedAxes m sq = (posOf (fun a => m.contains a.name) sq).map (fun k => sq.getD k default) :=
    filter_eq_map_posOf default sq _
  rw [hMk]
  simp only [lens, List.map_map]
  apply List.map_congr_left
  intro k hk
  obtain ⟨hk', _⟩ := mem_posOf.mp hk
  simp [Function.comp, List.getD_eq_getElem?_getD, List.getElem?_eq_getElem hk']

/-- The plan of `np.f(x, axis=_expr_to_axis(expr))` on a register that holds the input unchanged: at the index a
valuation gives to the un-bracketed axes it holds the canonical reduction cell over the bracketed axes. -/
theorem reduce_reads {regs1 : List (Tensor Cell)} {T1 : Tensor Cell} {x : Nat} {sq : List Ax} (f : String) (m : List String)
    (hx : regs1[x]? = some T1) (hsh : T1.shape = lens sq) (hlen : T1.data.length = prod T1.shape)
    (hid : ∀ k, k < T1.data.length → T1.data[k]? = some (.src 0 k)) (hnd : (names sq).Nodup)
    (hcheck : reducedShape (lens sq) (exprToAxis m sq) = lens (sq.filter (fun a => !m.contains a.name))) :
    ∃ pl, planInstrX (regs1.map (·.shape)) (.reduce f x (exprToAxis m sq) false) = .ok pl ∧
      pl.shape = lens (sq.filter (fun a => !m.contains a.name)) ∧ pl.cells.length = prod pl.shape ∧
      ∀ val : String → Nat, (∀ a ∈ sq, m.contains a.name = false → val a.name < a.len) →
        (runPlan symAlg regs1 pl).data[ravel (lens (sq.filter (fun a => !m.contains a.name)))
            (idx (sq.filter (fun a => !m.contains a.name)) val)]?
          = some (redCell f m sq val) := by
  have hn : (lens sq).length = sq.length := by simp [lens]
  have hvalidaxes : (!(exprToAxis m sq).all (· < (lens sq).length) ||
      (exprToAxis m sq).eraseDups.length != (exprToAxis m sq).length) = false := by
    rw [exprToAxis_eq_posOf, eraseDups_of_nodup (posOf_nodup _ _)]
    have : (posOf (fun a => m.contains a.name) sq).all (· < (lens sq).length) = true := by
      rw [List.all_eq_true]
      intro k hk
      obtain ⟨hk', _⟩ := mem_posOf.mp hk
      rw [hn]; exact decide_eq_true hk'
    rw [this]; simp
  have hred : (List.range (lens sq).length).filter (fun a => (exprToAxis m sq).contains a)
      = posOf (fun a => m.contains a.name) sq := by rw [hn, exprToAxis_eq_posOf, posOf_self]
  have hredShape : ((List.range (lens sq).length).filter (fun a => (exprToAxis m sq).contains a)).map
      (fun a => (lens sq).getD a 0) = lens (markedAxes m sq) := by rw [hred, lens_marked_eq]
  refine ⟨tabulate (reducedShape (lens sq) (exprToAxis m sq)) (fun o =>
      mkRed f ((allIndices (((List.range (lens sq).length).filter (fun a => (exprToAxis m sq).contains a)).map
          (fun a => (lens sq).getD a 0))).map (fun τ =>
        .src x (ravel (lens sq) ((List.range (lens sq).length).map (fun a =>
          match ((List.range (lens sq).length).filter (fun a => !(exprToAxis m sq).contains a)).idxOf? a with
          | some i => o.getD i 0
          | none => τ.getD ((((List.range (lens sq).length).filter (fun a => (exprToAxis m sq).contains a)).idxOf? a).getD 0) 0)))))),
    ?_, ?_, ?_, ?_⟩
  · simp only [planInstrX, getShape, shapes_getElem? hx, hsh, pure_bind, hvalidaxes, Bool.false_eq_true, if_false]
    rfl
  · exact hcheck
  · exact tabulate_length _ _
  · intro val hv
    have hbo : Bnd val (sq.filter (fun a => !m.contains a.name)) := by
      intro a ha
      have := List.mem_filter.mp ha
      exact hv a this.1 (by simpa using this.2)
    have hvalid : Valid (reducedShape (lens sq) (exprToAxis m sq)) (idx (sq.filter (fun a => !m.contains a.name)) val) := by
      rw [hcheck]; exact valid_idx hbo
    rw [runPlan_data, List.getElem?_map, ← hcheck]
    have e0 : reducedShape (lens sq) (exprToAxis m sq)
        = ((List.range (lens sq).length).filter (fun a => !(exprToAxis m sq).contains a)).map (fun a => (lens sq).getD a 0) := rfl
    rw [e0] at hvalid ⊢
    rw [tabulate_getElem? _ _ hvalid]
    simp only [Option.map_some, Option.some.injEq]
    rw [hredShape]
    -- the cells read register `x` at the indices of the overridden valuations
    have hcells : (allIndices (lens (markedAxes m sq))).map (fun τ =>
          Cell.src x (ravel (lens sq) ((List.range (lens sq).length).map (fun a =>
            match ((List.range (lens sq).length).filter (fun a => !(exprToAxis m sq).contains a)).idxOf? a with
            | some i => (idx (sq.filter (fun a => !m.contains a.name)) val).getD i 0
            | none => τ.getD ((((List.range (lens sq).length).filter (fun a => (exprToAxis m sq).contains a)).idxOf? a).getD 0) 0))))
        = ((allIndices (lens (markedAxes m sq))).map (fun τ => ravel (lens sq) (idx sq (ovr (markedAxes m sq) τ val)))).map
            (Cell.src x) := by
      rw [List.map_map]
      apply List.map_congr_left
      intro τ _
      simp only [Function.comp]
      rw [hn, reduce_index_eq m hnd val τ]
    rw [hcells, evalCell_mkRed_src hx hid f]
    · rw [List.map_map]; rfl
    · intro k hk
      obtain ⟨τ, hτ, rfl⟩ := List.mem_map.mp hk
      have hb := ovr_bnd hnd (Update.mem_assignments_iff_valid.mp (allIndices_eq_assignments _ ▸ hτ)) hv
      have := ravel_lt (valid_idx hb)
      rw [hlen, hsh]; exact this

theorem redCell_squeezed (f : String) (m : List String) (e : List G) {val : String → Nat}
    (hv : ∀ a ∈ G.leavesL e, m.contains a.name = false → val a.name < a.len) :
    redCell f m (squeezedExpr m e) val = redCell f m (G.leavesL e) val := by
  simp only [redCell, markedAxes_squeezed]
  congr 1
  apply List.map_congr_left
  intro τ _
  congr 1
  exact ravel_squeezed m e (fun a ha hm => by rw [ovr_unmarked hm]; exact hv a ha hm)

/-- A successful `lowerReduce` consists of a successful preparation, a passed `_ensure_output` test and a successful
`_squeeze_transpose_broadcast`; its program is assembled from theirs. -/
theorem lowerReduce_ok {f : String} {m : List String} {ein eout : List G} :
    OkP (fun l => ∃ sq s1 s3, prepInput m { reg := 0, shape := gShape ein, prog := [], next := 1 } 0 ein = .ok (sq, s1) ∧
      reducedShape s1.shape (exprToAxis m sq) = lens (sq.filter (fun a => !m.contains a.name)) ∧
      stb { reg := s1.next, shape := lens (sq.filter (fun a => !m.contains a.name)), prog := [], next := s1.next + 1 }
        (sq.filter (fun a => !m.contains a.name)) (G.leavesL eout) = .ok s3 ∧
      l = ⟨s1.prog.map .base ++ [.reduce f s1.reg (exprToAxis m sq) false] ++ (reshapeW s3 (gShape eout)).prog.map .base,
        (reshapeW s3 (gShape eout)).reg⟩) (lowerReduce f m ein eout) := by
  unfold lowerReduce
  refine OkP.guard fun _ => ?_
  refine OkP.step fun ⟨sq, s1⟩ hp => OkP.guard fun hcheck => ?_
  have hcheck : reducedShape s1.shape (exprToAxis m sq) = lens (sq.filter (fun a => !m.contains a.name)) := by
    simpa using hcheck
  rw [hcheck]
  exact OkP.step fun s3 hstb => ExceptP.pure ⟨sq, s1, s3, hp, hcheck, hstb, rfl⟩

end Einx.Lower
