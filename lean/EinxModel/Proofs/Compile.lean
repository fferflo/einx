import EinxModel.Compile.Sem
import EinxModel.Proofs.UtilCompile
/-!
The code generator (C04), what `emitAll` does: what each operation of the generator returns when it succeeds, and what
a visit of the reference evaluation (`refVisit`, `refRule`) does when it succeeds; `ruleOf` as
conversion of the operands followed by `ruleFrom`; the statements one traversal step appends to the body, and
the sources of the statements of a whole traversal (`emitAll_order`, `emitAll_once`).
-/
namespace Einx.Compile

theorem assocGet_mem {β : Type} (l : List (E × β)) (k : E) (t : β) (h : assocGet l k = some t) : (k, t) ∈ l := by
  unfold assocGet at h
  cases hf : l.find? (fun x => x.1 == k) with
  | none => simp [hf] at h
  | some p =>
    simp only [hf, Option.map_some, Option.some.injEq] at h
    have h1 := List.mem_of_find?_eq_some hf
    have h2 := List.find?_some hf
    simp only [beq_iff_eq] at h2
    obtain ⟨a, b⟩ := p
    simp only at h h2
    subst h h2
    exact h1

theorem assocGet_append_some {β : Type} (l m : List (E × β)) (k : E) (t : β) (h : assocGet l k = some t) :
    assocGet (l ++ m) k = some t := by
  unfold assocGet at h ⊢
  rw [List.find?_append]
  cases hf : l.find? (fun x => x.1 == k) with
  | none => simp [hf] at h
  | some p => simpa [hf] using h

theorem assocGet_append_none {β : Type} (l : List (E × β)) (k : E) (t : β) (h : assocGet l k = none) :
    assocGet (l ++ [(k, t)]) k = some t := by
  unfold assocGet at h ⊢
  rw [List.find?_append]
  cases hf : l.find? (fun x => x.1 == k) with
  | none => simp
  | some p => simp [hf] at h

/-! ### The body and its views

The generator appends tagged statements to `body` (`GState.push`); `program` (the statements), `bodyS` (statements with their
blocks) and `srcs` (the tags) are read off it, so what is appended to the body is appended to each of them (`body_append`). -/

def Visit.src : Visit → Option Nat
  | .app i => some i
  | _ => none

def tagWith (src : Option Nat) (new : List (Nat × Stmt)) : List (Nat × SStmt) :=
  new.map (fun p => (p.1, (⟨p.2, src⟩ : SStmt)))

theorem push_body (st : GState) (src : Option Nat) (new : List (Nat × Stmt)) :
    (st.push src new).body = st.body ++ tagWith src new := by
  simp [GState.push, tagWith]

/-- Sources (application indices) of the emitted statements, in emission order. -/
def GState.srcs (st : GState) : List Nat := st.body.filterMap (fun p => p.2.src)

def GState.bodyS (st : GState) : List (Nat × Stmt) := st.body.map (fun p => (p.1, p.2.stmt))

theorem bodyS_program (st : GState) : st.bodyS.map (·.2) = st.program := by
  simp [GState.bodyS, GState.program, List.map_map, Function.comp_def]

theorem body_append {st st' : GState} {new : List (Nat × SStmt)} (h : st'.body = st.body ++ new) :
    st'.program = st.program ++ new.map (·.2.stmt) ∧ st'.bodyS = st.bodyS ++ new.map (fun p => (p.1, p.2.stmt)) ∧
      st'.srcs = st.srcs ++ new.filterMap (·.2.src) := by
  simp only [GState.program, GState.bodyS, GState.srcs, h, List.map_append, List.filterMap_append, and_self]

theorem program_push (st : GState) (src : Option Nat) (new : List (Nat × Stmt)) :
    (st.push src new).program = st.program ++ new.map (·.2) := by
  simp [GState.program, GState.push, Function.comp_def]

theorem bodyS_push (st : GState) (src : Option Nat) (new : List (Nat × Stmt)) : (st.push src new).bodyS = st.bodyS ++ new := by
  simp [GState.bodyS, GState.push, List.map_map, Function.comp_def]

theorem srcs_tagWith_none (new : List (Nat × Stmt)) :
    (tagWith none new).filterMap (fun p => p.2.src) = [] := by
  induction new with
  | nil => rfl
  | cons p rest ih => simp [tagWith]

theorem srcs_tagWith_some (i : Nat) (new : List (Nat × Stmt)) :
    (tagWith (some i) new).filterMap (fun p => p.2.src) = List.replicate new.length i := by
  induction new with
  | nil => rfl
  | cons p rest ih =>
    simp only [tagWith, List.map_cons, List.filterMap_cons, List.length_cons, List.replicate_succ] at ih ⊢
    rw [ih]

/-! ### What the operations of the generator return

Each operation is a chain of `Except` binds.  Its successful results are described here, with the new state written out; the
invariants carried along the traversal (sources, simulation, closedness, single definitions) are proved from these descriptions
and do not unfold the operations. -/

theorem set_ok {st st' : GState} {obj e : E} (h : st.set obj e = .ok st') :
    ∃ cache', setCache 64 st.cache obj e = .ok cache' ∧ st' = { st with cache := cache' } := by
  simp only [GState.set, bind_ok] at h
  obtain ⟨cache', h1, h2⟩ := h
  cases h2
  exact ⟨cache', h1, rfl⟩

theorem addVar_ok {c : Ctx} {st st' : GState} {obj : E} {reuse : Bool} {v : Nat}
    (h : st.addVar c obj reuse = .ok (v, st')) :
    v = st.vars.length ∧ ∃ b cache', c.blockFor obj = .ok b ∧
      setCache 64 st.cache obj (.var st.vars.length) = .ok cache' ∧
      st' = { st with vars := st.vars ++ [⟨b, reuse⟩], cache := cache' } := by
  simp only [GState.addVar, bind_ok] at h
  obtain ⟨b, hb, s2, hs, h2⟩ := h
  cases h2
  obtain ⟨cache', h1, rfl⟩ := set_ok hs
  exact ⟨rfl, b, cache', hb, h1, rfl⟩

theorem define_ok {c : Ctx} {st st' : GState} {obj e : E} {eff ni fi : Bool} {new : List (Nat × Stmt)}
    (h : define c st obj e eff ni fi = .ok (st', new)) :
    (ni = false ∧ new = [] ∧ ∃ cache', setCache 64 st.cache obj e = .ok cache' ∧ st' = { st with cache := cache' }) ∨
    (fi = false ∧ ∃ b cache', c.blockFor obj = .ok b ∧ setCache 64 st.cache obj (.var st.vars.length) = .ok cache' ∧
      st' = { st with vars := st.vars ++ [⟨b, true⟩], cache := cache' } ∧ new = [(b, .assign st.vars.length e eff)]) := by
  simp only [define, bind_ok] at h
  obtain ⟨n, -, h⟩ := h
  split at h
  · obtain ⟨_, h, _⟩ := bind_ok.1 h
    cases h
  · split at h
    · rename_i hnot hin
      obtain ⟨s1, hs, h⟩ := bind_ok.1 h
      cases h
      refine Or.inl ⟨?_, rfl, set_ok hs⟩
      revert hnot hin
      cases ni <;> cases fi <;> simp
    · rename_i hnot hin
      obtain ⟨⟨v, s1⟩, ha, h⟩ := bind_ok.1 h
      obtain ⟨b, hb, h⟩ := bind_ok.1 h
      cases h
      obtain ⟨rfl, b', cache', hb', hc, rfl⟩ := addVar_ok ha
      cases hb.symm.trans hb'
      exact Or.inr ⟨by revert hin; cases fi <;> simp, b, cache', hb, hc, rfl, rfl⟩

theorem applyRule_effect_ok {c : Ctx} {st st' : GState} {s : Stmt} {out e : E} {new : List (Nat × Stmt)}
    (h : applyRule c st (.effect s out e) = .ok (st', new)) :
    ∃ b cache', c.blockFor out = .ok b ∧ setCache 64 st.cache out e = .ok cache' ∧
      st' = { st with cache := cache' } ∧ new = [(b, s)] := by
  simp only [applyRule] at h
  obtain ⟨b, hb, h⟩ := bind_ok.1 h
  obtain ⟨⟨s1, more⟩, hd, h⟩ := bind_ok.1 h
  cases h
  rcases define_ok hd with ⟨-, rfl, cache', hc, rfl⟩ | ⟨hf, -⟩
  · exact ⟨b, cache', hb, hc, rfl, rfl⟩
  · cases hf

theorem applyRule_import_ok {c : Ctx} {st st' : GState} {out : Nat} {from_ : Option String} {imp : String}
    {hint : Option String} {new : List (Nat × Stmt)}
    (h : applyRule c st (.import_ out from_ imp hint) = .ok (st', new)) :
    ∃ cache', c.blockFor (.var out) = .ok 0 ∧ setCache 64 st.cache (.var out) (.var st.vars.length) = .ok cache' ∧
      st' = { st with vars := st.vars ++ [⟨0, false⟩], cache := cache',
                      hints := st.hints ++ (hint.map fun n => (st.vars.length, n)).toList } ∧
      new = [(0, .import_ st.vars.length from_ imp)] := by
  simp only [applyRule] at h
  obtain ⟨⟨v, s1⟩, ha, h⟩ := bind_ok.1 h
  obtain ⟨b, hb, h⟩ := bind_ok.1 h
  obtain ⟨rfl, b', cache', hb', hc, rfl⟩ := addVar_ok ha
  cases hb.symm.trans hb'
  split at h
  · obtain ⟨_, h, _⟩ := bind_ok.1 h
    cases h
  · rename_i hb0
    cases h
    have : b = 0 := by simpa using hb0
    subst this
    refine ⟨cache', hb, hc, ?_, rfl⟩
    cases hint <;> simp

theorem applyRule_constant_ok {c : Ctx} {st st' : GState} {out : Nat} {str : String} {new : List (Nat × Stmt)}
    (h : applyRule c st (.constant out str) = .ok (st', new)) :
    ∃ b cache', c.blockFor (.var out) = .ok b ∧ setCache 64 st.cache (.var out) (.var st.vars.length) = .ok cache' ∧
      st' = { st with vars := st.vars ++ [⟨b, false⟩], cache := cache', consts := st.consts ++ [st.vars.length],
                      hints := st.hints ++ [(st.vars.length, s!"const{st.consts.length + 1}")],
                      comments := s!"Constant const{st.consts.length + 1}: {replaceNl str}" :: st.comments } ∧
      new = [(0, .constBind st.vars.length (st.consts.length + 1))] := by
  simp only [applyRule] at h
  obtain ⟨⟨v, s1⟩, ha, h⟩ := bind_ok.1 h
  cases h
  obtain ⟨rfl, b, cache', hb, hc, rfl⟩ := addVar_ok ha
  exact ⟨b, cache', hb, hc, rfl, rfl⟩

theorem emitVisit_app_ok {c : Ctx} {st st' : GState} {i : Nat} (h : emitVisit c st (.app i) = .ok st') :
    ∃ a rule s1 new, c.g.apps[i]? = some a ∧ ruleOf c.g c.cfg.unaryParens st.cache a = .ok rule ∧
      applyRule c st (patchForce c.g c.cfg a rule) = .ok (s1, new) ∧ st' = s1.push (some i) new := by
  simp only [emitVisit] at h
  split at h
  · rename_i a ha
    obtain ⟨⟨s1, new⟩, h1, h⟩ := bind_ok.1 h
    cases h
    obtain ⟨rule, hr, hp⟩ := bind_ok.1 h1
    exact ⟨a, rule, s1, new, ha, hr, hp, rfl⟩
  · cases h

theorem enterParam_ok {c : Ctx} {st st' : GState} {t : Nat} (h : enterParam c st t = .ok st') :
    ∃ b cache', c.blockFor (.var t) = .ok b ∧ setCache 64 st.cache (.var t) (.var st.vars.length) = .ok cache' ∧
      st' = ({ st with vars := st.vars ++ [⟨b, true⟩], cache := cache' } : GState).push none
        [(b, .param st.vars.length t)] := by
  simp only [enterParam] at h
  obtain ⟨⟨v, s1⟩, ha, h⟩ := bind_ok.1 h
  cases h
  obtain ⟨rfl, b, cache', hb, hc, rfl⟩ := addVar_ok ha
  exact ⟨b, cache', hb, hc, by simp⟩

theorem emitVisit_enter_ok {c : Ctx} {st st' : GState} {gi : Nat} (h : emitVisit c st (.enter gi) = .ok st') :
    ∃ sg b cache', c.g.graphs[gi]? = some sg ∧ c.blockFor (.gref gi) = .ok b ∧
      setCache 64 st.cache (.gref gi) (.var st.vars.length) = .ok cache' ∧
      sg.inputs.foldlM (enterParam c)
        { st with vars := st.vars ++ [⟨b, true⟩], cache := cache',
                  hints := st.hints ++ (sg.name.map fun n => (st.vars.length, n)).toList } = .ok st' := by
  simp only [emitVisit] at h
  split at h
  · cases h
  · rename_i sg hg
    obtain ⟨⟨fv, s1⟩, ha, h⟩ := bind_ok.1 h
    obtain ⟨rfl, b, cache', hb, hc, rfl⟩ := addVar_ok ha
    refine ⟨sg, b, cache', hg, hb, hc, ?_⟩
    cases hn : sg.name <;> simpa [hn] using h

theorem varOf_ok {cache : List (E × E)} {k : E} {v : Nat} (h : varOf cache k = .ok v) : assocGet cache k = some (.var v) := by
  unfold varOf at h
  split at h
  · cases h; assumption
  · cases h

theorem emitVisit_exit_ok {c : Ctx} {st st' : GState} {gi : Nat} (h : emitVisit c st (.exit gi) = .ok st') :
    ∃ sg outer inner fv params r, c.g.graphs[gi]? = some sg ∧ c.blockFor (.gref gi) = .ok outer ∧
      c.blockFor sg.output = .ok inner ∧ assocGet st.cache (.gref gi) = some (.var fv) ∧
      convTop st.cache sg.output = .ok r ∧
      st' = st.push none [(inner, .return_ r), (outer, .def_ fv params inner gi)] := by
  simp only [emitVisit] at h
  split at h
  · cases h
  · rename_i sg hg
    obtain ⟨outer, ho, h⟩ := bind_ok.1 h
    obtain ⟨inner, hi, h⟩ := bind_ok.1 h
    obtain ⟨fv, hf, h⟩ := bind_ok.1 h
    obtain ⟨params, -, h⟩ := bind_ok.1 h
    obtain ⟨r, hr, h⟩ := bind_ok.1 h
    cases h
    exact ⟨sg, outer, inner, fv, params, r, hg, ho, hi, varOf_ok hf, hr, rfl⟩

/-! The same for the reference evaluation: what a successful `refVisit` looked up and ran (read in both directions), and what
the rule it ran stored and appended; the trace equation has the form `r.trace ++ evs` for all four kinds of rule. -/

theorem refVisit_app_ok {g : Graph} {up : Bool} {r r' : RState} {i : Nat} :
    refVisit g up r (.app i) = .ok r' ↔
      ∃ a rule, g.apps[i]? = some a ∧ ruleOf g up r.vals a = .ok rule ∧ refRule r rule = .ok r' := by
  cases ha : g.apps[i]? with
  | none =>
    simp only [refVisit, ha]
    exact ⟨fun h => (by cases h), fun ⟨_, _, h, _⟩ => nomatch h⟩
  | some a =>
    simp only [refVisit, ha, bind_ok]
    exact ⟨fun ⟨rule, hr, h⟩ => ⟨a, rule, rfl, hr, h⟩, fun ⟨_, rule, rfl, hr, h⟩ => ⟨rule, hr, h⟩⟩

theorem refVisit_enter_ok {g : Graph} {up : Bool} {r r' : RState} {gi : Nat} :
    refVisit g up r (.enter gi) = .ok r' ↔
      ∃ sg v1 v2, g.graphs[gi]? = some sg ∧ setCache 64 r.vals (.gref gi) (closAtom gi) = .ok v1 ∧
        sg.inputs.foldlM (fun vals t => setCache 64 vals (.var t) (inAtom t)) v1 = .ok v2 ∧ { r with vals := v2 } = r' := by
  cases hg : g.graphs[gi]? with
  | none =>
    simp only [refVisit, hg]
    exact ⟨fun h => (by cases h), fun ⟨_, _, _, h, _⟩ => nomatch h⟩
  | some sg =>
    simp only [refVisit, hg, bind_ok, pure_ok]
    exact ⟨fun ⟨v1, h1, v2, h2, h⟩ => ⟨sg, v1, v2, rfl, h1, h2, h⟩, fun ⟨_, v1, v2, rfl, h1, h2, h⟩ => ⟨v1, h1, v2, h2, h⟩⟩

theorem refVisit_exit_ok {g : Graph} {up : Bool} {r r' : RState} {gi : Nat} :
    refVisit g up r (.exit gi) = .ok r' ↔
      ∃ sg t, g.graphs[gi]? = some sg ∧ convTop r.vals sg.output = .ok t ∧
        { r with ret := match r.ret with | some x => some x | none => some t } = r' := by
  cases hg : g.graphs[gi]? with
  | none =>
    simp only [refVisit, hg]
    exact ⟨fun h => (by cases h), fun ⟨_, _, h, _⟩ => nomatch h⟩
  | some sg =>
    simp only [refVisit, hg, bind_ok, pure_ok]
    exact ⟨fun ⟨t, ht, h⟩ => ⟨sg, t, rfl, ht, h⟩, fun ⟨_, t, rfl, ht, h⟩ => ⟨t, ht, h⟩⟩

theorem refRule_define (r r' : RState) (out e : E) (eff ni fi : Bool) (h : refRule r (.define out e eff ni fi) = .ok r') :
    setCache 64 r.vals out (if eff then resAtom r.trace.length else e) = .ok r'.vals ∧
      r'.trace = r.trace ++ (if eff then [Event.call e] else []) := by
  cases eff <;> simp only [refRule, Bool.false_eq_true, if_false, if_true, bind_ok, pure_ok] at h ⊢ <;>
    obtain ⟨v, hs, rfl⟩ := h
  · exact ⟨hs, (List.append_nil _).symm⟩
  · exact ⟨hs, rfl⟩

theorem refRule_effect (r r' : RState) (s : Stmt) (out e : E) (h : refRule r (.effect s out e) = .ok r') :
    setCache 64 r.vals out e = .ok r'.vals ∧ r'.trace = r.trace ++ s.event?.toList := by
  simp only [refRule, bind_ok, pure_ok] at h
  obtain ⟨v, hs, rfl⟩ := h
  exact ⟨hs, rfl⟩

theorem refRule_import (r r' : RState) (out : Nat) (from_ : Option String) (imp : String) (hint : Option String)
    (h : refRule r (.import_ out from_ imp hint) = .ok r') :
    setCache 64 r.vals (.var out) (modAtom from_ imp) = .ok r'.vals ∧ r'.trace = r.trace ++ [] := by
  simp only [refRule, bind_ok, pure_ok] at h
  obtain ⟨v, hs, rfl⟩ := h
  exact ⟨hs, (List.append_nil _).symm⟩

theorem refRule_constant (r r' : RState) (out : Nat) (str : String) (h : refRule r (.constant out str) = .ok r') :
    setCache 64 r.vals (.var out) (constAtom (r.nconst + 1)) = .ok r'.vals ∧ r'.trace = r.trace ++ [] := by
  simp only [refRule, bind_ok, pure_ok] at h
  obtain ⟨v, hs, rfl⟩ := h
  exact ⟨hs, (List.append_nil _).symm⟩

theorem emitAll_cons (c : Ctx) (v : Visit) (rest : List Visit) (st st' : GState)
    (h : emitAll c (v :: rest) st = .ok st') :
    ∃ s1, emitVisit c st v = .ok s1 ∧ emitAll c rest s1 = .ok st' := by
  rw [emitAll, List.foldlM_cons] at h
  exact bind_ok.1 h

theorem compile_ok {cfg : UCfg} {fc : FCfg} {g : Graph} {comp : Compiled} (h : compile cfg fc g = .ok comp) :
    ∃ scopes order st obj, getScopes g g.fuel = .ok scopes ∧ visitOrder g = .ok order ∧
      emitAll { g, cfg, counts := (usageRec g cfg g.fuel g.top {}).counts, scopes } order {} = .ok st ∧
      convTop st.cache g.top = .ok obj ∧ comp.order = order ∧ comp.nblocks = scopes.scopes.length ∧
      comp.grp = fuseAll fc comp.st comp.nblocks ∧
      (comp.st = st ∨ comp.st = ({ st with vars := st.vars ++ [⟨0, false⟩] } : GState).push none
        [(0, .assign st.vars.length obj false)]) := by
  unfold compile at h
  obtain ⟨scopes, hs, h⟩ := bind_ok.1 h
  obtain ⟨order, ho, h⟩ := bind_ok.1 h
  obtain ⟨st, he, h⟩ := bind_ok.1 h
  obtain ⟨obj, hc, h⟩ := bind_ok.1 h
  refine ⟨scopes, order, st, obj, hs, ho, he, hc, ?_⟩
  split at h
  rename_i st' obj' heq
  have hst : st' = st ∨ st' = ({ st with vars := st.vars ++ [⟨0, false⟩] } : GState).push none
      [(0, .assign st.vars.length obj false)] := by
    split at heq
    · cases heq; exact Or.inl rfl
    · split at heq
      · cases heq; exact Or.inr rfl
      · cases heq; exact Or.inl rfl
  simp only at h
  split at h
  · obtain ⟨_, h, _⟩ := bind_ok.1 h
    cases h
  · cases h
    exact ⟨rfl, rfl, rfl, hst⟩

/-- The entries `setCache` appends all have a property `Q obj e` that the own entry has and that an element of a tuple or list,
cached under its element-access term, hands on to the whole. -/
theorem setCache_ind {Q : E → E → E × E → Prop} (own : ∀ obj e k, keyOf obj = some k → Q obj e (k, e))
    (elem : ∀ tag a e x s p, tag = .tuple ∨ tag = .list → x ∈ a.toList → Q x (E.mk (.elem s) [e]) p → Q (.node tag a) e p) :
    ∀ (fuel : Nat) (cache : List (E × E)) (obj e : E) (cache' : List (E × E)), setCache fuel cache obj e = .ok cache' →
    ∃ more, cache' = cache ++ more ∧ ∀ p ∈ more, Q obj e p := by
  intro fuel
  induction fuel with
  | zero => intro cache obj e cache' h; cases h
  | succ fuel ih =>
    intro cache obj e cache' h
    unfold setCache at h
    split at h
    · cases h
    · rename_i k hk
      split at h
      · cases h
      · -- the own entry is appended first; the loop over the elements of a tuple or list keeps "what follows `cache` is new"
        let New : List (E × E) → Prop := fun c => ∃ more, c = cache ++ more ∧ ∀ p ∈ more, Q obj e p
        have hown : New (cache ++ [(k, e)]) :=
          ⟨[(k, e)], rfl, fun p hp => by cases List.mem_singleton.1 hp; exact own obj e k hk⟩
        have loop : ∀ (tag : Tag) (a : E), (tag = .tuple ∨ tag = .list) → obj = .node tag a →
            List.foldlM (fun cache (x : E × Nat) => setCache fuel cache x.1 (E.mk (.elem (toString x.2)) [e])) (cache ++ [(k, e)])
              a.toList.zipIdx = .ok cache' → New cache' := by
          intro tag a htag hobj hf
          refine (ExceptP.foldlM (E := fun _ => True) (I := New) hown fun c x hxm ⟨m, hm, hq⟩ =>
            ExceptP.of_ok (fun c' hc => ?_) (fun _ _ => trivial)).ok hf
          have hx : x.1 ∈ a.toList := (List.mem_zipIdx hxm).2.2 ▸ List.getElem_mem _
          obtain ⟨m1, e1, q1⟩ := ih _ _ _ _ hc
          refine ⟨m ++ m1, by rw [e1, hm, List.append_assoc], fun p hp => (List.mem_append.1 hp).elim (hq p) fun hp => ?_⟩
          exact hobj ▸ elem tag a e x.1 _ p htag hx (q1 p hp)
        split at h
        · exact loop .tuple _ (Or.inl rfl) rfl h
        · exact loop .list _ (Or.inr rfl) rfl h
        · cases h
          exact hown

theorem setCache_append (fuel : Nat) (cache : List (E × E)) (obj e : E) (cache' : List (E × E))
    (h : setCache fuel cache obj e = .ok cache') : ∃ more, cache' = cache ++ more ∧ ∀ p ∈ more, ∀ v ∈ p.2.vars, v ∈ e.vars :=
  setCache_ind (Q := fun _ e p => ∀ v ∈ p.2.vars, v ∈ e.vars) (fun _ _ _ _ _ hv => hv)
    (fun _ _ _ _ _ _ _ _ h v hv => by simpa [E.mk, E.ofList, E.vars] using h v hv) fuel cache obj e cache' h

theorem setCache_gref (cache cache' : List (E × E)) (gi : Nat) (t : E)
    (h : setCache 64 cache (.gref gi) t = .ok cache') :
    cache' = cache ++ [(.gref gi, t)] ∧ assocGet cache (.gref gi) = none := by
  simp only [setCache, keyOf] at h
  split at h
  · simp at h
  · rename_i hn
    simp only [Except.ok.injEq] at h
    refine ⟨h.symm, ?_⟩
    cases hg : assocGet cache (.gref gi) with
    | none => rfl
    | some _ => simp [hg] at hn

/-- One key part of `_at`. -/
def partConv (cache : List (E × E)) (p : E) : Except String E :=
  match p with
  | .node (.slice x y z) a => do pure (E.node (.slice x y z) (← convL cache a))
  | p => convTop cache p

theorem atExpr_eq (cache : List (E × E)) (obj key : E) :
    atExpr cache obj key = (do
      let o ← convTop cache obj
      let parts ← (keyParts key).mapM (partConv cache)
      pure (E.mk .index (o :: parts))) := rfl

/-- The four statements by which the generator binds a variable `v` it has just created (`define` when it does not inline, the
rules `import_` and `constant`, `enterParam`); `vi`: what it records for `v`; `b`: the block of the statement. -/
inductive Binder (v : Nat) : VarInfo → Nat → Stmt → Prop
  | assign (b : Nat) (e : E) (eff : Bool) : Binder v ⟨b, true⟩ b (.assign v e eff)
  | import_ (f : Option String) (i : String) : Binder v ⟨0, false⟩ 0 (.import_ v f i)
  | const (b n : Nat) : Binder v ⟨b, false⟩ 0 (.constBind v n)
  | param (b t : Nat) : Binder v ⟨b, true⟩ b (.param v t)

theorem Binder.out {v : Nat} {vi : VarInfo} {b : Nat} {s : Stmt} (h : Binder v vi b s) : s.outputVars = [v] := by
  cases h <;> rfl

theorem Binder.info {v : Nat} {vi : VarInfo} {b : Nat} {s : Stmt} (h : Binder v vi b s) :
    (s.isParam = false → vi.block = b) ∧ (s.isImport = true → vi.reuse = false) := by
  cases h <;> simp [Stmt.isParam, Stmt.isImport]

/-! ### Rules

`ruleOf` converts the operands of the application one after the other and builds the rule from the expressions obtained
(`ruleOf_eq`).  What holds operand by operand (reading the cache under a substitution, the variables an expression mentions) is
proved for the two parts, `Opd.conv` and `ruleFrom`, and not case by case for `ruleOf`. -/

/-- How an operand enters the rule: converted as a value, as a keyword argument, or as the object and key of an item access. -/
inductive Opd where
  | top (x : E)
  | kw (k : String) (x : E)
  | item (obj key : E)

def Opd.conv (cache : List (E × E)) : Opd → Except String E
  | .top x => convTop cache x
  | .kw k x => do pure (E.mk (.kw k) [← convTop cache x])
  | .item obj key => atExpr cache obj key

/-- The conversions `ruleOf` performs, in its order. -/
def App.opds : App → List Opd
  | .call fn args kwargs _ _ => .top fn :: (args.map .top ++ kwargs.map fun p => .kw p.1 p.2)
  | .callInplace xs fn args kwargs _ _ => .top xs :: .top fn :: (args.map .top ++ kwargs.map fun p => .kw p.1 p.2)
  | .getattr obj _ _ => [.top obj]
  | .getitem obj key _ => [.item obj key]
  | .updateitem obj key value _ _ => [.item obj key, .top value, .top obj]
  | .operator _ operands _ => operands.map .top
  | .assert_ xs cond _ _ => [.top xs, .top cond]
  | .cast input _ => [.top input]
  | _ => []

def ruleFrom (g : Graph) (up : Bool) : App → List E → Except String Rule
  | .call fn _ _ _ out, es => pure (.define (.var out) (E.mk .call es) (!isAllowInline g fn) (!isAllowInline g fn) false)
  | .callInplace _ _ _ _ _ out, x :: es => pure (.effect (.exprStmt (E.mk .call es) [x]) (.var out) x)
  | .getattr _ key out, [o] => pure (.define (.var out) (E.mk (.attr key) [o]) false false false)
  | .getitem _ _ out, [e] => pure (.define (.var out) e false false false)
  | .updateitem _ _ _ op out, [e, v, o] => pure (.effect (.update e op v [o]) (.var out) o)
  | .import_ imp from_ as_ out, _ =>
    pure (.import_ out from_ imp (match as_ with | some n => some n | none => if imp.contains '.' then none else some imp))
  | .operator op _ out, [x] => pure (.define (.var out) (E.mk (if up then .unopP op else .unop op) [x]) false false false)
  | .operator op _ out, [x, y] => pure (.define (.var out) (E.mk (.binop op) [x, y]) false false false)
  | .assert_ _ _ msg out, [x, cnd] => pure (.effect (.assert_ cnd msg [x]) out x)
  | .builtin name out, _ => pure (.define (.var out) (.lit name) false false false)
  | .cast _ out, [x] => pure (.define out x false false true)
  | .constant str out, _ => pure (.constant out str)
  | _, _ => throw "NotImplementedError: operator arity"

theorem mapM_top (cache : List (E × E)) (l : List E) : (l.map Opd.top).mapM (Opd.conv cache) = l.mapM (convTop cache) :=
  List.mapM_map

theorem mapM_kw (cache : List (E × E)) (kw : List (String × E)) :
    (kw.map fun p => Opd.kw p.1 p.2).mapM (Opd.conv cache) = convKw cache kw :=
  List.mapM_map

theorem ruleOf_eq (g : Graph) (up : Bool) (cache : List (E × E)) (a : App) :
    ruleOf g up cache a = a.opds.mapM (Opd.conv cache) >>= ruleFrom g up a := by
  cases a with
  | operator op operands out =>
    simp only [ruleOf, App.opds, mapM_top]
    congr 1
    funext os
    rcases os with _ | ⟨x, _ | ⟨y, _ | _⟩⟩ <;> rfl
  | _ =>
    simp only [ruleOf, App.opds, ruleFrom, List.mapM_cons, List.mapM_append, List.mapM_nil, mapM_top, mapM_kw, Opd.conv,
      bind_assoc, pure_bind] <;> rfl

/-- Rules that always emit a statement: non-inlinable definitions (calls of opaque callables), in-place calls,
item updates, asserts, imports, constants. -/
def Rule.isStmt : Rule → Bool
  | .define _ _ _ noInline _ => noInline
  | .effect .. => true
  | .import_ .. => true
  | .constant .. => true

/-- Applications for which the generator always emits a statement. -/
def App.isStmtKind (g : Graph) : App → Bool
  | .call fn _ _ _ _ => !isAllowInline g fn
  | .callInplace .. => true
  | .updateitem .. => true
  | .assert_ .. => true
  | .import_ .. => true
  | .constant .. => true
  | _ => false

def Stmt.isEvent : Stmt → Bool
  | .exprStmt .. | .update .. | .assert_ .. => true
  | _ => false

theorem event_outs (s : Stmt) (h : s.isEvent = true) : s.outputVars = [] := by
  cases s <;> simp [Stmt.isEvent] at h <;> rfl

/-- What `ruleOf` guarantees about the rule it returns. -/
def Rule.WF : Rule → Prop
  | .define _ _ eff ni _ => eff = true → ni = true
  | .effect s _ _ => s.isEvent = true
  | _ => True

theorem ruleOf_shape (g : Graph) (up : Bool) (cache : List (E × E)) (a : App) (r : Rule)
    (h : ruleOf g up cache a = .ok r) : r.WF ∧ (a.isStmtKind g = true → r.isStmt = true) := by
  rw [ruleOf_eq] at h
  obtain ⟨es, -, h⟩ := bind_ok.1 h
  unfold ruleFrom at h
  split at h <;> cases h <;> simp [Rule.WF, Stmt.isEvent, Rule.isStmt, App.isStmtKind]

theorem ruleOf_wf (g : Graph) (up : Bool) (cache : List (E × E)) (a : App) (rule : Rule)
    (h : ruleOf g up cache a = .ok rule) : rule.WF := (ruleOf_shape g up cache a rule h).1

def Rule.mapForce (φ : Bool → Bool) : Rule → Rule
  | .define out e eff ni f => .define out e eff ni (φ f)
  | r => r

theorem patchForce_eq (g : Graph) (cfg : UCfg) (a : App) : ∃ φ : Bool → Bool, ∀ r, patchForce g cfg a r = r.mapForce φ := by
  unfold patchForce
  split
  · cases a
    case getattr obj key out => exact ⟨fun f => f || isModuleChain g (g.apps.length + 1) obj, fun r => by cases r <;> rfl⟩
    case builtin name out => exact ⟨fun _ => true, fun r => by cases r <;> rfl⟩
    all_goals exact ⟨id, fun r => by cases r <;> rfl⟩
  · exact ⟨id, fun r => by cases r <;> rfl⟩

theorem patchForce_isStmt (g : Graph) (cfg : UCfg) (a : App) (r : Rule) : (patchForce g cfg a r).isStmt = r.isStmt := by
  obtain ⟨φ, hφ⟩ := patchForce_eq g cfg a
  rw [hφ]
  cases r <;> rfl

theorem patchForce_wf (g : Graph) (cfg : UCfg) (a : App) (r : Rule) (h : r.WF) : (patchForce g cfg a r).WF := by
  obtain ⟨φ, hφ⟩ := patchForce_eq g cfg a
  rw [hφ]
  cases r <;> exact h

/-! ### What one step appends to the body -/

theorem applyRule_new (c : Ctx) (st st' : GState) (r : Rule) (new : List (Nat × Stmt))
    (h : applyRule c st r = .ok (st', new)) :
    st'.body = st.body ∧ new.length ≤ 1 ∧ (r.isStmt = true → new.length = 1) := by
  cases r with
  | define out e eff ni fi =>
    rcases define_ok h with ⟨rfl, rfl, _, -, rfl⟩ | ⟨-, _, _, -, -, rfl, rfl⟩
    · exact ⟨rfl, Nat.zero_le 1, nofun⟩
    · exact ⟨rfl, Nat.le_refl 1, fun _ => rfl⟩
  | effect s out e =>
    obtain ⟨b, _, -, -, rfl, rfl⟩ := applyRule_effect_ok h
    exact ⟨rfl, Nat.le_refl 1, fun _ => rfl⟩
  | import_ out from_ imp hint =>
    obtain ⟨_, -, -, rfl, rfl⟩ := applyRule_import_ok h
    exact ⟨rfl, Nat.le_refl 1, fun _ => rfl⟩
  | constant out str =>
    obtain ⟨_, _, -, -, rfl, rfl⟩ := applyRule_constant_ok h
    exact ⟨rfl, Nat.le_refl 1, fun _ => rfl⟩

theorem applyRule_program (c : Ctx) (st st' : GState) (r : Rule) (new : List (Nat × Stmt))
    (h : applyRule c st r = .ok (st', new)) (src : Option Nat) :
    (st'.push src new).program = st.program ++ new.map (·.2) := by
  rw [program_push, GState.program, (applyRule_new c st st' r new h).1, GState.program]

theorem emitVisit_app (c : Ctx) (st st' : GState) (i : Nat) (h : emitVisit c st (.app i) = .ok st') :
    ∃ a, c.g.apps[i]? = some a ∧ ∃ new : List (Nat × Stmt), st'.body = st.body ++ tagWith (some i) new ∧ new.length ≤ 1 ∧
      (a.isStmtKind c.g = true → new.length = 1) := by
  obtain ⟨a, rule, s1, new, ha, hr, hp, rfl⟩ := emitVisit_app_ok h
  obtain ⟨hb, h1, h2⟩ := applyRule_new c st s1 _ new hp
  exact ⟨a, ha, new, by rw [push_body, hb], h1,
    fun hk => h2 (by rw [patchForce_isStmt]; exact (ruleOf_shape _ _ _ a rule hr).2 hk)⟩

theorem emitVisit_new (c : Ctx) (st st' : GState) (v : Visit) (h : emitVisit c st v = .ok st') :
    ∃ new, st'.body = st.body ++ tagWith v.src new := by
  cases v with
  | app i =>
    obtain ⟨_, -, new, hb, -⟩ := emitVisit_app c st st' i h
    exact ⟨new, hb⟩
  | enter gi =>
    obtain ⟨sg, b, cache', -, -, -, hf⟩ := emitVisit_enter_ok h
    have hparams : ∀ s s', sg.inputs.foldlM (enterParam c) s = .ok s' → ∃ new, s'.body = s.body ++ tagWith none new := by
      refine foldlM_ok_rel (enterParam c) _ (fun s => ⟨[], by simp [tagWith]⟩) ?_ ?_ sg.inputs
      · rintro s₁ s₂ s₃ ⟨n₁, e₁⟩ ⟨n₂, e₂⟩
        exact ⟨n₁ ++ n₂, by rw [e₂, e₁]; simp [tagWith]⟩
      · intro s t s' hs
        obtain ⟨b, _, -, -, rfl⟩ := enterParam_ok hs
        exact ⟨_, push_body _ _ _⟩
    -- the parameters start from the state with the function variable, whose body is that of `st`
    exact (hparams _ _ hf :)
  | exit gi =>
    obtain ⟨sg, outer, inner, fv, params, r, -, -, -, -, -, rfl⟩ := emitVisit_exit_ok h
    exact ⟨_, push_body _ _ _⟩

theorem emitAll_body (c : Ctx) (order : List Visit) : ∀ (st st' : GState), emitAll c order st = .ok st' →
    ∃ new, st'.body = st.body ++ new :=
  foldlM_ok_rel (emitVisit c) (fun st st' => ∃ new, st'.body = st.body ++ new) (fun _ => ⟨[], by simp⟩)
    (by rintro _ _ _ ⟨n₁, e₁⟩ ⟨n₂, e₂⟩; exact ⟨n₁ ++ n₂, by rw [e₂, e₁, List.append_assoc]⟩)
    (fun st v st' h => let ⟨new, e⟩ := emitVisit_new c st st' v h; ⟨_, e⟩) order

/-- What one traversal step adds to the sources: nothing, or the index of the visited application (exactly
once if the application is of a kind that always yields a statement). -/
theorem emitVisit_srcs (c : Ctx) (st st' : GState) (v : Visit) (h : emitVisit c st v = .ok st') :
    ∃ l : List Nat, st'.srcs = st.srcs ++ l ∧ l.Sublist v.src.toList ∧
      (∀ i a, v = .app i → c.g.apps[i]? = some a → a.isStmtKind c.g = true → l = [i]) := by
  cases v with
  | app i =>
    obtain ⟨a, ha, new, hb, hle, hk⟩ := emitVisit_app c st st' i h
    refine ⟨List.replicate new.length i, ?_, ?_, ?_⟩
    · rw [(body_append hb).2.2, srcs_tagWith_some]
    · exact (List.replicate_sublist_replicate i).2 hle
    · intro i' a' hv ha' hkind
      cases hv
      cases ha.symm.trans ha'
      rw [hk hkind]
      rfl
  | enter gi =>
    obtain ⟨new, hb⟩ : ∃ new, st'.body = st.body ++ tagWith none new := emitVisit_new c st st' (.enter gi) h
    exact ⟨[], by rw [(body_append hb).2.2, srcs_tagWith_none], by simp, by intro i a hv; cases hv⟩
  | exit gi =>
    obtain ⟨new, hb⟩ : ∃ new, st'.body = st.body ++ tagWith none new := emitVisit_new c st st' (.exit gi) h
    exact ⟨[], by rw [(body_append hb).2.2, srcs_tagWith_none], by simp, by intro i a hv; cases hv⟩

/-- The sources of the emitted statements follow the traversal order: they form a sublist of the visited applications. -/
theorem emitAll_order (c : Ctx) (order : List Visit) : ∀ (st st' : GState), emitAll c order st = .ok st' →
    ∃ l : List Nat, st'.srcs = st.srcs ++ l ∧ l.Sublist (order.filterMap Visit.src) := by
  induction order with
  | nil =>
    intro st st' h
    cases h
    exact ⟨[], by simp, by simp⟩
  | cons v rest ih =>
    intro st st' h
    obtain ⟨s1, h1, h2⟩ := emitAll_cons c v rest st st' h
    obtain ⟨l1, e1, sub1, _⟩ := emitVisit_srcs c st s1 v h1
    obtain ⟨l2, e2, sub2⟩ := ih s1 st' h2
    refine ⟨l1 ++ l2, by rw [e2, e1, List.append_assoc], ?_⟩
    have : (v :: rest).filterMap Visit.src = v.src.toList ++ rest.filterMap Visit.src := by
      cases hv : v.src <;> simp [hv]
    rw [this]
    exact List.Sublist.append sub1 sub2

/-- Along a traversal without repetitions, every application of a kind that must become a statement has exactly one
statement if it is visited, and none otherwise. -/
theorem emitAll_once (c : Ctx) (order : List Visit) : ∀ (st st' : GState), emitAll c order st = .ok st' →
    order.Nodup → ∀ (i : Nat) (a : App), c.g.apps[i]? = some a → a.isStmtKind c.g = true →
    st'.srcs.count i = st.srcs.count i + (if Visit.app i ∈ order then 1 else 0) := by
  induction order with
  | nil =>
    intro st st' h _ i a _ _
    cases h
    simp
  | cons v rest ih =>
    intro st st' h hnd i a ha hk
    obtain ⟨s1, h1, h2⟩ := emitAll_cons c v rest st st' h
    obtain ⟨l1, e1, sub1, hone⟩ := emitVisit_srcs c st s1 v h1
    have hnd' := List.nodup_cons.1 hnd
    rw [ih s1 st' h2 hnd'.2 i a ha hk, e1, List.count_append]
    by_cases hv : v = .app i
    · subst hv
      rw [hone i a rfl ha hk]
      have : Visit.app i ∉ rest := hnd'.1
      simp [this]
    · have hl : l1.count i = 0 := by
        apply List.count_eq_zero.2
        intro hmem
        have := sub1.subset hmem
        cases v with
        | app j =>
          simp only [Visit.src, Option.toList, List.mem_singleton] at this
          exact hv (by rw [this])
        | enter g => simp [Visit.src] at this
        | exit g => simp [Visit.src] at this
      have hne : (Visit.app i ∈ v :: rest) ↔ (Visit.app i ∈ rest) := by
        simp only [List.mem_cons]
        constructor
        · rintro (h | h)
          · exact absurd h.symm hv
          · exact h
        · exact Or.inr
      simp only [hl, hne]
      omega

end Einx.Compile
