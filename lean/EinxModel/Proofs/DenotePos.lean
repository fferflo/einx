import EinxModel.Order.Rename
import EinxModel.Denote.Fun
import EinxModel.Proofs.DenoteViews
import EinxModel.Proofs.OptionList
import EinxModel.Proofs.IR
/-! A position reads the assignment only through `Assign.get` at the names of the leaves.  `pos_transport` says exactly
this: it relates `(d, σ)` and `(d.rename ρ, τ)` whenever `τ` reads at `ρ n` what `σ` reads at `n` on the leaves of `d`
(`Ren`), and asks nothing of `ρ`.  `Ren` is met with `ρ = id` (congruence), with `ρ` injective and `τ = σ.rename ρ`, and
with `ρ` injective on the names in use (C16). -/
namespace Einx.Denote
open Einx Einx.IR Einx.Order.Fresh
open Einx.Update (mapOpt mapM_eq_mapOpt)

theorem position_eq (v : List Dim) (σ : Assign) : position v σ = mapOpt (Dim.pos σ) v :=
  mapM_eq_mapOpt _ _

theorem position_nil (σ : Assign) : position [] σ = some [] := by simp [position_eq, mapOpt]

theorem position_cons (d : Dim) (v : List Dim) (σ : Assign) :
    position (d :: v) σ = match d.pos σ, position v σ with
      | some p, some ps => some (p :: ps)
      | _, _ => none := by
  simp only [position_eq, mapOpt]
  cases d.pos σ <;> cases mapOpt (Dim.pos σ) v <;> rfl

mutual
theorem renameDim_eq (ρ : String → String) : ∀ d : Dim, renameDim ρ d = d.rename ρ
  | .axis _ => rfl
  | .flat ds => by rw [renameDim, Dim.rename, renameDims_eq ρ ds]
  | .concat ds => by rw [renameDim, Dim.rename, renameDims_eq ρ ds]
  | .off o d t => by rw [renameDim, Dim.rename, renameDim_eq ρ d]
theorem renameDims_eq (ρ : String → String) : ∀ ds : List Dim, renameDims ρ ds = Dim.renameL ρ ds
  | [] => rfl
  | d :: ds => by rw [renameDims, Dim.renameL, renameDim_eq ρ d, renameDims_eq ρ ds]
end

theorem renameAssign_eq (ρ : String → String) (σ : Assign) : renameAssign ρ σ = Assign.rename ρ σ := rfl

theorem rename_id (d : Dim) : d.rename id = d := by
  induction d using Dim.induct with
  | axis | nil => rfl
  | concat ds ih => simp only [Dim.rename, Dim.flat.injEq] at ih; rw [Dim.rename, ih]
  | off o d t ih => rw [Dim.rename, ih]
  | cons d ds ihd ihds => simp only [Dim.rename, Dim.flat.injEq, Dim.renameL] at ihds ⊢; rw [ihd, ihds]

theorem renameL_id (ds : List Dim) : Dim.renameL id ds = ds := Dim.flat.inj (rename_id (.flat ds))

theorem renameL_eq_map (ρ : String → String) (ds : List Dim) : Dim.renameL ρ ds = ds.map (Dim.rename ρ) := by
  induction ds with
  | nil => simp [Dim.renameL]
  | cons d ds ih => simp [Dim.renameL, ih]

mutual
theorem size_rename (ρ : String → String) : ∀ d : Dim, (d.rename ρ).size = d.size
  | .axis _ => rfl
  | .flat ds => sizeProd_rename ρ ds
  | .concat ds => sizeSum_rename ρ ds
  | .off _ _ _ => rfl
theorem sizeProd_rename (ρ : String → String) : ∀ ds : List Dim, Dim.sizeProd (Dim.renameL ρ ds) = Dim.sizeProd ds
  | [] => rfl
  | d :: ds => by rw [Dim.renameL, Dim.sizeProd, Dim.sizeProd, size_rename ρ d, sizeProd_rename ρ ds]
theorem sizeSum_rename (ρ : String → String) : ∀ ds : List Dim, Dim.sizeSum (Dim.renameL ρ ds) = Dim.sizeSum ds
  | [] => rfl
  | d :: ds => by rw [Dim.renameL, Dim.sizeSum, Dim.sizeSum, size_rename ρ d, sizeSum_rename ρ ds]
end

theorem viewShape_rename (ρ : String → String) (v : List Dim) : viewShape (Dim.renameL ρ v) = viewShape v := by
  simp [viewShape, renameL_eq_map, Function.comp_def, size_rename]

def Ren (ρ : String → String) (σ τ : Assign) (ls : List Leaf) : Prop :=
  ∀ l ∈ ls, Assign.get τ (ρ l.name) = Assign.get σ l.name

theorem Ren.append {ρ : String → String} {σ τ : Assign} {ls ms : List Leaf} (h : Ren ρ σ τ (ls ++ ms)) :
    Ren ρ σ τ ls ∧ Ren ρ σ τ ms :=
  ⟨fun l hl => h l (List.mem_append_left _ hl), fun l hl => h l (List.mem_append_right _ hl)⟩

mutual
theorem pos_transport {ρ : String → String} {σ τ : Assign} :
    ∀ d : Dim, Ren ρ σ τ d.leaves → (d.rename ρ).pos τ = d.pos σ
  | .axis l, h => h l (List.mem_singleton_self l)
  | .flat ds, h => posFlat_transport ds h 0
  | .concat _, _ => rfl
  | .off o d t, h => by rw [Dim.rename, Dim.pos, Dim.pos, pos_transport d h]
theorem posFlat_transport {ρ : String → String} {σ τ : Assign} :
    ∀ (ds : List Dim), Ren ρ σ τ (Dim.leavesL ds) → ∀ acc, Dim.posFlat τ (Dim.renameL ρ ds) acc = Dim.posFlat σ ds acc
  | [], _, _ => rfl
  | d :: ds, h, acc => by
    simp only [Dim.leavesL] at h
    simp only [Dim.renameL, Dim.posFlat, pos_transport d h.append.1, size_rename]
    cases d.pos σ with
    | none => rfl
    | some p => exact posFlat_transport ds h.append.2 _
end

theorem position_transport {ρ : String → String} {σ τ : Assign} : ∀ (v : List Dim), Ren ρ σ τ (Dim.leavesL v) →
    position (Dim.renameL ρ v) τ = position v σ
  | [], _ => rfl
  | d :: v, h => by
    simp only [Dim.leavesL] at h
    have ih : List.mapM (Dim.pos τ) (Dim.renameL ρ v) = List.mapM (Dim.pos σ) v := position_transport v h.append.2
    simp only [position, Dim.renameL, List.mapM_cons, pos_transport d h.append.1, ih]

theorem cellAt_transport {ρ : String → String} {σ τ : Assign} (v : List Dim) (s : List Nat) (i : Nat)
    (h : Ren ρ σ τ (Dim.leavesL v)) : cellAt (Dim.renameL ρ v) s i τ = cellAt v s i σ := by
  simp only [cellAt, flatPos, position_transport v h]

/-- Of `ρ` only this is used: on the keys of `σ` the test `ρ k == ρ n` decides the same as `k == n`. -/
theorem get_rename_on (ρ : String → String) (σ : Assign) (n : String) (hinj : ∀ kv ∈ σ, ρ kv.1 = ρ n → kv.1 = n) :
    (Assign.rename ρ σ).get (ρ n) = σ.get n := by
  have hk : ∀ kv ∈ σ, (ρ kv.1 == ρ n) = (kv.1 == n) := fun kv hkv => Bool.eq_iff_iff.mpr <| by
    simp only [beq_iff_eq]
    exact ⟨hinj kv hkv, congrArg ρ⟩
  simp only [Assign.get, Assign.rename, List.find?_map, Option.map_map, Function.comp_def]
  rw [← List.head?_filter, ← List.head?_filter, List.filter_congr hk]

theorem mem_dimNames (d : Dim) : ∀ l ∈ d.leaves, l.name ∈ dimNames d := by
  induction d using Dim.induct with
  | axis l => intro l' h; rw [List.mem_singleton.mp h]; exact List.mem_singleton_self _
  | concat | nil => intro l h; cases h
  | off o d t ih => exact ih
  | cons d ds ihd ihds =>
    intro l h
    simp only [Dim.leaves, Dim.leavesL, dimNames, dimsNames, List.mem_append] at h ihds ⊢
    exact h.imp (ihd l) (ihds l)

theorem ren_rename_on {ρ : String → String} {σ : Assign} {ls : List Leaf} {N : List String}
    (h : InjOn ρ (N ++ σ.map (·.1))) (hN : ∀ l ∈ ls, l.name ∈ N) : Ren ρ σ (Assign.rename ρ σ) ls :=
  fun l hl => get_rename_on ρ σ l.name fun _ hkv =>
    h _ (List.mem_append_right _ (List.mem_map_of_mem hkv)) _ (List.mem_append_left _ (hN l hl))

theorem ren_rename {ρ : String → String} (hρ : Function.Injective ρ) (σ : Assign) (ls : List Leaf) :
    Ren ρ σ (Assign.rename ρ σ) ls :=
  fun l _ => get_rename_on ρ σ l.name fun _ _ e => hρ e

theorem isPermOf_spec {perm : List Nat} {n : Nat} (h : isPermOf perm n = true) :
    isPerm perm n = true ∧ perm.length = n ∧ (∀ a, a < n → a ∈ perm) ∧ (∀ a ∈ perm, a < n) := by
  simp only [isPermOf, isPerm, Bool.and_eq_true, beq_iff_eq, List.all_eq_true, List.mem_range,
    List.contains_iff_mem, decide_eq_true_eq] at h
  refine ⟨?_, h.1.1, h.1.2, h.2⟩
  simp only [isPerm, Bool.and_eq_true, beq_iff_eq, List.all_eq_true, List.mem_range, List.contains_iff_mem]
  exact h.1

theorem isPermOf_permOK {perm : List Nat} {n : Nat} (h : isPermOf perm n = true) : PermOK perm n :=
  isPerm_iff.1 (isPermOf_spec h).1

end Einx.Denote
