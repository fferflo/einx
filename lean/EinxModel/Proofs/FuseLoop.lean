import EinxModel.Proofs.FuseSafe
/-!
C04, name re-use: the invariant of the `fuse` loop (`fuseBlock`, `fuseAll` of `Compile/Gen.lean`).

Groups of variables are chains `v₁ → v₂ → …` in which the statement that defines `vᵢ₊₁` is the last statement that has `vᵢ`
among its inputs.  The invariant `FInv` records, for the statement the loop is at,
  * `ord`  : two variables of one group are ordered by `Before` (defined earlier and dead when the other is defined),
  * `defd` : the members of non-trivial groups of the current block are defined by statements the loop has passed,
  * `blk`  : the members of a group belong to one block,
  * `le`   : non-trivial groups only exist in the blocks handled so far.
It is kept (`fuseBlock_block`) for an arbitrary list `body` of statements with their blocks, in emission order, that defines every
variable at most once, reads no variable before its definition, and is seen completely by the loop (`hR`: every statement that has
inputs is among the numbered statements `all`); `Proofs/FuseAll.lean` runs it over the blocks of a generator state that is
`Emitted`, which the output of `compile` is (`compile_emitted`).
-/
namespace Einx.Compile

/-! ### Name groups -/

/-- The representative of the name group of a variable. -/
def ρOf (grp : List Nat) (v : Nat) : Nat := grp[v]?.getD v

theorem fuseGroups_length (grp : List Nat) (v o : Nat) : (fuseGroups grp v o).length = grp.length := by
  unfold fuseGroups
  dsimp only
  split <;> simp

theorem fuseGroups_rng (grp : List Nat) (h : ∀ x ∈ grp, x < grp.length) (v o : Nat) (hv : v < grp.length) :
    ∀ x ∈ fuseGroups grp v o, x < (fuseGroups grp v o).length := by
  rw [fuseGroups_length]
  unfold fuseGroups
  dsimp only
  split
  · exact h
  · intro x hx
    obtain ⟨y, hy, rfl⟩ := List.mem_map.1 hx
    split
    · have : grp[v]?.getD v = grp[v] := by simp [hv]
      rw [this]
      exact h _ (List.getElem_mem hv)
    · exact h y hy

theorem ρOf_lt (grp : List Nat) (h : ∀ x ∈ grp, x < grp.length) (w : Nat) (hw : w < grp.length) : ρOf grp w < grp.length := by
  have : ρOf grp w = grp[w] := by simp [ρOf, hw]
  rw [this]
  exact h _ (List.getElem_mem hw)

/-- `fuse(v, o)` renames the group of `o` to the group of `v`. -/
theorem ρOf_fuseGroups (grp : List Nat) (h : ∀ x ∈ grp, x < grp.length) (v o : Nat) (ho : o < grp.length) (w : Nat) :
    ρOf (fuseGroups grp v o) w = if ρOf grp w = ρOf grp o then ρOf grp v else ρOf grp w := by
  unfold fuseGroups
  dsimp only
  by_cases hg : (grp[v]?.getD v == grp[o]?.getD o) = true
  · rw [if_pos hg]
    have hg' : ρOf grp v = ρOf grp o := by simpa [ρOf] using hg
    split
    · rename_i hw; rw [hg', hw]
    · rfl
  · rw [if_neg hg]
    by_cases hw : w < grp.length
    · have e1 : ρOf grp w = grp[w] := by simp [ρOf, hw]
      simp only [ρOf, List.getElem?_map, List.getElem?_eq_getElem hw, Option.map_some, Option.getD_some] at e1 ⊢
      by_cases hx : grp[w] = grp[o]?.getD o
      · simp [hx]
      · simp [hx]
    · have hlt := ρOf_lt grp h o ho
      have e1 : ρOf grp w = w := by simp [ρOf, Nat.le_of_not_lt hw]
      have e2 : ρOf (grp.map (fun x => if (x == grp[o]?.getD o) = true then grp[v]?.getD v else x)) w = w := by
        simp [ρOf, Nat.le_of_not_lt hw]
      have hne : ¬ (ρOf grp w = ρOf grp o) := by
        rw [e1]; intro hc; rw [hc] at hw; exact hw hlt
      rw [if_neg hne]
      rw [e1]
      exact e2

theorem ρOf_range (n w : Nat) : ρOf (List.range n) w = w := by
  by_cases hw : w < n
  · simp [ρOf, hw]
  · simp [ρOf, Nat.le_of_not_lt hw]

/-! ### One step of the loop -/

def reuseV (vars : List VarInfo) (v : Nat) : Bool := (vars[v]?.map (·.reuse)).getD false
def blockOfV (vars : List VarInfo) (v : Nat) : Nat := (vars[v]?.map (·.block)).getD 0

theorem reuseV_lt (vars : List VarInfo) (v : Nat) (h : reuseV vars v = true) : v < vars.length := by
  by_cases hv : v < vars.length
  · exact hv
  · simp [reuseV, Nat.le_of_not_lt hv] at h

/-- The body of the loop over the statements of a block: the new groups after the statement `s`. -/
def fuseStep (fc : FCfg) (vars : List VarInfo) (deps : Nat → List (Nat × Nat)) (seen : List Nat) (s : Stmt) (grp : List Nat) :
    List Nat :=
  let reuse (v : Nat) : Bool := (vars[v]?.map (·.reuse)).getD false
  let blockOf (v : Nat) : Nat := (vars[v]?.map (·.block)).getD 0
  let outs := (dedupeNat s.outputVars).filter reuse
  match outs with
  | [o] =>
    let ins := (dedupeNat s.inputVars).filter reuse
    let ins := if fc.checkBlock then ins.filter (fun v => (deps v).all (fun d => d.1 == blockOf v)) else ins
    let ins := if fc.checkLater then ins.filter (fun v => (deps v).all (fun d => seen.contains d.2)) else ins
    match ins with
    | [v] => if blockOf v == blockOf o then fuseGroups grp v o else grp
    | _ => grp
  | _ => grp

theorem fuseBlock_cons (fc : FCfg) (vars : List VarInfo) (deps : Nat → List (Nat × Nat)) (sid : Nat) (s : Stmt)
    (rest : List (Nat × Stmt)) (seen grp : List Nat) :
    fuseBlock fc vars deps ((sid, s) :: rest) seen grp =
      fuseBlock fc vars deps rest (sid :: seen) (fuseStep fc vars deps (sid :: seen) s grp) := by
  rfl

theorem mem_dedupeNat (l : List Nat) (x : Nat) (h : x ∈ dedupeNat l) : x ∈ l := by
  have gen : ∀ (l acc : List Nat), x ∈ l.foldl (fun acc x => if acc.contains x then acc else acc ++ [x]) acc → x ∈ acc ∨ x ∈ l := by
    intro l
    induction l with
    | nil => intro acc h; exact Or.inl h
    | cons y ys ih =>
      intro acc h
      simp only [List.foldl_cons] at h
      rcases ih _ h with h1 | h1
      · split at h1
        · exact Or.inl h1
        · rcases List.mem_append.1 h1 with h2 | h2
          · exact Or.inl h2
          · exact Or.inr (by simp at h2; simp [h2])
      · exact Or.inr (List.mem_cons_of_mem _ h1)
  rcases gen l [] h with h1 | h1
  · simp at h1
  · exact h1

theorem fuseStep_cases (fc : FCfg) (hL : fc.checkLater = true) (hB : fc.checkBlock = true) (vars : List VarInfo)
    (deps : Nat → List (Nat × Nat)) (seen : List Nat) (s : Stmt) (grp : List Nat) :
    fuseStep fc vars deps seen s grp = grp ∨
    ∃ v o, o ∈ s.outputVars ∧ v ∈ s.inputVars ∧ reuseV vars v = true ∧ reuseV vars o = true ∧
      (∀ d ∈ deps v, d.1 = blockOfV vars v) ∧ (∀ d ∈ deps v, d.2 ∈ seen) ∧ blockOfV vars v = blockOfV vars o ∧
      fuseStep fc vars deps seen s grp = fuseGroups grp v o := by
  unfold fuseStep
  simp only [hL, hB, if_true]
  split
  · rename_i o houts
    split
    · rename_i v hins
      split
      · rename_i hblk
        have ho : o ∈ [o] := by simp
        rw [← houts] at ho
        have ho := List.mem_filter.1 ho
        have hv : v ∈ [v] := by simp
        rw [← hins] at hv
        have h1 := List.mem_filter.1 hv
        have h2 := List.mem_filter.1 h1.1
        have h3 := List.mem_filter.1 h2.1
        refine Or.inr ⟨v, o, mem_dedupeNat _ _ ho.1, mem_dedupeNat _ _ h3.1, h3.2, ho.2, ?_, ?_,
          by simpa [blockOfV] using hblk, rfl⟩
        · intro d hd
          simpa [blockOfV] using List.all_eq_true.1 h2.2 d hd
        · intro d hd
          simpa using List.all_eq_true.1 h1.2 d hd
      · exact Or.inl rfl
    · exact Or.inl rfl
  · exact Or.inl rfl

theorem fuseStep_noinputs (fc : FCfg) (vars : List VarInfo) (deps : Nat → List (Nat × Nat)) (seen : List Nat) (s : Stmt)
    (grp : List Nat) (h : s.inputVars = []) : fuseStep fc vars deps seen s grp = grp := by
  unfold fuseStep
  simp only [h]
  split
  · have e : dedupeNat [] = [] := rfl
    simp only [e, List.filter_nil]
    cases fc.checkBlock <;> cases fc.checkLater <;> simp
  · rfl

theorem fuseBlock_noinputs (fc : FCfg) (vars : List VarInfo) (deps : Nat → List (Nat × Nat)) :
    ∀ (l1 l2 : List (Nat × Stmt)) (seen grp : List Nat), (∀ q ∈ l1, q.2.inputVars = []) →
    fuseBlock fc vars deps (l1 ++ l2) seen grp = fuseBlock fc vars deps l2 ((l1.map (·.1)).reverse ++ seen) grp
  | [], l2, seen, grp, _ => by simp
  | (sid, s) :: l1, l2, seen, grp, h => by
    rw [List.cons_append, fuseBlock_cons, fuseStep_noinputs _ _ _ _ _ _ (h (sid, s) (by simp)),
      fuseBlock_noinputs fc vars deps l1 l2 (sid :: seen) grp (fun q hq => h q (List.mem_cons_of_mem _ hq))]
    simp

/-! ### The invariant -/

/-- `body`: the emitted statements with their blocks, in emission order; `pre`: the statements the loop has passed in the current
block `b`.  The last three fields are only needed for the text-order statement (`Proofs/FuseText.lean`): members of non-trivial
groups allow re-use; all readers of a non-last member are in its block; a non-first member is defined by an assignment in its block. -/
structure FInv (body : List (Nat × Stmt)) (blockOf : Nat → Nat) (reuse : Nat → Bool) (b : Nat) (pre : List Stmt)
    (grp : List Nat) : Prop where
  rng : ∀ x ∈ grp, x < grp.length
  ord : ∀ w1 w2, w1 ≠ w2 → ρOf grp w1 = ρOf grp w2 → Before (body.map (·.2)) w1 w2 ∨ Before (body.map (·.2)) w2 w1
  defd : ∀ w1 w2, w1 ≠ w2 → ρOf grp w1 = ρOf grp w2 → blockOf w1 = b → w1 ∈ outsOf pre
  blk : ∀ w1 w2, ρOf grp w1 = ρOf grp w2 → blockOf w1 = blockOf w2
  le : ∀ w1 w2, w1 ≠ w2 → ρOf grp w1 = ρOf grp w2 → blockOf w1 ≤ b
  ru : ∀ w1 w2, w1 ≠ w2 → ρOf grp w1 = ρOf grp w2 → reuse w1 = true
  rd : ∀ w1 w2, w1 ≠ w2 → ρOf grp w1 = ρOf grp w2 → Before (body.map (·.2)) w1 w2 →
    ∀ y ∈ body, w1 ∈ y.2.inputVars → y.1 = blockOf w1
  asg : ∀ w1 w2, w1 ≠ w2 → ρOf grp w1 = ρOf grp w2 → Before (body.map (·.2)) w1 w2 →
    ∃ bpre rhs eff brest, body = bpre ++ (blockOf w2, Stmt.assign w2 rhs eff) :: brest

theorem FInv.mono {body : List (Nat × Stmt)} {blockOf : Nat → Nat} {reuse : Nat → Bool} {b : Nat} {pre pre' : List Stmt}
    {grp : List Nat} (h : FInv body blockOf reuse b pre grp) (hsub : ∀ w ∈ outsOf pre, w ∈ outsOf pre') :
    FInv body blockOf reuse b pre' grp :=
  ⟨h.rng, h.ord, fun w1 w2 hne hs hb => hsub _ (h.defd w1 w2 hne hs hb), h.blk, h.le, h.ru, h.rd, h.asg⟩

/-- The next block: no variable of it is in a non-trivial group yet. -/
theorem FInv.next {body : List (Nat × Stmt)} {blockOf : Nat → Nat} {reuse : Nat → Bool} {b : Nat} {pre : List Stmt}
    {grp : List Nat} (h : FInv body blockOf reuse b pre grp) : FInv body blockOf reuse (b + 1) [] grp :=
  ⟨h.rng, h.ord, fun w1 w2 hne hs hb => by have := h.le w1 w2 hne hs; omega, h.blk,
   fun w1 w2 hne hs => Nat.le_succ_of_le (h.le w1 w2 hne hs), h.ru, h.rd, h.asg⟩

theorem FInv.init (body : List (Nat × Stmt)) (blockOf : Nat → Nat) (reuse : Nat → Bool) (n : Nat) :
    FInv body blockOf reuse 0 [] (List.range n) := by
  have h : ∀ {w1 w2}, w1 ≠ w2 → ρOf (List.range n) w1 ≠ ρOf (List.range n) w2 := fun hne hs => by
    rw [ρOf_range, ρOf_range] at hs; exact hne hs
  exact ⟨fun x hx => by simpa using hx, fun _ _ hne hs => absurd hs (h hne), fun _ _ hne hs => absurd hs (h hne),
    fun w1 w2 hs => by rw [ρOf_range, ρOf_range] at hs; rw [hs], fun _ _ hne hs => absurd hs (h hne),
    fun _ _ hne hs => absurd hs (h hne), fun _ _ hne hs => absurd hs (h hne), fun _ _ hne hs => absurd hs (h hne)⟩

/-- **The merge step**: `o` is defined by the current statement (an assignment in block `b`), `v` is one of its inputs, defined
earlier, with no later reader and all readers in block `b`; both belong to block `b` and allow re-use.  Then merging the group of
`o` into the group of `v` keeps the invariant. -/
theorem FInv.merge {body : List (Nat × Stmt)} {blockOf : Nat → Nat} {reuse : Nat → Bool} {b : Nat} {grp : List Nat}
    {bpre : List (Nat × Stmt)} (hnd : (outsOf (body.map (·.2))).Nodup) (brest : List (Nat × Stmt)) (o : Nat) (rhs : E) (eff : Bool)
    (hbody : body = bpre ++ (b, Stmt.assign o rhs eff) :: brest)
    (hinv : FInv body blockOf reuse b (bpre.map (·.2)) grp) (v : Nat)
    (hv : v < grp.length) (ho : o < grp.length) (hvr : v ∈ rhs.vars) (hvdef : v ∈ outsOf (bpre.map (·.2)))
    (hdead : ∀ r ∈ brest.map (·.2), v ∉ r.inputVars) (hbv : blockOf v = b) (hbo : blockOf o = b)
    (hrv : reuse v = true) (hro : reuse o = true) (hrd : ∀ y ∈ body, v ∈ y.2.inputVars → y.1 = b) :
    FInv body blockOf reuse b (bpre.map (·.2) ++ [Stmt.assign o rhs eff]) (fuseGroups grp v o) := by
  have hP : body.map (·.2) = bpre.map (·.2) ++ Stmt.assign o rhs eff :: brest.map (·.2) := by rw [hbody]; simp
  generalize hPdef : body.map (·.2) = P at hP hnd
  have hordP := hinv.ord
  have hrdP := hinv.rd
  have hasgP := hinv.asg
  rw [hPdef] at hordP hrdP hasgP
  generalize hpre : bpre.map (·.2) = pre at hP hvdef hinv
  generalize hrest : brest.map (·.2) = rest at hP hdead
  have hsub : ∀ w ∈ outsOf pre, w ∈ outsOf (pre ++ [Stmt.assign o rhs eff]) := by
    intro w hw; rw [outsOf_append]; exact List.mem_append_left _ hw
  have ho_out : o ∈ (Stmt.assign o rhs eff).outputVars := by simp [Stmt.outputVars]
  have ho_new : o ∈ outsOf (pre ++ [Stmt.assign o rhs eff]) := by
    rw [outsOf_append]; exact List.mem_append_right _ (by simp [outsOf, Stmt.outputVars])
  by_cases hsame : ρOf grp v = ρOf grp o
  · have : fuseGroups grp v o = grp := by
      unfold fuseGroups
      dsimp only
      rw [if_pos (by simpa [ρOf] using hsame)]
    rw [this]
    exact hinv.mono hsub
  have hnd' := hnd
  rw [hP] at hnd'
  have hdisj := outs_disj pre rest _ hnd'
  have hρ := ρOf_fuseGroups grp hinv.rng v o ho
  have B0 : Before P v o := ⟨pre, _, rest, hP, ho_out, hvdef, hdead⟩
  have hsingle : ∀ a, ρOf grp a = ρOf grp o → a = o := by
    intro a h
    by_cases hao : a = o
    · exact hao
    · exact absurd ho_out (hdisj.1 o (hinv.defd o a (Ne.symm hao) h.symm hbo))
  have hmax : ∀ a, a ≠ v → ρOf grp a = ρOf grp v → Before P a v := by
    intro a hav h
    rcases hordP a v hav h with hb | hb
    · exact hb
    · exfalso
      obtain ⟨p, sa, ra, e, oa, _, dead⟩ := hb
      rcases split_tri pre p _ sa rest ra (hP.symm.trans e) with ⟨_, hs, _⟩ | ⟨mid, _, hr⟩ | ⟨mid, _, hr⟩
      · rw [← hs] at oa
        simp only [Stmt.outputVars, List.mem_singleton] at oa
        rw [oa] at h
        exact hsame h.symm
      · have ha1 : a ∈ outsOf pre := hinv.defd a v hav h (by rw [hinv.blk a v h]; exact hbv)
        refine hdisj.2.1 a ha1 ?_
        rw [hr]
        exact (mem_outsOf _ _).2 ⟨sa, by simp, oa⟩
      · refine dead (Stmt.assign o rhs eff) (by rw [hr]; simp) ?_
        simpa [Stmt.inputVars, Stmt.inputs] using hvr
  -- members of the group of `v` are defined by statements that were passed: `o` is not defined before any of them
  have hgdef : ∀ a, ρOf grp a = ρOf grp v → a ∈ outsOf pre := by
    intro a h
    by_cases hav : a = v
    · rw [hav]; exact hvdef
    · exact hinv.defd a v hav h (by rw [hinv.blk a v h]; exact hbv)
  have hnotBefore : ∀ a, ρOf grp a = ρOf grp v → ¬ Before P o a := by
    intro a h hb
    obtain ⟨p, t, r, e, at_, od, _⟩ := hb
    obtain ⟨mid, _, hr⟩ := split_prefix P hnd pre p rest r _ t o hP e ho_out od
    refine hdisj.2.1 a (hgdef a h) ?_
    rw [hr]
    exact (mem_outsOf _ _).2 ⟨t, by simp, at_⟩
  have hcases : ∀ w1 w2, w1 ≠ w2 → ρOf (fuseGroups grp v o) w1 = ρOf (fuseGroups grp v o) w2 →
      (w1 = o ∧ ρOf grp w2 = ρOf grp v) ∨ (w2 = o ∧ ρOf grp w1 = ρOf grp v) ∨ ρOf grp w1 = ρOf grp w2 := by
    intro w1 w2 hne h
    rw [hρ w1, hρ w2] at h
    by_cases h1 : w1 = o
    · have h2 : ¬ ρOf grp w2 = ρOf grp o := fun hc => hne (h1.trans (hsingle w2 hc).symm)
      rw [h1, if_pos rfl, if_neg h2] at h
      exact Or.inl ⟨h1, h.symm⟩
    · by_cases h2 : w2 = o
      · rw [h2, if_pos rfl, if_neg (fun hc => h1 (hsingle w1 hc))] at h
        exact Or.inr (Or.inl ⟨h2, h⟩)
      · rw [if_neg (fun hc => h1 (hsingle w1 hc)), if_neg (fun hc => h2 (hsingle w2 hc))] at h
        exact Or.inr (Or.inr h)
  have hgrp : ∀ a, ρOf grp a = ρOf grp v → Before P a o := fun a h => by
    by_cases hav : a = v
    · rw [hav]; exact B0
    · exact (hmax a hav h).trans hnd B0
  have hblkv : ∀ a, ρOf grp a = ρOf grp v → blockOf a = b := fun a h => by rw [hinv.blk a v h, hbv]
  refine ⟨fuseGroups_rng grp hinv.rng v o hv, ?_, ?_, ?_, ?_, ?_, ?_, ?_⟩
  · rw [hPdef]
    intro w1 w2 hne h
    rcases hcases w1 w2 hne h with ⟨rfl, h'⟩ | ⟨rfl, h'⟩ | h'
    · exact Or.inr (hgrp w2 h')
    · exact Or.inl (hgrp w1 h')
    · exact hordP w1 w2 hne h'
  · intro w1 w2 hne h hb
    rcases hcases w1 w2 hne h with ⟨rfl, h'⟩ | ⟨rfl, h'⟩ | h'
    · exact ho_new
    · exact hsub _ (hgdef w1 h')
    · exact hsub _ (hinv.defd w1 w2 hne h' hb)
  · intro w1 w2 h
    by_cases hne : w1 = w2
    · rw [hne]
    · rcases hcases w1 w2 hne h with ⟨rfl, h'⟩ | ⟨rfl, h'⟩ | h'
      · rw [hbo, hblkv w2 h']
      · rw [hbo, hblkv w1 h']
      · exact hinv.blk w1 w2 h'
  · intro w1 w2 hne h
    rcases hcases w1 w2 hne h with ⟨rfl, h'⟩ | ⟨rfl, h'⟩ | h'
    · rw [hbo]; exact Nat.le_refl _
    · rw [hblkv w1 h']; exact Nat.le_refl _
    · exact hinv.le w1 w2 hne h'
  · intro w1 w2 hne h
    rcases hcases w1 w2 hne h with ⟨rfl, h'⟩ | ⟨rfl, h'⟩ | h'
    · exact hro
    · by_cases h3 : w1 = v
      · rw [h3]; exact hrv
      · exact hinv.ru w1 v h3 h'
    · exact hinv.ru w1 w2 hne h'
  · rw [hPdef]
    intro w1 w2 hne h hB y hy hin
    rcases hcases w1 w2 hne h with ⟨rfl, h'⟩ | ⟨rfl, h'⟩ | h'
    · exact absurd hB (hnotBefore w2 h')
    · by_cases h3 : w1 = v
      · rw [h3, hbv]; exact hrd y hy (by rw [← h3]; exact hin)
      · exact hrdP w1 v h3 h' (hmax w1 h3 h') y hy hin
    · exact hrdP w1 w2 hne h' hB y hy hin
  · rw [hPdef]
    intro w1 w2 hne h hB
    rcases hcases w1 w2 hne h with ⟨rfl, h'⟩ | ⟨rfl, h'⟩ | h'
    · exact absurd hB (hnotBefore w2 h')
    · exact ⟨bpre, rhs, eff, brest, by rw [hbo]; exact hbody⟩
    · exact hasgP w1 w2 hne h' hB

/-! ### The loop over the statements of a block -/

/-- The statements of block `b` that `GState.block` keeps in emission order. -/
def pb (b : Nat) (x : Nat × Stmt) : Bool := x.1 == b && !x.2.isImport && !x.2.isParam

theorem pb_iff (b : Nat) (x : Nat × Stmt) : pb b x = true ↔ x.1 = b ∧ x.2.isImport = false ∧ x.2.isParam = false := by
  simp [pb, and_assoc]

/-- `variableid_to_dependentstatements`: (block, number) of the numbered statements that have `v` among their inputs. -/
def depsOf (all : List ((Nat × Stmt) × Nat)) (v : Nat) : List (Nat × Nat) :=
  all.filterMap (fun ((b, s), i) => if s.inputVars.contains v then some (b, i) else none)

theorem mem_depsOf (all : List ((Nat × Stmt) × Nat)) (b : Nat) (s : Stmt) (i v : Nat) (h : ((b, s), i) ∈ all)
    (hv : v ∈ s.inputVars) : (b, i) ∈ depsOf all v := by
  unfold depsOf
  exact List.mem_filterMap.2 ⟨((b, s), i), h, by simp [hv]⟩

theorem fuseStep_length (fc : FCfg) (hL : fc.checkLater = true) (hB : fc.checkBlock = true) (vars : List VarInfo)
    (deps : Nat → List (Nat × Nat)) (seen : List Nat) (s : Stmt) (grp : List Nat) :
    (fuseStep fc vars deps seen s grp).length = grp.length := by
  rcases fuseStep_cases fc hL hB vars deps seen s grp with h | ⟨v, o, _, _, _, _, _, _, _, h⟩
  · rw [h]
  · rw [h, fuseGroups_length]

/-- **The loop invariant along a block.**  `body`: all emitted statements with their blocks, in emission order; `rest`: the
part of it the loop has not passed; `lrest`: the numbered statements of block `b` the loop still has to handle (the statements of
`rest` that belong to block `b`); `seen`: numbers of the statements handled so far. -/
theorem fuseBlock_inv (fc : FCfg) (hL : fc.checkLater = true) (hB : fc.checkBlock = true) (vars : List VarInfo)
    (all : List ((Nat × Stmt) × Nat)) (body : List (Nat × Stmt))
    (hnd : (outsOf (body.map (·.2))).Nodup) (hcl : liveIn (body.map (·.2)) = [])
    (hR : ∀ x ∈ body, x.2.inputVars ≠ [] → ∃ i, (x, i) ∈ all) (b : Nat) :
    ∀ (rest pre lrest : List (Nat × Stmt)) (seen grp : List Nat), body = pre ++ rest →
      lrest.map (·.2) = (rest.filter (pb b)).map (·.2) → (∀ q ∈ lrest, ((b, q.2), q.1) ∈ all) →
      (lrest.map (·.1)).Nodup → (∀ q ∈ lrest, q.1 ∉ seen) → grp.length = vars.length →
      FInv body (blockOfV vars) (reuseV vars) b (pre.map (·.2)) grp →
      FInv body (blockOfV vars) (reuseV vars) b (body.map (·.2)) (fuseBlock fc vars (depsOf all) lrest seen grp) := by
  intro rest
  induction rest with
  | nil =>
    intro pre lrest seen grp hb hl _ _ _ _ hinv
    simp only [List.filter_nil, List.map_nil, List.map_eq_nil_iff] at hl
    subst hl
    rw [List.append_nil] at hb
    subst hb
    exact hinv
  | cons x rest' ih =>
    intro pre lrest seen grp hb hl hall hnodup hseen hlen hinv
    have hb' : body = (pre ++ [x]) ++ rest' := by rw [hb]; simp
    have hPsplit : body.map (·.2) = pre.map (·.2) ++ x.2 :: rest'.map (·.2) := by rw [hb]; simp
    have hsub : ∀ w ∈ outsOf (pre.map (·.2)), w ∈ outsOf ((pre ++ [x]).map (·.2)) := by
      intro w hw; rw [List.map_append, outsOf_append]; exact List.mem_append_left _ hw
    by_cases hp : pb b x = true
    · rw [List.filter_cons_of_pos hp, List.map_cons] at hl
      cases lrest with
      | nil => cases hl
      | cons q lrest' =>
        obtain ⟨sid, s⟩ := q
        simp only [List.map_cons, List.cons.injEq] at hl
        obtain ⟨hs, hl'⟩ := hl
        simp only [List.map_cons, List.nodup_cons] at hnodup
        rw [fuseBlock_cons]
        have hmem_all : ((b, s), sid) ∈ all := hall (sid, s) (by simp)
        apply ih (pre ++ [x]) lrest' (sid :: seen) _ hb' hl' (fun q hq => hall q (List.mem_cons_of_mem _ hq)) hnodup.2
        · intro q hq hc
          rcases List.mem_cons.1 hc with hc | hc
          · exact hnodup.1 (by rw [← hc]; exact List.mem_map.2 ⟨q, hq, rfl⟩)
          · exact hseen q (List.mem_cons_of_mem _ hq) hc
        · rw [fuseStep_length fc hL hB]; exact hlen
        · rcases fuseStep_cases fc hL hB vars (depsOf all) (sid :: seen) s grp with h | ⟨v, o, hoin, hvin, hrv, hro, hdB, hdL, hblk, h⟩
          · rw [h]; exact hinv.mono hsub
          · rw [h]
            obtain ⟨rhs, eff, hsa, hvr⟩ := Stmt.assign_of_io s v o hvin hoin
            have hxs : x.2 = Stmt.assign o rhs eff := by rw [← hs, hsa]
            have hxb : x.1 = b := ((pb_iff b x).1 hp).1
            have hx : x = (b, Stmt.assign o rhs eff) := by rw [← hxb, ← hxs]
            have hbv : blockOfV vars v = b := (hdB (b, sid) (mem_depsOf all b s sid v hmem_all hvin)).symm
            have hP : body.map (·.2) = pre.map (·.2) ++ Stmt.assign o rhs eff :: rest'.map (·.2) := by rw [hPsplit, hxs]
            have hvdef : v ∈ outsOf (pre.map (·.2)) := by
              apply live_defined (pre.map (·.2)) (Stmt.assign o rhs eff :: rest'.map (·.2)) (by rw [← hP]; exact hcl) v
              exact (mem_liveIn_cons _ _ _).2 (Or.inl (by simpa [Stmt.reads] using hvr))
            have hrd : ∀ y ∈ body, v ∈ y.2.inputVars → y.1 = b := by
              intro y hy hvr'
              obtain ⟨i, hi⟩ := hR y hy (by intro hc; rw [hc] at hvr'; simp at hvr')
              have := hdB (y.1, i) (mem_depsOf all y.1 y.2 i v hi hvr')
              simp only at this
              rw [this, hbv]
            have hdead : ∀ r ∈ rest'.map (·.2), v ∉ r.inputVars := by
              intro r hr hvr'
              obtain ⟨y, hy, rfl⟩ := List.mem_map.1 hr
              have hybody : y ∈ body := by rw [hb]; exact List.mem_append_right _ (List.mem_cons_of_mem _ hy)
              have hyb : y.1 = b := hrd y hybody hvr'
              have hkind := Stmt.inputVars_kind y.2 v hvr'
              have hpy : pb b y = true := (pb_iff b y).2 ⟨hyb, hkind⟩
              have : y.2 ∈ lrest'.map (·.2) := by
                rw [hl']
                exact List.mem_map.2 ⟨y, List.mem_filter.2 ⟨hy, hpy⟩, rfl⟩
              obtain ⟨q, hq, hqe⟩ := List.mem_map.1 this
              have hq_all := hall q (List.mem_cons_of_mem _ hq)
              have := hdL (b, q.1) (mem_depsOf all b q.2 q.1 v hq_all (by rw [hqe]; exact hvr'))
              simp only at this
              rcases List.mem_cons.1 this with hc | hc
              · exact hnodup.1 (by rw [← hc]; exact List.mem_map.2 ⟨q, hq, rfl⟩)
              · exact hseen q (List.mem_cons_of_mem _ hq) hc
            have hvlt : v < grp.length := by rw [hlen]; exact reuseV_lt vars v hrv
            have holt : o < grp.length := by rw [hlen]; exact reuseV_lt vars o hro
            have := FInv.merge hnd rest' o rhs eff (by rw [hb, hx]) hinv v hvlt holt hvr hvdef hdead hbv
              (by rw [← hblk]; exact hbv) hrv hro hrd
            simpa [List.map_append, hxs] using this
    · rw [List.filter_cons_of_neg hp] at hl
      exact ih (pre ++ [x]) lrest seen grp hb' hl hall hnodup hseen hlen (hinv.mono hsub)

theorem fuseBlock_length (fc : FCfg) (hL : fc.checkLater = true) (hB : fc.checkBlock = true) (vars : List VarInfo)
    (deps : Nat → List (Nat × Nat)) : ∀ (l : List (Nat × Stmt)) (seen grp : List Nat),
    (fuseBlock fc vars deps l seen grp).length = grp.length
  | [], _, _ => rfl
  | (sid, s) :: l, seen, grp => by
    rw [fuseBlock_cons, fuseBlock_length fc hL hB vars deps l, fuseStep_length fc hL hB]

/-- **One block.**  `L`: the numbered statements of block `b` in text order: a header of statements without inputs (comments,
imports) followed by the statements of `body` that belong to the block, in emission order. -/
theorem fuseBlock_block (fc : FCfg) (hL : fc.checkLater = true) (hB : fc.checkBlock = true) (vars : List VarInfo)
    (all : List ((Nat × Stmt) × Nat)) (body : List (Nat × Stmt))
    (hnd : (outsOf (body.map (·.2))).Nodup) (hcl : liveIn (body.map (·.2)) = [])
    (hR : ∀ x ∈ body, x.2.inputVars ≠ [] → ∃ i, (x, i) ∈ all) (b : Nat)
    (L : List (Nat × Stmt)) (hdr : List Stmt) (hhdr : ∀ s ∈ hdr, s.inputVars = [])
    (hLs : L.map (·.2) = hdr ++ (body.filter (pb b)).map (·.2)) (hLall : ∀ q ∈ L, ((b, q.2), q.1) ∈ all)
    (hLnd : (L.map (·.1)).Nodup) (grp : List Nat) (hlen : grp.length = vars.length)
    (hinv : FInv body (blockOfV vars) (reuseV vars) b [] grp) :
    FInv body (blockOfV vars) (reuseV vars) b (body.map (·.2)) (fuseBlock fc vars (depsOf all) L [] grp) := by
  obtain ⟨L1, L2, hL12, h1, h2⟩ := List.map_eq_append_iff.1 hLs
  subst hL12
  rw [fuseBlock_noinputs fc vars (depsOf all) L1 L2 [] grp (by
    intro q hq
    exact hhdr q.2 (by rw [← h1]; exact List.mem_map.2 ⟨q, hq, rfl⟩))]
  rw [List.map_append, List.nodup_append] at hLnd
  apply fuseBlock_inv fc hL hB vars all body hnd hcl hR b body [] L2 _ grp (by simp) h2
    (fun q hq => hLall q (List.mem_append_right _ hq)) hLnd.2.1 ?_ hlen (by simpa using hinv)
  intro q hq hc
  simp only [List.append_nil, List.mem_reverse] at hc
  exact hLnd.2.2 _ hc _ (List.mem_map.2 ⟨q, hq, rfl⟩) rfl

end Einx.Compile
