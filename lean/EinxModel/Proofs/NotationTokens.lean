import EinxModel.Notation.Parse
/-!
# M1 Notation — the token lists in the form the proofs use

What each function between the lexer and `parse` is on some form of input: the passes that drop tokens return sublists and keep
what is no space; `dropTrailSpaces` and `strip` token by token; what `findOp` says about the tokens when it finds an operator or
none; the operands partition the tokens that are not the separator, and there is one more of them than separators.
-/
namespace Einx.Notation

theorem dedupSpaces_sublist : ∀ (ts : List Token) (f : Bool), (dedupSpaces ts f).Sublist ts
  | [], _ => by simp [dedupSpaces]
  | t :: ts, f => by
    simp only [dedupSpaces]
    split
    · split
      · exact (dedupSpaces_sublist ts true).trans (List.sublist_cons_self _ _)
      · exact List.Sublist.cons_cons _ (dedupSpaces_sublist ts true)
    · exact List.Sublist.cons_cons _ (dedupSpaces_sublist ts false)

theorem mem_dedupSpaces {ts : List Token} {f : Bool} {t : Token} (h : t ∈ dedupSpaces ts f) : t ∈ ts :=
  (dedupSpaces_sublist ts f).subset h

theorem dedup_adjacent (xs ys : List Token) (s s' : Token) (hs : s.isSpace = true) (hs' : s'.isSpace = true) (f : Bool) :
    dedupSpaces (xs ++ s :: s' :: ys) f = dedupSpaces (xs ++ s :: ys) f := by
  induction xs generalizing f with
  | nil => cases f <;> simp [dedupSpaces, hs, hs']
  | cons x xs ih =>
    simp only [List.cons_append, dedupSpaces]
    split
    · split
      · exact ih true
      · rw [ih true]
    · rw [ih false]

namespace TreeIns

/-- The "last token was a space" flag after the tokens `X`. -/
def flagAfter : List Token → Bool → Bool
  | [], f => f
  | t :: ts, _ => flagAfter ts t.isSpace

theorem flagAfter_snoc (X : List Token) (a : Token) (f : Bool) : flagAfter (X ++ [a]) f = a.isSpace := by
  induction X generalizing f with
  | nil => rfl
  | cons x xs ih => simp only [List.cons_append, flagAfter]; exact ih _

theorem dedup_append (X Y : List Token) (f : Bool) :
    dedupSpaces (X ++ Y) f = dedupSpaces X f ++ dedupSpaces Y (flagAfter X f) := by
  induction X generalizing f with
  | nil => rfl
  | cons x xs ih =>
    simp only [List.cons_append, dedupSpaces, flagAfter]
    split
    · split
      · rw [ih true]; simp [*]
      · rw [ih true]; simp [*]
    · rw [ih false]; simp [*]

theorem dedup_flag (Y : List Token) (h : ∀ b, Y.head? = some b → b.isSpace = false) :
    dedupSpaces Y true = dedupSpaces Y false := by
  cases Y with
  | nil => rfl
  | cons b bs => simp [dedupSpaces, h b rfl]

theorem dedup_cons_nonspace (b : Token) (bs : List Token) (f : Bool) (h : b.isSpace = false) :
    dedupSpaces (b :: bs) f = b :: dedupSpaces bs false := by
  simp [dedupSpaces, h]

theorem dedup_snoc_nonspace (X : List Token) (a : Token) (f : Bool) (h : a.isSpace = false) :
    dedupSpaces (X ++ [a]) f = dedupSpaces X f ++ [a] := by
  rw [dedup_append]; simp [dedupSpaces, h]

theorem isSpace_of_text {t : Token} (h : t.text = spaceLit) : t.isSpace = true := by
  simp [Token.isSpace, h]

theorem not_isSpace_of_text {t : Token} (h : t.text ≠ spaceLit) : t.isSpace = false := by
  simp [Token.isSpace, h]

end TreeIns

/-! ### `dropTrailSpaces` and `strip`: sublists, and token by token -/

theorem dropTrailSpaces_sublist : ∀ (ts : List Tok), (dropTrailSpaces ts).Sublist ts
  | [] => by simp [dropTrailSpaces]
  | t :: ts => by
    have ih := dropTrailSpaces_sublist ts
    simp only [dropTrailSpaces]
    cases hr : dropTrailSpaces ts with
    | nil =>
      simp only
      split
      · exact List.nil_sublist _
      · exact List.Sublist.cons_cons _ (List.nil_sublist _)
    | cons r rs =>
      rw [hr] at ih
      exact List.Sublist.cons_cons _ ih

theorem strip_sublist (ts : List Tok) : (strip ts).Sublist ts :=
  (dropTrailSpaces_sublist _).trans (List.dropWhile_sublist _)

theorem mem_strip {ts : List Tok} {t : Tok} (h : t ∈ strip ts) : t ∈ ts :=
  (strip_sublist ts).subset h

theorem mem_dropTrailSpaces_of {ts : List Tok} {x : Tok} (hx : x ∈ ts) (hns : x.isSpace = false) : x ∈ dropTrailSpaces ts := by
  induction ts with
  | nil => cases hx
  | cons t ts ih =>
    simp only [dropTrailSpaces]
    rcases List.mem_cons.mp hx with rfl | hx
    · cases hr : dropTrailSpaces ts with
      | nil => simp [hns]
      | cons r rs => simp
    · have := ih hx
      cases hr : dropTrailSpaces ts with
      | nil => rw [hr] at this; cases this
      | cons r rs => rw [hr] at this; simp only; exact List.mem_cons_of_mem _ this

theorem mem_dropWhile_of {ts : List Tok} {x : Tok} (hx : x ∈ ts) (hns : x.isSpace = false) : x ∈ ts.dropWhile Tok.isSpace := by
  rw [← List.takeWhile_append_dropWhile (p := Tok.isSpace) (l := ts)] at hx
  rcases List.mem_append.mp hx with h | h
  · rw [List.all_eq_true.mp List.all_takeWhile x h] at hns
    cases hns
  · exact h

theorem mem_strip_of {ts : List Tok} {x : Tok} (hx : x ∈ ts) (hns : x.isSpace = false) : x ∈ strip ts :=
  mem_dropTrailSpaces_of (mem_dropWhile_of hx hns) hns

/-- One step of `dropTrailSpaces`. -/
def dtCons (t : Tok) (r : List Tok) : List Tok :=
  match r with
  | [] => if t.isSpace then [] else [t]
  | r => t :: r

theorem dropTrail_cons_eq (t : Tok) (ts : List Tok) : dropTrailSpaces (t :: ts) = dtCons t (dropTrailSpaces ts) := by
  simp only [dropTrailSpaces, dtCons]
  cases dropTrailSpaces ts <;> rfl

theorem dropTrail_cons_ne {t : Tok} {ts : List Tok} (h : dropTrailSpaces ts ≠ []) :
    dropTrailSpaces (t :: ts) = t :: dropTrailSpaces ts := by
  rw [dropTrail_cons_eq]
  cases hr : dropTrailSpaces ts with
  | nil => exact (h hr).elim
  | cons r rs => rfl

theorem dropTrail_cons_nil {t : Tok} {ts : List Tok} (h : dropTrailSpaces ts = []) :
    dropTrailSpaces (t :: ts) = if t.isSpace then [] else [t] := by
  rw [dropTrail_cons_eq, h]
  rfl

theorem dropTrail_cons_nonspace {t : Tok} {ts : List Tok} (h : t.isSpace = false) :
    dropTrailSpaces (t :: ts) = t :: dropTrailSpaces ts := by
  cases hr : dropTrailSpaces ts with
  | nil => rw [dropTrail_cons_nil hr, h]; rfl
  | cons r rs => rw [dropTrail_cons_ne (by rw [hr]; simp), hr]

theorem strip_cons_space {sp : Tok} (h : sp.isSpace = true) (ts : List Tok) : strip (sp :: ts) = strip ts := by
  simp [strip, List.dropWhile, h]

theorem dropTrail_append_space {sp : Tok} (h : sp.isSpace = true) : ∀ ts : List Tok,
    dropTrailSpaces (ts ++ [sp]) = dropTrailSpaces ts
  | [] => by simp [dropTrailSpaces, h]
  | t :: ts => by
    rw [List.cons_append, dropTrail_cons_eq, dropTrail_cons_eq, dropTrail_append_space h ts]

theorem strip_append_space {sp : Tok} (h : sp.isSpace = true) : ∀ ts : List Tok, strip (ts ++ [sp]) = strip ts
  | [] => by simp [strip, List.dropWhile, h, dropTrailSpaces]
  | t :: ts => by
    cases ht : t.isSpace with
    | true => rw [List.cons_append, strip_cons_space ht, strip_cons_space ht, strip_append_space h ts]
    | false =>
      simp only [strip, List.cons_append, List.dropWhile, ht]
      exact dropTrail_append_space h (t :: ts)

/-! ### The operator `findOp` finds at a level -/

theorem naryOps_eq : naryOps = [lit "->", lit ",", lit "+", spaceLit] := by decide

theorem findOp_mem {ops : List Str} {ts : List Tok} {op : Str} (h : findOp ops ts = some op) : op ∈ ops := by
  induction ops with
  | nil => simp [findOp] at h
  | cons a as ih =>
    simp only [findOp] at h
    split at h
    · cases h; simp
    · exact List.mem_cons_of_mem _ (ih h)

theorem findOp_cons {ops : List Str} {S : List Tok} {op : Str} (h : findOp ops S = some op) : ∃ t0 rest, S = t0 :: rest := by
  cases S with
  | nil => exact absurd (findOp_any h) (by simp)
  | cons t0 rest => exact ⟨t0, rest, rfl⟩

theorem findOp_atom_none {t : Token} : ∀ {ops : List Str}, (∀ op ∈ ops, (t.text == op) = false) → findOp ops [.atom t] = none
  | [], _ => rfl
  | op :: ops, h => by
    rw [findOp, List.any_cons, List.any_nil, Bool.or_false, Tok.isText, h op List.mem_cons_self, if_neg Bool.false_ne_true]
    exact findOp_atom_none fun op' hop' => h op' (List.mem_cons_of_mem _ hop')

theorem findOp_group_none (o c : Token) (inner : List Tok) : ∀ ops : List Str, findOp ops [.group o c inner] = none
  | [] => rfl
  | _ :: ops => by simp [findOp, Tok.isText, findOp_group_none o c inner ops]

theorem findOp_dots_none {t : Token} (ht : t.text = ellipsisLit) : findOp naryOps [.atom t] = none :=
  findOp_atom_none (ht ▸ by decide +kernel)

/-- An atom `->`, `,` or `+`. -/
def Tok.isOp3 (t : Tok) : Bool := t.isText (lit "->") || t.isText (lit ",") || t.isText (lit "+")

theorem isText_ne {x : Tok} {l l' : Str} (h : x.isText l = true) (hne : l ≠ l') : x.isText l' = false := by
  cases x with
  | atom t => rw [Tok.isText, beq_iff_eq] at h; rw [Tok.isText, h]; exact beq_eq_false_iff_ne.mpr hne
  | group => cases h

theorem isSpace_isText_ne {sp : Tok} (h : sp.isSpace = true) {s : Str} (hs : s ≠ spaceLit) : sp.isText s = false :=
  isText_ne h (Ne.symm hs)

theorem isSpace_not_isOp3 {sp : Tok} (h : sp.isSpace = true) : sp.isOp3 = false := by
  simp only [Tok.isOp3, isSpace_isText_ne h (s := lit "->") (by decide), isSpace_isText_ne h (s := lit ",") (by decide),
    isSpace_isText_ne h (s := lit "+") (by decide), Bool.or_self]

theorem isOp3_not_isSpace {a : Tok} (h : a.isOp3 = true) : a.isSpace = false := by
  cases hs : a.isSpace with
  | false => rfl
  | true => rw [isSpace_not_isOp3 hs] at h; cases h

theorem group_isSpace (o c : Token) (inner : List Tok) : (Tok.group o c inner).isSpace = false := rfl

theorem any_isOp3 (ts : List Tok) :
    ts.any Tok.isOp3 = (ts.any (Tok.isText (lit "->")) || ts.any (Tok.isText (lit ",")) || ts.any (Tok.isText (lit "+"))) := by
  induction ts with
  | nil => rfl
  | cons t ts ih =>
    simp only [List.any_cons, ih, Tok.isOp3]
    cases t.isText (lit "->") <;> cases t.isText (lit ",") <;> cases t.isText (lit "+") <;> simp

theorem findOp_eq_none {ops : List Str} {ts : List Tok} (h : findOp ops ts = none) :
    ∀ op ∈ ops, ts.any (Tok.isText op) = false := by
  induction ops with
  | nil => intro _ h; cases h
  | cons a as ih =>
    simp only [findOp] at h
    split at h
    · cases h
    · rename_i ha
      exact List.forall_mem_cons.mpr ⟨Bool.eq_false_iff.mpr ha, ih h⟩

theorem findOp_skipped {ops : List Str} {ts : List Tok} {op : Str} (h : findOp ops ts = some op) :
    ∀ o ∈ ops.takeWhile (· != op), ts.any (Tok.isText o) = false := by
  induction ops with
  | nil => intro _ h; cases h
  | cons a as ih =>
    simp only [findOp] at h
    split at h
    · cases h; simp
    · rename_i ha
      rw [List.takeWhile_cons]
      split
      · exact List.forall_mem_cons.mpr ⟨Bool.eq_false_iff.mpr ha, ih h⟩
      · intro _ h; cases h

theorem findOp_none {ts : List Tok} (h : findOp naryOps ts = none) :
    ts.any Tok.isOp3 = false ∧ ts.any Tok.isSpace = false := by
  have h := findOp_eq_none h
  rw [naryOps_eq] at h
  rw [any_isOp3, h _ (by simp), h _ (by simp), h _ (by simp)]
  exact ⟨rfl, h spaceLit (by simp)⟩

theorem findOp_space {ts : List Tok} (h : findOp naryOps ts = some spaceLit) : ts.any Tok.isOp3 = false := by
  have h := findOp_skipped h
  rw [naryOps_eq] at h
  have e : [lit "->", lit ",", lit "+", spaceLit].takeWhile (· != spaceLit) = [lit "->", lit ",", lit "+"] := by decide
  rw [e] at h
  rw [any_isOp3, h _ (by simp), h _ (by simp), h _ (by simp)]
  rfl

/-- Tokens of the first operand when splitting at `op`. -/
def segH (op : Str) (ts : List Tok) : List Tok := (splitOn op 0 ts).1.1
/-- Tokens of the remaining operands. -/
def segT (op : Str) (ts : List Tok) : List (List Tok) := (splitOn op 0 ts).2.map (·.1)

theorem segH_nil (op : Str) : segH op [] = [] := rfl
theorem segT_nil (op : Str) : segT op [] = [] := rfl

theorem splitOn_pos_irrel (op : Str) (d d' : Nat) : ∀ ts : List Tok,
    (splitOn op d ts).1.1 = (splitOn op d' ts).1.1 ∧ (splitOn op d ts).2.map (·.1) = (splitOn op d' ts).2.map (·.1)
  | [] => by simp [splitOn]
  | t :: ts => by
    have ih := splitOn_pos_irrel op d d' ts
    simp only [splitOn]
    split
    · simp [ih.1, ih.2]
    · simp [ih.1, ih.2]

theorem segH_cons (op : Str) (t : Tok) (ts : List Tok) :
    segH op (t :: ts) = if t.isText op then [] else t :: segH op ts := by
  simp only [segH, splitOn]
  split <;> rfl

theorem segT_cons (op : Str) (t : Tok) (ts : List Tok) :
    segT op (t :: ts) = if t.isText op then segH op ts :: segT op ts else segT op ts := by
  simp only [segT, segH, splitOn]
  split <;> simp

theorem operands_ts (op : Str) (ts : List Tok) : (operands op ts).map (·.ts) = segH op ts :: segT op ts := by
  have h := splitOn_pos_irrel op (lastEnd ts 0) 0 ts
  simp only [operands, List.map_cons, List.map_map, mkTL_ts, segH, segT, h.1]
  congr 1
  rw [← h.2]
  simp [Function.comp_def, mkTL_ts]

theorem segs_flatten (op : Str) : ∀ ts : List Tok, (segH op ts :: segT op ts).flatten = ts.filter (fun t => !t.isText op)
  | [] => rfl
  | t :: ts => by
    have ih := segs_flatten op ts
    rw [List.flatten_cons] at ih
    rw [segH_cons, segT_cons, List.filter_cons]
    cases t.isText op with
    | true => exact ih
    | false => exact congrArg (t :: ·) ih

theorem operands_flatMap_ts (op : Str) (ts : List Tok) : (operands op ts).flatMap (·.ts) = ts.filter (fun t => !t.isText op) := by
  rw [List.flatMap_def, operands_ts, segs_flatten]

theorem operands_mem {op : Str} {ts : List Tok} {o : TL} {t : Tok} (ho : o ∈ operands op ts) (ht : t ∈ o.ts) :
    t ∈ ts ∧ t.isText op = false := by
  have := List.mem_filter.mp (operands_flatMap_ts op ts ▸ List.mem_flatMap.mpr ⟨o, ho, ht⟩)
  exact ⟨this.1, by simpa using this.2⟩

theorem operands_mem_inv {op : Str} {ts : List Tok} {x : Tok} (hx : x ∈ ts) (hn : x.isText op = false) :
    ∃ o ∈ operands op ts, x ∈ o.ts :=
  List.mem_flatMap.mp (operands_flatMap_ts op ts ▸ List.mem_filter.mpr ⟨hx, by rw [hn]; rfl⟩)

theorem splitOn_length (op : Str) (d : Nat) : ∀ (ts : List Tok), (splitOn op d ts).2.length = ts.countP (Tok.isText op)
  | [] => rfl
  | t :: ts => by
    simp only [splitOn, List.countP_cons]
    split
    · simp [splitOn_length op d ts]
    · simp [splitOn_length op d ts]

theorem operands_length (op : Str) (ts : List Tok) : (operands op ts).length = 1 + ts.countP (Tok.isText op) := by
  simp only [operands, List.map_cons, List.length_cons, List.length_map, splitOn_length]
  omega

theorem keepOperands_space (l : List TL) : keepOperands spaceLit l = l.filter (fun o => !o.ts.isEmpty) := rfl

theorem keepOperands_ne {op : Str} (h : op ≠ spaceLit) (l : List TL) : keepOperands op l = l :=
  if_neg (by rw [beq_iff_eq]; exact h)

theorem keepOperands_sublist (op : Str) (l : List TL) : (keepOperands op l).Sublist l := by
  unfold keepOperands
  split
  · exact List.filter_sublist
  · exact List.Sublist.refl _

theorem anonName_ne_unnamed (p : Nat) : anonName ≠ unnamedName p := by
  intro hp
  have : anonName.head? = (unnamedName p).head? := by rw [hp]
  revert this
  simp [anonName, unnamedName, lit, Einx.Extracted.anonymousVariableName]

end Einx.Notation
