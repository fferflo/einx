import EinxModel.Order.Cse
import EinxModel.Proofs.UtilSolve
/-! `replace_perm` for `Order/Cse.lean`: the witness model of defect D17, which mirrors `cse` of the code before fix 035c94b
(first candidate, last match).  The code after the fix is modelled by `Solve/CseTrees.lean` and proved in
`Proofs/CseTrees*.lean`; the renumbering `reidx` and the search under a permutation, which both proofs use, are in
`Proofs/UtilSolve.lean`. -/
namespace Einx.Order.Cse

@[simp] theorem Tok.kind_map {L L' : Type} (f : L → L') (t : Tok L) : (Tok.map f t).kind = t.kind := by
  cases t <;> rfl

theorem isSingleGroup_go_map {L L' : Type} (f : L → L') (c : Nat) (ts : List (Tok L)) :
    ∀ d, isSingleGroup.go c d (ts.map (Tok.map f)) = isSingleGroup.go c d ts := by
  induction ts with
  | nil => intro d; simp [isSingleGroup.go]
  | cons x xs ih =>
    intro d
    cases xs with
    | nil => simp [isSingleGroup.go]
    | cons y ys =>
      simp only [List.map_cons, isSingleGroup.go, Tok.kind_map]
      simp only [List.map_cons] at ih
      rw [ih, ih, ih]

theorem isSingleGroup_map {L L' : Type} (f : L → L') (o c : Nat) (ts : List (Tok L)) :
    isSingleGroup o c (ts.map (Tok.map f)) = isSingleGroup o c ts := by
  cases ts with
  | nil => simp [isSingleGroup]
  | cons t rest =>
    simp only [List.map_cons, isSingleGroup, Tok.kind_map, isSingleGroup_go_map]

theorem mkFlat_map {L L' : Type} (f : L → L') (ts : List (Tok L)) :
    mkFlat (ts.map (Tok.map f)) = (mkFlat ts).map (Tok.map f) := by
  unfold mkFlat
  rw [isSingleGroup_map]
  split <;> simp [Tok.map]

theorem mkBr_map {L L' : Type} (f : L → L') (ts : List (Tok L)) :
    mkBr (ts.map (Tok.map f)) = (mkBr ts).map (Tok.map f) := by
  unfold mkBr
  rw [isSingleGroup_map]
  split
  · rfl
  · cases ts <;> simp [Tok.map]

theorem joinPlus_map {L L' : Type} (f : L → L') (ns : List (List (Tok L))) :
    joinPlus (ns.map (List.map (Tok.map f))) = (joinPlus ns).map (Tok.map f) := by
  induction ns with
  | nil => simp [joinPlus]
  | cons n ns ih =>
    cases ns with
    | nil => simp [joinPlus]
    | cons m ms =>
      simp only [List.map_cons, joinPlus, List.map_append, Tok.map]
      simp only [List.map_cons] at ih
      rw [ih]

theorem mkConcat_map {L L' : Type} (f : L → L') (ns : List (List (Tok L))) :
    mkConcat (ns.map (List.map (Tok.map f))) = (mkConcat ns).map (Tok.map f) := by
  match ns with
  | [] => simp [mkConcat, Tok.map]
  | [n] => simp [mkConcat]
  | n :: m :: ms =>
    have := joinPlus_map f (n :: m :: ms)
    simp only [List.map_cons] at this
    simp only [List.map_cons, mkConcat, List.map_append, Tok.map, this, List.map_nil]

theorem nodeOr_map {L L' : Type} (f : L → L') (mn : Nat → Option L) (nid : Nat) (v : Option Nat)
    (other : List (List (Tok L))) :
    nodeOr (fun n => (mn n).map f) nid v (other.map (List.map (Tok.map f)))
      = (nodeOr mn nid v other).map (List.map (Tok.map f)) := by
  unfold nodeOr
  cases h : mn nid <;> simp [Tok.map, h]

section Natural
variable {L L' : Type} (f : L → L') (mn : Nat → Option L) (ma : List Nat → Option (L × Nat))

mutual
/-- The rebuild is natural in the labels: renaming the labels delivered by the matchers renames the `cse` tokens and
changes nothing else. -/
theorem rebuild_natural_aux : ∀ (t : Tree),
    rebuild (fun n => (mn n).map f) (fun ids => (ma ids).map (fun r => (f r.1, r.2))) t
      = (rebuild mn ma t).map (List.map (Tok.map f))
  | .axis n name v => by
    simp only [rebuild]
    rw [← nodeOr_map]; simp only [List.map_cons, Tok.map, List.map_nil]
  | .list n cs => by
    simp only [rebuild]
    rw [← nodeOr_map]
    congr 1
    split
    · exact rebuildC_natural_aux cs
    · exact rebuildL_natural_aux 0 cs
  | .concat n cs => by
    simp only [rebuild]
    rw [← nodeOr_map, rebuildC_natural_aux cs]
    simp only [mkConcat_map, List.map_cons, List.map_nil]
  | .br n i => by
    simp only [rebuild]
    rw [← nodeOr_map, rebuild_natural_aux i]
    simp only [List.map_cons, ← mkBr_map, List.map_flatten, List.map_nil]
  | .flat n i => by
    simp only [rebuild]
    rw [← nodeOr_map, rebuild_natural_aux i]
    simp only [List.map_cons, ← mkFlat_map, List.map_flatten, List.map_nil]
theorem rebuildL_natural_aux : ∀ (skip : Nat) (ts : List Tree),
    rebuildL (fun n => (mn n).map f) (fun ids => (ma ids).map (fun r => (f r.1, r.2))) skip ts
      = (rebuildL mn ma skip ts).map (List.map (Tok.map f))
  | skip, [] => by simp only [rebuildL, List.map_nil]
  | skip, t :: ts => by
    simp only [rebuildL]
    split
    · exact rebuildL_natural_aux (skip - 1) ts
    · cases h : ma (t.nid :: ts.map Tree.nid) with
      | none =>
        simp only [Option.map_none]
        rw [rebuild_natural_aux t, rebuildL_natural_aux 0 ts, List.map_append]
      | some r =>
        obtain ⟨l, len⟩ := r
        simp only [Option.map_some]
        rw [rebuildL_natural_aux (len - 1) ts]
        simp only [List.map_cons, Tok.map, List.map_nil]
theorem rebuildC_natural_aux : ∀ (ts : List Tree),
    rebuildC (fun n => (mn n).map f) (fun ids => (ma ids).map (fun r => (f r.1, r.2))) ts
      = (rebuildC mn ma ts).map (List.map (Tok.map f))
  | [] => by simp only [rebuildC, List.map_nil]
  | t :: ts => by
    simp only [rebuildC]
    rw [rebuild_natural_aux t, rebuildC_natural_aux ts, List.map_append]
end
end Natural

theorem filterAgainst_perm {α : Type} [BEq α] (r : α → α → Bool) {c₁ c₂ : List α} (h : c₁.Perm c₂) :
    (filterAgainst r c₁).Perm (filterAgainst r c₂) := by
  unfold filterAgainst
  have : (fun c => !c₁.any (fun c2 => c2 != c && r c2 c)) = (fun c => !c₂.any (fun c2 => c2 != c && r c2 c)) := by
    funext c
    rw [List.Perm.any_eq h]
  rw [this]
  exact List.Perm.filter _ h

theorem renumber_eq_reidx (c₁ c₂ : List Cand) : renumber c₁ c₂ = reidx c₁ c₂ := by
  funext i
  unfold renumber reidx
  cases c₁[i]? <;> rfl

theorem findIdx?_perm_renumber (p : Cand → Bool) {c₁ c₂ : List Cand} (hp : c₁.Perm c₂) (hnd : c₁.Nodup)
    (hu : ∀ a, a ∈ c₁ → ∀ b, b ∈ c₁ → p a = true → p b = true → a = b) :
    c₂.findIdx? p = (c₁.findIdx? p).map (renumber c₁ c₂) := by
  have := findIdx?_perm_reidx id p hp (by simpa using hnd) hu
  rwa [List.map_id, List.map_id, ← renumber_eq_reidx] at this

/-! ### Uniqueness of the matching candidate under `nonOverlapping` -/

/-- The predicate of `matchAt`. -/
def hitAt (ids : List Nat) (c : Cand) : Bool := c.any (fun el => !el.isEmpty && el.isPrefixOf ids)

theorem hitAt_unique (c₁ : List Cand) (hno : nonOverlapping c₁ = true) (ids : List Nat) :
    ∀ a, a ∈ c₁ → ∀ b, b ∈ c₁ → hitAt ids a = true → hitAt ids b = true → a = b := by
  intro a ha b hb hita hitb
  simp only [nonOverlapping, List.all_eq_true, Bool.or_eq_true, beq_iff_eq] at hno
  rcases hno a ha b hb with h | h
  · exact h
  · -- two prefixes of `ids` are prefixes of one another
    simp only [hitAt, List.any_eq_true, Bool.and_eq_true, Bool.not_eq_true', List.isPrefixOf_iff_prefix] at hita hitb
    obtain ⟨e1, he1, hn1, hpre1⟩ := hita
    obtain ⟨e2, he2, hn2, hpre2⟩ := hitb
    have h4 := h e1 he1 e2 he2
    simp only [hn1, hn2, Bool.false_eq_true, or_self, false_or, Bool.not_eq_true', ← Bool.not_eq_true] at h4
    exact absurd (by simpa [List.isPrefixOf_iff_prefix] using List.prefix_or_prefix_of_prefix hpre1 hpre2) h4

theorem hitNode_imp_hitAt (nid : Nat) (c : Cand) (h : c.any (fun el => el == [nid]) = true) :
    hitAt [nid] c = true := by
  unfold hitAt
  rw [List.any_eq_true] at h ⊢
  obtain ⟨el, hel, he⟩ := h
  have := eq_of_beq he
  subst this
  exact ⟨[nid], hel, by simp⟩

theorem matchNode_perm (c₁ c₂ : List Cand) (hp : c₁.Perm c₂) (hnd : c₁.Nodup) (hno : nonOverlapping c₁ = true) (nid : Nat) :
    matchNode c₂ nid = (matchNode c₁ nid).map (renumber c₁ c₂) := by
  unfold matchNode
  apply findIdx?_perm_renumber _ hp hnd
  intro a ha b hb pa pb
  exact hitAt_unique c₁ hno [nid] a ha b hb (hitNode_imp_hitAt nid a pa) (hitNode_imp_hitAt nid b pb)

theorem matchAt_perm (c₁ c₂ : List Cand) (hp : c₁.Perm c₂) (hnd : c₁.Nodup) (hno : nonOverlapping c₁ = true) (ids : List Nat) :
    matchAt c₂ ids = (matchAt c₁ ids).map (fun r => (renumber c₁ c₂ r.1, r.2)) := by
  unfold matchAt
  have key := findIdx?_perm_renumber (hitAt ids) hp hnd (hitAt_unique c₁ hno ids)
  unfold hitAt at key
  simp only
  rw [key]
  cases hk : c₁.findIdx? (fun c => c.any (fun el => !el.isEmpty && el.isPrefixOf ids)) with
  | none => rfl
  | some k =>
    have hlt : k < c₁.length := (List.findIdx?_eq_some_iff_getElem.mp hk).1
    have hget := getElem?_reidx hp hlt
    rw [← renumber_eq_reidx] at hget
    simp only [Option.map_some, hget, List.getElem?_eq_getElem hlt, Option.map_map]
    rfl

/-- **CSE is independent of the enumeration order of `common_exprs` up to the numbering of the `cse.<n>` names**,
when no exprlist of a candidate is a prefix of an exprlist of another candidate. -/
theorem replace_perm (c₁ c₂ : List Cand) (hp : c₁.Perm c₂) (hnd : c₁.Nodup) (hno : nonOverlapping c₁ = true) (root : Tree) :
    replace c₂ root = (replace c₁ root).map (Tok.map (renumber c₁ c₂)) := by
  unfold replace
  have h1 : matchNode c₂ = fun n => (matchNode c₁ n).map (renumber c₁ c₂) :=
    funext (matchNode_perm c₁ c₂ hp hnd hno)
  have h2 : matchAt c₂ = fun ids => (matchAt c₁ ids).map (fun r => (renumber c₁ c₂ r.1, r.2)) :=
    funext (matchAt_perm c₁ c₂ hp hnd hno)
  rw [h1, h2, rebuild_natural_aux, List.map_flatten]

/-! ### Non-vacuity and sharpness -/

section Examples

def exRoot : Tree := .flat 1 (.list 2 [.axis 3 "a" none, .axis 4 "b" none, .axis 5 "c" (some 2)])
def exC₁ : List Cand := [[[3, 4]], [[5]]]
def exC₂ : List Cand := exC₁.reverse
def exD₁ : List Cand := [[[3, 4]], [[3, 4, 5]]]
def exD₂ : List Cand := exD₁.reverse

example : nonOverlapping exC₁ = true := by decide +kernel
example : exC₁.Perm exC₂ := (List.reverse_perm exC₁).symm
example : exC₁.Nodup := by decide +kernel
example : replace exC₁ exRoot ≠ replace exC₂ exRoot := by decide +kernel
example : replace exC₂ exRoot = (replace exC₁ exRoot).map (Tok.map (renumber exC₁ exC₂)) := by decide +kernel
example : replace exC₁ exRoot = [.lpar, .cse 0 none, .cse 1 (some 2), .rpar] := by decide +kernel
example : replace exC₂ exRoot = [.lpar, .cse 1 none, .cse 0 (some 2), .rpar] := by decide +kernel

example : nonOverlapping exD₁ = false := by decide +kernel
example : (replace exD₁ exRoot).length ≠ (replace exD₂ exRoot).length := by decide +kernel
example : replace exD₁ exRoot = [.lpar, .cse 0 none, .ax "c" (some 2), .rpar] := by decide +kernel
example : replace exD₂ exRoot = [.lpar, .cse 0 none, .rpar] := by decide +kernel

end Examples

end Einx.Order.Cse
