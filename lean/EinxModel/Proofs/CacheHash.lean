import EinxModel.Proofs.Cache
/-! Helper lemmas for `Props/C06Hash.lean`: hash consistency (`==` ⇒ equal hash) for the whole value universe of M9,
and the equivalence between key equality and equality of exact observations. -/
namespace Einx.Cache

/-- Remove the first binding of `q`. -/
def eraseKV : KVs → String → KVs
  | [], _ => []
  | (k, v) :: r, q => if k == q then r else (k, v) :: eraseKV r q

theorem lookupKV_mem : ∀ (r : KVs) (k : String) (v : PyVal), (k, v) ∈ r → (lookupKV r k).isSome = true
  | [], _, _, h => by cases h
  | (k', v') :: r, k, v, h => by
    simp only [lookupKV]
    split
    · rfl
    · rename_i hne
      rcases List.mem_cons.mp h with h | h
      · cases h; simp at hne
      · exact lookupKV_mem r k v h

theorem eraseKV_length : ∀ (b : KVs) (k : String) (w : PyVal), lookupKV b k = some w → (eraseKV b k).length + 1 = b.length
  | [], _, _, h => by simp [lookupKV] at h
  | (k', v) :: r, k, w, h => by
    simp only [lookupKV] at h
    simp only [eraseKV]
    split
    · simp
    · rename_i hne
      simp only [hne] at h
      simp [eraseKV_length r k w (by simpa using h)]

theorem lookupKV_eraseKV : ∀ (b : KVs) (k k' : String), k' ≠ k → lookupKV (eraseKV b k) k' = lookupKV b k'
  | [], _, _, _ => rfl
  | (k0, v) :: r, k, k', hne => by
    simp only [eraseKV]
    split
    · rename_i h
      have : k0 = k := by simpa using h
      subst this
      have : (k0 == k') = false := by simpa using fun h => hne h.symm
      simp [lookupKV, this]
    · simp only [lookupKV]
      split
      · rfl
      · exact lookupKV_eraseKV r k k' hne

/-! ### The order-insensitive part of `frozenset_hash` -/

/-- Item hashes of a mapping for an arbitrary hash function on the values. -/
def itemHashes (env : HashEnv) (h : PyVal → Int) (kvs : KVs) : List Int :=
  kvs.map (fun kv => tupleHash [env.str kv.1, h kv.2])

theorem itemHashes_length (env : HashEnv) (h : PyVal → Int) (kvs : KVs) : (itemHashes env h kvs).length = kvs.length := by
  simp [itemHashes]

theorem xor_left_comm (a b c : UInt64) : a ^^^ (b ^^^ c) = b ^^^ (a ^^^ c) := by
  rw [← UInt64.xor_assoc, UInt64.xor_comm a b, UInt64.xor_assoc]

/-- The binding found by `lookupKV` can be pulled to the front of the xor. -/
theorem xorShuffled_extract (env : HashEnv) (h : PyVal → Int) : ∀ (b : KVs) (k : String) (w : PyVal),
    lookupKV b k = some w →
    xorShuffled (itemHashes env h b) =
      shuffleBits (toU64 (tupleHash [env.str k, h w])) ^^^ xorShuffled (itemHashes env h (eraseKV b k))
  | [], _, _, hl => by simp [lookupKV] at hl
  | (k', v) :: r, k, w, hl => by
    simp only [lookupKV] at hl
    simp only [eraseKV]
    split
    · rename_i he
      simp only [he] at hl
      have hk : k' = k := by simpa using he
      have hv : v = w := by simpa using hl
      subst hk; subst hv
      simp [itemHashes, xorShuffled]
    · rename_i hne
      simp only [hne] at hl
      have ih := xorShuffled_extract env h r k w (by simpa using hl)
      simp only [itemHashes, List.map_cons, xorShuffled] at ih ⊢
      rw [ih, xor_left_comm]

/-- Two mappings of the same size such that every binding of the first (pairwise different keys) is found in the
second with a value of equal hash have the same xor of shuffled item hashes, whatever the order of their items. -/
theorem xorShuffled_sub (env : HashEnv) (h : PyVal → Int) : ∀ (a b : KVs), keysNodup a = true → a.length = b.length →
    (∀ k v, (k, v) ∈ a → ∃ w, lookupKV b k = some w ∧ h v = h w) →
    xorShuffled (itemHashes env h a) = xorShuffled (itemHashes env h b)
  | [], b, _, hl, _ => by
    have : b = [] := List.eq_nil_of_length_eq_zero (by simpa using hl.symm)
    subst this; rfl
  | (k, v) :: r, b, hn, hl, hs => by
    simp only [keysNodup, Bool.and_eq_true] at hn
    obtain ⟨w, hw, hvw⟩ := hs k v (List.mem_cons_self ..)
    have hlen := eraseKV_length b k w hw
    have ih := xorShuffled_sub env h r (eraseKV b k) hn.2 (by simp only [List.length_cons] at hl; omega) (by
      intro k' v' hm
      have hne : k' ≠ k := by
        rintro rfl
        have hs := lookupKV_mem r k' v' hm
        rw [Option.isNone_iff_eq_none.mp hn.1] at hs
        cases hs
      obtain ⟨w', hw', hh⟩ := hs k' v' (List.mem_cons_of_mem _ hm)
      exact ⟨w', by rw [lookupKV_eraseKV b k k' hne]; exact hw', hh⟩)
    rw [xorShuffled_extract env h b k w hw, ← ih]
    simp [itemHashes, xorShuffled, hvw]

theorem hash0KVs_eq (env : HashEnv) : ∀ kvs, hash0KVs env kvs = itemHashes env (hash0 env) kvs
  | [] => by simp [hash0KVs, itemHashes]
  | (k, v) :: r => by simpa [hash0KVs, itemHashes] using hash0KVs_eq env r

theorem pyHashKVs_eq (T : Table) (env : HashEnv) : ∀ kvs, pyHashKVs T env kvs = itemHashes env (pyHash T env) kvs
  | [] => by simp [pyHashKVs, itemHashes]
  | (k, v) :: r => by simpa [pyHashKVs, itemHashes] using pyHashKVs_eq T env r

/-- The mapping case of hash consistency, for any value hash. -/
theorem mapping_hash_eq (env : HashEnv) (h : PyVal → Int) (a b : KVs) (hn : keysNodup a = true) (hl : a.length = b.length)
    (hs : ∀ k v, (k, v) ∈ a → ∃ w, lookupKV b k = some w ∧ h v = h w) :
    frozensetHash (itemHashes env h a) = frozensetHash (itemHashes env h b) := by
  simp only [frozensetHash, itemHashes_length, hl, xorShuffled_sub env h a b hn hl hs]

/-! ### `pyEq a b → hash0 a = hash0 b` (values inside the `concrete` of a placeholder) -/

/-- Numbers hash by value and placeholders to 0, so neither `kind` nor `conv` matters; only the mapping clauses need
an argument (`mapping_hash_eq`). -/
theorem eqWith_hash0 {kind : NumKind → NumKind → Bool} {conv : PyVal → PyVal → Bool} (env : HashEnv) :
    (∀ a b, eqWith kind conv a b = true → wfKeys a = true → hash0 env a = hash0 env b) ∧
    (∀ a b, eqWithSub kind conv a b = true → wfKeysKVs a = true →
      ∀ k v, (k, v) ∈ a → ∃ w, lookupKV b k = some w ∧ hash0 env v = hash0 env w) ∧
    (∀ xs ys, eqWithList kind conv xs ys = true → wfKeysList xs = true → hash0List env xs = hash0List env ys) := by
  apply eqWith_induct
  case tuple | list => intro xs ys ih hw; simp only [hash0, ih hw]
  case dict | ns =>
    intro a b hl ih hw
    simp only [wfKeys, Bool.and_eq_true] at hw
    simp only [hash0, hash0KVs_eq]
    exact mapping_hash_eq env _ a b hw.1 hl (ih hw.2)
  case param =>
    intro n k d d' a a' ihd iha hw
    simp only [wfKeys, Bool.and_eq_true] at hw
    simp only [hash0, ihd hw.1, iha hw.2]
  case cons =>
    intro x y xs ys ih ihs hw
    simp only [wfKeysList, Bool.and_eq_true] at hw
    simp only [hash0List, ih hw.1, ihs hw.2]
  case subNil => intro b _ k v hm; cases hm
  case subCons =>
    intro k0 v0 w r b hl ih ihr hw k v hm
    simp only [wfKeysKVs, Bool.and_eq_true] at hw
    rcases List.mem_cons.mp hm with hm | hm
    · obtain ⟨rfl, rfl⟩ := Prod.mk.inj hm
      exact ⟨w, hl, ih hw.1⟩
    · exact ihr hw.2 k v hm
  all_goals intros; rfl

theorem pyEq_hash0 (env : HashEnv) (a b : PyVal) (hw : wfKeys a = true) (h : pyEq a b = true) :
    hash0 env a = hash0 env b :=
  (eqWith_hash0 env).1 a b (pyEq_eqWith.1 a b ▸ h) hw

theorem pyEqList_hash0 (env : HashEnv) : ∀ xs ys, wfKeysList xs = true → pyEqList xs ys = true →
    hash0List env xs = hash0List env ys :=
  fun xs ys hw h => (eqWith_hash0 env).2.2 xs ys (pyEq_eqWith.2.2 xs ys ▸ h) hw

theorem pyEqSub_hash0 (env : HashEnv) : ∀ a b, wfKeysKVs a = true → pyEqSub a b = true →
    ∀ k v, (k, v) ∈ a → ∃ w, lookupKV b k = some w ∧ hash0 env v = hash0 env w :=
  fun a b hw h => (eqWith_hash0 env).2.1 a b (pyEq_eqWith.2.1 a b ▸ h) hw

theorem lookupKV_freezeKVs (T : Table) : ∀ (r : KVs) (q : String), lookupKV (freezeKVs T r) q = (lookupKV r q).map (freeze T)
  | [], _ => rfl
  | (k, v) :: r, q => by
    simp only [freezeKVs, lookupKV]
    split <;> simp [lookupKV_freezeKVs T r q]

theorem keysNodup_freezeKVs (T : Table) : ∀ r : KVs, keysNodup (freezeKVs T r) = keysNodup r
  | [] => rfl
  | (k, v) :: r => by
    simp only [freezeKVs, keysNodup, lookupKV_freezeKVs, keysNodup_freezeKVs T r]
    cases lookupKV r k <;> rfl

theorem wfKeys_finishSeq (a : Action) (orig : PyVal) (frozen : List PyVal) (ho : wfKeys orig = true)
    (hf : wfKeysList frozen = true) : wfKeys (finishSeq a orig frozen) = true := by
  cases a <;> simp [finishSeq, wfKeys, ho, hf]

theorem wfKeys_finishDict (a : Action) (orig : PyVal) (frozen : KVs) (ho : wfKeys orig = true)
    (hf : (keysNodup frozen && wfKeysKVs frozen) = true) : wfKeys (finishDict a orig frozen) = true := by
  cases a <;> simp_all [finishDict, wfKeys]

theorem wfKeys_freezeLeaf (T : Table) (v : PyVal) (h : wfKeys v = true) : wfKeys (freezeLeaf T v) = true := by
  unfold freezeLeaf
  split
  · split <;> simp_all [tagged, wfKeys, wfKeysList]
  · exact h

mutual
theorem freeze_wfKeys (T : Table) : ∀ v, wfKeys v = true → wfKeys (freeze T v) = true
  | .num _ _ | .str _ | .none | .cls _ | .obj _ | .tensor _ | .conv _ _ => by
    intro h; simpa only [freeze] using wfKeys_freezeLeaf T _ h
  | .tuple xs | .list xs => by
    intro h
    simp only [freeze]
    exact wfKeys_finishSeq _ _ _ h (freezeList_wfKeys T xs (by simpa [wfKeys] using h))
  | .ndarray d x => by
    intro h
    simp only [freeze]
    split
    · exact freeze_wfKeys T x (by simpa [wfKeys] using h)
    · exact h
  | .dict kvs => by
    intro h
    simp only [freeze]
    have h' := h
    simp only [wfKeys, Bool.and_eq_true] at h'
    exact wfKeys_finishDict _ _ _ h (by simp [keysNodup_freezeKVs, h'.1, freezeKVs_wfKeys T kvs h'.2])
  | .ns kvs => by
    intro h
    simp only [freeze]
    have h' := h
    simp only [wfKeys, Bool.and_eq_true] at h'
    split
    · exact wfKeys_finishDict _ _ _ (by simpa [wfKeys] using h') (by simp [keysNodup_freezeKVs, h'.1, freezeKVs_wfKeys T kvs h'.2])
    · exact h
  | .param n d a k => by
    intro h
    simp only [freeze]
    have h' := h
    simp only [wfKeys, Bool.and_eq_true] at h'
    split
    · refine wfKeys_finishSeq _ _ _ (by simp [wfKeys, wfKeysList, h'.1, h'.2]) ?_
      have l1 := wfKeys_freezeLeaf T (.str n) (by simp [wfKeys])
      have l2 := wfKeys_freezeLeaf T (.num .paramKind ⟨k, 0⟩) (by simp [wfKeys])
      simp [wfKeysList, freeze_wfKeys T d h'.1, freeze_wfKeys T a h'.2, l1, l2]
    · exact h
theorem freezeList_wfKeys (T : Table) : ∀ xs, wfKeysList xs = true → wfKeysList (freezeList T xs) = true
  | [] => by simp [freezeList, wfKeysList]
  | x :: xs => by
    intro h
    simp only [wfKeysList, Bool.and_eq_true] at h
    simp [freezeList, wfKeysList, freeze_wfKeys T x h.1, freezeList_wfKeys T xs h.2]
theorem freezeKVs_wfKeys (T : Table) : ∀ kvs, wfKeysKVs kvs = true → wfKeysKVs (freezeKVs T kvs) = true
  | [] => by simp [freezeKVs, wfKeysKVs]
  | (k, v) :: r => by
    intro h
    simp only [wfKeysKVs, Bool.and_eq_true] at h
    simp [freezeKVs, wfKeysKVs, freeze_wfKeys T v h.1, freezeKVs_wfKeys T r h.2]
end

/-! ### `keyEq a b → pyHash a = pyHash b` -/

/-- As `eqWith_hash0`; a placeholder hashes the frozen `concrete`, which is what is compared. -/
theorem eqWith_pyHash {kind : NumKind → NumKind → Bool} (T : Table) (env : HashEnv) :
    (∀ a b, eqWith kind (fun c c' => pyEq (freeze T c) (freeze T c')) a b = true → wfKeys a = true →
      pyHash T env a = pyHash T env b) ∧
    (∀ a b, eqWithSub kind (fun c c' => pyEq (freeze T c) (freeze T c')) a b = true → wfKeysKVs a = true →
      ∀ k v, (k, v) ∈ a → ∃ w, lookupKV b k = some w ∧ pyHash T env v = pyHash T env w) ∧
    (∀ xs ys, eqWithList kind (fun c c' => pyEq (freeze T c) (freeze T c')) xs ys = true → wfKeysList xs = true →
      pyHashList T env xs = pyHashList T env ys) := by
  apply eqWith_induct
  case tuple | list => intro xs ys ih hw; simp only [pyHash, ih hw]
  case dict | ns =>
    intro a b hl ih hw
    simp only [wfKeys, Bool.and_eq_true] at hw
    simp only [pyHash, pyHashKVs_eq]
    exact mapping_hash_eq env _ a b hw.1 hl (ih hw.2)
  case param =>
    intro n k d d' a a' ihd iha hw
    simp only [wfKeys, Bool.and_eq_true] at hw
    simp only [pyHash, ihd hw.1, iha hw.2]
  case cnv =>
    intro c c' s h hw
    simp only [pyHash, pyEq_hash0 env _ _ (freeze_wfKeys T c hw) h]
  case cons =>
    intro x y xs ys ih ihs hw
    simp only [wfKeysList, Bool.and_eq_true] at hw
    simp only [pyHashList, ih hw.1, ihs hw.2]
  case subNil => intro b _ k v hm; cases hm
  case subCons =>
    intro k0 v0 w r b hl ih ihr hw k v hm
    simp only [wfKeysKVs, Bool.and_eq_true] at hw
    rcases List.mem_cons.mp hm with hm | hm
    · obtain ⟨rfl, rfl⟩ := Prod.mk.inj hm
      exact ⟨w, hl, ih hw.1⟩
    · exact ihr hw.2 k v hm
  all_goals intros; rfl

theorem keyEq_hash (T : Table) (env : HashEnv) (a b : PyVal) (hw : wfKeys a = true) (h : keyEq T a b = true) :
    pyHash T env a = pyHash T env b :=
  (eqWith_pyHash T env).1 a b ((keyEq_eqWith T).1 a b ▸ h) hw

theorem keyEqList_hash (T : Table) (env : HashEnv) : ∀ xs ys, wfKeysList xs = true → keyEqList T xs ys = true →
    pyHashList T env xs = pyHashList T env ys :=
  fun xs ys hw h => (eqWith_pyHash T env).2.2 xs ys ((keyEq_eqWith T).2.2 xs ys ▸ h) hw

theorem keyEqSub_hash (T : Table) (env : HashEnv) : ∀ a b, wfKeysKVs a = true → keyEqSub T a b = true →
    ∀ k v, (k, v) ∈ a → ∃ w, lookupKV b k = some w ∧ pyHash T env v = pyHash T env w :=
  fun a b hw h => (eqWith_pyHash T env).2.1 a b ((keyEq_eqWith T).2.1 a b ▸ h) hw

theorem keyEq_noConv_all (T : Table) :
    (∀ a b, noConv a = true → keyEq T a b = pyEq a b) ∧
    (∀ a b, allConvKVs (fun _ => false) a = true → keyEqSub T a b = pyEqSub a b) ∧
    (∀ xs ys, allConvList (fun _ => false) xs = true → keyEqList T xs ys = pyEqList xs ys) := by
  simp only [(keyEq_eqWith T).1, (keyEq_eqWith T).2.1, (keyEq_eqWith T).2.2, pyEq_eqWith.1, pyEq_eqWith.2.1,
    pyEq_eqWith.2.2]
  exact eqWith_noConv

theorem keyEq_noConv (T : Table) (a b : PyVal) (h : noConv a = true) : keyEq T a b = pyEq a b :=
  (keyEq_noConv_all T).1 a b h

theorem keyEqList_noConv (T : Table) : ∀ xs ys, allConvList (fun _ => false) xs = true → keyEqList T xs ys = pyEqList xs ys :=
  (keyEq_noConv_all T).2.2

theorem keyEqSub_noConv (T : Table) : ∀ a b, allConvKVs (fun _ => false) a = true → keyEqSub T a b = pyEqSub a b :=
  (keyEq_noConv_all T).2.1

theorem allConv_finishSeq (p : PyVal → Bool) (a : Action) (orig : PyVal) (frozen : List PyVal) (ho : allConv p orig = true)
    (hf : allConvList p frozen = true) : allConv p (finishSeq a orig frozen) = true := by
  cases a <;> simp [finishSeq, allConv, ho, hf]

theorem allConv_finishDict (p : PyVal → Bool) (a : Action) (orig : PyVal) (frozen : KVs) (ho : allConv p orig = true)
    (hf : allConvKVs p frozen = true) : allConv p (finishDict a orig frozen) = true := by
  cases a <;> simp [finishDict, allConv, ho, hf]

theorem allConv_freezeLeaf (p : PyVal → Bool) (T : Table) (v : PyVal) (h : allConv p v = true) : allConv p (freezeLeaf T v) = true := by
  unfold freezeLeaf
  split
  · split <;> simp_all [tagged, allConv, allConvList]
  · exact h

mutual
theorem freeze_allConv (p : PyVal → Bool) (T : Table) : ∀ v, allConv p v = true → allConv p (freeze T v) = true
  | .num _ _ | .str _ | .none | .cls _ | .obj _ | .tensor _ | .conv _ _ => by
    intro h; simpa only [freeze] using allConv_freezeLeaf p T _ h
  | .tuple xs | .list xs => by
    intro h
    simp only [freeze]
    exact allConv_finishSeq p _ _ _ h (freezeList_allConv p T xs (by simpa [allConv] using h))
  | .ndarray d x => by
    intro h
    simp only [freeze]
    split
    · exact freeze_allConv p T x (by simpa [allConv] using h)
    · exact h
  | .dict kvs => by
    intro h
    simp only [freeze]
    exact allConv_finishDict p _ _ _ h (freezeKVs_allConv p T kvs (by simpa [allConv] using h))
  | .ns kvs => by
    intro h
    simp only [freeze]
    split
    · exact allConv_finishDict p _ _ _ (by simpa [allConv] using h) (freezeKVs_allConv p T kvs (by simpa [allConv] using h))
    · exact h
  | .param n d a k => by
    intro h
    simp only [freeze]
    have h' := h
    simp only [allConv, Bool.and_eq_true] at h'
    split
    · refine allConv_finishSeq p _ _ _ (by simp [allConv, allConvList, h'.1, h'.2]) ?_
      have l1 := allConv_freezeLeaf p T (.str n) (by simp [allConv])
      have l2 := allConv_freezeLeaf p T (.num .paramKind ⟨k, 0⟩) (by simp [allConv])
      simp [allConvList, freeze_allConv p T d h'.1, freeze_allConv p T a h'.2, l1, l2]
    · exact h
theorem freezeList_allConv (p : PyVal → Bool) (T : Table) : ∀ xs, allConvList p xs = true → allConvList p (freezeList T xs) = true
  | [] => by simp [freezeList, allConvList]
  | x :: xs => by
    intro h
    simp only [allConvList, Bool.and_eq_true] at h
    simp [freezeList, allConvList, freeze_allConv p T x h.1, freezeList_allConv p T xs h.2]
theorem freezeKVs_allConv (p : PyVal → Bool) (T : Table) : ∀ kvs, allConvKVs p kvs = true → allConvKVs p (freezeKVs T kvs) = true
  | [] => by simp [freezeKVs, allConvKVs]
  | (k, v) :: r => by
    intro h
    simp only [allConvKVs, Bool.and_eq_true] at h
    simp [freezeKVs, allConvKVs, freeze_allConv p T v h.1, freezeKVs_allConv p T r h.2]
end

/-- On values without `ConvertibleTensor` placeholders: the tagged forms are `==` exactly when the values agree in
structure, exact scalar types and values. -/
theorem tag_exact_all :
    (∀ x y, noConv x = true → pyEq (tagNums x) (tagNums y) = exactEq x y) ∧
    (∀ a b, allConvKVs (fun _ => false) a = true → pyEqSub (tagNumsKVs a) (tagNumsKVs b) = exactEqSub a b) ∧
    (∀ xs ys, allConvList (fun _ => false) xs = true → pyEqList (tagNumsList xs) (tagNumsList ys) = exactEqList xs ys) := by
  simp only [pyEq_eqWith.1, pyEq_eqWith.2.1, pyEq_eqWith.2.2, eqWith_tagNums.1, eqWith_tagNums.2.1, eqWith_tagNums.2.2,
    exactEq_eqWith.1, exactEq_eqWith.2.1, exactEq_eqWith.2.2, Bool.and_true]
  exact eqWith_noConv

theorem tag_exact (x y : PyVal) (h : noConv x = true) : pyEq (tagNums x) (tagNums y) = exactEq x y :=
  tag_exact_all.1 x y h

theorem tag_exactList : ∀ xs ys, allConvList (fun _ => false) xs = true → pyEqList (tagNumsList xs) (tagNumsList ys) = exactEqList xs ys :=
  tag_exact_all.2.2

theorem tag_exactSub : ∀ a b, allConvKVs (fun _ => false) a = true → pyEqSub (tagNumsKVs a) (tagNumsKVs b) = exactEqSub a b :=
  tag_exact_all.2.1

/-- What `keyEq T` compares at a placeholder, under a table that tags every scalar, is the exact comparison of the
`concrete` frozen by the pinned table. -/
theorem frozen_concrete_exact (T : Table) (r : Respects T) (t : ∀ k, T.act (.num k) = .tagType) (c c' : PyVal)
    (h : noConv c = true) :
    pyEq (freeze T c) (freeze T c') = exactEq (freeze pinnedTable c) (freeze pinnedTable c') := by
  rw [freeze_factor T r t c, freeze_factor T r t c']
  exact tag_exact _ _ (freeze_allConv _ pinnedTable c h)

/-- With every scalar tagged and placeholders compared through their frozen `concrete`: two tagged values are `==`
exactly when their exact observations (placeholders normalised by the pinned freezing) are equal. -/
theorem key_exact_all (T : Table) (r : Respects T) (t : ∀ k, T.act (.num k) = .tagType) :
    (∀ x y, flatConv x = true →
      keyEq T (tagNums x) (tagNums y) = exactEq (normConv pinnedTable x) (normConv pinnedTable y)) ∧
    (∀ a b, allConvKVs noConv a = true →
      keyEqSub T (tagNumsKVs a) (tagNumsKVs b) = exactEqSub (normConvKVs pinnedTable a) (normConvKVs pinnedTable b)) ∧
    (∀ xs ys, allConvList noConv xs = true →
      keyEqList T (tagNumsList xs) (tagNumsList ys) =
        exactEqList (normConvList pinnedTable xs) (normConvList pinnedTable ys)) := by
  simp only [(keyEq_eqWith T).1, (keyEq_eqWith T).2.1, (keyEq_eqWith T).2.2, eqWith_tagNums.1, eqWith_tagNums.2.1,
    eqWith_tagNums.2.2, exactEq_eqWith.1, exactEq_eqWith.2.1, exactEq_eqWith.2.2, (eqWith_normConv _).1, (eqWith_normConv _).2.1,
    (eqWith_normConv _).2.2, Bool.and_true]
  exact eqWith_congr noConv fun c c' h => (frozen_concrete_exact T r t c c' h).trans (exactEq_eqWith.1 _ _)

theorem key_exact (T : Table) (r : Respects T) (t : ∀ k, T.act (.num k) = .tagType) (x y : PyVal)
    (h : flatConv x = true) :
    keyEq T (tagNums x) (tagNums y) = exactEq (normConv pinnedTable x) (normConv pinnedTable y) :=
  (key_exact_all T r t).1 x y h

theorem key_exactList (T : Table) (r : Respects T) (t : ∀ k, T.act (.num k) = .tagType) :
    ∀ xs ys, allConvList noConv xs = true →
      keyEqList T (tagNumsList xs) (tagNumsList ys) = exactEqList (normConvList pinnedTable xs) (normConvList pinnedTable ys) :=
  (key_exact_all T r t).2.2

theorem key_exactSub (T : Table) (r : Respects T) (t : ∀ k, T.act (.num k) = .tagType) :
    ∀ a b, allConvKVs noConv a = true →
      keyEqSub T (tagNumsKVs a) (tagNumsKVs b) = exactEqSub (normConvKVs pinnedTable a) (normConvKVs pinnedTable b) :=
  (key_exact_all T r t).2.1

/-! ### The exact observation refines the typed observation of `Props/C06.lean` -/

/-- Equal exact type ⇒ equal numeric class, equal `concrete` exactly ⇒ equal `concrete`; no guard on placeholders. -/
theorem exact_typed_of_exactEq :
    (∀ x y, exactEq x y = true → typedEq x y = true) ∧
    (∀ a b, exactEqSub a b = true → typedEqSub a b = true) ∧
    (∀ xs ys, exactEqList xs ys = true → typedEqList xs ys = true) := by
  simp only [exactEq_eqWith.1, exactEq_eqWith.2.1, exactEq_eqWith.2.2, typedEq_eqWith.1, typedEq_eqWith.2.1,
    typedEq_eqWith.2.2]
  exact eqWith_mono (fun _ _ => cls_of_kind) exactEq_pyEq.1

theorem exact_typed (x y : PyVal) (h : exactEq x y = true) : typedEq x y = true :=
  exact_typed_of_exactEq.1 x y h

theorem exact_typedList : ∀ xs ys, allConvList (fun _ => false) xs = true → exactEqList xs ys = true → typedEqList xs ys = true :=
  fun xs ys _ h => exact_typed_of_exactEq.2.2 xs ys h

theorem exact_typedSub : ∀ a b, allConvKVs (fun _ => false) a = true → exactEqSub a b = true → typedEqSub a b = true :=
  fun a b _ h => exact_typed_of_exactEq.2.1 a b h

mutual
theorem normConv_noConv (T : Table) : ∀ v, noConv v = true → normConv T v = v
  | .num _ _ | .str _ | .none | .cls _ | .obj _ | .tensor _ => by intro _; simp [normConv]
  | .conv _ _ => by intro h; simp [noConv, allConv] at h
  | .tuple xs | .list xs => by intro h; simp only [noConv, allConv] at h; simp [normConv, normConvList_noConv T xs h]
  | .ndarray d x => by intro h; simp only [noConv, allConv] at h; simp [normConv, normConv_noConv T x h]
  | .dict kvs | .ns kvs => by intro h; simp only [noConv, allConv] at h; simp [normConv, normConvKVs_noConv T kvs h]
  | .param n d a k => by
    intro h
    simp only [noConv, allConv, Bool.and_eq_true] at h
    simp [normConv, normConv_noConv T d h.1, normConv_noConv T a h.2]
theorem normConvList_noConv (T : Table) : ∀ xs, allConvList (fun _ => false) xs = true → normConvList T xs = xs
  | [] => by simp [normConvList]
  | x :: xs => by
    intro h
    simp only [allConvList, Bool.and_eq_true] at h
    simp [normConvList, normConv_noConv T x h.1, normConvList_noConv T xs h.2]
theorem normConvKVs_noConv (T : Table) : ∀ kvs, allConvKVs (fun _ => false) kvs = true → normConvKVs T kvs = kvs
  | [] => by simp [normConvKVs]
  | (k, v) :: r => by
    intro h
    simp only [allConvKVs, Bool.and_eq_true] at h
    simp [normConvKVs, normConv_noConv T v h.1, normConvKVs_noConv T r h.2]
end

/-! ### Numbers: equal values at different exponents make the numerator at the smaller exponent even

(the arithmetic of `dy_normal_unique`, `Props/C06Hash.lean`) -/

theorem even_of_mul_two_pow_succ (n m : Int) (e d : Nat) (h : n * 2 ^ (e + d + 1) = m * 2 ^ e) : m % 2 = 0 := by
  have h2 : (2 : Int) ^ e ≠ 0 := Int.pow_ne_zero (by decide)
  have : n * 2 ^ (d + 1) * 2 ^ e = m * 2 ^ e := by
    rw [← h, Int.mul_assoc, ← Int.pow_add]; congr 2; omega
  rw [← Int.eq_of_mul_eq_mul_right h2 this, Int.pow_succ, ← Int.mul_assoc]
  exact Int.mul_emod_left _ 2

end Einx.Cache
