import EinxModel.Proofs.NotationLexer
import EinxModel.Proofs.NotationTokens
import EinxModel.Proofs.NotationFold
import EinxModel.Notation.Spec
/-!
# Rejection at the lexer and at the delimiter stack (helper lemmas for Props/C03Reject.lean)

The string-level predicates of Notation/Spec.lean (`alphabetChar`, the bracket-matching scan `delimRun`) related to the executable
model.  Lexer: the texts of the tokens concatenate to the string (`segment_concat`), so every character of a string that `lex`
accepts is in the alphabet, as every character of a valid token is.
Delimiter stack: read as the fold `TreeIns.full` of the one-token transition `TreeIns.step`; one transition on a state whose open
frames expect the closers `st` is the scan of the token's text from `st` (`step_scan`), so the stack over a prefix of the tokens
is the scan of the prefix's text (`full_append`).
-/
namespace Einx.Notation

open TreeIns

theorem isNameStart_cont {c : Char} (h : isNameStart c = true) : isNameCont c = true := by
  simp only [isNameStart, isNameCont, Bool.or_eq_true] at *
  rcases h with h | h
  · exact Or.inl (Or.inl h)
  · exact Or.inr h

theorem mem_litChars_of_mem {l : Str} {c : Char} (hl : l ∈ literals ++ naryOps) (hc : c ∈ l) : litChars.contains c = true := by
  simp only [litChars, List.contains_iff_mem, List.mem_flatten]
  exact ⟨l, hl, hc⟩

theorem validToken_chars {t : Str} (h : validToken t = true) : ∀ c ∈ t, alphabetChar c = true := by
  intro c hc
  simp only [validToken, Bool.or_eq_true] at h
  simp only [alphabetChar, Bool.or_eq_true]
  rcases h with ((h | h) | h) | h
  · right; exact mem_litChars_of_mem (List.mem_append_left _ (List.contains_iff_mem.mp h)) hc
  · right; exact mem_litChars_of_mem (List.mem_append_right _ (List.contains_iff_mem.mp h)) hc
  · left; left
    cases t with
    | nil => cases hc
    | cons a as =>
      simp only [isAxisName, Bool.and_eq_true, List.all_eq_true] at h
      rcases List.mem_cons.mp hc with rfl | hc
      · exact isNameStart_cont h.1
      · exact h.2 c hc
  · left; right
    simp only [isDigitStr, Bool.and_eq_true, List.all_eq_true] at h
    exact h.2 c hc

theorem lex_of_valid {text : Str} (h : ∀ t ∈ segment literals text 0 0 [], validToken t.text = true) :
    lex text = .ok (segment literals text 0 0 []) :=
  lex_elim (motive := (· = .ok (segment literals text 0 0 []))) text (fun t ht hf => nomatch (h t ht).symm.trans hf) fun _ => rfl

theorem lex_error {text : Str} {err : Err} (h : lex text = .error err) : ∃ pos, err = .syntax .invalidToken pos [] :=
  lex_elim (motive := fun r => r = .error err → ∃ pos, err = .syntax .invalidToken pos []) text
    (fun _ _ _ h => ⟨_, (Except.error.inj h).symm⟩) (fun _ h => nomatch h) h

theorem lex_bad_char (text : Str) (c : Char) (hc : c ∈ text) (hbad : alphabetChar c = false) :
    ∃ pos, lex text = .error (.syntax .invalidToken pos []) := by
  cases hl : lex text with
  | error err => obtain ⟨pos, rfl⟩ := lex_error hl; exact ⟨pos, rfl⟩
  | ok toks =>
    obtain ⟨rfl, hv⟩ := lex_ok_tokens hl
    have hmem : c ∈ (segment literals text 0 0 []).flatMap (·.text) := by rwa [segment_concat]
    obtain ⟨t, ht, hct⟩ := List.mem_flatMap.mp hmem
    rw [validToken_chars (hv t ht) c hct] at hbad
    cases hbad

theorem balanced_iff {s : Str} : balanced s = true ↔ delimRun s [] = some [] := beq_iff_eq

theorem delimRun_append (xs ys : Str) (st : List Char) :
    delimRun (xs ++ ys) st = match delimRun xs st with | some st' => delimRun ys st' | none => none := by
  induction xs generalizing st with
  | nil => rfl
  | cons x xs ih =>
    simp only [List.cons_append, delimRun]
    cases delimStep st x with
    | none => rfl
    | some st' => exact ih st'

theorem delimRun_clean (xs : Str) (st : List Char) (h : ∀ c ∈ xs, isDelimChar c = false) : delimRun xs st = some st := by
  induction xs with
  | nil => rfl
  | cons x xs ih =>
    have hx := h x List.mem_cons_self
    simp only [isDelimChar, Bool.or_eq_false_iff] at hx
    simp only [delimRun, delimStep, hx.1.1.1, hx.1.1.2, hx.1.2, hx.2, Bool.or_self, if_false, Bool.false_eq_true]
    exact ih (fun c hc => h c (List.mem_cons_of_mem _ hc))

def IsOpen (o : Token) : Prop := o.text = ['('] ∨ o.text = ['[']

def IsClose (c : Token) : Prop := c.text = [')'] ∨ c.text = [']']

def TokenClean (t : Token) : Prop := IsOpen t ∨ IsClose t ∨ ∀ c ∈ t.text, isDelimChar c = false

def closerOf (o : Token) : Char := if o.text = ['('] then ')' else ']'

theorem isOpen_iff_front {t : Token} : IsOpen t ↔ delimsFront.contains t.text = true := by
  rw [delimsFront_eq]
  simp [IsOpen]

theorem isClose_iff_back {t : Token} : IsClose t ↔ delimsBack.contains t.text = true := by
  rw [delimsBack_eq]
  simp [IsClose]

theorem IsClose.not_front {t : Token} (h : IsClose t) : delimsFront.contains t.text = false := by
  rw [delimsFront_eq]
  rcases h with h | h <;> rw [h] <;> rfl

theorem not_delim_of_clean {t : Str} (h : ∀ c ∈ t, isDelimChar c = false) :
    delimsFront.contains t = false ∧ delimsBack.contains t = false := by
  have hne : ∀ d : Char, isDelimChar d = true → t ≠ [d] := by
    intro d hd he
    rw [h d (by rw [he]; exact List.mem_singleton_self d)] at hd
    cases hd
  rw [delimsFront_eq, delimsBack_eq]
  simp [hne '(' rfl, hne '[' rfl, hne ')' rfl, hne ']' rfl]

theorem delimRun_open {t : Token} (h : IsOpen t) (st : List Char) : delimRun t.text st = some (closerOf t :: st) := by
  rcases h with h | h <;> simp only [closerOf, h] <;> rfl

theorem delimRun_close {o t : Token} (ho : IsOpen o) (ht : IsClose t) (st : List Char) :
    delimRun t.text (closerOf o :: st) = if closingOf o.text != some t.text then none else some st := by
  rcases ho with ho | ho <;> rcases ht with ht | ht <;> simp only [closerOf, ho, ht] <;> rfl

theorem delimRun_close_nil {t : Token} (ht : IsClose t) : delimRun t.text [] = none := by
  rcases ht with ht | ht <;> rw [ht] <;> rfl

def closers (s : St) : List Char := s.1.map (fun f => closerOf f.1)

def Opened (s : St) : Prop := ∀ f ∈ s.1, IsOpen f.1

theorem closers_appTop (xs : List Tok) (s : St) : closers (appTop xs s) = closers s := by
  obtain ⟨_ | ⟨⟨o, items⟩, rest⟩, base⟩ := s <;> rfl

theorem opened_appTop (xs : List Tok) {s : St} (h : Opened s) : Opened (appTop xs s) := by
  obtain ⟨_ | ⟨⟨o, items⟩, rest⟩, base⟩ := s
  · exact h
  · intro f hf
    rcases List.mem_cons.mp hf with rfl | hf
    · exact h (o, items) List.mem_cons_self
    · exact h f (List.mem_cons_of_mem _ hf)

theorem step_scan {t : Token} {s : St} (ht : TokenClean t) (hs : Opened s) :
    (delimRun t.text (closers s) = none → step t s = .error (closeErr t)) ∧
    ∀ st, delimRun t.text (closers s) = some st → ∃ s', step t s = .ok s' ∧ closers s' = st ∧ Opened s' := by
  rcases ht with ht | ht | ht
  · rw [delimRun_open ht, step_front s (isOpen_iff_front.mp ht)]
    refine ⟨nofun, fun st h => ⟨_, rfl, Option.some.inj h, fun f hf => ?_⟩⟩
    rcases List.mem_cons.mp hf with rfl | hf
    · exact ht
    · exact hs f hf
  · have h1 := ht.not_front
    have h2 := isClose_iff_back.mp ht
    obtain ⟨_ | ⟨⟨o, items⟩, rest⟩, base⟩ := s
    · rw [step_back_nil base h1 h2, show closers ([], base) = [] from rfl, delimRun_close_nil ht]
      exact ⟨fun _ => rfl, nofun⟩
    · have hrest : Opened (rest, base) := fun f hf => hs f (List.mem_cons_of_mem _ hf)
      rw [step_back_cons items rest base h1 h2, show closers ((o, items) :: rest, base) = closerOf o :: closers (rest, base) from rfl,
        delimRun_close (hs (o, items) List.mem_cons_self) ht]
      cases closingOf o.text != some t.text with
      | true => exact ⟨fun _ => rfl, nofun⟩
      | false =>
        exact ⟨nofun, fun st h => ⟨_, rfl, (closers_appTop _ _).trans (Option.some.inj h), opened_appTop _ hrest⟩⟩
  · obtain ⟨h1, h2⟩ := not_delim_of_clean ht
    rw [delimRun_clean _ _ ht, step_atom s h1 h2]
    exact ⟨nofun, fun st h => ⟨_, rfl, (closers_appTop _ _).trans (Option.some.inj h), opened_appTop _ hs⟩⟩

theorem full_append (post : List Token) : ∀ (pre : List Token) (s : St), (∀ t ∈ pre, TokenClean t) → Opened s →
    (delimRun (pre.flatMap (·.text)) (closers s) = none →
      ∃ pos, full (pre ++ post) s = .error (.syntax .closingNotOpened pos [])) ∧
    ∀ st, delimRun (pre.flatMap (·.text)) (closers s) = some st →
      ∃ s', full (pre ++ post) s = full post s' ∧ closers s' = st ∧ Opened s'
  | [], s, _, hs => ⟨nofun, fun _ h => ⟨s, rfl, Option.some.inj h, hs⟩⟩
  | t :: pre, s, hpre, hs => by
    have hstep := step_scan (hpre t List.mem_cons_self) hs
    rw [List.flatMap_cons, delimRun_append, List.cons_append, full_cons]
    cases hr : delimRun t.text (closers s) with
    | none =>
      rw [hstep.1 hr]
      exact ⟨fun _ => ⟨_, rfl⟩, nofun⟩
    | some st =>
      obtain ⟨s', hs', rfl, hop⟩ := hstep.2 st hr
      rw [hs']
      exact full_append post pre s' (fun x hx => hpre x (List.mem_cons_of_mem _ hx)) hop

theorem full_scan (ts : List Token) (s : St) (hts : ∀ t ∈ ts, TokenClean t) (hs : Opened s) :
    (delimRun (ts.flatMap (·.text)) (closers s) = none → ∃ pos, full ts s = .error (.syntax .closingNotOpened pos [])) ∧
    (delimRun (ts.flatMap (·.text)) (closers s) = some [] → ∃ tree, full ts s = .ok tree) ∧
    ∀ c st, delimRun (ts.flatMap (·.text)) (closers s) = some (c :: st) →
      ∃ pos, full ts s = .error (.syntax .openingNotClosed pos []) := by
  have h := full_append [] ts s hts hs
  rw [List.append_nil] at h
  refine ⟨h.1, fun hr => ?_, fun c st hr => ?_⟩
  · obtain ⟨⟨_ | ⟨f, rest⟩, base⟩, hf, hc, _⟩ := h.2 _ hr
    · exact ⟨_, hf⟩
    · exact (List.cons_ne_nil _ _ hc).elim
  · obtain ⟨⟨_ | ⟨⟨o, items⟩, rest⟩, base⟩, hf, hc, _⟩ := h.2 _ hr
    · exact (List.cons_ne_nil _ _ hc.symm).elim
    · exact ⟨_, hf⟩

theorem matchLit_none_not_delim (c : Char) (rest : Str) (h : matchLit literals (c :: rest) = none) : isDelimChar c = false := by
  cases hd : isDelimChar c with
  | false => rfl
  | true =>
    simp only [isDelimChar, Bool.or_eq_true, beq_iff_eq] at hd
    have : literals.contains [c] = true := by
      rw [literals_eq]
      rcases hd with ((rfl | rfl) | rfl) | rfl <;> decide
    rw [← List.singleton_append, matchLit_lit this rest] at h
    cases h

theorem literals_clean : ∀ l ∈ literals,
    (l = ['('] ∨ l = ['[']) ∨ (l = [')'] ∨ l = [']']) ∨ ∀ c ∈ l, isDelimChar c = false := by decide +kernel

theorem segment_clean (text : Str) : ∀ t ∈ segment literals text 0 0 [], TokenClean t := by
  intro t ht
  rcases segment_tokens literals text 0 0 [] (fun c => isDelimChar c = false) matchLit_none_not_delim
    (fun c hc => nomatch hc) t ht with h | h
  · exact literals_clean t.text h
  · exact Or.inr (Or.inr h)

theorem delimRun_dedup (ts : List Token) (f : Bool) (st : List Char) :
    delimRun ((dedupSpaces ts f).flatMap (·.text)) st = delimRun (ts.flatMap (·.text)) st := by
  induction ts generalizing f st with
  | nil => rfl
  | cons t ts ih =>
    rw [List.flatMap_cons, delimRun_append, dedupSpaces]
    split
    · rename_i hs
      have hsp : delimRun t.text st = some st := by
        rw [beq_iff_eq.mp hs]
        rfl
      rw [hsp]
      split
      · exact ih true st
      · rw [List.flatMap_cons, delimRun_append, hsp]
        exact ih true st
    · rw [List.flatMap_cons, delimRun_append]
      cases delimRun t.text st with
      | none => rfl
      | some st' => exact ih false st'

theorem lex_clean {text : Str} {toks : List Token} (h : lex text = .ok toks) : ∀ t ∈ dedupSpaces toks false, TokenClean t := by
  intro t ht
  have := mem_dedupSpaces ht
  rw [(lex_ok_tokens h).1] at this
  exact segment_clean text t this

/-- After a successful `lex`, the delimiter stack accepts exactly the balanced texts, and reports the two kinds of
    imbalance as the two documented errors. -/
theorem stack_scan (text : Str) (toks : List Token) (h : lex text = .ok toks) :
    (delimRun text [] = none → ∃ pos, buildTree (dedupSpaces toks false) [] [] = .error (.syntax .closingNotOpened pos [])) ∧
    (delimRun text [] = some [] → ∃ tree, buildTree (dedupSpaces toks false) [] [] = .ok tree) ∧
    ∀ c st, delimRun text [] = some (c :: st) →
      ∃ pos, buildTree (dedupSpaces toks false) [] [] = .error (.syntax .openingNotClosed pos []) := by
  have := full_scan (dedupSpaces toks false) ([], []) (lex_clean h) (fun f hf => nomatch hf)
  rw [← buildTree_eq_full, delimRun_dedup, (lex_ok_tokens h).1, segment_concat] at this
  rw [(lex_ok_tokens h).1]
  exact this

end Einx.Notation
