import EinxModel.Registry.Concurrent
import EinxModel.Proofs.Sched
/-! The interleavings of the REGISTRY model `Registry/Concurrent.lean` (those of the cache are in `Proofs/CacheConcurrent.lean`),
for the property theorems of `Props/C10.lean`: what one micro step does, the simulation invariant `Inv` kept by every schedule,
completeness of the enumeration of serial orders, and the progress measure. -/
namespace Einx.Registry.Conc
open Einx.Registry

theorem runOps_append (rc : Cfg) (w : World) (a b : List Op) :
    runOps rc w (a ++ b) =
      ((runOps rc (runOps rc w a).1 b).1, (runOps rc w a).2 ++ (runOps rc (runOps rc w a).1 b).2) := by
  induction a generalizing w with
  | nil => simp [runOps]
  | cons x xs ih => simp [runOps, ih]

theorem runOps_single (rc : Cfg) (w : World) (op : Op) :
    runOps rc w [op] = ((step rc w op).1, [(step rc w op).2]) := by
  simp [runOps]

theorem step_error_unchanged (rc : Cfg) (w : World) (op : Op) (e : Err)
    (h : (step rc w op).2 = .error e) : (step rc w op).1 = w := by
  cases op <;> simp only [step] at h ⊢ <;> (try (split at h <;> simp_all)) <;> simp_all

theorem step_mods (rc : Cfg) (w : World) (op : Op) (h : isEnv op = false) : (step rc w op).1.mods = w.mods := by
  cases op <;> simp only [step, isEnv] at h ⊢ <;> (try split) <;> simp_all

theorem step_env (rc : Cfg) (w : World) (op : Op) (h : isEnv op = true) :
    (step rc w op).1.st = w.st ∧ (step rc w op).2 = .unit := by
  cases op <;> simp_all [step, isEnv]

theorem locks_of_allLocked (lc : LockCfg) (h : lc.allLocked = true) (op : Op) (he : isEnv op = false) :
    lc.locks op = true := by
  simp only [LockCfg.allLocked, Bool.and_eq_true] at h
  cases op <;> simp_all [LockCfg.locks, isEnv]

theorem opsOf_append (j i : Nat) (h : List (Nat × Op × Out)) (op : Op) (o : Out) :
    opsOf j (h ++ [(i, op, o)]) = if i = j then opsOf j h ++ [op] else opsOf j h := by
  by_cases hij : i = j <;> simp [opsOf, List.filter_append, hij]

theorem outsOf_append (j i : Nat) (h : List (Nat × Op × Out)) (op : Op) (o : Out) :
    outsOf j (h ++ [(i, op, o)]) = if i = j then outsOf j h ++ [o] else outsOf j h := by
  by_cases hij : i = j <;> simp [outsOf, List.filter_append, hij]

/-- What `stepThread rc lc c i` can be when thread `i` is `th`. -/
inductive MicroStep (rc : Cfg) (lc : LockCfg) (c : Conf) (i : Nat) (th : Thread) : Conf → Prop
  | env (op : Op) (rest : List Op) (hpc : th.pc = .idle) (hprog : th.prog = op :: rest) (he : isEnv op = true) :
      MicroStep rc lc c i th (commit rc c i th c.st op rest .idle)
  | acquire (op : Op) (rest : List Op) (hpc : th.pc = .idle) (hprog : th.prog = op :: rest) (he : isEnv op = false)
      (hl : lc.locks op = true) (hlk : c.lock = none) :
      MicroStep rc lc c i th { c with lock := some i, threads := c.threads.set i { th with pc := .acquired } }
  | readUnlocked (op : Op) (rest : List Op) (hpc : th.pc = .idle) (hprog : th.prog = op :: rest) (he : isEnv op = false)
      (hl : lc.locks op = false) :
      MicroStep rc lc c i th { c with threads := c.threads.set i { th with pc := .read c.st } }
  | read (hpc : th.pc = .acquired) :
      MicroStep rc lc c i th { c with threads := c.threads.set i { th with pc := .read c.st } }
  | store (snap : State) (op : Op) (rest : List Op) (hpc : th.pc = .read snap) (hprog : th.prog = op :: rest) :
      MicroStep rc lc c i th (commit rc c i th snap op rest (if c.lock = some i then .releasing else .idle))
  | release (hpc : th.pc = .releasing) :
      MicroStep rc lc c i th { c with lock := none, threads := c.threads.set i { th with pc := .idle } }

theorem stepThread_eq_some {rc : Cfg} {lc : LockCfg} {c c' : Conf} {i : Nat} (hs : stepThread rc lc c i = some c') :
    ∃ th, c.threads[i]? = some th ∧ MicroStep rc lc c i th c' := by
  unfold stepThread at hs
  cases hi : c.threads[i]? with
  | none => simp [hi] at hs
  | some th =>
    refine ⟨th, rfl, ?_⟩
    rw [hi] at hs
    cases hpc : th.pc with
    | idle =>
      simp only [hpc] at hs
      split at hs
      · cases hs
      · next op rest hprog =>
        cases he : isEnv op with
        | true =>
          simp only [he, ↓reduceIte] at hs
          cases hs
          exact .env op rest hpc hprog he
        | false =>
          cases hl : lc.locks op with
          | false =>
            simp only [he, hl, Bool.false_eq_true, ↓reduceIte] at hs
            cases hs
            exact .readUnlocked op rest hpc hprog he hl
          | true =>
            cases hlk : c.lock with
            | some k => simp [he, hl, hlk] at hs
            | none =>
              simp only [he, hl, hlk, Bool.false_eq_true, ↓reduceIte] at hs
              cases hs
              exact .acquire op rest hpc hprog he hl hlk
    | acquired =>
      simp only [hpc] at hs
      cases hs
      exact .read hpc
    | read snap =>
      simp only [hpc] at hs
      split at hs
      · cases hs
      · next op rest hprog =>
        cases hs
        exact .store snap op rest hpc hprog
    | releasing =>
      simp only [hpc] at hs
      cases hs
      exact .release hpc

/-! ### The invariant -/

structure ThreadInv (progs : List (List Op)) (c : Conf) (i : Nat) (th : Thread) : Prop where
  /-- committed calls followed by the remaining program are the thread's program -/
  prog : progs[i]? = some (opsOf i c.lin ++ th.prog)
  outs : th.outs = outsOf i c.lin
  /-- a thread inside a method owns the lock -/
  owns : th.pc ≠ .idle → c.lock = some i
  /-- the snapshot of a thread between read and store is the current shared state -/
  snap : ∀ s, th.pc = .read s → s = c.st
  busy : th.pc ≠ .idle → th.pc ≠ .releasing → th.prog ≠ []

structure Inv (rc : Cfg) (w0 : World) (progs : List (List Op)) (c : Conf) : Prop where
  len : c.threads.length = progs.length
  /-- the shared world is the result of the serial run of the committed calls, with the same outcomes -/
  serial : runOps rc w0 (c.lin.map (·.2.1)) = (⟨c.st, c.mods⟩, c.lin.map (·.2.2))
  tids : ∀ e ∈ c.lin, e.1 < progs.length
  thr : ∀ i th, c.threads[i]? = some th → ThreadInv progs c i th
  owner : ∀ i, c.lock = some i → ∃ th, c.threads[i]? = some th ∧ th.pc ≠ .idle

theorem inv_init (rc : Cfg) (w0 : World) (progs : List (List Op)) : Inv rc w0 progs (init w0 progs) := by
  refine ⟨by simp [init], by simp [init, runOps], by simp [init], ?_, by simp [init]⟩
  intro i th h
  simp only [init, List.getElem?_map, Option.map_eq_some_iff] at h
  obtain ⟨p, hp, rfl⟩ := h
  exact ⟨by simp [init, opsOf, hp], by simp [init, outsOf], by simp, by simp, by simp⟩

/-- A step that only moves thread `i`'s program counter (and possibly the lock). -/
theorem inv_pc_update {rc : Cfg} {w0 : World} {progs : List (List Op)} {c : Conf} (h : Inv rc w0 progs c)
    (i : Nat) (th : Thread) (hi : c.threads[i]? = some th) (pc' : PC) (lock' : Option Nat)
    (hown : pc' ≠ .idle → lock' = some i)
    (hsnap : ∀ s, pc' = .read s → s = c.st)
    (hbusy : pc' ≠ .idle → pc' ≠ .releasing → th.prog ≠ [])
    (hothers : ∀ j thj, j ≠ i → c.threads[j]? = some thj → thj.pc = .idle)
    (hlock : ∀ k, lock' = some k → k = i ∧ pc' ≠ .idle) :
    Inv rc w0 progs { c with lock := lock', threads := c.threads.set i { th with pc := pc' } } := by
  have hlt : i < c.threads.length := (List.getElem?_eq_some_iff.1 hi).1
  refine ⟨by simpa using h.len, h.serial, h.tids, ?_, ?_⟩
  · intro j thj hj
    rcases Sched.getElem?_set_cases _ _ _ _ _ hj with ⟨rfl, rfl⟩ | ⟨hne, hj'⟩
    · have t := h.thr j th hi
      exact ⟨t.prog, t.outs, hown, hsnap, hbusy⟩
    · have t := h.thr j thj hj'
      have hidle := hothers j thj hne hj'
      exact ⟨t.prog, t.outs, by simp [hidle], by simp [hidle], by simp [hidle]⟩
  · intro k hk
    obtain ⟨rfl, hp⟩ := hlock k hk
    exact ⟨{ th with pc := pc' }, by simp [hlt], hp⟩

theorem others_idle {rc : Cfg} {w0 : World} {progs : List (List Op)} {c : Conf} (h : Inv rc w0 progs c)
    (i : Nat) (hl : c.lock = some i ∨ c.lock = none) :
    ∀ j thj, j ≠ i → c.threads[j]? = some thj → thj.pc = .idle := by
  intro j thj hne hj
  by_cases hp : thj.pc = .idle
  · exact hp
  · have := (h.thr j thj hj).owns hp
    rcases hl with hl | hl <;> simp_all

/-- The store step, from a fresh snapshot.  No other thread may hold a snapshot that the store invalidates: under the
lock the others are idle, and an import leaves the registry state as it is. -/
theorem inv_commit {rc : Cfg} {w0 : World} {progs : List (List Op)} {c : Conf} (h : Inv rc w0 progs c)
    (i : Nat) (th : Thread) (hi : c.threads[i]? = some th) (op : Op) (rest : List Op) (hprog : th.prog = op :: rest)
    (pc' : PC) (hpc : pc' = .idle ∨ pc' = .releasing)
    (hown : pc' ≠ .idle ↔ c.lock = some i)
    (hsnap : ∀ j thj, j ≠ i → c.threads[j]? = some thj → ∀ s, thj.pc = .read s → s = (step rc ⟨c.st, c.mods⟩ op).1.st) :
    Inv rc w0 progs (commit rc c i th c.st op rest pc') := by
  have hlt : i < c.threads.length := (List.getElem?_eq_some_iff.1 hi).1
  have ti := h.thr i th hi
  -- the stored state is the sequential successor of the current shared world
  have hst : (commit rc c i th c.st op rest pc').st = (step rc ⟨c.st, c.mods⟩ op).1.st := by
    simp only [commit]
    split
    · rename_i e he
      rw [step_error_unchanged rc ⟨c.st, c.mods⟩ op e he]
    · rfl
  refine ⟨by simpa [commit] using h.len, ?_, ?_, ?_, ?_⟩
  · have : (commit rc c i th c.st op rest pc').lin = c.lin ++ [(i, op, (step rc ⟨c.st, c.mods⟩ op).2)] := rfl
    rw [this, List.map_append, runOps_append, h.serial]
    simp only [List.map_cons, List.map_nil, runOps_single, List.map_append]
    congr 1
    have hm : (commit rc c i th c.st op rest pc').mods = (step rc ⟨c.st, c.mods⟩ op).1.mods := rfl
    rw [hst, hm]
  · intro e he
    simp only [commit, List.mem_append, List.mem_singleton] at he
    rcases he with he | rfl
    · exact h.tids e he
    · simpa [h.len] using hlt
  · intro j thj hj
    simp only [commit] at hj
    rcases Sched.getElem?_set_cases _ _ _ _ _ hj with ⟨rfl, rfl⟩ | ⟨hne, hj'⟩
    · refine ⟨?_, ?_, fun hp => hown.1 hp, ?_, ?_⟩
      · simp only [commit, opsOf_append, ↓reduceIte]
        rw [ti.prog, hprog]; simp
      · simp only [commit, outsOf_append, ↓reduceIte, ti.outs]
      · intro s hs; rcases hpc with rfl | rfl <;> cases hs
      · exact fun h1 h2 => absurd (hpc.resolve_left h1) h2
    · have t := h.thr j thj hj'
      have hji : ¬ i = j := fun e => hne e.symm
      refine ⟨?_, ?_, t.owns, fun s hs => hst ▸ hsnap j thj hne hj' s hs, t.busy⟩
      · simp only [commit, opsOf_append, hji, ↓reduceIte]; exact t.prog
      · simp only [commit, outsOf_append, hji, ↓reduceIte]; exact t.outs
  · intro k hk
    obtain ⟨thk, hk', hkp⟩ := h.owner k hk
    by_cases hki : k = i
    · subst hki
      exact ⟨{ pc := pc', prog := rest, outs := th.outs ++ [(step rc ⟨c.st, c.mods⟩ op).2] },
        by simp [commit, hlt], hown.2 hk⟩
    · have hik : ¬ i = k := fun e => hki e.symm
      exact ⟨thk, by simp [commit, hik, hk'], hkp⟩

/-- **Simulation step**: with every method locked, each micro step preserves the invariant. -/
theorem inv_step {rc : Cfg} {lc : LockCfg} (hl : lc.allLocked = true) {w0 : World} {progs : List (List Op)}
    {c c' : Conf} (h : Inv rc w0 progs c) (i : Nat) (hs : stepThread rc lc c i = some c') :
    Inv rc w0 progs c' := by
  obtain ⟨th, hi, m⟩ := stepThread_eq_some hs
  have ti := h.thr i th hi
  cases m with
  | env op rest hpc hprog he =>
    -- an import commits atomically and leaves the registry state, hence every snapshot, as it is
    refine inv_commit h i th hi op rest hprog .idle (.inl rfl) ⟨fun hp => absurd rfl hp, fun hl => ?_⟩
      fun j thj _ hj s hs => ?_
    · obtain ⟨thi, hi', hp⟩ := h.owner i hl
      rw [hi] at hi'; cases hi'; exact absurd hpc hp
    · rw [(step_env rc ⟨c.st, c.mods⟩ op he).1]; exact (h.thr j thj hj).snap s hs
  | acquire op rest hpc hprog he _ hlk =>
    exact inv_pc_update h i th hi .acquired (some i) (by simp) (by simp) (by simp [hprog])
      (others_idle h i (.inr hlk)) (by simp)
  | readUnlocked op rest hpc hprog he hl' => rw [locks_of_allLocked lc hl op he] at hl'; cases hl'
  | read hpc =>
    have hown := ti.owns (by simp [hpc])
    have := inv_pc_update h i th hi (.read c.st) c.lock (by simp [hown]) (by simp)
      (fun _ _ => ti.busy (by simp [hpc]) (by simp [hpc])) (others_idle h i (.inl hown)) (by simp [hown])
    simpa using this
  | store snap op rest hpc hprog =>
    have hown := ti.owns (by simp [hpc])
    have hsn := ti.snap snap hpc
    subst hsn
    simp only [hown, ↓reduceIte]
    exact inv_commit h i th hi op rest hprog .releasing (.inr rfl) ⟨fun _ => hown, fun _ => PC.noConfusion⟩
      fun j thj hne hj s hs => by rw [others_idle h i (.inl hown) j thj hne hj] at hs; cases hs
  | release hpc =>
    have hown := ti.owns (by simp [hpc])
    exact inv_pc_update h i th hi .idle none (by simp) (by simp) (by simp) (others_idle h i (.inl hown)) (by simp)

theorem inv_run {rc : Cfg} {lc : LockCfg} (hl : lc.allLocked = true) {w0 : World} {progs : List (List Op)}
    (sched : List Nat) {c : Conf} (h : Inv rc w0 progs c) : Inv rc w0 progs (run rc lc c sched) :=
  Sched.inv_run (fun _ i _ h hs => inv_step hl h i hs) sched h

/-- The enabled thread is the owner of the lock if there is one, any thread with calls left otherwise. -/
theorem enabled_of_inv {rc : Cfg} {lc : LockCfg} (hl : lc.allLocked = true) {w0 : World} {progs : List (List Op)}
    {c : Conf} (h : Inv rc w0 progs c) (hfin : c.finished = false) : ∃ i, (stepThread rc lc c i).isSome = true := by
  cases hlk : c.lock with
  | some k =>
    obtain ⟨th, hk, hp⟩ := h.owner k hlk
    have t := h.thr k th hk
    refine ⟨k, ?_⟩
    unfold stepThread
    simp only [hk]
    cases hpc : th.pc with
    | idle => exact absurd hpc hp
    | acquired => simp
    | releasing => simp
    | read s =>
      have hb := t.busy hp (by simp [hpc])
      cases hprog : th.prog with
      | nil => exact absurd hprog hb
      | cons op rest => simp
  | none =>
    -- nobody is inside a method; some thread still has calls to make
    obtain ⟨th, hm, hd⟩ := List.all_eq_false.mp hfin
    obtain ⟨i, hlt, rfl⟩ := List.mem_iff_getElem.mp hm
    have hi : c.threads[i]? = some c.threads[i] := List.getElem?_eq_getElem hlt
    have t := h.thr i _ hi
    have hidle : c.threads[i].pc = .idle := by
      by_cases hp : c.threads[i].pc = .idle
      · exact hp
      · have := t.owns hp; rw [hlk] at this; cases this
    refine ⟨i, ?_⟩
    unfold stepThread
    simp only [hi, hidle]
    cases hprog : c.threads[i].prog with
    | nil => simp [Thread.done, hidle, hprog] at hd
    | cons op rest =>
      by_cases he : isEnv op = true
      · simp [he]
      · have he' : isEnv op = false := by simpa using he
        simp [he', locks_of_allLocked lc hl op he', hlk]

/-! ### Completeness of the enumeration of serial orders -/

/-- Every merge of the programs is enumerated by `interleave` (given enough fuel). -/
theorem interleave_complete (fuel : Nat) (ps : List (List Op)) (o : List (Nat × Op))
    (hf : (ps.map List.length).sum ≤ fuel)
    (hproj : ∀ i p, ps[i]? = some p → (o.filter (·.1 == i)).map (·.2) = p)
    (htid : ∀ e ∈ o, e.1 < ps.length) : o ∈ interleave fuel ps := by
  induction o generalizing fuel ps with
  | nil =>
    have hall : ps.all List.isEmpty = true := by
      rw [List.all_eq_true]
      intro p hp
      obtain ⟨i, hlt, rfl⟩ := List.mem_iff_getElem.mp hp
      exact List.isEmpty_iff.2 (hproj i _ (List.getElem?_eq_getElem hlt)).symm
    cases fuel with
    | zero => simp [interleave]
    | succ f => simp [interleave, hall]
  | cons e o ih =>
    obtain ⟨i, op⟩ := e
    have hi : i < ps.length := htid (i, op) (by simp)
    have hpi := hproj i _ (List.getElem?_eq_getElem hi)
    simp only [List.filter_cons, beq_self_eq_true, ↓reduceIte, List.map_cons] at hpi
    have hget : ps[i]? = some (op :: (o.filter (·.1 == i)).map (·.2)) := by
      rw [List.getElem?_eq_getElem hi, hpi]
    have hsum := Sched.sum_map_set List.length ps i _ ((o.filter (·.1 == i)).map (·.2)) hget
    rw [List.length_cons] at hsum
    cases fuel with
    | zero => omega
    | succ f =>
      have hne : ps.all List.isEmpty = false := by
        rw [Bool.eq_false_iff]
        intro hall
        have := List.all_eq_true.mp hall _ (List.getElem_mem hi)
        rw [← hpi] at this; simp at this
      simp only [interleave, hne, Bool.false_eq_true, ↓reduceIte, List.mem_flatMap, List.mem_range]
      refine ⟨i, hi, ?_⟩
      rw [hget]
      simp only [List.mem_map]
      refine ⟨o, ?_, rfl⟩
      apply ih
      · omega
      · intro j p hj
        rw [List.getElem?_set] at hj
        by_cases hij : i = j
        · subst hij
          simp only [↓reduceIte, hi] at hj
          exact (Option.some.inj hj)
        · simp only [hij, ↓reduceIte] at hj
          have := hproj j p hj
          have hji : (i == j) = false := by simpa using hij
          simpa [List.filter_cons, hji] using this
      · intro e' he'
        simpa using htid e' (List.mem_cons_of_mem _ he')

/-! ### Progress measure -/

/-- A bound on the micro steps a thread can still make, lowered by each of them (`step_measure_lt`).  A call takes at
most four steps – acquire, read, store, release – and the weights order its stages `idle`, `acquired`, `read`; the
store takes the call off `prog`, so `releasing` weighs a whole call.  A finished thread keeps the weight of `idle`. -/
def Thread.measure (th : Thread) : Nat :=
  4 * th.prog.length + (match th.pc with
    | .idle => 3
    | .acquired => 2
    | .read _ => 1
    | .releasing => 4)

def Conf.measure (c : Conf) : Nat := (c.threads.map Thread.measure).sum

/-- Every micro step strictly decreases the measure (so every execution is finite). -/
theorem step_measure_lt {rc : Cfg} {lc : LockCfg} {c c' : Conf} (i : Nat) (hs : stepThread rc lc c i = some c') :
    c'.measure < c.measure := by
  obtain ⟨th, hi, m⟩ := stepThread_eq_some hs
  -- every step puts a thread of smaller measure in the place of thread `i`
  have lt := fun th' => Sched.sum_set_lt Thread.measure c.threads i th th' hi
  cases m with
  | env op rest hpc hprog => exact lt _ (by simp [Thread.measure, hpc, hprog])
  | acquire op rest hpc | readUnlocked op rest hpc | read hpc | release hpc =>
    exact lt _ (by simp [Thread.measure, hpc])
  | store snap op rest hpc hprog =>
    refine lt _ ?_
    simp only [Thread.measure, hpc, hprog, List.length_cons]
    split <;> omega

end Einx.Registry.Conc
