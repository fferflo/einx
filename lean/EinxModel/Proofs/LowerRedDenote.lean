import EinxModel.Proofs.LowerRedRun
import EinxModel.Proofs.LowerDenote
/-! Denotation side of `lower_reduce_correct` (Props/C01LowerOps.lean): the functional form `Denote.denoteReduceFun` of the
reduction denotation on converted expressions (input with the axes named in `m` in brackets, repetition-free input and
output), cell by cell, and the reduce instance `Inner.forRed` of the pipeline theorem. -/
namespace Einx.Lower
open Einx Einx.IR Einx.Generic Einx.Denote
open Einx.Update (mapOpt mapOpt_eq_some_iff)

theorem filter_marked_toLeafM (m : List String) (L : List Ax) :
    (L.map (toLeafM m)).filter (·.marked) = (markedAxes m L).map (toLeafM m) := by
  rw [List.filter_map]; rfl

/-- The iteration space of the bracketed axes of a repetition-free input: the `t`-th assignment gives the bracketed
axes the multi-index `unravel t`. -/
theorem markedAssignments (m : List String) {L : List Ax} (h : (names L).Nodup) :
    assignments (axesOf ((L.map (toLeafM m)).filter (·.marked)))
      = (List.range (prod (lens (markedAxes m L)))).map
          (fun t => (names (markedAxes m L)).zip (unravel (lens (markedAxes m L)) t)) := by
  rw [filter_marked_toLeafM, axesOfM_nodup m (markedAxes m L) (names_nodup_filter h _), assignments_eq, Update.assignments_eq]
  simp [List.map_map, Function.comp_def, names, lens]

/-- The assignment `inputAssign` builds for an input without repeated names: defined as soon as every leaf has a value
(`inVal`), and then it gives every leaf that value. -/
theorem inputAssign_of_vals (m : List String) {L : List Ax} (hL : (names L).Nodup) (σ τ : Assign) (w : String → Nat)
    (hw : ∀ a ∈ L, inVal σ τ (toLeafM m a) = some (w a.name)) :
    ∃ a, inputAssign σ τ (L.map (toLeafM m)) = some a ∧ ∀ x ∈ L, Assign.get a x.name = some (w x.name) := by
  have hinj : ∀ l ∈ L.map (toLeafM m), ∀ l' ∈ L.map (toLeafM m), l.name = l'.name → l = l' := by
    intro l hl l' hl' hn
    obtain ⟨a, ha, rfl⟩ := List.mem_map.mp hl
    obtain ⟨b, hb, rfl⟩ := List.mem_map.mp hl'
    rw [eq_of_name_eq hL ha hb hn]
  have := inputAssign_spec σ τ (ls := L.map (toLeafM m)) (fun l hl l' hl' hn => by rw [hinj l hl l' hl' hn])
    (fun l hl l' hl' hn => by rw [hinj l hl l' hl' hn])
  cases hf : inputAssign σ τ (L.map (toLeafM m)) with
  | none =>
    rw [hf] at this
    obtain ⟨l, hl, hn⟩ := this
    obtain ⟨a, ha, rfl⟩ := List.mem_map.mp hl
    rw [hw a ha] at hn; cases hn
  | some a =>
    rw [hf] at this
    exact ⟨a, rfl, fun x hx => by rw [← hw x hx]; exact (this.1 (toLeafM m x) (List.mem_map_of_mem hx)).2⟩

/-- The input element a reduction reads for the `k`-th output assignment and the `t`-th assignment of the bracketed
axes. -/
theorem redCell_lower (m : List String) {ein eout : List G} (hin : (names (G.leavesL ein)).Nodup)
    (hsub : ∀ a ∈ G.leavesL ein, a.len ≠ 1 → m.contains a.name = false → a.name ∈ names (G.leavesL eout))
    {k : Nat} (hk : k < prod (lens (G.leavesL eout))) {u : List Nat}
    (hul : u.length = (markedAxes m (G.leavesL ein)).length) :
    Denote.redCell (toDimML m ein) (gShape ein) (sigmaOf (G.leavesL eout) k)
        ((names (markedAxes m (G.leavesL ein))).zip u)
      = some (.src 0 (ravel (lens (G.leavesL ein))
          (idx (G.leavesL ein) (ovr (markedAxes m (G.leavesL ein)) u (valOf (G.leavesL eout) k))))) := by
  generalize hMk : markedAxes m (G.leavesL ein) = Mk at *
  generalize hw : ovr Mk u (valOf (G.leavesL eout) k) = w
  have hlen : (names Mk).length ≤ u.length := by simp [names, hul]
  have hvals : ∀ a ∈ G.leavesL ein,
      inVal (sigmaOf (G.leavesL eout) k) ((names Mk).zip u) (toLeafM m a) = some (w a.name) := by
    intro a ha
    have hg := get_zip_names (names Mk) u a.name hlen
    unfold inVal
    by_cases hmk : m.contains a.name = true
    · -- a bracketed axis takes its value from the multi-index `u`
      have hmem : a.name ∈ names Mk := by
        rw [← hMk]; exact List.mem_map.mpr ⟨a, List.mem_filter.mpr ⟨ha, hmk⟩, rfl⟩
      simp only [toLeafM, hmk, if_true]
      cases hj : (names Mk).idxOf? a.name with
      | none => exact absurd hmem (List.idxOf?_eq_none_iff.mp hj)
      | some j => rw [hg, hj, ← hw]; simp only [ovr, hj, Option.map_some]
    · -- an un-bracketed one from the output assignment, or 0 if it is a unit axis that the output lacks
      have hmk' : m.contains a.name = false := (Bool.not_eq_true _).mp hmk
      have hw' : w a.name = valOf (G.leavesL eout) k a.name := by rw [← hw, ← hMk]; exact ovr_unmarked hmk' _ _
      simp only [toLeafM, hmk', Bool.false_eq_true, if_false, hw']
      cases hσ : Assign.get (sigmaOf (G.leavesL eout) k) a.name with
      | some y => simp only [valOf, hσ, Option.getD_some]
      | none =>
        have h1 : a.len = 1 :=
          Decidable.byContradiction fun hne => (sigmaOf_eq_none_iff hk).mp hσ (hsub a ha hne hmk')
        simp [valOf, hσ, h1]
  obtain ⟨a, hfold, hval⟩ := inputAssign_of_vals m hin _ _ w hvals
  obtain ⟨ps, hps, _, hr⟩ := posL_toDimML m a w ein hval
  simp only [Denote.redCell, leavesL_toDimML, hfold, cellAt, flatPos, position_eq, hps, Option.map_some, hr]

theorem redArgs_lower (m : List String) {ein eout : List G}
    (hin : (names (G.leavesL ein)).Nodup)
    (hsub : ∀ a ∈ G.leavesL ein, a.len ≠ 1 → m.contains a.name = false → a.name ∈ names (G.leavesL eout))
    {k : Nat} (hk : k < prod (lens (G.leavesL eout))) :
    redArgs (toDimML m ein) (gShape ein) (sigmaOf (G.leavesL eout) k)
      = some ((allIndices (lens (markedAxes m (G.leavesL ein)))).map (fun τ => Cell.src 0 (ravel (lens (G.leavesL ein))
          (idx (G.leavesL ein) (ovr (markedAxes m (G.leavesL ein)) τ (valOf (G.leavesL eout) k)))))) := by
  unfold redArgs Denote.markedAxes
  rw [leavesL_toDimML, markedAssignments m hin, mapOpt_eq_some_iff, allIndices, List.map_map, List.map_map, List.map_map]
  apply List.map_congr_left
  intro t ht
  have hv := unravel_valid _ _ (List.mem_range.mp ht)
  have hul : (unravel (lens (markedAxes m (G.leavesL ein))) t).length = (markedAxes m (G.leavesL ein)).length := by
    rw [valid_length hv]; simp [lens]
  simp only [Function.comp]
  exact redCell_lower m hin hsub hk hul

theorem denoteReduce_of_cells {f : String} {m : List String} {ein eout : List G} {cs : List Cell}
    (h : genCells (redX f (toDimML m ein) (gShape ein)) (toDimL eout) (gShape eout) = some cs) :
    denoteReduce f (rootExprM m ein) (rootExpr eout) = .ok ⟨gShape eout, cs⟩ := by
  apply ok_of_okOpt
  rw [denoteReduce_cells f _ _ (concatFree_rootExprM m ein) (concatFree_rootExpr eout), rootDims_rootExprM,
    shapeOf_rootExprM, rootDims_rootExpr, shapeOf_rootExpr, h]
  rfl

/-- `valOf_bnd` on the input without its bracketed axes. -/
theorem valOf_bnd_unmarked (m : List String) {ein eout : List G} (hout : (names (G.leavesL eout)).Nodup)
    (hcons : ∀ a ∈ G.leavesL ein, ∀ b ∈ G.leavesL eout, a.name = b.name → a.len = b.len)
    (hsub : ∀ a ∈ G.leavesL ein, a.len ≠ 1 → m.contains a.name = false → a.name ∈ names (G.leavesL eout))
    {k : Nat} (hk : k < prod (lens (G.leavesL eout))) :
    ∀ a ∈ G.leavesL ein, m.contains a.name = false → valOf (G.leavesL eout) k a.name < a.len := by
  have hb := valOf_bnd (Li := (G.leavesL ein).filter (fun a => !m.contains a.name)) hout
    (fun a ha b hb hab => hcons a (List.mem_filter.mp ha).1 b hb hab)
    (fun a ha hne => hsub a (List.mem_filter.mp ha).1 hne (by simpa using (List.mem_filter.mp ha).2)) hk
  intro a ha hma
  exact hb a (List.mem_filter.mpr ⟨ha, by simp only [hma, Bool.not_false]⟩)

theorem mem_redExpr {m : List String} {ein : List G} {a : Ax} :
    a ∈ (squeezedExpr m ein).filter (fun a => !m.contains a.name) ↔
      a ∈ G.leavesL ein ∧ a.len ≠ 1 ∧ m.contains a.name = false := by
  rw [List.mem_filter, mem_squeezedExpr]
  cases m.contains a.name <;> simp

/-- The inner function of a reduction: one numpy reduction of the prepared input over its bracketed axes. -/
def Inner.forRed (f : String) (m : List String) {ein eout : List G} (hnd : (names (G.leavesL ein)).Nodup)
    (hout : (names (G.leavesL eout)).Nodup)
    (hcons : ∀ a ∈ G.leavesL ein, ∀ b ∈ G.leavesL eout, a.name = b.name → a.len = b.len) : Inner eout where
  sq := (squeezedExpr m ein).filter (fun a => !m.contains a.name)
  P := fun val => Bnd val (G.leavesL eout) ∧ ∀ a ∈ G.leavesL ein, m.contains a.name = false → val a.name < a.len
  c := redCell f m (G.leavesL ein)
  X := redX f (toDimML m ein) (gShape ein)
  over :=
    { nodup := names_nodup_filter (names_nodup_filter hnd _) _
      ne1 := fun _ ha => (mem_redExpr.mp ha).2.1
      bndSq := fun _ hP a ha => hP.2 a (mem_redExpr.mp ha).1 (mem_redExpr.mp ha).2.2
      bndOut := fun _ hP => hP.1
      cons := fun a ha => hcons a (mem_redExpr.mp ha).1 }
  den := fun hsub _ hk =>
    have hsub' : ∀ a ∈ G.leavesL ein, a.len ≠ 1 → m.contains a.name = false → a.name ∈ names (G.leavesL eout) :=
      fun a ha hne hm => hsub _ (List.mem_map.mpr ⟨a, mem_redExpr.mpr ⟨ha, hne, hm⟩, rfl⟩)
    ⟨⟨(sigmaOf_get hout hk).2.2, valOf_bnd_unmarked m hout hcons hsub' hk⟩,
      by rw [redX, redArgs_lower m hnd hsub' hk]; rfl⟩

/-- A successful `lowerReduce` in its domain: its parts, the traced shape after `_squeeze_transpose_broadcast`, and the
register that the program computes from the symbolic input, which holds exactly the cells of the denotation. -/
theorem lowerReduce_cells {f : String} {m : List String} {ein eout : List G} {l : LX}
    (hd : redDomain m ein eout = true) (h : lowerReduce f m ein eout = .ok l) :
    ∃ sq s1 s3, prepInput m { reg := 0, shape := gShape ein, prog := [], next := 1 } 0 ein = .ok (sq, s1) ∧
      stb { reg := s1.next, shape := lens (sq.filter (fun a => !m.contains a.name)), prog := [], next := s1.next + 1 }
        (sq.filter (fun a => !m.contains a.name)) (G.leavesL eout) = .ok s3 ∧
      s3.shape = lens (G.leavesL eout) ∧
      l = ⟨s1.prog.map .base ++ [.reduce f s1.reg (exprToAxis m sq) false] ++ (reshapeW s3 (gShape eout)).prog.map .base,
        (reshapeW s3 (gShape eout)).reg⟩ ∧
      ∃ regs cs, evalProgG planInstrX symAlg l.prog [symInput 0 (gShape ein)] = .ok regs ∧
        regs[l.reg]? = some ⟨gShape eout, cs⟩ ∧
        genCells (redX f (toDimML m ein) (gShape ein)) (toDimL eout) (gShape eout) = some cs := by
  simp only [redDomain, Bool.and_eq_true] at hd
  have hout := (noDup_iff _).mp hd.1.1
  have hcons := consistentLens_spec hd.1.2
  obtain ⟨sq, s1, s3, hp, hcheck, hstb, rfl⟩ := lowerReduce_ok.ok h
  obtain ⟨hnd, rfl, ext1, T1, hrun1, hdat1, hR1⟩ := (prep_run (inps := [symInput 0 (gShape ein)]) ⟨rfl, rfl⟩ rfl).ok hp
  rw [← hrun1.shape, hR1.1] at hcheck
  have hid : ∀ k, k < T1.data.length → T1.data[k]? = some (.src 0 k) := by
    intro k hk
    rw [hdat1] at hk ⊢
    simp only [symInput, List.length_map, List.length_range] at hk
    simp [symInput, hk]
  obtain ⟨pl, hpl, hplsh, hpll, hplread⟩ :=
    reduce_reads f m hrun1.reg hR1.1 hrun1.len hid (names_nodup_filter hnd _) hcheck
  generalize hregs1 : [symInput 0 (gShape ein)] ++ ext1 = regs1 at *
  have hnext : regs1.length = s1.next := hrun1.next
  -- tracing resumes on all registers computed so far
  have hrun2 : Run (regs1 ++ [runPlan symAlg regs1 pl])
      { reg := s1.next, shape := lens ((squeezedExpr m ein).filter (fun a => !m.contains a.name)), prog := [], next := s1.next + 1 }
      (regs1 ++ [runPlan symAlg regs1 pl]) (runPlan symAlg regs1 pl) :=
    ⟨⟨rfl, by simp [hnext]⟩, by rw [← hnext]; exact List.getElem?_concat_length, hplsh, by
      rw [runPlan_data]; simpa [runPlan] using hpll⟩
  have hR2 : ReadsC (Inner.forRed f m hnd hout hcons).P (redCell f m (G.leavesL ein)) (runPlan symAlg regs1 pl)
      ((squeezedExpr m ein).filter (fun a => !m.contains a.name)) :=
    ⟨hplsh, fun val hv => by
      rw [hplread val (fun a ha hm => hv.2 a (mem_squeezedExpr.mp ha).1 hm), ← redCell_squeezed f m ein hv.2]⟩
  obtain ⟨hsh3, ext, cs, hrun, hden⟩ := (Inner.forRed f m hnd hout hcons).correct hout hrun2 hR2 hstb
  refine ⟨_, s1, s3, hp, hstb, hsh3, rfl, _, cs, ?_, hrun.reg, hden⟩
  simp only []
  rw [evalProgG_append, evalProgG_append, evalProgG_base, hrun1.ev]
  simp only [ok_bind, evalProgG, hpl, pure, Except.pure]
  rw [evalProgG_base]
  exact hrun.ev

end Einx.Lower
