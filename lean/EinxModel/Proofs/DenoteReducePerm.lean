import EinxModel.Proofs.DenoteReduce
import Mathlib.Data.List.Perm.Lattice
import Mathlib.Data.Multiset.Bind
/-!
Reductions (C08), what their input laws rest on.  Two leaf lists with the same members give the same iteration space in
another order (`assignments_map_perm`, `axesOf_perm`), so a permuted reduction visits the reduced cells in another order;
`mkRed` sorts them (`Proofs/CellOrder.lean`), hence a canonical reduction cell survives a substitution up to re-sorting
(`canon_subst_mkRed`) and in value under every `RedInvariant` interpretation.  The laws themselves:
`Proofs/DenoteDotPerm.lean`.
-/
namespace Einx.Denote
open Einx Einx.IR List
open Einx.Update (mapOpt mapOpt_eq_some_iff mapOpt_congr mapOpt_map mapOpt_optmap mapOpt_mem mapOpt_eq_id_map mapOpt_perm)

theorem flatMap_comm_perm {α β γ : Type} (l1 : List α) (l2 : List β) (f : α → β → List γ) :
    (l1.flatMap (fun a => l2.flatMap (fun b => f a b))) ~ (l2.flatMap (fun b => l1.flatMap (fun a => f a b))) := by
  have := Multiset.bind_bind (m := (l1 : Multiset α)) (n := (l2 : Multiset β)) (f := fun a b => (f a b : Multiset γ))
  simp only [Multiset.coe_bind] at this
  exact Multiset.coe_eq_coe.mp (by simpa [Multiset.coe_bind] using this)

theorem assignments_map_perm {γ : Type} {axes axes' : List (String × Nat)} (h : axes ~ axes') :
    ∀ (G : Assign → γ), (∀ σ τ, SameGet σ τ → G σ = G τ) → (axes.map (·.1)).Nodup →
      (assignments axes).map G ~ (assignments axes').map G := by
  induction h with
  | nil => intro G _ _; exact Perm.refl _
  | cons x _ ih =>
    intro G hG hnd
    obtain ⟨n, s⟩ := x
    simp only [assignments, List.map_flatMap, List.map_map]
    apply Perm.flatMap_left
    intro i _
    exact ih (G ∘ fun σ => (n, i) :: σ) (fun σ τ hst => hG _ _ (hst.cons _)) (by simpa using (List.nodup_cons.mp hnd).2)
  | swap x y l =>
    intro G hG hnd
    obtain ⟨nx, sx⟩ := x
    obtain ⟨ny, sy⟩ := y
    have hne : ny ≠ nx := by
      simp only [List.map_cons, List.nodup_cons, List.mem_cons, not_or] at hnd
      exact hnd.1.1
    simp only [assignments, List.map_flatMap, List.map_map]
    refine (flatMap_comm_perm _ _ _).trans ?_
    apply Perm.of_eq
    congr 1; funext i; congr 1; funext j; congr 1; funext σ
    exact hG _ _ (sameGet_swap (ny, j) (nx, i) σ hne)
  | trans h1 _ ih1 ih2 =>
    intro G hG hnd
    exact (ih1 G hG hnd).trans (ih2 G hG ((h1.map _).nodup_iff.mp hnd))

theorem mapOpt_assignments_perm {axes' axes : List (String × Nat)} (hp : axes' ~ axes)
    (hnd : (axes'.map (·.1)).Nodup) {T' T : Assign → Option Cell} (g : Cell → Cell)
    (hpt : ∀ τ ∈ assignments axes', (T' τ).map g = T τ) (hT : ∀ τ τ', SameGet τ τ' → T τ = T τ') :
    (mapOpt T' (assignments axes') = none ∧ mapOpt T (assignments axes) = none) ∨
      ∃ r' r, mapOpt T' (assignments axes') = some r' ∧ mapOpt T (assignments axes) = some r ∧ r'.map g ~ r := by
  have hL : (assignments axes').map T ~ (assignments axes).map T := assignments_map_perm hp _ hT hnd
  have h1 : mapOpt id ((assignments axes').map T) = (mapOpt T' (assignments axes')).map (List.map g) := by
    rw [← List.map_congr_left hpt, ← mapOpt_eq_id_map, mapOpt_optmap]
  rcases mapOpt_perm id hL with ⟨e1, e2⟩ | ⟨r1, r, e1, e2, hr⟩
  · rw [h1] at e1
    rw [← mapOpt_eq_id_map] at e2
    cases h : mapOpt T' (assignments axes') with
    | none => exact Or.inl ⟨rfl, e2⟩
    | some r' => rw [h] at e1; nomatch e1
  · rw [h1] at e1
    rw [← mapOpt_eq_id_map] at e2
    cases h : mapOpt T' (assignments axes') with
    | none => rw [h] at e1; nomatch e1
    | some r' =>
      rw [h, Option.map_some, Option.some.injEq] at e1
      exact Or.inr ⟨r', r, rfl, e2, by rw [e1]; exact hr⟩

theorem axesOf_perm {ls ls' : List Leaf} (hm : ∀ l, l ∈ ls ↔ l ∈ ls') (hc : Consistent ls) : axesOf ls ~ axesOf ls' := by
  have hc' : Consistent ls' := hc.mono fun l hl => (hm l).mpr hl
  apply (List.perm_ext_iff_of_nodup (Nodup.of_map _ (axesOf_nodup ls)) (Nodup.of_map _ (axesOf_nodup ls'))).mpr
  intro q
  rw [mem_axesOf hc, mem_axesOf hc']
  constructor
  · rintro ⟨l, hl, h⟩; exact ⟨l, (hm l).mp hl, h⟩
  · rintro ⟨l, hl, h⟩; exact ⟨l, (hm l).mpr hl, h⟩

/-! ### canonical reduction cells after a substitution -/

/-- A re-canonicaliser `R` that sorts the arguments of `red:f` again (`Cell.resort`, `Cell.resortAt "red:f"`) undoes what a
substitution does to a canonical reduction cell: if the substituted arguments are a permutation of `r`, the result is
`mkRed f r`. -/
theorem canon_subst_mkRed {R : Cell → Cell} {f : String}
    (hR : ∀ args, R (.app ("red:" ++ f) args) = .app ("red:" ++ f) (sortCells args))
    (regs : List (Tensor Cell)) {r' r : List Cell}
    (hp : r'.map (subst regs) ~ r) (hr : ∀ c ∈ r, R c = c) :
    R (subst regs (mkRed f r')) = mkRed f r := by
  by_cases h1 : r'.length = 1
  · obtain ⟨c', rfl⟩ := List.length_eq_one_iff.mp h1
    rw [perm_singleton.mp hp.symm] at hr ⊢
    exact hr _ (List.mem_singleton_self _)
  · have h2 : r.length ≠ 1 := by rw [← hp.length_eq, List.length_map]; exact h1
    rw [mkRed_of_length_ne_one f h1, mkRed_of_length_ne_one f h2, subst_app, hR,
      sortCells_perm (((sortCells_perm_self r').map _).trans hp)]

/-- The interpretation of every reduction symbol `red:g` is invariant under permutations of its arguments. -/
def RedInvariant {α : Type} (A : Alg α) : Prop :=
  ∀ (g : String) (xs ys : List α), xs ~ ys → A.app ("red:" ++ g) xs = A.app ("red:" ++ g) ys

theorem eval_subst {α : Type} (A : Alg α) (xs : List (Tensor α)) (ts : List (Tensor Cell)) (c : Cell) :
    evalCell A xs (subst ts c) = evalCell A (ts.map (Tensor.map (evalCell A xs))) c :=
  (evalCell_map (evalCell_hom A xs) ts c).symm

theorem eval_mkRed_perm {α : Type} {A : Alg α} (hA : RedInvariant A) (f : String) (xs ys : List (Tensor α))
    {r' r : List Cell} (hp : r'.map (evalCell A xs) ~ r.map (evalCell A ys)) :
    evalCell A xs (mkRed f r') = evalCell A ys (mkRed f r) := by
  have hlen : r'.length = r.length := by simpa using hp.length_eq
  by_cases h1 : r'.length = 1
  · obtain ⟨c', rfl⟩ := List.length_eq_one_iff.mp h1
    obtain ⟨c, rfl⟩ := List.length_eq_one_iff.mp (hlen ▸ h1)
    exact List.singleton_perm_singleton.mp hp
  · rw [mkRed_of_length_ne_one f h1, mkRed_of_length_ne_one f (hlen ▸ h1)]
    simp only [evalCell, evalCells_eq_map]
    exact hA _ _ _ ((((sortCells_perm_self r').map _).trans hp).trans ((sortCells_perm_self r).map _).symm)

theorem eval_mkRed_subst {α : Type} {A : Alg α} (hA : RedInvariant A) (f : String) (xs : List (Tensor α))
    (regs : List (Tensor Cell)) {r' r : List Cell} (hp : r'.map (subst regs) ~ r) :
    evalCell A (regs.map (Tensor.map (evalCell A xs))) (mkRed f r') = evalCell A xs (mkRed f r) := by
  apply eval_mkRed_perm hA
  have := hp.map (evalCell A xs)
  rw [List.map_map] at this
  have hfun : (evalCell A xs ∘ subst regs) = evalCell A (regs.map (Tensor.map (evalCell A xs))) :=
    funext fun c => eval_subst A xs regs c
  rw [hfun] at this
  exact this

end Einx.Denote
