import EinxModel.Proofs.NotationSim
/-!
# M1 Notation — `ESim` is a congruence for the smart constructors of `tree.py`
-/
namespace Einx.Notation

variable {φ : Nat → Nat}

theorem ESimL.length_eq {cs cs' : List Expr} (h : ESimL φ cs cs') : cs.length = cs'.length :=
  (esimL_iff.mp h).length_eq

theorem ESimL.append : ∀ {as as' bs bs' : List Expr}, ESimL φ as as' → ESimL φ bs bs' → ESimL φ (as ++ bs) (as' ++ bs') :=
  fun ha hb => esimL_iff.mpr ((esimL_iff.mp ha).append (esimL_iff.mp hb))

theorem ESim.isFlat_eq {x y : Expr} (h : ESim φ x y) : x.isFlat = y.isFlat := by cases h <;> rfl
theorem ESim.isBrackets_eq {x y : Expr} (h : ESim φ x y) : x.isBrackets = y.isBrackets := by cases h <;> rfl
theorem ESim.isConcat_eq {x y : Expr} (h : ESim φ x y) : x.isConcat = y.isConcat := by cases h <;> rfl
theorem ESim.isAxis_eq {x y : Expr} (h : ESim φ x y) : x.isAxis = y.isAxis := by cases h <;> rfl
theorem ESim.isList_eq {x y : Expr} (h : ESim φ x y) : x.isList = y.isList := by cases h <;> rfl
theorem ESim.isAxisOrFlat_eq {x y : Expr} (h : ESim φ x y) : isAxisOrFlat x = isAxisOrFlat y := by
  simp only [isAxisOrFlat, h.isAxis_eq, h.isFlat_eq]

theorem ESim.ndim_ndimSum_eq :
    (∀ {x y : Expr}, ESim φ x y → x.ndim = y.ndim) ∧ (∀ {cs cs' : List Expr}, ESimL φ cs cs' → ndimSum cs = ndimSum cs') :=
  ESim.induct (P := fun x y => x.ndim = y.ndim) (Q := fun cs cs' => ndimSum cs = ndimSum cs')
    (axis := fun _ _ => rfl) (flat := fun _ _ => rfl) (concat := fun _ _ => rfl) (args := fun _ _ => rfl)
    (op := fun _ _ => rfl)
    (brackets := fun _ ih => by simp only [Expr.ndim]; exact ih)
    (ellipsis := fun _ ih => by simp only [Expr.ndim]; rw [ih])
    (list := fun _ ih => by simp only [Expr.ndim]; exact ih)
    (nil := rfl)
    (cons := fun _ _ ih1 ih2 => by simp only [ndimSum]; rw [ih1, ih2])

theorem ESim.ndim_eq (x y : Expr) (h : ESim φ x y) : x.ndim = y.ndim := ESim.ndim_ndimSum_eq.1 h

theorem ESimL.ndimSum_eq : ∀ (cs cs' : List Expr), ESimL φ cs cs' → ndimSum cs = ndimSum cs' :=
  fun _ _ h => ESim.ndim_ndimSum_eq.2 h

theorem emptyList_sim : ESim φ emptyList emptyList := ESim.list ESimL.nil

theorem mkFlat_sim {x y : Expr} {b e b' e' : Int} (h : ESim φ x y) : ESim φ (mkFlat x b e) (mkFlat y b' e') := by
  unfold mkFlat
  rw [← h.isFlat_eq]
  split
  · exact h
  · exact ESim.flat h

theorem mkBrackets_sim {x y : Expr} {b e b' e' : Int} (h : ESim φ x y) : ESim φ (mkBrackets x b e) (mkBrackets y b' e') := by
  unfold mkBrackets
  rw [← h.isBrackets_eq, ← ESim.ndim_eq _ _ h]
  split
  · exact h
  · split
    · exact emptyList_sim
    · exact ESim.brackets h

theorem mkEllipsis_sim {x y : Expr} {b e b' e' : Int} {d : Nat} (h : ESim φ x y) :
    ESim φ (mkEllipsis x b e d) (mkEllipsis y b' e' (φ d)) := by
  unfold mkEllipsis
  rw [← ESim.ndim_eq _ _ h]
  split
  · exact emptyList_sim
  · exact ESim.ellipsis h

theorem mkConcat_sim {cs cs' : List Expr} {b e b' e' : Int} (h : ESimL φ cs cs') :
    ESim φ (mkConcat cs b e) (mkConcat cs' b' e') := by
  unfold mkConcat
  cases h with
  | nil => exact ESim.concat ESimL.nil
  | cons h1 h2 =>
    cases h2 with
    | nil => exact h1
    | cons h2 h3 => exact ESim.concat (ESimL.cons h1 (ESimL.cons h2 h3))

theorem flattenOne_sim : ∀ (x y : Expr), ESim φ x y → ESimL φ (flattenOne x) (flattenOne y) := fun _ _ h => by
  have single : ∀ {x y : Expr}, ESim φ x y → ESimL φ [x] [y] := fun h => .cons h .nil
  have children : ∀ {P : Expr → Expr → Prop} {cs cs' : List Expr}, Forall2 (fun c c' => ESim φ c c' ∧ P c c') cs cs' →
      ESimL φ cs cs' := fun ih => esimL_iff.mpr (ih.imp fun _ _ h => h.1)
  exact ESim.induct1 (P := fun x y => ESimL φ (flattenOne x) (flattenOne y))
    (axis := fun hn hv => single (.axis hn hv)) (flat := fun h _ => single (.flat h))
    (brackets := fun h _ => single (.brackets h)) (ellipsis := fun h _ => single (.ellipsis h))
    (concat := fun ih => single (.concat (children ih))) (args := fun ih => single (.args (children ih)))
    (op := fun ih => single (.op (children ih)))
    (list := fun ih => by
      rw [flattenOne, flattenOne, flattenAll_eq_flatMap, flattenAll_eq_flatMap]
      exact esimL_iff.mpr (ih.flatMap fun _ _ h => esimL_iff.mp h.2)) h

theorem flattenAll_sim : ∀ (cs cs' : List Expr), ESimL φ cs cs' → ESimL φ (flattenAll cs) (flattenAll cs') := fun _ _ h => by
  rw [flattenAll_eq_flatMap, flattenAll_eq_flatMap]
  exact esimL_iff.mpr ((esimL_iff.mp h).flatMap fun _ _ hc => esimL_iff.mp (flattenOne_sim _ _ hc))

theorem mkList_sim {cs cs' : List Expr} {b e b' e' : Int} (h : ESimL φ cs cs') :
    ESim φ (mkList cs b e) (mkList cs' b' e') := by
  unfold mkList
  have hf := flattenAll_sim _ _ h
  generalize flattenAll cs = l at hf
  generalize flattenAll cs' = l' at hf
  cases hf with
  | nil => exact ESim.list ESimL.nil
  | cons h1 h2 =>
    cases h2 with
    | nil => exact h1
    | cons h2 h3 => exact ESim.list (ESimL.cons h1 (ESimL.cons h2 h3))

theorem ESim.children {x y : Expr} (h : ESim φ x y) : ESimL φ x.children y.children := by
  cases h with
  | axis _ => exact ESimL.nil
  | flat hi | brackets hi | ellipsis hi => exact ESimL.cons hi ESimL.nil
  | concat hcs | list hcs | args hcs | op hcs => exact hcs

theorem RSim.error_left {err : Err} {r : Res Expr} (h : RSim φ (.error err) r) : ∃ err', r = .error err' ∧ ErrSim err err' :=
  (rsim_iff.mp h).error_left

theorem RSim.ok_left {x : Expr} {r : Res Expr} (h : RSim φ (.ok x) r) : ∃ y, r = .ok y ∧ ESim φ x y :=
  (rsim_iff.mp h).ok_left

end Einx.Notation
