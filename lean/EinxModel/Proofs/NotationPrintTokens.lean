import EinxModel.Proofs.NotationPrintDefs
import EinxModel.Proofs.NotationTokens
/-!
# M1 Notation — position-free token lists: the operands of a printed join

`strip`, the operand split and `findOp` have mirrors on `PTok` lists (`pstrip`, `psplit`, `pfindOp`) that commute with
erasure, so all list reasoning about a printed text happens without positions.  `split_join`: splitting `sep.join(pieces)` at
the operator of `sep` (`OpSep`) and stripping gives back the stripped pieces; `lvl_join`: a join by spaces of pieces without
operators or spaces (`CleanP`) has no other operator and no space at either end.
-/
namespace Einx.Notation
namespace PrintParse

def pIsText (s : Str) : PTok → Bool
  | .atom t => t == s
  | .group .. => false

def pIsSpace (p : PTok) : Bool := pIsText spaceLit p

def pDropTrail : List PTok → List PTok
  | [] => []
  | t :: ts =>
    match pDropTrail ts with
    | [] => if pIsSpace t then [] else [t]
    | r => t :: r

def pstrip (ps : List PTok) : List PTok := pDropTrail (ps.dropWhile pIsSpace)

def psegH (op : Str) : List PTok → List PTok
  | [] => []
  | p :: ps => if pIsText op p then [] else p :: psegH op ps

def psegT (op : Str) : List PTok → List (List PTok)
  | [] => []
  | p :: ps => if pIsText op p then psegH op ps :: psegT op ps else psegT op ps

def psplit (op : Str) (ps : List PTok) : List (List PTok) := psegH op ps :: psegT op ps

def pfindOp : List Str → List PTok → Option Str
  | [], _ => none
  | op :: ops, ps => if ps.any (pIsText op) then some op else pfindOp ops ps

/-- No top-level atom with text `op`. -/
def noT (op : Str) (ps : List PTok) : Prop := ps.any (pIsText op) = false

theorem isText_erase (s : Str) (t : Tok) : pIsText s t.erase = t.isText s := by
  cases t <;> simp only [Tok.erase, pIsText, Tok.isText]

theorem isSpace_erase (t : Tok) : pIsSpace t.erase = t.isSpace := isText_erase _ t

theorem eraseL_eq_map : ∀ T : List Tok, eraseL T = T.map Tok.erase
  | [] => by simp only [eraseL, List.map_nil]
  | t :: ts => by simp only [eraseL, List.map_cons, eraseL_eq_map ts]

theorem eraseL_cons (t : Tok) (ts : List Tok) : eraseL (t :: ts) = t.erase :: eraseL ts := by
  simp only [eraseL]

theorem eraseL_nil : eraseL [] = [] := by simp only [eraseL]

theorem eraseL_eq_nil {T : List Tok} (h : eraseL T = []) : T = [] :=
  List.map_eq_nil_iff.mp (eraseL_eq_map T ▸ h)

theorem erase_dropWhile (T : List Tok) : eraseL (T.dropWhile Tok.isSpace) = (eraseL T).dropWhile pIsSpace := by
  rw [eraseL_eq_map, eraseL_eq_map, List.dropWhile_map]
  exact congrArg (fun q => (T.dropWhile q).map Tok.erase) (funext fun t => (isSpace_erase t).symm)

/-- One step of `pDropTrail`. -/
def pdtCons (t : PTok) (r : List PTok) : List PTok :=
  match r with
  | [] => if pIsSpace t then [] else [t]
  | r => t :: r

theorem pDropTrail_cons_eq (t : PTok) (ts : List PTok) : pDropTrail (t :: ts) = pdtCons t (pDropTrail ts) := by
  simp only [pDropTrail, pdtCons]

theorem erase_dtCons (t : Tok) (r : List Tok) : eraseL (dtCons t r) = pdtCons t.erase (eraseL r) := by
  cases r with
  | nil =>
    simp only [dtCons, pdtCons, eraseL_nil, isSpace_erase]
    cases t.isSpace <;> simp [eraseL_nil, eraseL_cons]
  | cons a as => simp only [dtCons, pdtCons, eraseL_cons]

theorem erase_dropTrail : ∀ T : List Tok, eraseL (dropTrailSpaces T) = pDropTrail (eraseL T)
  | [] => by simp only [dropTrailSpaces, pDropTrail, eraseL_nil]
  | t :: ts => by
    rw [dropTrail_cons_eq, eraseL_cons, pDropTrail_cons_eq, erase_dtCons, erase_dropTrail ts]

theorem erase_strip (T : List Tok) : eraseL (strip T) = pstrip (eraseL T) := by
  simp only [strip, pstrip, erase_dropTrail, erase_dropWhile]

theorem erase_segH (op : Str) : ∀ T : List Tok, eraseL (segH op T) = psegH op (eraseL T)
  | [] => by simp only [segH_nil, eraseL_nil, psegH]
  | t :: ts => by
    rw [segH_cons, eraseL_cons]
    simp only [psegH, isText_erase]
    cases t.isText op with
    | true => simp [eraseL_nil]
    | false => simp [eraseL_cons, erase_segH op ts]

theorem erase_segT (op : Str) : ∀ T : List Tok, (segT op T).map eraseL = psegT op (eraseL T)
  | [] => by simp only [segT_nil, eraseL_nil, psegT, List.map_nil]
  | t :: ts => by
    rw [segT_cons, eraseL_cons]
    simp only [psegT, isText_erase]
    cases t.isText op with
    | true => simp [erase_segH, erase_segT op ts]
    | false => simp [erase_segT op ts]

theorem operands_erase (op : Str) (T : List Tok) :
    (operands op T).map (fun o => eraseL o.ts) = psplit op (eraseL T) := by
  have h := congrArg (List.map eraseL) (operands_ts op T)
  rw [List.map_map] at h
  rw [psplit, ← erase_segH, ← erase_segT, ← List.map_cons]
  exact h

theorem any_erase (s : Str) (T : List Tok) : T.any (Tok.isText s) = (eraseL T).any (pIsText s) := by
  rw [eraseL_eq_map, List.any_map]
  exact congrArg T.any (funext fun t => (isText_erase s t).symm)

theorem findOp_erase : ∀ (ops : List Str) (T : List Tok), findOp ops T = pfindOp ops (eraseL T)
  | [], _ => rfl
  | op :: ops, T => by simp only [findOp, pfindOp, any_erase, findOp_erase ops T]

theorem erase_atom {t : Tok} {s : Str} (h : t.erase = .atom s) : ∃ tk, t = .atom tk ∧ tk.text = s := by
  cases t with
  | atom tk => simp only [Tok.erase, PTok.atom.injEq] at h; exact ⟨tk, rfl, h⟩
  | group o c i => simp only [Tok.erase] at h; cases h

theorem erase_group {t : Tok} {o c : Str} {I : List PTok} (h : t.erase = .group o c I) :
    ∃ ot ct inner, t = .group ot ct inner ∧ ot.text = o ∧ eraseL inner = I := by
  cases t with
  | atom tk => simp only [Tok.erase] at h; cases h
  | group ot ct i =>
    simp only [Tok.erase, PTok.group.injEq] at h
    exact ⟨ot, ct, i, rfl, h.1, h.2.2⟩

theorem eraseL_single {T : List Tok} {p : PTok} (h : eraseL T = [p]) : ∃ t, T = [t] ∧ t.erase = p :=
  List.map_eq_singleton_iff.mp (eraseL_eq_map T ▸ h)

theorem eraseL_pair {T : List Tok} {p q : PTok} (h : eraseL T = [p, q]) :
    ∃ t u, T = [t, u] ∧ t.erase = p ∧ u.erase = q := by
  rw [eraseL_eq_map] at h
  obtain ⟨t, ts, rfl, ht, hts⟩ := List.map_eq_cons_iff.mp h
  obtain ⟨u, rfl, hu⟩ := List.map_eq_singleton_iff.mp hts
  exact ⟨t, u, rfl, ht, hu⟩

theorem noT_nil (op : Str) : noT op [] := rfl

theorem noT_cons {op : Str} {p : PTok} {ps : List PTok} : noT op (p :: ps) ↔ pIsText op p = false ∧ noT op ps := by
  simp only [noT, List.any_cons, Bool.or_eq_false_iff]

theorem noT_append {op : Str} {A B : List PTok} : noT op (A ++ B) ↔ noT op A ∧ noT op B := by
  simp only [noT, List.any_append, Bool.or_eq_false_iff]

/-- Closed facts about the operators and separators, evaluated once: no operator is the space; a separator contains no
    operator of lower precedence. -/
theorem ops_ne_space : (lit "+" ≠ spaceLit ∧ lit "," ≠ spaceLit ∧ lit "->" ≠ spaceLit) ∧ lit " " = spaceLit := by
  decide +kernel

theorem seps_noT : (noT (lit "->") sepList ∧ noT (lit ",") sepList ∧ noT (lit "+") sepList) ∧
    (noT (lit "->") sepPlus ∧ noT (lit ",") sepPlus) ∧ noT (lit "->") sepArgs := by
  unfold noT
  decide +kernel

theorem pIsText_self (op : Str) : pIsText op (.atom op) = true := by
  simp only [pIsText, beq_self_eq_true]

theorem noT_sp {op : Str} (h : op ≠ spaceLit) : noT op [.atom (lit " ")] := by
  simp only [noT, List.any_cons, List.any_nil, Bool.or_false, pIsText, ops_ne_space.2, beq_eq_false_iff_ne, ne_eq]
  exact fun h' => h h'.symm

theorem noT_dropWhile {op : Str} (q : PTok → Bool) {P : List PTok} (h : noT op P) : noT op (P.dropWhile q) :=
  List.any_eq_false.mpr fun x hx => List.any_eq_false.mp h x ((List.dropWhile_sublist q).subset hx)

theorem noT_pDropTrail {op : Str} : ∀ {P : List PTok}, noT op P → noT op (pDropTrail P)
  | [], _ => noT_nil op
  | p :: ps, h => by
    have ih := noT_pDropTrail (noT_cons.mp h).2
    rw [pDropTrail_cons_eq]
    cases hD : pDropTrail ps with
    | nil =>
      simp only [pdtCons]
      split
      · exact noT_nil op
      · exact noT_cons.mpr ⟨(noT_cons.mp h).1, noT_nil op⟩
    | cons r rs =>
      rw [hD] at ih
      exact noT_cons.mpr ⟨(noT_cons.mp h).1, ih⟩

theorem noT_pstrip {op : Str} {P : List PTok} (h : noT op P) : noT op (pstrip P) :=
  noT_pDropTrail (noT_dropWhile _ h)

theorem pdtCons_eq_cons {p : PTok} {D : List PTok} (h : ¬ (D = [] ∧ pIsSpace p = true)) : pdtCons p D = p :: D := by
  cases D with
  | nil =>
    cases hp : pIsSpace p with
    | true => exact (h ⟨rfl, hp⟩).elim
    | false => simp [pdtCons, hp]
  | cons r rs => rfl

theorem pDropTrail_cons_nonspace {t : PTok} {ts : List PTok} (h : pIsSpace t = false) :
    pDropTrail (t :: ts) = t :: pDropTrail ts := by
  rw [pDropTrail_cons_eq, pdtCons_eq_cons fun hc => Bool.false_ne_true (h.symm.trans hc.2)]

theorem pDropTrail_cons_ne {t : PTok} {ts : List PTok} (h : pDropTrail ts ≠ []) :
    pDropTrail (t :: ts) = t :: pDropTrail ts := by
  rw [pDropTrail_cons_eq, pdtCons_eq_cons fun hc => h hc.1]

theorem pstrip_cons_space {sp : PTok} (h : pIsSpace sp = true) (ts : List PTok) : pstrip (sp :: ts) = pstrip ts := by
  simp [pstrip, List.dropWhile, h]

theorem pDropTrail_append_space {sp : PTok} (h : pIsSpace sp = true) : ∀ ts : List PTok,
    pDropTrail (ts ++ [sp]) = pDropTrail ts
  | [] => by simp [pDropTrail, h]
  | t :: ts => by
    rw [List.cons_append, pDropTrail_cons_eq, pDropTrail_cons_eq, pDropTrail_append_space h ts]

theorem dropWhile_pDropTrail : ∀ X : List PTok,
    (pDropTrail X).dropWhile pIsSpace = pDropTrail (X.dropWhile pIsSpace)
  | [] => rfl
  | x :: xs => by
    cases hx : pIsSpace x with
    | false =>
      rw [pDropTrail_cons_nonspace hx]
      simp only [List.dropWhile, hx]
      rw [pDropTrail_cons_nonspace hx]
    | true =>
      have ih := dropWhile_pDropTrail xs
      have h2 : (x :: xs).dropWhile pIsSpace = xs.dropWhile pIsSpace := by simp only [List.dropWhile, hx]
      rw [h2, ← ih, pDropTrail_cons_eq]
      cases hr : pDropTrail xs with
      | nil => simp [pdtCons, hx]
      | cons r rs => simp only [pdtCons, List.dropWhile, hx]

theorem pstrip_eq (X : List PTok) : pstrip X = (pDropTrail X).dropWhile pIsSpace :=
  (dropWhile_pDropTrail X).symm

theorem pstrip_append_space {sp : PTok} (h : pIsSpace sp = true) (ts : List PTok) : pstrip (ts ++ [sp]) = pstrip ts := by
  rw [pstrip_eq, pDropTrail_append_space h, pstrip_eq]

theorem space_not_op {op : Str} (hop : op ≠ spaceLit) {p : PTok} (h : pIsSpace p = true) : pIsText op p = false := by
  cases p with
  | atom t =>
    simp only [pIsSpace, pIsText, beq_iff_eq] at h
    simp only [pIsText, h, beq_eq_false_iff_ne, ne_eq]
    exact fun h' => hop h'.symm
  | group _ _ _ => rfl

theorem op_not_space {op : Str} (hop : op ≠ spaceLit) {p : PTok} (h : pIsText op p = true) : pIsSpace p = false := by
  cases hs : pIsSpace p with
  | false => rfl
  | true => rw [space_not_op hop hs] at h; cases h

theorem psegH_cons (op : Str) (p : PTok) (ps : List PTok) :
    psegH op (p :: ps) = if pIsText op p then [] else p :: psegH op ps := rfl

theorem psegT_cons (op : Str) (p : PTok) (ps : List PTok) :
    psegT op (p :: ps) = if pIsText op p then psegH op ps :: psegT op ps else psegT op ps := rfl

theorem seg_dropTrail {op : Str} (hop : op ≠ spaceLit) : ∀ P : List PTok,
    pDropTrail (psegH op (pDropTrail P)) = pDropTrail (psegH op P) ∧
      (psegT op (pDropTrail P)).map pstrip = (psegT op P).map pstrip
  | [] => ⟨rfl, rfl⟩
  | p :: ps => by
    have ih := seg_dropTrail hop ps
    rw [pDropTrail_cons_eq]
    by_cases hc : pDropTrail ps = [] ∧ pIsSpace p = true
    · obtain ⟨hD, hp⟩ := hc
      rw [hD] at ih
      have hpo := space_not_op hop hp
      rw [hD, psegH_cons, psegT_cons, hpo]
      simp only [pdtCons, hp, if_true, Bool.false_eq_true, if_false]
      refine ⟨?_, ih.2⟩
      rw [pDropTrail_cons_eq, ← ih.1]
      simp [psegH, pDropTrail, pdtCons, hp]
    · rw [pdtCons_eq_cons hc, psegH_cons, psegH_cons, psegT_cons, psegT_cons]
      cases ht : pIsText op p with
      | true =>
        simp only [if_true, List.map_cons, List.cons.injEq, true_and]
        refine ⟨?_, ih.2⟩
        rw [pstrip_eq, pstrip_eq, ih.1]
      | false =>
        simp only [Bool.false_eq_true, if_false]
        refine ⟨?_, ih.2⟩
        rw [pDropTrail_cons_eq, pDropTrail_cons_eq, ih.1]

theorem seg_dropWhile {op : Str} (hop : op ≠ spaceLit) : ∀ P : List PTok,
    (psegH op (P.dropWhile pIsSpace)).dropWhile pIsSpace = (psegH op P).dropWhile pIsSpace ∧
      psegT op (P.dropWhile pIsSpace) = psegT op P
  | [] => ⟨rfl, rfl⟩
  | p :: ps => by
    have ih := seg_dropWhile hop ps
    cases hp : pIsSpace p with
    | false => simp only [List.dropWhile, hp, and_self]
    | true =>
      have hpo := space_not_op hop hp
      have h2 : (p :: ps).dropWhile pIsSpace = ps.dropWhile pIsSpace := by simp only [List.dropWhile, hp]
      rw [h2, psegH_cons, psegT_cons, hpo]
      simp only [Bool.false_eq_true, if_false, List.dropWhile, hp]
      exact ih

theorem psplit_pstrip {op : Str} (hop : op ≠ spaceLit) (P : List PTok) :
    (psplit op (pstrip P)).map pstrip = (psplit op P).map pstrip := by
  have h1 := seg_dropTrail hop (P.dropWhile pIsSpace)
  have h2 := seg_dropWhile hop P
  simp only [psplit, List.map_cons, List.cons.injEq]
  constructor
  · show pstrip (psegH op (pDropTrail (P.dropWhile pIsSpace))) = _
    rw [pstrip_eq, h1.1, dropWhile_pDropTrail, h2.1]
    rfl
  · show (psegT op (pDropTrail (P.dropWhile pIsSpace))).map pstrip = _
    rw [h1.2, h2.2]

theorem psplit_noT {op : Str} : ∀ {A : List PTok}, noT op A → psegH op A = A ∧ psegT op A = []
  | [], _ => ⟨rfl, rfl⟩
  | a :: as, h => by
    have ih := psplit_noT (noT_cons.mp h).2
    rw [psegH_cons, psegT_cons, (noT_cons.mp h).1]
    simp only [Bool.false_eq_true, if_false, ih.1, ih.2, and_self]

theorem psegH_append {op : Str} : ∀ {A : List PTok} (B : List PTok), noT op A → psegH op (A ++ B) = A ++ psegH op B
  | [], _, _ => rfl
  | a :: as, B, h => by
    rw [List.cons_append, psegH_cons, (noT_cons.mp h).1, psegH_append B (noT_cons.mp h).2]
    rfl

theorem psegT_append {op : Str} : ∀ {A : List PTok} (B : List PTok), noT op A → psegT op (A ++ B) = psegT op B
  | [], _, _ => rfl
  | a :: as, B, h => by
    rw [List.cons_append, psegT_cons, (noT_cons.mp h).1, psegT_append B (noT_cons.mp h).2]
    rfl

/-- `sep.join` without the first element. -/
def jt (sep : List PTok) : List (List PTok) → List PTok
  | [] => []
  | Q :: r => sep ++ Q ++ jt sep r

theorem joinP_cons (sep : List PTok) : ∀ (Ps : List (List PTok)) (P : List PTok), joinP sep (P :: Ps) = P ++ jt sep Ps
  | [], P => by simp [joinP, jt]
  | Q :: r, P => by simp only [joinP, jt, joinP_cons sep r Q, List.append_assoc]

/-- The operands of `A ++ sep ++ Q1 ++ sep ++ Q2 …` for `sep = pre ++ [o] ++ post`. -/
def segs (pre post : List PTok) : List PTok → List (List PTok) → List (List PTok)
  | A, [] => [A]
  | A, Q :: r => (A ++ pre) :: segs pre post (post ++ Q) r

theorem psplit_jt {op : Str} {pre post : List PTok} {o : PTok} (ho : pIsText op o = true)
    (hpre : noT op pre) (hpost : noT op post) : ∀ (Ps : List (List PTok)) (A : List PTok),
    noT op A → (∀ Q ∈ Ps, noT op Q) → psplit op (A ++ jt (pre ++ o :: post) Ps) = segs pre post A Ps
  | [], A, hA, _ => by
    simp only [jt, List.append_nil, psplit, segs, (psplit_noT hA).1, (psplit_noT hA).2]
  | Q :: r, A, hA, hPs => by
    have hQ : noT op (post ++ Q) := noT_append.mpr ⟨hpost, hPs Q (by simp)⟩
    have ih := psplit_jt ho hpre hpost r (post ++ Q) hQ (fun Q' hQ' => hPs Q' (by simp [hQ']))
    have hAp : noT op (A ++ pre) := noT_append.mpr ⟨hA, hpre⟩
    have e : A ++ jt (pre ++ o :: post) (Q :: r) = (A ++ pre) ++ o :: ((post ++ Q) ++ jt (pre ++ o :: post) r) := by
      simp only [jt, List.append_assoc, List.cons_append]
    rw [e, psplit, psegH_append _ hAp, psegT_append _ hAp, psegH_cons, psegT_cons, ho]
    simp only [if_true, List.append_nil, segs]
    rw [psplit] at ih
    rw [ih]

theorem segs_strip {pre post : List PTok} (hpre : ∀ X, pstrip (X ++ pre) = pstrip X)
    (hpost : ∀ X, pstrip (post ++ X) = pstrip X) : ∀ (Ps : List (List PTok)) (A : List PTok),
    (segs pre post A Ps).map pstrip = pstrip A :: Ps.map pstrip
  | [], A => rfl
  | Q :: r, A => by
    simp only [segs, List.map_cons, hpre, segs_strip hpre hpost r (post ++ Q), hpost]

theorem segs_nil : ∀ (Ps : List (List PTok)) (A : List PTok), segs [] [] A Ps = A :: Ps
  | [], A => rfl
  | Q :: r, A => by simp only [segs, List.append_nil, List.nil_append, segs_nil r Q]

theorem noT_jt {op : Str} {sep : List PTok} (hsep : noT op sep) : ∀ {Ps : List (List PTok)},
    (∀ Q ∈ Ps, noT op Q) → noT op (jt sep Ps)
  | [], _ => noT_nil op
  | Q :: r, h => by
    simp only [jt]
    exact noT_append.mpr ⟨noT_append.mpr ⟨hsep, h Q (by simp)⟩, noT_jt hsep (fun Q' hQ' => h Q' (by simp [hQ']))⟩

theorem noT_joinP {op : Str} {sep : List PTok} (hsep : noT op sep) {Ps : List (List PTok)}
    (h : ∀ Q ∈ Ps, noT op Q) : noT op (joinP sep Ps) := by
  cases Ps with
  | nil => exact noT_nil op
  | cons P r =>
    rw [joinP_cons]
    exact noT_append.mpr ⟨h P (by simp), noT_jt hsep (fun Q' hQ' => h Q' (by simp [hQ']))⟩

def isOpText (s : Str) : Bool := s == lit "->" || s == lit "," || s == lit "+" || s == spaceLit

/-- Non-empty, no operator atom and no space at top level. -/
structure CleanP (P : List PTok) : Prop where
  ne : P ≠ []
  noArrow : noT (lit "->") P
  noComma : noT (lit ",") P
  noPlus : noT (lit "+") P
  noSpace : noT spaceLit P

theorem clean_atom {s : Str} (h : isOpText s = false) : CleanP [.atom s] := by
  simp only [isOpText, Bool.or_eq_false_iff] at h
  refine ⟨by simp, ?_, ?_, ?_, ?_⟩ <;> simp only [noT, List.any_cons, List.any_nil, pIsText, Bool.or_false]
  · exact h.1.1.1
  · exact h.1.1.2
  · exact h.1.2
  · exact h.2

theorem clean_group (o c : Str) (I : List PTok) : CleanP [.group o c I] :=
  ⟨by simp, rfl, rfl, rfl, rfl⟩

theorem clean_append {A B : List PTok} (hA : CleanP A) (hB : CleanP B) : CleanP (A ++ B) :=
  ⟨by simp [hA.ne], noT_append.mpr ⟨hA.noArrow, hB.noArrow⟩, noT_append.mpr ⟨hA.noComma, hB.noComma⟩,
    noT_append.mpr ⟨hA.noPlus, hB.noPlus⟩, noT_append.mpr ⟨hA.noSpace, hB.noSpace⟩⟩

theorem noSpace_tight : ∀ {P : List PTok}, noT spaceLit P → P.dropWhile pIsSpace = P ∧ pDropTrail P = P
  | [], _ => ⟨rfl, rfl⟩
  | p :: ps, h => by
    have hp : pIsSpace p = false := (noT_cons.mp h).1
    have ih := noSpace_tight (noT_cons.mp h).2
    refine ⟨by simp only [List.dropWhile, hp], ?_⟩
    rw [pDropTrail_cons_nonspace hp, ih.2]

theorem clean_tight {P : List PTok} (h : CleanP P) : pstrip P = P := by
  have := noSpace_tight h.noSpace
  rw [pstrip, this.1, this.2]

theorem pDropTrail_append_ne : ∀ (X : List PTok) {Y : List PTok}, pDropTrail Y ≠ [] →
    pDropTrail (X ++ Y) = X ++ pDropTrail Y
  | [], _, _ => rfl
  | x :: xs, Y, h => by
    have ih := pDropTrail_append_ne xs h
    rw [List.cons_append, pDropTrail_cons_ne (by rw [ih]; simp [h]), ih]
    rfl

theorem pDropTrail_jt : ∀ (r : List (List PTok)) (A : List PTok), A ≠ [] → noT spaceLit A →
    (∀ Q ∈ r, CleanP Q) → pDropTrail (A ++ jt sepList r) = A ++ jt sepList r
  | [], A, _, hA, _ => by simp only [jt, List.append_nil, (noSpace_tight hA).2]
  | Q :: r, A, _, _, hr => by
    have hQ := hr Q (by simp)
    have ih := pDropTrail_jt r Q hQ.ne hQ.noSpace (fun Q' hQ' => hr Q' (by simp [hQ']))
    have e : A ++ jt sepList (Q :: r) = (A ++ sepList) ++ (Q ++ jt sepList r) := by
      simp only [jt, List.append_assoc]
    rw [e, pDropTrail_append_ne _ (by rw [ih]; simp [hQ.ne]), ih]

/-- Tokens of a printable term or list: no `->`, `,`, `+` at top level, no leading / trailing space. -/
structure Lvl (P : List PTok) : Prop where
  noArrow : noT (lit "->") P
  noComma : noT (lit ",") P
  noPlus : noT (lit "+") P
  tight : pstrip P = P

theorem lvl_of_clean {P : List PTok} (h : CleanP P) : Lvl P := ⟨h.noArrow, h.noComma, h.noPlus, clean_tight h⟩

theorem lvl_join {Ps : List (List PTok)} (h : ∀ Q ∈ Ps, CleanP Q) : Lvl (joinP sepList Ps) := by
  refine ⟨noT_joinP seps_noT.1.1 (fun Q hQ => (h Q hQ).noArrow), noT_joinP seps_noT.1.2.1 (fun Q hQ => (h Q hQ).noComma),
    noT_joinP seps_noT.1.2.2 (fun Q hQ => (h Q hQ).noPlus), ?_⟩
  cases Ps with
  | nil => rfl
  | cons P r =>
    have hP := h P (by simp)
    rw [joinP_cons, pstrip]
    have hd : (P ++ jt sepList r).dropWhile pIsSpace = P ++ jt sepList r := by
      cases P with
      | nil => exact (hP.ne rfl).elim
      | cons a as =>
        have : pIsSpace a = false := (noT_cons.mp hP.noSpace).1
        simp only [List.cons_append, List.dropWhile, this]
    rw [hd]
    exact pDropTrail_jt r P hP.ne hP.noSpace (fun Q' hQ' => h Q' (by simp [hQ']))

theorem pfindOp_cons_of_any {op : Str} {ops : List Str} {P : List PTok} (h : P.any (pIsText op) = true) :
    pfindOp (op :: ops) P = some op := by
  simp only [pfindOp, h, if_true]

theorem pfindOp_cons_of_noT {op : Str} {ops : List Str} {P : List PTok} (h : noT op P) :
    pfindOp (op :: ops) P = pfindOp ops P := by
  unfold noT at h
  simp only [pfindOp, h, Bool.false_eq_true, if_false]

theorem pfindOp_clean {P : List PTok} (h : CleanP P) : pfindOp naryOps P = none := by
  rw [naryOps_eq, pfindOp_cons_of_noT h.noArrow, pfindOp_cons_of_noT h.noComma, pfindOp_cons_of_noT h.noPlus,
    pfindOp_cons_of_noT h.noSpace]
  rfl

theorem any_of_split {op : Str} {P : List PTok} {n : Nat} (h : (psplit op P).length = n) (hn : 2 ≤ n) :
    P.any (pIsText op) = true := by
  cases ha : P.any (pIsText op) with
  | true => rfl
  | false =>
    simp only [psplit, (psplit_noT ha).2, List.length_cons, List.length_nil] at h
    omega

/-- `pre ++ o :: post` is a separator of the printer around the atom `o` of the operator `op`: `o` is its only occurrence
    of `op`, and what stands around `o` is stripped away with the neighbouring operand. -/
structure OpSep (op : Str) (pre : List PTok) (o : PTok) (post : List PTok) : Prop where
  ne_space : op ≠ spaceLit
  isOp : pIsText op o = true
  noT_pre : noT op pre
  noT_post : noT op post
  strip_pre : ∀ X, pstrip (X ++ pre) = pstrip X
  strip_post : ∀ X, pstrip (post ++ X) = pstrip X

/-- ` + `, ` -> `. -/
theorem opSep_spaced {op : Str} (h : op ≠ spaceLit) : OpSep op [.atom (lit " ")] (.atom op) [.atom (lit " ")] :=
  ⟨h, pIsText_self op, noT_sp h, noT_sp h, pstrip_append_space rfl, pstrip_cons_space rfl⟩

/-- `, `, and `-> ` where the duplicate-space pass dropped the space before it. -/
theorem opSep_after {op : Str} (h : op ≠ spaceLit) : OpSep op [] (.atom op) [.atom (lit " ")] :=
  ⟨h, pIsText_self op, noT_nil op, noT_sp h, fun X => by rw [List.append_nil], pstrip_cons_space rfl⟩

theorem split_join {op : Str} {pre post : List PTok} {o : PTok} (hs : OpSep op pre o post) {Ps : List (List PTok)}
    (hne : Ps ≠ []) (hPs : ∀ Q ∈ Ps, noT op Q) :
    (psplit op (pstrip (joinP (pre ++ o :: post) Ps))).map pstrip = Ps.map pstrip := by
  cases Ps with
  | nil => exact (hne rfl).elim
  | cons P r =>
    rw [psplit_pstrip hs.ne_space, joinP_cons,
      psplit_jt hs.isOp hs.noT_pre hs.noT_post r P (hPs P (by simp)) (fun Q hQ => hPs Q (by simp [hQ])),
      segs_strip hs.strip_pre hs.strip_post, List.map_cons]

theorem split_join_space {Ps : List (List PTok)} (hne : Ps ≠ []) (hPs : ∀ Q ∈ Ps, noT spaceLit Q) :
    psplit spaceLit (joinP sepList Ps) = Ps := by
  cases Ps with
  | nil => exact (hne rfl).elim
  | cons P r =>
    rw [joinP_cons, ← segs_nil r P]
    exact psplit_jt (pre := []) (post := []) (o := .atom (lit " ")) rfl rfl rfl r P (hPs P (by simp))
      fun Q hQ => hPs Q (by simp [hQ])

end PrintParse
end Einx.Notation
