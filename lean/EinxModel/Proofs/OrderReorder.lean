import EinxModel.Order.Reorder
import EinxModel.Proofs.Update
/-!
C16 / M3: listing the iteration axes of an indexed update in a different order does not change its denotation
(`add_at`, `subtract_at` unconditionally; `set_at` when no two assignments address the same element).
-/
namespace Einx.Order
open Einx Einx.Update

theorem perm_length {p : List Nat} {n : Nat} (hp : p.Perm (List.range n)) : p.length = n := by
  simpa using hp.length_eq

theorem perm_mem {p : List Nat} {n : Nat} (hp : p.Perm (List.range n)) (j : Nat) : j ∈ p ↔ j < n := by
  rw [hp.mem_iff, List.mem_range]

theorem newPos_lt {p : List Nat} {n : Nat} (hp : p.Perm (List.range n)) {j : Nat} (hj : j < n) :
    newPos p j < n := by
  have h : List.idxOf j p < p.length := List.idxOf_lt_length_iff.mpr ((perm_mem hp j).mpr hj)
  rw [perm_length hp] at h
  exact h

theorem newPos_ge {p : List Nat} {n : Nat} (hp : p.Perm (List.range n)) {j : Nat} (hj : n ≤ j) :
    newPos p j = n := by
  have hn : j ∉ p := by rw [perm_mem hp]; omega
  unfold newPos
  rw [List.idxOf_eq_length hn, perm_length hp]

theorem getElem?_newPos {p : List Nat} {n : Nat} (hp : p.Perm (List.range n)) {j : Nat} (hj : j < n) :
    p[newPos p j]? = some j := by
  have h' : List.idxOf j p < p.length := by rw [perm_length hp]; exact newPos_lt hp hj
  unfold newPos
  rw [List.getElem?_eq_getElem h', List.getElem_idxOf h']

theorem newPos_getElem {p : List Nat} {n : Nat} (hp : p.Perm (List.range n)) {i : Nat} (hi : i < p.length) :
    newPos p p[i] = i := (hp.nodup_iff.mpr List.nodup_range).idxOf_getElem i hi

/-! ### renaming of positions -/

/-- `A'` is `A` with its positions renamed by `newPos p`. -/
def Rel (p A' A : List Nat) : Prop := ∀ j, A'[newPos p j]? = A[j]?

theorem rel_pick {p A A' : List Nat} (hp : p.Perm (List.range A.length)) (h : pick A p = some A') :
    Rel p A' A := by
  intro j
  have hl : A'.length = p.length := mapOpt_length h
  by_cases hj : j < A.length
  · exact (mapOpt_getElem? h (newPos p j) j (getElem?_newPos hp hj)).symm
  · have hj' : A.length ≤ j := by omega
    rw [newPos_ge hp hj', List.getElem?_eq_none hj', List.getElem?_eq_none]
    rw [hl, perm_length hp]
    exact Nat.le_refl _

theorem unperm_length (p : List Nat) (n : Nat) (σ' : List Nat) : (unperm p n σ').length = n := by
  simp [unperm]

theorem rel_unperm {p : List Nat} {n : Nat} {σ' : List Nat} (hp : p.Perm (List.range n)) (hl : σ'.length = n) :
    Rel p σ' (unperm p n σ') := by
  intro j
  unfold unperm
  by_cases hj : j < n
  · have h := newPos_lt hp hj
    have h' : newPos p j < σ'.length := by omega
    rw [List.getElem?_map, List.getElem?_range hj]
    simp [List.getElem?_eq_getElem h']
  · have hj' : n ≤ j := by omega
    rw [newPos_ge hp hj', List.getElem?_eq_none (by omega), List.getElem?_eq_none (by simp; omega)]

theorem rel_right_unique {p σ' σ τ : List Nat} (S1 : Rel p σ' σ) (S2 : Rel p σ' τ) : σ = τ :=
  List.ext_getElem? (fun j => (S1 j).symm.trans (S2 j))

theorem rel_left_unique {p : List Nat} {n : Nat} {σ1 σ2 σ : List Nat} (hp : p.Perm (List.range n))
    (h1 : σ1.length = n) (h2 : σ2.length = n) (S1 : Rel p σ1 σ) (S2 : Rel p σ2 σ) : σ1 = σ2 := by
  apply List.ext_getElem?
  intro i
  by_cases hi : i < n
  · have hi' : i < p.length := by rw [perm_length hp]; exact hi
    have e := newPos_getElem hp hi'
    have a := S1 p[i]
    have b := S2 p[i]
    rw [e] at a b
    rw [a, b]
  · rw [List.getElem?_eq_none (by omega), List.getElem?_eq_none (by omega)]

/-! ### the ingredients of a contribution under a renaming -/

/-- What `reorder` does to one coordinate tensor. -/
def reorderCoord (p : List Nat) (c : Coord) : Coord := { c with dims := c.dims.map (reorderC p) }

theorem size_reorderC {p A' A : List Nat} (R : Rel p A' A) (d : CDim) :
    CDim.size A' (reorderC p d) = CDim.size A d := by
  cases d with
  | ax j => exact R j
  | br n => rfl

theorem index_reorderC {p σ' σ : List Nat} (S : Rel p σ' σ) (i : Nat) (d : CDim) :
    CDim.index σ' i (reorderC p d) = CDim.index σ i d := by
  cases d with
  | ax j => exact S j
  | br n => rfl

theorem size_reorderT {p A' A : List Nat} (R : Rel p A' A) (d : TDim) :
    TDim.size A' (reorderT p d) = TDim.size A d := by
  cases d with
  | vec j => exact R j
  | idx n => rfl

theorem filterMap_brLen (p : List Nat) (dims : List CDim) :
    (dims.map (reorderC p)).filterMap CDim.brLen = dims.filterMap CDim.brLen := by
  rw [List.filterMap_map]
  congr 1
  funext d
  cases d <;> rfl

theorem count_reorderCoord (p : List Nat) (c : Coord) : (reorderCoord p c).count = c.count := by
  simp only [Coord.count, reorderCoord, filterMap_brLen]

theorem wf_reorderCoord (p : List Nat) (c : Coord) : (reorderCoord p c).wf = c.wf := by
  simp only [Coord.wf, reorderCoord, filterMap_brLen]

theorem read_reorderCoord {p A' A σ' σ : List Nat} (R : Rel p A' A) (S : Rel p σ' σ) (c : Coord) (i : Nat) :
    Coord.read A' σ' (reorderCoord p c) i = Coord.read A σ c i := by
  have h1 : (fun d => CDim.size A' (reorderC p d)) = CDim.size A := funext (size_reorderC R)
  have h2 : (fun d => CDim.index σ' i (reorderC p d)) = CDim.index σ i := funext (index_reorderC S i)
  simp only [Coord.read, reorderCoord, mapOpt_map, h1, h2]

theorem coordVector_reorder {p A' A σ' σ : List Nat} (R : Rel p A' A) (S : Rel p σ' σ) (coords : List Coord) :
    coordVector A' σ' (coords.map (reorderCoord p)) = coordVector A σ coords := by
  have h : (fun c => mapOpt ((reorderCoord p c).read A' σ') (List.range (reorderCoord p c).count))
      = (fun c => mapOpt (c.read A σ) (List.range c.count)) := by
    funext c
    rw [count_reorderCoord]
    congr 1
    funext i
    exact read_reorderCoord R S c i
  simp only [coordVector, mapOpt_map, h]

theorem targetShape_reorder {p A' A : List Nat} (R : Rel p A' A) (tdims : List TDim) :
    targetShape A' (tdims.map (reorderT p)) = targetShape A tdims := by
  have h : (fun d => TDim.size A' (reorderT p d)) = TDim.size A := funext (size_reorderT R)
  simp only [targetShape, mapOpt_map, h]

theorem targetIndex_reorder {p σ' σ : List Nat} (S : Rel p σ' σ) (tdims : List TDim) (cs : List Nat) :
    targetIndex σ' (tdims.map (reorderT p)) cs = targetIndex σ tdims cs := by
  induction tdims generalizing cs with
  | nil => cases cs <;> rfl
  | cons d ds ih =>
    cases d with
    | vec j => simp only [List.map_cons, reorderT, targetIndex, S j, ih]
    | idx n =>
      cases cs with
      | nil => rfl
      | cons c cs => simp only [List.map_cons, reorderT, targetIndex, ih]

theorem pick_reorder {p σ' σ : List Nat} (S : Rel p σ' σ) (pos : List Nat) :
    pick σ' (pos.map (newPos p)) = pick σ pos := by
  have h : (fun j => σ'[newPos p j]?) = (fun j => σ[j]?) := funext S
  simp only [pick, mapOpt_map, h]

theorem reorder_eq {p : List Nat} {op op' : Op} (h : reorder p op = some op') :
    ∃ axes', pick op.axes p = some axes' ∧
      op' = { axes := axes', tdims := op.tdims.map (reorderT p), coords := op.coords.map (reorderCoord p),
              udims := op.udims.map (newPos p), udata := op.udata } := by
  unfold reorder at h
  split at h
  · rename_i axes' hpk
    refine ⟨axes', hpk, ?_⟩
    injection h with h
    exact h.symm
  · cases h

theorem contribAt_reorder {p : List Nat} {op op' : Op} (h : reorder p op = some op') {σ' σ : List Nat}
    (R : Rel p op'.axes op.axes) (S : Rel p σ' σ) : op'.contribAt σ' = op.contribAt σ := by
  obtain ⟨axes', _, rfl⟩ := reorder_eq h
  simp only [Op.contribAt, Op.tidxAt, Op.readUpd, targetShape_reorder R, coordVector_reorder R S,
    targetIndex_reorder S, pick_reorder R, pick_reorder S]

/-! ### the assignments of the reordered axes -/

theorem valid_of_rel {p A' A σ' σ : List Nat} (R : Rel p A' A) (S : Rel p σ' σ) (hl : σ.length = A.length)
    (hv : Valid A' σ') : Valid A σ := by
  rw [valid_iff_getElem?]
  refine ⟨hl, ?_⟩
  intro j a b ha hb
  rw [← R j] at ha
  rw [← S j] at hb
  exact (valid_iff_getElem?.mp hv).2 _ a b ha hb

theorem valid_reordered_of_rel {p : List Nat} {n : Nat} {A' A σ' σ : List Nat} (hp : p.Perm (List.range n))
    (R : Rel p A' A) (S : Rel p σ' σ) (hA' : A'.length = n) (hl : σ'.length = n)
    (hv : Valid A σ) : Valid A' σ' := by
  rw [valid_iff_getElem?]
  refine ⟨by omega, ?_⟩
  intro i a b ha hb
  have hi : i < p.length := by
    rw [perm_length hp, ← hA']
    exact (List.getElem?_eq_some_iff.mp ha).1
  have e := newPos_getElem hp hi
  have r := R p[i]
  have s := S p[i]
  rw [e] at r s
  rw [r] at ha
  rw [s] at hb
  exact (valid_iff_getElem?.mp hv).2 _ a b ha hb

theorem assignments_perm {p A A' : List Nat} (hp : p.Perm (List.range A.length)) (R : Rel p A' A)
    (hA' : A'.length = A.length) :
    ((assignments A').map (unperm p A.length)).Perm (assignments A) := by
  have hnd : ((assignments A').map (unperm p A.length)).Nodup := by
    rw [List.Nodup, List.pairwise_map]
    refine List.Pairwise.imp_of_mem ?_ (assignments_nodup A')
    intro a b ha hb hne heq
    have la : a.length = A.length := (valid_length (mem_assignments_iff_valid.mp ha)).trans hA'
    have lb : b.length = A.length := (valid_length (mem_assignments_iff_valid.mp hb)).trans hA'
    have Sa := rel_unperm hp la
    have Sb := rel_unperm hp lb
    rw [heq] at Sa
    exact hne (rel_left_unique hp la lb Sa Sb)
  rw [List.perm_ext_iff_of_nodup hnd (assignments_nodup A)]
  intro τ
  simp only [List.mem_map, mem_assignments_iff_valid]
  constructor
  · rintro ⟨σ', hv, rfl⟩
    have l' : σ'.length = A.length := (valid_length hv).trans hA'
    exact valid_of_rel R (rel_unperm hp l') (unperm_length ..) hv
  · intro hv
    have lτ : τ.length = A.length := valid_length hv
    have lσ : (p.map (fun j => τ.getD j 0)).length = A.length := by simp [perm_length hp]
    have S : Rel p (p.map (fun j => τ.getD j 0)) τ := by
      intro j
      by_cases hj : j < A.length
      · have hj' : j < τ.length := by omega
        rw [List.getElem?_map, getElem?_newPos hp hj]
        simp [List.getElem?_eq_getElem hj']
      · have hj' : A.length ≤ j := by omega
        rw [newPos_ge hp hj', List.getElem?_eq_none (by omega), List.getElem?_eq_none (by omega)]
    refine ⟨_, valid_reordered_of_rel hp R S hA' lσ hv, ?_⟩
    exact rel_right_unique (rel_unperm hp lσ) S

/-! ### assembling the denotation -/

theorem reorder_core {op op' : Op} {p : List Nat} (hp : p.Perm (List.range op.axes.length))
    (h : reorder p op = some op') :
    targetShape op'.axes op'.tdims = targetShape op.axes op.tdims ∧
    op'.coords.all Coord.wf = op.coords.all Coord.wf ∧
    ((op'.contribs = none ∧ op.contribs = none) ∨
      ∃ r₁ r₂, op'.contribs = some r₁ ∧ op.contribs = some r₂ ∧ r₁.Perm r₂) := by
  obtain ⟨axes', hpk, hop⟩ := reorder_eq h
  have hax : op'.axes = axes' := by rw [hop]
  have R : Rel p op'.axes op.axes := by rw [hax]; exact rel_pick hp hpk
  have hA' : op'.axes.length = op.axes.length := by
    rw [hax, show axes'.length = p.length from mapOpt_length hpk, perm_length hp]
  refine ⟨?_, ?_, ?_⟩
  · have : op'.tdims = op.tdims.map (reorderT p) := by rw [hop]
    rw [this]
    exact targetShape_reorder R _
  · have : op'.coords = op.coords.map (reorderCoord p) := by rw [hop]
    rw [this, List.all_map]
    congr 1
    funext c
    exact wf_reorderCoord p c
  · have hc : op'.contribs = mapOpt op.contribAt ((assignments op'.axes).map (unperm p op.axes.length)) := by
      rw [mapOpt_map]
      unfold Op.contribs
      apply mapOpt_congr
      intro σ' hσ'
      have l' : σ'.length = op.axes.length := (valid_length (mem_assignments_iff_valid.mp hσ')).trans hA'
      exact contribAt_reorder h R (rel_unperm hp l')
    rw [hc]
    exact mapOpt_perm op.contribAt (assignments_perm hp R hA')

/-- The denotation looks at the contributions only through `applyUpdates`: the reordered update denotes the same as
soon as applying its (permuted) contributions gives the same target. -/
theorem reorder_denote {m : Mode} {op op' : Op} {p : List Nat} {t : List Int} (hp : p.Perm (List.range op.axes.length))
    (h : reorder p op = some op')
    (happ : ∀ r₁ r₂, op.contribs = some r₂ → r₁.Perm r₂ → applyUpdates m t r₁ = applyUpdates m t r₂) :
    denote m op' t = denote m op t := by
  obtain ⟨hts, hwf, hcs⟩ := reorder_core hp h
  unfold denote
  rw [hts, hwf]
  rcases hcs with ⟨h1, h2⟩ | ⟨r₁, r₂, h1, h2, hperm⟩
  · rw [h1, h2]
  · rw [h1, h2]
    cases targetShape op.axes op.tdims with
    | none => rfl
    | some tshape =>
      simp only
      rw [happ r₁ r₂ h2 hperm]

/-- A concrete instance: 2 iteration axes of lengths 2 and 3, a 1-d target of length 4 indexed by one coordinate
tensor over both axes, the update tensor over the second axis only.  Swapping the two axes gives a different `Op`
(whose contributions come in a different order), the same denotation, and that denotation changes the target. -/
example :
    let op : Op := { axes := [2, 3], tdims := [.idx 4], coords := [⟨[.ax 0, .ax 1], [0, 1, 2, 1, 2, 3]⟩],
                     udims := [1], udata := [10, 20, 30] }
    let op' : Op := { axes := [3, 2], tdims := [.idx 4], coords := [⟨[.ax 1, .ax 0], [0, 1, 2, 1, 2, 3]⟩],
                      udims := [0], udata := [10, 20, 30] }
    let t : List Int := [0, 0, 0, 0]
    [1, 0].Perm (List.range op.axes.length) ∧ reorder [1, 0] op = some op' ∧ op' ≠ op ∧
      op'.contribs ≠ op.contribs ∧
      denote .add op' t = denote .add op t ∧ denote .add op t = some [10, 30, 50, 30] ∧
      ([10, 30, 50, 30] : List Int) ≠ t := by
  decide +kernel

end Einx.Order
