import EinxModel.Proofs.NotationEqns
/-!
# M1 Notation — which internal (non-`SyntaxError`) outcomes are possible

`IntP P r`: if `r` is an internal error, its kind satisfies `P`.  It is `ExceptP` with the error slot `IntErr P` and nothing
claimed of a value (`intP_iff`), so its rules along a chain of `>>=` are those of `ExceptP`.  Lexer and delimiter stack raise
none, `parse` those of `ParseInt`, the second `move_up` pass `assertMoveUp`.

`parse_int` is the first use of `fun_induction parse`: Lean generates the auxiliary declarations of that principle (and of a
`split` on the body of `parse`) in the module that first needs them, and two modules that each generated them cannot be imported
together.  So every other module that unfolds `parse` (NotationParseCases: `rw [parse]; split`) or inducts over it
(NotationDerives, NotationCarets, RejectInternal) has this one among its imports, whether or not it uses anything else of it.

The cases of `fun_induction parse`, in the order of the branches of `parse` (Notation/Parse.lean); `S` is `strip ts`:
* `case1`  `S = []`: the empty `List`;
* `case2`–`case6`  `S` is one group `o … c`: the inner parse fails (2); `(…)` over a `ConcatenatedAxis`, returned as it is (3);
  `(…)` otherwise, `mkFlat` (4); `[…]`, `mkBrackets` (5); any other opening token, `assertDelimiter` (6);
* `case7`, `case8`  `findOp` finds an operator: an operand fails (7); `combine` on the parsed operands (8);
* `case9`, `case10`  no operator, `S` is one atom: `...` itself (9); anything else, `parseAxis` (10);
* `case11`–`case13`  no operator, `S = [x, atom t]`: `t` is `...` and the operand `x` fails (11) or is parsed, `mkEllipsis` (12);
  `t` is not `...`, `invalidExpr true` (13);
* `case14`  no operator, any other `S`: `invalidExpr`.
-/
namespace Einx.Notation

/-- Internal outcomes that `parse` can produce. -/
def ParseInt (k : IntKind) : Prop :=
  (∃ op, k = .unhandledOp op ∧ op ∈ naryOps ∧ op ∉ modelHandled) ∨ k = .intLiteral ∨ k = .assertAxisName ∨ k = .assertDelimiter

def IntP {α : Type} (P : IntKind → Prop) : Res α → Prop
  | .error (.internal k) => P k
  | _ => True

def IntErr (P : IntKind → Prop) : Err → Prop
  | .internal k => P k
  | .syntax .. => True

theorem intP_iff {α : Type} {P : IntKind → Prop} {r : Res α} : IntP P r ↔ ExceptP (IntErr P) (fun _ => True) r := by
  cases r with
  | ok _ => exact Iff.rfl
  | error err => cases err <;> exact Iff.rfl

theorem IntErr.mono {P Q : IntKind → Prop} (hPQ : ∀ k, P k → Q k) : ∀ err, IntErr P err → IntErr Q err
  | .internal k, h => hPQ k h
  | .syntax .., _ => trivial

theorem IntP.mono {α : Type} {P Q : IntKind → Prop} {r : Res α} (hPQ : ∀ k, P k → Q k) (h : IntP P r) : IntP Q r :=
  intP_iff.2 ((intP_iff.1 h).mono (IntErr.mono hPQ) fun _ h => h)

theorem intP_false {α : Type} {Q : IntKind → Prop} {r : Res α} (h : IntP (fun _ => False) r) : IntP Q r :=
  h.mono fun _ => False.elim

theorem intP_err {α β : Type} {P : IntKind → Prop} {err : Err} (h : IntP P (.error err : Res α)) : IntP P (.error err : Res β) := by
  cases err <;> exact h

theorem ok_or_syntax {α : Type} {r : Res α} (h : IntP (fun _ => False) r) :
    (∃ x, r = .ok x) ∨ (∃ k pos alts, r = .error (.syntax k pos alts)) := by
  match r, h with
  | .ok x, _ => exact Or.inl ⟨x, rfl⟩
  | .error (.syntax k pos alts), _ => exact Or.inr ⟨k, pos, alts, rfl⟩
  | .error (.internal _), h => exact h.elim

theorem IntP.bind {α β : Type} {P : IntKind → Prop} {r : Res α} {f : α → Res β} (h : IntP P r)
    (hf : ∀ x, r = .ok x → IntP P (f x)) : IntP P (r >>= f) :=
  intP_iff.2 (ExceptP.bind (intP_iff.1 h) fun x hx _ => intP_iff.1 (hf x hx))

theorem IntP.mapM {α β : Type} {P : IntKind → Prop} {f : α → Res β} {l : List α} (h : ∀ a ∈ l, IntP P (f a)) :
    IntP P (l.mapM f) :=
  intP_iff.2 (ExceptP.mapM (R := fun _ _ => True) fun a ha => intP_iff.1 (h a ha)).forget

theorem combine_int {op : Str} {xs : List Expr} {b e : Nat} {ipc : Bool} {ts : List Tok} :
    IntP (fun k => k = .unhandledOp op ∧ op ∉ modelHandled) (combine op xs b e ipc ts) :=
  combine_elim op xs b e ipc ts (fun _ => trivial) (fun _ => trivial) (fun _ => trivial) (fun _ _ => trivial) (fun _ _ _ => trivial)
    (fun _ _ _ => trivial) fun h => ⟨rfl, h⟩

theorem parseAxis_int (t : Token) : IntP ParseInt (parseAxis t) :=
  parseAxis_elim t (fun _ _ => trivial) (fun _ _ => Or.inr (Or.inl rfl)) (fun _ _ => trivial) fun _ _ => Or.inr (Or.inr (Or.inl rfl))

theorem parse_int (ts : List Tok) (b e : Nat) (ipc : Bool) : IntP ParseInt (parse ts b e ipc) := by
  fun_induction parse ts b e ipc with
  | case2 ts b e ipc o c inner hs ib err heq ih => rwa [heq] at ih
  | case6 => exact Or.inr (Or.inr (Or.inr rfl))
  | case7 ts b e ipc t0 rest _ hs ts1 op hop err heq ih => exact intP_err (heq ▸ IntP.mapM fun a _ => ih a)
  | case8 ts b e ipc t0 rest _ hs ts1 b1 e1 op hop xs heq ih =>
    exact combine_int.mono fun _ h => Or.inl ⟨op, h.1, findOp_mem hop, h.2⟩
  | case10 ts b e ipc t hs _ _ _ _ => exact parseAxis_int t
  | case11 ts b e ipc x t hs _ err heq _ _ _ _ ih => rwa [heq] at ih
  | case1 | case3 | case4 | case5 | case9 | case12 | case13 | case14 => trivial

theorem distribute_int (k : Lift) (cls : Cls) (children : List Expr) (b e : Int) (arrows : List Int) :
    IntP (fun _ => False) (distribute k cls children b e arrows) :=
  distribute_elim k cls children b e arrows (fun _ => trivial) fun _ _ _ => trivial

/-- What a `move_up` pass can fail with internally: the assertion on an `Op` below the root, in the second pass only. -/
def PassInt (k : Lift) (i : IntKind) : Prop := k = .args ∧ i = .assertMoveUp

/-- A pass returns a node of its own kind, or fails internally with `PassInt` only. -/
abbrev MoveUpRes (k : Lift) : Res Expr → Prop := ExceptP (IntErr (PassInt k)) fun y => ∃ cs b e, y = k.wrap cs b e

theorem MoveUpRes.intP {k : Lift} {r : Res Expr} (h : MoveUpRes k r) : IntP (PassInt k) r :=
  intP_iff.2 h.forget

theorem distribute_res (k : Lift) (cls : Cls) (children : List Expr) (b e : Int) (arrows : List Int) :
    MoveUpRes k (distribute k cls children b e arrows) :=
  distribute_elim k cls children b e arrows (fun _ => trivial) fun _ _ _ => ⟨_, _, _, rfl⟩

theorem moveUp_res (k : Lift) (a : List Int) (x : Expr) : MoveUpRes k (moveUp k a x) := by
  have children : ∀ {cs : List Expr} {g : List Expr → Res Expr}, (∀ c ∈ cs, MoveUpRes k (moveUp k a c)) →
      (∀ ch, MoveUpRes k (g ch)) → MoveUpRes k (cs.mapM (moveUp k a) >>= g) :=
    fun ih hg => (ExceptP.mapM ih).bind fun ch _ _ => hg ch
  induction x using Expr.memInduction with
  | axis => exact ⟨_, _, _, rfl⟩
  | flat i b e ih =>
    rw [moveUp_flat]
    exact ih.bind fun _ _ _ => ⟨_, _, _, rfl⟩
  | brackets i b e ih =>
    rw [moveUp_brackets]
    exact ih.bind fun _ _ _ => ⟨_, _, _, rfl⟩
  | ellipsis i id b e ih =>
    rw [moveUp_ellipsis]
    exact ih.bind fun _ _ _ => ⟨_, _, _, rfl⟩
  | list cs b e ih =>
    rw [moveUp_list]
    exact children ih fun ch => distribute_res k _ ch _ _ a
  | concat cs b e ih =>
    rw [moveUp_concat]
    exact children ih fun ch => distribute_res k _ ch _ _ a
  | args cs b e ih =>
    rw [moveUp_args]
    cases k with
    | op => exact children ih fun ch => distribute_res .op .args ch b e a
    | args => exact children ih fun _ => ⟨_, _, _, rfl⟩
  | op cs b e ih =>
    cases k with
    | op =>
      rw [moveUp_op_op]
      exact children ih fun _ => ⟨_, _, _, rfl⟩
    | args =>
      rw [moveUp_args_op]
      exact ⟨rfl, rfl⟩

theorem moveUpL_res (k : Lift) (arrows : List Int) (cs : List Expr) : IntP (PassInt k) (moveUpL k arrows cs) :=
  moveUpL_eq_mapM k arrows cs ▸ IntP.mapM fun c _ => (moveUp_res k arrows c).intP

theorem moveUpL_op_res (arrows : List Int) : ∀ (cs : List Expr),
    (∃ r, moveUpL .op arrows cs = .ok r) ∨ (∃ k pos alts, moveUpL .op arrows cs = .error (.syntax k pos alts)) :=
  fun cs => ok_or_syntax ((moveUpL_res .op arrows cs).mono fun _ h => nomatch h.1)

theorem moveUp_int (k : Lift) (arrows : List Int) : ∀ (x : Expr), IntP (· = .assertMoveUp) (moveUp k arrows x) :=
  fun x => (moveUp_res k arrows x).intP.mono fun _ h => h.2

/-- Internal outcomes of `parseOp`: those of `parse`, or the second-pass assertion. -/
def OpInt (k : IntKind) : Prop := ParseInt k ∨ k = .assertMoveUp

theorem lex_int (text : Str) : IntP (fun _ => False) (lex text) :=
  lex_elim text (fun _ _ _ => trivial) fun _ => trivial

theorem buildTree_int (ts : List Token) (frames : List (Token × List Tok)) (base : List Tok) :
    IntP (fun _ => False) (buildTree ts frames base) := by
  rw [TreeIns.buildTree_eq_full]
  exact intP_iff.2 (TreeIns.full_inv (I := fun _ _ => True) (fun _ _ _ _ _ => trivial) (fun _ _ _ _ _ _ => trivial)
    (fun _ _ _ _ _ _ _ _ _ _ => trivial) (fun _ _ _ _ _ => trivial) (fun _ _ => trivial) (fun _ _ _ _ _ => trivial)
    ts (frames, base) trivial)

theorem checkBrackets_int (x : Expr) : IntP (fun _ => False) (checkBrackets x) :=
  checkBrackets_elim x (fun _ => trivial) fun _ _ _ => trivial

theorem finish_int (arrows : List Int) (x : Expr) : IntP (· = .assertMoveUp) (finish arrows x) := by
  rw [finish_eq]
  refine (moveUp_int .op arrows x).bind fun x1 h1 => ?_
  obtain ⟨cs, b, e, rfl⟩ := (moveUp_res .op arrows x).ok h1
  refine (IntP.mapM fun c _ => moveUp_int .args arrows c).bind fun cs2 _ => ?_
  split
  · trivial
  · exact intP_false (checkBrackets_int _)

theorem parseOp_int (text : Str) : IntP OpInt (parseOp text) := by
  rw [parseOp_bind]
  refine (intP_false (lex_int text)).bind fun toks _ => (intP_false (buildTree_int _ [] [])).bind fun tree _ => ?_
  exact ((parse_int tree 0 _ false).mono fun _ => Or.inl).bind fun x _ => (finish_int _ x).mono fun _ => Or.inr

end Einx.Notation
