import EinxModel.Proofs.RejectConcat
import EinxModel.Proofs.NotationSim
import EinxModel.Proofs.NotationNFTraverse
import EinxModel.Proofs.NotationParseCases
import EinxModel.Notation.Grammar
/-!
# Operators outside every pair of delimiters (helper lemmas for Props/C03Grammar.lean)

Every `->` that the string has outside all delimiters is an atom of its own in the top-level token list (`depth0_atom`).  `parse`
splits the list at these atoms into an `Op` with one child more than there are atoms; the first `move_up` pass returns at least as
many, because every lifted child has an alternative; the second pass and the bracket pass keep the number, and `parse_op` accepts
two at most (`parseOp_sides`).
-/
namespace Einx.Notation

theorem countDepth0_split (l : Str) : ∀ (s : Str) (st : List Char), 1 ≤ countDepth0 l s st →
    ∃ u v, s = u ++ l ++ v ∧ delimRun u st = some [] ∧ countDepth0 l s st = countDepth0 l (l ++ v) []
  | [], _, h => by simp [countDepth0] at h
  | x :: xs, st, h => by
    by_cases hc : (st.isEmpty && l.isPrefixOf (x :: xs)) = true
    · simp only [Bool.and_eq_true, List.isEmpty_iff] at hc
      obtain ⟨rfl, hp⟩ := hc
      obtain ⟨v, hv⟩ := List.isPrefixOf_iff_prefix.mp hp
      exact ⟨[], v, hv.symm, rfl, by rw [hv]⟩
    · rw [countDepth0, if_neg hc, Nat.zero_add] at h ⊢
      cases hd : delimStep st x with
      | none => rw [hd] at h; cases h
      | some st' =>
        rw [hd] at h
        obtain ⟨u, v, hs, hr, hcount⟩ := countDepth0_split l xs st' h
        refine ⟨x :: u, v, by rw [hs]; rfl, ?_, hcount⟩
        rw [delimRun, hd]
        exact hr

theorem countDepth0_arrow_two (s : Str) (st : List Char) (h : 2 ≤ countDepth0 arrowLit s st) :
    ∃ u v w, s = u ++ arrowLit ++ (v ++ arrowLit ++ w) ∧ delimRun u st = some [] ∧ delimRun v [] = some [] := by
  obtain ⟨u, r, hs, hu, hcount⟩ := countDepth0_split arrowLit s st (Nat.le_of_succ_le h)
  have hstep : countDepth0 arrowLit (arrowLit ++ r) [] = 1 + countDepth0 arrowLit r [] := by
    simp [countDepth0, delimStep, arrowLit]
  obtain ⟨v, w, hr, hv, _⟩ := countDepth0_split arrowLit r [] (by omega)
  exact ⟨u, v, w, by rw [hs, hr], hu, hv⟩

theorem comma_mem_afterLits : commaLit ∈ afterLits := by
  simp [afterLits, afterOps, lit, commaLit]

theorem arrow_no_delim : ∀ c ∈ arrowLit, isDelimChar c = false := by decide
theorem comma_no_delim : ∀ c ∈ commaLit, isDelimChar c = false := by decide

theorem two_le_length {α : Type} {l : List α} {a b : α} (ha : a ∈ l) (hb : b ∈ l) (hab : a ≠ b) : 2 ≤ l.length := by
  match l, ha, hb with
  | [x], ha, hb => exact absurd ((List.mem_singleton.mp ha).trans (List.mem_singleton.mp hb).symm) hab
  | _ :: _ :: _, _, _ => exact Nat.le_add_left 2 _

theorem two_le_countP {α : Type} (p : α → Bool) (l : List α) (a b : α) (ha : a ∈ l) (hb : b ∈ l) (hab : a ≠ b)
    (pa : p a = true) (pb : p b = true) : 2 ≤ l.countP p := by
  rw [List.countP_eq_length_filter]
  exact two_le_length (List.mem_filter.mpr ⟨ha, pa⟩) (List.mem_filter.mpr ⟨hb, pb⟩) hab

theorem parse_arrow_top {ts : List Tok} {b e : Nat} {ipc : Bool} {x : Expr}
    (hx : parse ts b e ipc = .ok x) (ha : ts.any (Tok.isText (lit "->")) = true) :
    ∃ cs b1 e1, x = .op cs b1 e1 ∧ cs.length = 1 + (strip ts).countP (Tok.isText (lit "->")) := by
  obtain ⟨t0, rest, hs, hany⟩ := strip_of_atom ha (by decide)
  have hop : findOp naryOps (t0 :: rest) = some (lit "->") := by
    rw [naryOps_eq]
    simp only [findOp, hany, if_true]
  rw [parse_nary b e ipc hs hop, keepOperands_ne (by decide)] at hx
  split at hx
  · cases hx
  · rename_i xs hm
    have hlen := mapM_ok_length _ _ _ hm
    rw [operands_length, ← hs] at hlen
    cases hx
    exact ⟨xs, _, _, rfl, hlen⟩

theorem length_le_flatMap_children : ∀ (ch : List Expr), (∀ y ∈ ch, y.children ≠ []) → ch.length ≤ (ch.flatMap Expr.children).length
  | [], _ => Nat.le_refl _
  | y :: ch, h => by
    have h1 : 0 < y.children.length := List.length_pos_iff.mpr (h y List.mem_cons_self)
    have := length_le_flatMap_children ch (fun z hz => h z (List.mem_cons_of_mem _ hz))
    simp only [List.flatMap_cons, List.length_append, List.length_cons]
    omega

theorem moveUp_op_of_op {arrows : List Int} {xs : List Expr} {b e : Int} {r : Expr}
    (hg : G true true true (.op xs b e) = true) (h : moveUp .op arrows (.op xs b e) = .ok r) :
    xs.length ≤ r.children.length := by
  rw [moveUp_op_op] at h
  obtain ⟨ch, hm, h⟩ := bind_ok.mp h
  cases h
  simp only [G, Bool.and_eq_true] at hg
  rw [← mapM_ok_length _ _ _ hm]
  exact length_le_flatMap_children ch ((ExceptP.mapM_forall fun c hc =>
    (NF.moveUp_G .op arrows true true c (NF.GL_iff.mp hg.2 c hc)).mono (fun _ h => h) fun _ hy => hy.children_ne).ok hm)

theorem parseOp_sides {text : Str} {t : Expr} (h : parseOp text = .ok t) :
    ∃ toks tree, lex text = .ok toks ∧ buildTree (dedupSpaces toks false) [] [] = .ok tree ∧ t.children.length ≤ 2 ∧
      (tree.any (Tok.isText (lit "->")) = true → 1 + (strip tree).countP (Tok.isText (lit "->")) ≤ t.children.length) := by
  obtain ⟨toks, tree, y, hl, hb, hp, hf⟩ := parseOp_ok_inv h
  obtain ⟨cs, b, e, cs2, hm, hm2, rfl, hlen⟩ := finish_ok_inv hf
  refine ⟨toks, tree, hl, hb, hlen, fun ha => ?_⟩
  obtain ⟨xs, b1, e1, rfl, hxs⟩ := parse_arrow_top hp ha
  have h1 := moveUp_op_of_op ((NF.parse_G _ _ _ _).ok hp) hm
  have h2 := mapM_ok_length _ _ _ hm2
  simp only [Expr.children, traverseL_eq_map, List.length_map] at h1 ⊢
  omega

theorem arrow_atom {text u v : Str} {toks : List Token} {tree : List Tok} (hs : text = u ++ arrowLit ++ v)
    (hrun : delimRun u [] = some []) (hl : lex text = .ok toks) (hb : buildTree (dedupSpaces toks false) [] [] = .ok tree) :
    Tok.atom ⟨arrowLit, u.length, u.length + arrowLit.length⟩ ∈ strip tree :=
  mem_strip_of (depth0_atom (by rw [literals_eq]; decide) rfl arrow_no_delim (by decide) hs hrun hl hb) rfl

theorem parseOp_arrow_two_sides {text : Str} {t : Expr} (h : parseOp text = .ok t)
    (hc : 1 ≤ countDepth0 arrowLit text []) : 2 ≤ t.children.length := by
  obtain ⟨u, v, hs, hrun, _⟩ := countDepth0_split arrowLit text [] hc
  obtain ⟨toks, tree, hl, hb, _, hside⟩ := parseOp_sides h
  have hmem := arrow_atom hs hrun hl hb
  have := hside (List.any_eq_true.mpr ⟨_, mem_strip hmem, rfl⟩)
  have hpos : 0 < (strip tree).countP (Tok.isText (lit "->")) := List.countP_pos_iff.mpr ⟨_, hmem, rfl⟩
  omega

theorem parseOp_two_arrows_depth0 (text : Str) (hc : 2 ≤ countDepth0 arrowLit text []) : ∀ t, parseOp text ≠ .ok t := by
  intro t h
  obtain ⟨u, v, w, hs, hrun, hrunv⟩ := countDepth0_arrow_two text [] hc
  obtain ⟨toks, tree, hl, hb, hlen, hside⟩ := parseOp_sides h
  have hmem1 := arrow_atom hs hrun hl hb
  have hrun2 : delimRun (u ++ arrowLit ++ v) [] = some [] := by
    rw [List.append_assoc, delimRun_append, hrun]
    simp only
    rw [delimRun_append, delimRun_clean _ _ arrow_no_delim]
    exact hrunv
  have hmem2 := arrow_atom (u := u ++ arrowLit ++ v) (v := w) (by rw [hs]; simp) hrun2 hl hb
  have hne : (Tok.atom ⟨arrowLit, u.length, u.length + arrowLit.length⟩) ≠
      Tok.atom ⟨arrowLit, (u ++ arrowLit ++ v).length, (u ++ arrowLit ++ v).length + arrowLit.length⟩ := by
    intro heq
    have := (Token.mk.inj (Tok.atom.inj heq)).2.1
    simp only [List.length_append, arrowLit, List.length_cons, List.length_nil] at this
    omega
  have h2 : 2 ≤ (strip tree).countP (Tok.isText (lit "->")) := two_le_countP _ _ _ _ hmem1 hmem2 hne rfl rfl
  have h3 := hside (List.any_eq_true.mpr ⟨_, mem_strip hmem1, rfl⟩)
  omega

theorem parseOp_arrow_shape {text : Str} {t : Expr} (h : parseOp text = .ok t) (hc : 1 ≤ countDepth0 arrowLit text []) :
    ∃ ins b1 e1 outs b2 e2 b e, t = .op [.args ins b1 e1, .args outs b2 e2] b e := by
  have h2 := parseOp_arrow_two_sides h hc
  rcases parseOp_root text t h with ⟨ins, b1, e1, b, e, rfl⟩ | h'
  · exact absurd h2 (Nat.not_succ_le_self 1)
  · exact h'

theorem parseArgs_arrow_depth0 {text : Str} (hc : 1 ≤ countDepth0 arrowLit text []) :
    (∀ t, parseOp text = .ok t → parseArgs text = .error (.syntax .argsHasArrow (posForLiteral (lit "->") text 0) [])) ∧
    ∀ a, parseArgs text ≠ .ok a := by
  have h1 : ∀ t, parseOp text = .ok t → parseArgs text = .error (.syntax .argsHasArrow (posForLiteral (lit "->") text 0) []) := by
    intro t h
    obtain ⟨ins, b1, e1, outs, b2, e2, b, e, rfl⟩ := parseOp_arrow_shape h hc
    unfold parseArgs
    rw [h]
    rfl
  refine ⟨h1, fun a ha => ?_⟩
  cases hp : parseOp text with
  | error err => unfold parseArgs at ha; rw [hp] at ha; cases ha
  | ok t => rw [h1 t hp] at ha; cases ha

end Einx.Notation
