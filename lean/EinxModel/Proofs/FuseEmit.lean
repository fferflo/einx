import EinxModel.Proofs.FuseAll
import EinxModel.Proofs.CompileOrder
/-!
C04, name re-use: the statements `emitAll` produces define every variable at most once and lie in blocks that
`Ctx.blockFor` returned (or in the root block).

`Ext c st st' new`: a generator step from `st` to `st'` appended the statements `new`, whose output variables are fresh
(`st.vars.length ≤ o < st'.vars.length`), and only appended to the cache.  The one step that is not of this form is `exit g`,
which defines the function variable created by `enter g`.
-/
namespace Einx.Compile

theorem blockOfV_append (vars more : List VarInfo) (o : Nat) (h : o < vars.length) :
    blockOfV (vars ++ more) o = blockOfV vars o := by
  simp [blockOfV, List.getElem?_append_left h]

theorem reuseV_append (vars more : List VarInfo) (o : Nat) (h : o < vars.length) :
    reuseV (vars ++ more) o = reuseV vars o := by
  simp [reuseV, List.getElem?_append_left h]

theorem blockOfV_last (vars : List VarInfo) (vi : VarInfo) : blockOfV (vars ++ [vi]) vars.length = vi.block := by
  simp [blockOfV]

theorem reuseV_last (vars : List VarInfo) (vi : VarInfo) : reuseV (vars ++ [vi]) vars.length = vi.reuse := by
  simp [reuseV]

theorem InfoOK.append {vars : List VarInfo} {p : Nat × Stmt} (h : InfoOK vars p) (more : List VarInfo)
    (hlt : ∀ o ∈ p.2.outputVars, o < vars.length) : InfoOK (vars ++ more) p := by
  intro o ho
  rw [blockOfV_append _ _ _ (hlt o ho), reuseV_append _ _ _ (hlt o ho)]
  exact h o ho

structure Ext (c : Ctx) (st st' : GState) (new : List (Nat × Stmt)) : Prop where
  body : st'.bodyS = st.bodyS ++ new
  cache : ∃ more, st'.cache = st.cache ++ more
  blk : ∀ p ∈ new, GoodBlk c p.1
  vpre : ∃ more, st'.vars = st.vars ++ more
  outs : ∀ o ∈ outsOf (new.map (·.2)), st.vars.length ≤ o ∧ o < st'.vars.length
  nd : (outsOf (new.map (·.2))).Nodup
  info : ∀ p ∈ new, InfoOK st'.vars p

theorem Ext.vars {c : Ctx} {st st' : GState} {new : List (Nat × Stmt)} (h : Ext c st st' new) :
    st.vars.length ≤ st'.vars.length := by
  obtain ⟨more, hm⟩ := h.vpre
  rw [hm]; simp

theorem Ext.refl (c : Ctx) (st : GState) : Ext c st st [] :=
  ⟨by simp, ⟨[], by simp⟩, by simp, ⟨[], by simp⟩, by simp [outsOf], by simp [outsOf], by simp⟩

theorem Ext.trans {c : Ctx} {st s1 st' : GState} {n1 n2 : List (Nat × Stmt)} (h1 : Ext c st s1 n1) (h2 : Ext c s1 st' n2) :
    Ext c st st' (n1 ++ n2) := by
  obtain ⟨m1, e1⟩ := h1.cache
  obtain ⟨m2, e2⟩ := h2.cache
  obtain ⟨v1, f1⟩ := h1.vpre
  obtain ⟨v2, f2⟩ := h2.vpre
  refine ⟨by rw [h2.body, h1.body, List.append_assoc], ⟨m1 ++ m2, by rw [e2, e1, List.append_assoc]⟩, ?_,
    ⟨v1 ++ v2, by rw [f2, f1, List.append_assoc]⟩, ?_, ?_, ?_⟩
  · intro p hp
    rcases List.mem_append.1 hp with hp | hp
    · exact h1.blk p hp
    · exact h2.blk p hp
  · intro o ho
    rw [List.map_append, outsOf_append] at ho
    rcases List.mem_append.1 ho with ho | ho
    · have := h1.outs o ho
      have := h2.vars
      omega
    · have := h2.outs o ho
      have := h1.vars
      omega
  · rw [List.map_append, outsOf_append, List.nodup_append]
    refine ⟨h1.nd, h2.nd, ?_⟩
    intro a ha b hb hab
    have := h1.outs a ha
    have := h2.outs b hb
    omega
  · intro p hp
    rcases List.mem_append.1 hp with hp | hp
    · rw [f2]
      refine (h1.info p hp).append v2 ?_
      intro o ho
      exact (h1.outs o ((mem_outsOf _ _).2 ⟨p.2, List.mem_map.2 ⟨p, hp, rfl⟩, ho⟩)).2
    · exact h2.info p hp

/-- What a step may append: statements in good blocks whose output variables are fresh and recorded correctly. -/
def NewOK (c : Ctx) (st s1 : GState) (new : List (Nat × Stmt)) : Prop :=
  (∀ p ∈ new, GoodBlk c p.1) ∧ (∀ o ∈ outsOf (new.map (·.2)), st.vars.length ≤ o ∧ o < s1.vars.length) ∧
  (outsOf (new.map (·.2))).Nodup ∧ (∀ p ∈ new, InfoOK s1.vars p)

theorem NewOK.nil (c : Ctx) (st s1 : GState) : NewOK c st s1 [] := ⟨by simp, by simp [outsOf], by simp [outsOf], by simp⟩

theorem NewOK.noout (c : Ctx) (st s1 : GState) (b : Nat) (s : Stmt) (hb : GoodBlk c b) (hs : s.outputVars = []) :
    NewOK c st s1 [(b, s)] := by
  refine ⟨?_, by simp [outsOf, hs], by simp [outsOf, hs], ?_⟩
  · intro p hp; simp only [List.mem_singleton] at hp; subst hp; exact hb
  · intro p hp o ho; simp only [List.mem_singleton] at hp; subst hp; simp [hs] at ho

theorem NewOK.fresh (c : Ctx) (st s1 : GState) (b : Nat) (s : Stmt) (vi : VarInfo) (hb : GoodBlk c b)
    (hs : Binder st.vars.length vi b s) (hv : s1.vars = st.vars ++ [vi]) : NewOK c st s1 [(b, s)] := by
  refine ⟨?_, ?_, by simp [outsOf, hs.out], ?_⟩
  · intro p hp; simp only [List.mem_singleton] at hp; subst hp; exact hb
  · intro o ho
    simp only [List.map_cons, List.map_nil, outsOf, List.flatMap_cons, List.flatMap_nil, hs.out, List.append_nil,
      List.mem_singleton] at ho
    subst ho
    rw [hv]; simp
  · intro p hp o ho
    simp only [List.mem_singleton] at hp
    subst hp
    simp only [hs.out, List.mem_singleton] at ho
    subst ho
    constructor
    · intro hp'
      rw [hv, blockOfV_last]
      exact hs.info.1 hp'
    · intro hp'
      rw [hv, reuseV_last]
      exact hs.info.2 hp'

theorem Ext.push {c : Ctx} {st s1 : GState} (h : Ext c st s1 []) (src : Option Nat) (new : List (Nat × Stmt))
    (hnew : NewOK c st s1 new) : Ext c st (s1.push src new) new := by
  refine ⟨?_, h.cache, hnew.1, h.vpre, hnew.2.1, hnew.2.2.1, hnew.2.2.2⟩
  rw [bodyS_push, h.body, List.append_nil]

theorem Ext.of_eq {c : Ctx} {st st' : GState} (hb : st'.body = st.body) (hc : ∃ more, st'.cache = st.cache ++ more)
    (hv : ∃ more, st'.vars = st.vars ++ more) : Ext c st st' [] :=
  ⟨by simp [GState.bodyS, hb], hc, by simp, hv, by simp [outsOf], by simp [outsOf], by simp⟩

theorem setCache_more {cache cache' : List (E × E)} {obj e : E} (h : setCache 64 cache obj e = .ok cache') :
    ∃ more, cache' = cache ++ more :=
  let ⟨more, hm, _⟩ := setCache_append _ _ _ _ _ h
  ⟨more, hm⟩

theorem applyRule_ext (c : Ctx) (st st1 : GState) (rule : Rule) (new : List (Nat × Stmt)) (hwf : rule.WF)
    (h : applyRule c st rule = .ok (st1, new)) : Ext c st st1 [] ∧ NewOK c st st1 new := by
  cases rule with
  | define out e eff ni fi =>
    rcases define_ok h with ⟨-, rfl, cache', hset, rfl⟩ | ⟨-, b, cache', hb, hset, rfl, rfl⟩
    · exact ⟨Ext.of_eq rfl (setCache_more hset) ⟨[], (List.append_nil _).symm⟩, NewOK.nil c st _⟩
    · exact ⟨Ext.of_eq rfl (setCache_more hset) ⟨[_], rfl⟩,
        NewOK.fresh c st _ b _ ⟨b, true⟩ (Or.inr ⟨out, hb⟩) (.assign b e eff) rfl⟩
  | effect s out e =>
    obtain ⟨b, cache', hb, hset, rfl, rfl⟩ := applyRule_effect_ok h
    exact ⟨Ext.of_eq rfl (setCache_more hset) ⟨[], (List.append_nil _).symm⟩,
      NewOK.noout c st _ b s (Or.inr ⟨out, hb⟩) (event_outs s hwf)⟩
  | import_ out from_ imp hint =>
    obtain ⟨cache', -, hset, rfl, rfl⟩ := applyRule_import_ok h
    exact ⟨Ext.of_eq rfl (setCache_more hset) ⟨[_], rfl⟩,
      NewOK.fresh c st _ 0 _ ⟨0, false⟩ (Or.inl rfl) (.import_ from_ imp) rfl⟩
  | constant out str =>
    obtain ⟨b, cache', -, hset, rfl, rfl⟩ := applyRule_constant_ok h
    exact ⟨Ext.of_eq rfl (setCache_more hset) ⟨[_], rfl⟩,
      NewOK.fresh c st _ 0 _ ⟨b, false⟩ (Or.inl rfl) (.const b _) rfl⟩

theorem app_ext (c : Ctx) (st st' : GState) (i : Nat) (h : emitVisit c st (.app i) = .ok st') : ∃ new, Ext c st st' new := by
  obtain ⟨a, rule, s1, new, -, hr, hp, rfl⟩ := emitVisit_app_ok h
  obtain ⟨hext, hnew⟩ := applyRule_ext c st s1 _ new (patchForce_wf _ _ _ _ (ruleOf_wf _ _ _ _ _ hr)) hp
  exact ⟨new, hext.push (some i) new hnew⟩

theorem param_ext (c : Ctx) (st st' : GState) (t : Nat) (h : enterParam c st t = .ok st') : ∃ new, Ext c st st' new := by
  obtain ⟨b, cache', hb, hset, rfl⟩ := enterParam_ok h
  have hext : Ext c st { st with vars := st.vars ++ [⟨b, true⟩], cache := cache' } [] :=
    Ext.of_eq rfl (setCache_more hset) ⟨[_], rfl⟩
  exact ⟨_, hext.push none [(b, .param st.vars.length t)]
    (NewOK.fresh c st _ b _ ⟨b, true⟩ (Or.inr ⟨.var t, hb⟩) (.param b t) rfl)⟩

theorem params_ext (c : Ctx) (inputs : List Nat) : ∀ (st st' : GState), inputs.foldlM (enterParam c) st = .ok st' →
    ∃ new, Ext c st st' new :=
  foldlM_ok_rel (enterParam c) (fun st st' => ∃ new, Ext c st st' new) (fun st => ⟨[], Ext.refl c st⟩)
    (fun ⟨n₁, e₁⟩ ⟨n₂, e₂⟩ => ⟨n₁ ++ n₂, e₁.trans e₂⟩) (fun st t st' h => param_ext c st st' t h) inputs

theorem enter_ext (c : Ctx) (st st' : GState) (gi : Nat) (h : emitVisit c st (.enter gi) = .ok st') :
    ∃ s1 new blk, Ext c st s1 [] ∧ s1.vars.length = st.vars.length + 1 ∧
      assocGet s1.cache (.gref gi) = some (.var st.vars.length) ∧ c.blockFor (.gref gi) = .ok blk ∧
      blockOfV s1.vars st.vars.length = blk ∧ Ext c s1 st' new := by
  obtain ⟨sg, b, cache', -, hb, hset, hfold⟩ := emitVisit_enter_ok h
  obtain ⟨new, e⟩ := params_ext c sg.inputs _ st' hfold
  obtain ⟨rfl, hnone⟩ := setCache_gref _ _ _ _ hset
  have hext : Ext c st
      { st with vars := st.vars ++ [⟨b, true⟩], cache := st.cache ++ [(.gref gi, .var st.vars.length)],
                hints := st.hints ++ (sg.name.map fun n => (st.vars.length, n)).toList } [] :=
    Ext.of_eq rfl ⟨[_], rfl⟩ ⟨[_], rfl⟩
  exact ⟨_, new, b, hext, by simp, assocGet_append_none _ _ _ hnone, hb, blockOfV_last _ _, e⟩

theorem exit_out (c : Ctx) (st st' : GState) (gi : Nat) (h : emitVisit c st (.exit gi) = .ok st') :
    ∃ fv params inner outer r, st'.bodyS = st.bodyS ++ [(inner, Stmt.return_ r), (outer, Stmt.def_ fv params inner gi)] ∧
      assocGet st.cache (.gref gi) = some (.var fv) ∧ st'.cache = st.cache ∧ st'.vars = st.vars ∧
      GoodBlk c inner ∧ c.blockFor (.gref gi) = .ok outer := by
  obtain ⟨sg, outer, inner, fv, params, r, -, ho, hi, hcache, -, rfl⟩ := emitVisit_exit_ok h
  exact ⟨fv, params, inner, outer, r, bodyS_push _ _ _, hcache, rfl, rfl, Or.inr ⟨_, hi⟩, ho⟩

/-! ### Single definitions -/

/-- `fvs`: (graph, function variable) of the nested graphs entered so far; `ex`: the graphs that were closed. -/
structure SD (c : Ctx) (st : GState) (fvs : List (Nat × Nat)) (ex : List Nat) : Prop where
  nd : (outsOf st.program).Nodup
  lt : ∀ v ∈ outsOf st.program, v < st.vars.length
  fv : ∀ p ∈ fvs, assocGet st.cache (.gref p.1) = some (.var p.2) ∧ p.2 < st.vars.length ∧ (p.2 ∈ outsOf st.program → p.1 ∈ ex) ∧
    c.blockFor (.gref p.1) = .ok (blockOfV st.vars p.2)
  inj : ∀ p ∈ fvs, ∀ q ∈ fvs, p.2 = q.2 → p.1 = q.1
  blk : ∀ p ∈ st.bodyS, GoodBlk c p.1
  info : ∀ p ∈ st.bodyS, InfoOK st.vars p

theorem program_of_bodyS {st st' : GState} {new : List (Nat × Stmt)} (h : st'.bodyS = st.bodyS ++ new) :
    st'.program = st.program ++ new.map (·.2) := by
  rw [← bodyS_program, ← bodyS_program, h, List.map_append]

theorem mem_bodyS_outs {st : GState} {p : Nat × Stmt} (hp : p ∈ st.bodyS) : ∀ o ∈ p.2.outputVars, o ∈ outsOf st.program := by
  intro o ho
  rw [← bodyS_program]
  exact (mem_outsOf _ _).2 ⟨p.2, List.mem_map.2 ⟨p, hp, rfl⟩, ho⟩

theorem SD.ext {c : Ctx} {st st' : GState} {fvs : List (Nat × Nat)} {ex : List Nat} {new : List (Nat × Stmt)}
    (h : SD c st fvs ex) (he : Ext c st st' new) : SD c st' fvs ex := by
  have hp := program_of_bodyS he.body
  obtain ⟨more, hm⟩ := he.cache
  obtain ⟨vmore, hvm⟩ := he.vpre
  refine ⟨?_, ?_, ?_, h.inj, ?_, ?_⟩
  · rw [hp, outsOf_append, List.nodup_append]
    refine ⟨h.nd, he.nd, ?_⟩
    intro a ha b hb hab
    have := h.lt a ha
    have := he.outs b hb
    omega
  · intro v hv
    rw [hp, outsOf_append] at hv
    rcases List.mem_append.1 hv with hv | hv
    · exact Nat.lt_of_lt_of_le (h.lt v hv) he.vars
    · exact (he.outs v hv).2
  · intro p hp'
    obtain ⟨h1, h2, h3, h4⟩ := h.fv p hp'
    refine ⟨by rw [hm]; exact assocGet_append_some _ _ _ _ h1, Nat.lt_of_lt_of_le h2 he.vars, ?_, ?_⟩
    · intro hv
      rw [hp, outsOf_append] at hv
      rcases List.mem_append.1 hv with hv | hv
      · exact h3 hv
      · have := he.outs _ hv
        omega
    · rw [hvm, blockOfV_append _ _ _ h2]; exact h4
  · intro p hp'
    rw [he.body] at hp'
    rcases List.mem_append.1 hp' with hp' | hp'
    · exact h.blk p hp'
    · exact he.blk p hp'
  · intro p hp'
    rw [he.body] at hp'
    rcases List.mem_append.1 hp' with hp' | hp'
    · rw [hvm]
      exact (h.info p hp').append vmore (fun o ho => h.lt o (mem_bodyS_outs hp' o ho))
    · exact he.info p hp'

theorem SD.enter {c : Ctx} {st s1 : GState} {fvs : List (Nat × Nat)} {ex : List Nat} (h : SD c st fvs ex) (gi : Nat)
    (he : Ext c st s1 []) (hlen : s1.vars.length = st.vars.length + 1)
    (hget : assocGet s1.cache (.gref gi) = some (.var st.vars.length))
    (hblk : c.blockFor (.gref gi) = .ok (blockOfV s1.vars st.vars.length)) : SD c s1 ((gi, st.vars.length) :: fvs) ex := by
  have h1 := h.ext he
  have hp : s1.program = st.program := by simpa using program_of_bodyS he.body
  refine ⟨h1.nd, h1.lt, ?_, ?_, h1.blk, h1.info⟩
  · intro p hp'
    rcases List.mem_cons.1 hp' with rfl | hp'
    · refine ⟨hget, by simp only; omega, ?_, hblk⟩
      intro hv
      rw [hp] at hv
      exact absurd (h.lt _ hv) (Nat.lt_irrefl _)
    · exact h1.fv p hp'
  · intro p hp' q hq hpq
    rcases List.mem_cons.1 hp' with rfl | hp' <;> rcases List.mem_cons.1 hq with rfl | hq
    · rfl
    · have := (h.fv q hq).2.1
      simp only at hpq
      omega
    · have := (h.fv p hp').2.1
      simp only at hpq
      omega
    · exact h.inj p hp' q hq hpq

theorem SD.exit {c : Ctx} {st st' : GState} {fvs : List (Nat × Nat)} {ex : List Nat} (h : SD c st fvs ex) (gi fv : Nat)
    (params : List Nat) (inner outer : Nat) (r : E)
    (hb : st'.bodyS = st.bodyS ++ [(inner, Stmt.return_ r), (outer, Stmt.def_ fv params inner gi)])
    (hget : assocGet st.cache (.gref gi) = some (.var fv)) (hc : st'.cache = st.cache) (hv : st'.vars = st.vars)
    (hin : GoodBlk c inner) (hout : c.blockFor (.gref gi) = .ok outer) (hen : gi ∈ fvs.map (·.1)) (hex : gi ∉ ex) :
    SD c st' fvs (gi :: ex) := by
  have hp : st'.program = st.program ++ [Stmt.return_ r, Stmt.def_ fv params inner gi] := by
    simpa using program_of_bodyS hb
  have houts : outsOf st'.program = outsOf st.program ++ [fv] := by
    rw [hp, outsOf_append]; simp [outsOf, Stmt.outputVars]
  obtain ⟨p0, hp0, hp0g⟩ := List.mem_map.1 hen
  have hfv0 := h.fv p0 hp0
  have hfv : p0.2 = fv := by
    rw [hp0g, hget] at hfv0
    simpa using hfv0.1.symm
  refine ⟨?_, ?_, ?_, h.inj, ?_, ?_⟩
  · rw [houts, List.nodup_append]
    refine ⟨h.nd, by simp, ?_⟩
    intro a ha b hb' hab
    simp only [List.mem_singleton] at hb'
    rw [hb'] at hab
    rw [hab, ← hfv] at ha
    exact hex (hp0g ▸ hfv0.2.2.1 ha)
  · intro v hv'
    rw [houts] at hv'
    rw [hv]
    rcases List.mem_append.1 hv' with hv' | hv'
    · exact h.lt v hv'
    · simp only [List.mem_singleton] at hv'
      rw [hv', ← hfv]
      exact hfv0.2.1
  · intro p hp'
    obtain ⟨h1, h2, h3, h4⟩ := h.fv p hp'
    refine ⟨by rw [hc]; exact h1, by rw [hv]; exact h2, ?_, by rw [hv]; exact h4⟩
    intro hv'
    rw [houts] at hv'
    rcases List.mem_append.1 hv' with hv' | hv'
    · exact List.mem_cons_of_mem _ (h3 hv')
    · simp only [List.mem_singleton] at hv'
      have := h.inj p hp' p0 hp0 (by rw [hv', hfv])
      rw [this, hp0g]
      exact List.mem_cons_self
  · intro p hp'
    rw [hb] at hp'
    rcases List.mem_append.1 hp' with hp' | hp'
    · exact h.blk p hp'
    · simp only [List.mem_cons, List.not_mem_nil, or_false] at hp'
      rcases hp' with rfl | rfl
      · exact hin
      · exact Or.inr ⟨_, hout⟩
  · intro p hp'
    rw [hb] at hp'
    rw [hv]
    rcases List.mem_append.1 hp' with hp' | hp'
    · exact h.info p hp'
    · simp only [List.mem_cons, List.not_mem_nil, or_false] at hp'
      rcases hp' with rfl | rfl
      · intro o ho; simp [Stmt.outputVars] at ho
      · intro o ho
        simp only [Stmt.outputVars, List.mem_singleton] at ho
        subst ho
        refine ⟨fun _ => ?_, by simp [Stmt.isImport]⟩
        have h4 := hfv0.2.2.2
        rw [hp0g, hout, hfv] at h4
        simpa using h4.symm

theorem SD.init (c : Ctx) : SD c {} [] [] :=
  ⟨by simp [outsOf, GState.program], by simp [outsOf, GState.program], by simp, by simp, by simp [GState.bodyS],
   by simp [GState.bodyS]⟩

/-- **Single definitions along a traversal** that is well bracketed and visits every `exit g` at most once. -/
theorem emitAll_sd (c : Ctx) (order : List Visit) : ∀ (st st' : GState) (fvs : List (Nat × Nat)) (ex : List Nat),
    SD c st fvs ex → matched order (fvs.map (·.1)) = true → order.Nodup → (∀ gi, Visit.exit gi ∈ order → gi ∉ ex) →
    emitAll c order st = .ok st' → ∃ fvs' ex', SD c st' fvs' ex' := by
  induction order with
  | nil =>
    intro st st' fvs ex hsd _ _ _ h
    cases h
    exact ⟨fvs, ex, hsd⟩
  | cons v rest ih =>
    intro st st' fvs ex hsd hm hnd hex h
    obtain ⟨s1, h1, h2⟩ := emitAll_cons c v rest st st' h
    have hnd' := List.nodup_cons.1 hnd
    have hex' : ∀ gi, Visit.exit gi ∈ rest → gi ∉ ex := fun gi hgi => hex gi (List.mem_cons_of_mem _ hgi)
    cases v with
    | app i =>
      obtain ⟨new, he⟩ := app_ext c st s1 i h1
      exact ih s1 st' fvs ex (hsd.ext he) (by simpa [matched] using hm) hnd'.2 hex' h2
    | enter gi =>
      obtain ⟨s0, new, blk, he0, hlen, hget, hblk, hbo, he1⟩ := enter_ext c st s1 gi h1
      have := (hsd.enter gi he0 hlen hget (by rw [hbo]; exact hblk)).ext he1
      exact ih s1 st' _ ex this (by simpa [matched] using hm) hnd'.2 hex' h2
    | exit gi =>
      simp only [matched, Bool.and_eq_true, List.contains_iff_mem] at hm
      obtain ⟨fv, params, inner, outer, r, hb, hget, hc, hv, hin, hout⟩ := exit_out c st s1 gi h1
      have := hsd.exit gi fv params inner outer r hb hget hc hv hin hout hm.1 (hex gi (by simp))
      refine ih s1 st' fvs (gi :: ex) this hm.2 hnd'.2 ?_ h2
      intro gj hgj hc'
      rcases List.mem_cons.1 hc' with rfl | hc'
      · exact hnd'.1 hgj
      · exact hex' gj hgj hc'

end Einx.Compile
