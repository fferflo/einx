import EinxModel.Proofs.ExecSem
import EinxModel.Proofs.ExecVisit
import EinxModel.Proofs.Factory
import Std.Data.String.ToNat
/-! Helper lemmas for `Props/C13Exec.lean`: the instances of `QOK` and `Track` for the object of a graph input (`isInAtom t`) and
the tracers that are casts of that input (`Factory.root fg y = t`).  The `CallSite` of the checker's verdict is built in the
property file (`Props.C13.factory_callSite`). -/
namespace Einx.Exec
open Einx.Compile Einx.Factory

theorem callsInput_iff_pcall (g : Compile.Graph) (aux : List TAux) (fg : Factory.Graph) (hfg : toFactory g aux = some fg) (t j : Nat) :
    callsInput fg t j = true ↔ PCall g (fun y => root fg y = t) j := by
  rw [callsInput_iff, toFactory_app g aux fg hfg]
  constructor
  · rintro ⟨f, args, kwargs, deps, out, ha, hr⟩
    obtain ⟨a, ha', hta⟩ := Option.map_eq_some_iff.1 ha
    obtain ⟨fn', args', kwargs', deps', o, rfl, hfn, -, -⟩ := toGApp_call_inv a _ _ _ _ _ hta
    cases toV_ref_inv fn' f hfn.symm
    exact ⟨f, args', kwargs', deps', o, ha', hr⟩
  · rintro ⟨y, args, kwargs, deps, out, ha, hr⟩
    refine ⟨y, args.map toV, kwargs.map (fun kv => (kv.1, toV kv.2)), deps.map toV, toV (.var out), ?_, hr⟩
    rw [ha]; simp [toGApp, toNode, toV, App.out]

theorem inAtom_inj (t t' : Nat) (h : inAtom t' = inAtom t) : t' = t := by
  simp only [inAtom, atom, E.mk, E.ofList, E.node.injEq, E.cons.injEq, E.lit.injEq, true_and, and_true] at h
  exact Nat.repr_inj.1 h

theorem isInAtom_iff (t : Nat) (e : E) : isInAtom t e = true ↔ e = inAtom t := by simp [isInAtom]

theorem isInAtom_qok (t : Nat) : QOK (isInAtom t) where
  node := by
    intro e h
    rw [isInAtom_iff] at h
    exact ⟨_, _, h⟩
  res := by intro n; simp [isInAtom, resAtom, inAtom, atom, E.mk]
  mod := by intro f i; simp [isInAtom, modAtom, inAtom, atom, E.mk, E.ofList]
  clos := by intro k; simp [isInAtom, closAtom, inAtom, atom, E.mk]

theorem isInAtom_const (t n : Nat) : isInAtom t (constAtom n) = false := by
  simp [isInAtom, constAtom, inAtom, atom, E.mk]

theorem castSource_input (fg : Factory.Graph) (hfwf : Factory.wf fg = true) (t : Nat) (ht : t ∈ fg.inputs) : castSource fg t = none := by
  obtain ⟨ti, h1, h2⟩ := wf_input hfwf t ht
  simp [castSource, h1, h2]

theorem not_allowInline_of_root_input (g : Compile.Graph) (aux : List TAux) (fg : Factory.Graph) (hfg : toFactory g aux = some fg)
    (hfwf : Factory.wf fg = true) (t : Nat) (ht : t ∈ fg.inputs) (f : Nat) (hroot : root fg f = t) :
    isAllowInline g (.var f) = false := by
  refine Bool.eq_false_iff.2 fun hal => ?_
  simp only [isAllowInline] at hal
  split at hal
  · rename_i o name out horig
    -- the origin of `f` is a builtin: `f` is no cast, so it is its own root, an input with an origin
    obtain ⟨horg, happ⟩ := (originOf_iff g f o _).1 horig
    have htr := tracer_origin g aux fg hfg f
    rw [horg, Option.map_eq_some_iff] at htr
    obtain ⟨ti, hti, hto⟩ := htr
    have hcs : castSource fg f = none := by
      simp only [castSource, hti, hto, toFactory_app g aux fg hfg o, happ, Option.map_some, toGApp, toNode]
    have hrf : root fg f = f := rootF_of_none fg f hcs _
    obtain ⟨ti', h1, h2⟩ := wf_input hfwf f (hrf ▸ hroot ▸ ht)
    cases hti.symm.trans h1
    cases hto.symm.trans h2
  · cases hal

theorem rootStable_spec (fg : Factory.Graph) (h : rootStable fg = true) (x : Nat) (hx : x < fg.tracers.length) :
    rootF fg (fg.tracers.length - 1) x = rootF fg fg.tracers.length x := by
  simp only [rootStable, List.all_eq_true, List.mem_range, beq_iff_eq] at h
  exact h x hx

/-- When the fuel of `root` suffices, a cast has the root of the tracer it casts. -/
theorem root_cast (fg : Factory.Graph) (hstable : rootStable fg = true) (x y : Nat) (hcs : castSource fg y = some x)
    (hx : x < fg.tracers.length) : root fg y = root fg x := by
  have hst := rootStable_spec fg hstable x hx
  unfold root
  obtain ⟨L, hL⟩ : ∃ L, fg.tracers.length = L + 1 := ⟨fg.tracers.length - 1, by omega⟩
  rw [hL] at hst ⊢
  rw [rootF_succ_cast fg x y L hcs, ← hst, Nat.add_sub_cancel]

theorem root_cast_app {g : Compile.Graph} {fg : Factory.Graph} (S : Setup g fg) (hfwf : Factory.wf fg = true)
    (hstable : rootStable fg = true) (j x y : Nat) (hj : g.apps[j]? = some (.cast (.var x) (.var y))) : root fg y = root fg x := by
  have hfa := S.app j _ hj
  obtain ⟨ti, h1, h2⟩ := wf_out hfwf j _ hfa y (by simp [toGApp, App.out, refs_var])
  obtain ⟨tx, hx1, _⟩ := wf_operand hfwf j _ hfa x (by simp [toGApp, toNode, GNode.operands, refsL, refs_var])
  exact root_cast fg hstable x y (castSource_of_cast fg x y j ti h1 h2 (by rw [hfa]; simp [toGApp, toNode, App.out, toV]))
    (List.getElem?_eq_some_iff.1 hx1).1

theorem castsPlain_spec (g : Compile.Graph) (fg : Factory.Graph) (t : Nat) (h : castsPlain g fg t = true) (j x : Nat) (out : E)
    (ha : g.apps[j]? = some (App.cast (.var x) out)) (hrx : root fg x = t) : ∃ y, out = .var y := by
  simp only [castsPlain, List.all_eq_true] at h
  have := h _ (List.mem_of_getElem? ha)
  simp only [hrx, bne_self_eq_false, Bool.false_or] at this
  cases out with
  | var y => exact ⟨y, rfl⟩
  | _ => simp at this

/-- **The tracking hypotheses for a factory input**: for a supported graph whose factory input `t` has application `i` — a call —
as its only consumer (`classUsers fg t = [i]`, part of `factoryOK`), the only tracers that hold the object of input `t` are the
casts of `t`. -/
theorem track_input (g : Compile.Graph) (fg : Factory.Graph) (S : Setup g fg) (hfwf : Factory.wf fg = true) (hstable : rootStable fg = true)
    (t : Nat) (hplain : castsPlain g fg t = true) (ht : t ∈ fg.inputs) (i : Nat) (hcu : classUsers fg t = [i])
    (fn : V) (args : List V) (kwargs : List (String × V)) (deps : List V) (out : V)
    (hnode : fg.apps[i]? = some ⟨.call fn args kwargs deps, out⟩) :
    Track g (isInAtom t) (fun y => root fg y = t) (fun k' => g.top = .gref k') := by
  obtain ⟨k0, sg, htop, hsg, hins, hout⟩ := S.root
  have huser : ∀ (j : Nat) (a : App) (x : Nat), g.apps[j]? = some a → (toNode a).isCast = false →
      x ∈ refsL (toNode a).operands → root fg x = t → j = i := by
    intro j a x hj hnc hx hrx
    have : j ∈ classUsers fg t := mem_classUsers (S.app j a hj) hnc hx hrx
    rw [hcu] at this
    simpa using this
  refine ⟨?inp, ?const, ?alias, ?prod⟩
  case inp =>
    intro k' sg' t' hk' hsg' ht'
    rw [htop] at hk'
    simp only [E.gref.injEq] at hk'
    subst hk'
    rw [hsg] at hsg'
    cases hsg'
    have ht'in : t' ∈ fg.inputs := by rw [hins]; exact ht'
    have hroot : root fg t' = t' := rootF_of_none fg t' (castSource_input fg hfwf t' ht'in) _
    rw [isInAtom_iff, hroot]
    exact ⟨inAtom_inj t t', fun h => by rw [h]⟩
  case const =>
    intro j str o hj n
    rw [isInAtom_const]
    constructor
    · intro h; cases h
    · intro hro
      exfalso
      have hfa := S.app j _ hj
      obtain ⟨ti, h1, h2⟩ := wf_out hfwf j _ hfa o (by simp [toGApp, App.out, refs_var])
      have hco : castSource fg o = none := by
        simp [castSource, h1, h2, hfa, toGApp, toNode]
      rw [show root fg o = o from rootF_of_none fg o hco _] at hro
      subst hro
      exact wf_input_not_out hfwf o ht j _ hfa (by simp [toGApp, App.out, refs_var])
  case alias =>
    intro j a x hj hal hrx
    have nonCast : ∀ (a : App), g.apps[j]? = some a → (toNode a).isCast = false → x ∈ refsL (toNode a).operands →
        (∀ fn args kwargs deps, toNode a ≠ .call fn args kwargs deps) → False := by
      intro a hj hnc hx hne
      have hji := huser j a x hj hnc hx hrx
      rw [← hji, S.app j a hj] at hnode
      exact hne _ _ _ _ (congrArg GApp.node (Option.some.inj hnode))
    cases a with
    | cast input out =>
      cases Option.some.inj hal
      obtain ⟨y, rfl⟩ := castsPlain_spec g fg t hplain j x out hj hrx
      exact ⟨y, rfl, (root_cast_app S hfwf hstable j x y hj).trans hrx⟩
    | assert_ _ _ _ _ | callInplace _ _ _ _ _ _ | updateitem _ _ _ _ _ =>
      cases Option.some.inj hal
      exact (nonCast _ hj rfl (by simp [toNode, GNode.operands, refsL, refs_var]) (fun _ _ _ _ => GNode.noConfusion)).elim
    | _ => simp [aliasOperand] at hal
  case prod =>
    intro j a y hj hy hry
    have hfa := S.app j a hj
    have hvt := S.varOuts a (List.mem_of_getElem? hj)
    have hyo : y ∈ (toGApp a).out.refs := (varTree_regKeys_iff a.out hvt y).1 hy
    obtain ⟨ti, h1, h2⟩ := wf_out hfwf j _ hfa y hyo
    cases hcs : castSource fg y with
    | none =>
      exfalso
      rw [show root fg y = y from rootF_of_none fg y hcs _] at hry
      subst hry
      exact wf_input_not_out hfwf y ht j _ hfa hyo
    | some x =>
      obtain ⟨ti', j', h1', h2', h3'⟩ := castSource_inv fg x y hcs
      rw [h1] at h1'
      cases h1'
      rw [h2] at h2'
      cases h2'
      rw [hfa] at h3'
      have ha := toGApp_cast_inv a x y (Option.some.inj h3')
      subst ha
      exact ⟨rfl, Or.inr ⟨x, rfl, (root_cast_app S hfwf hstable j x y hj).symm.trans hry⟩⟩

end Einx.Exec
