import EinxModel.Proofs.RegistryLazy
/-!
C11, lazy registration under the discipline (`disciplined`): what the discipline check guarantees about the history it
remembers (`TI`), the invariants that tie the registry's state to it in both directions (`CI`, `RI`), and their
preservation; `CI` implies the state-level `LazyDiscipline` for every lookup.
-/
namespace Einx.Registry

theorem disjointTypes_spec {a b : Backend} (h : disjointTypes a b = true) (ty : Nat) :
    ¬ (accepts a ty = true ∧ accepts b ty = true) := by
  rintro ⟨ha, hb⟩
  have hmem : ty ∈ a.accepts := by
    simp only [accepts, Bool.and_eq_true, List.contains_iff_mem] at ha; exact ha.2
  have := List.all_eq_true.1 h ty hmem
  simp [ha, hb] at this

/-- Facts about the remembered history alone. -/
structure TI (t : Track) : Prop where
  nameEL : ∀ x ∈ t.eager, ∀ mf ∈ t.lazies, x.name ≠ mf.2.produces.name
  nameLL : ∀ mf ∈ t.lazies, ∀ mf' ∈ t.lazies, mf.2.produces.name = mf'.2.produces.name → mf = mf'
  ownEL : ∀ x ∈ t.eager, ∀ mf ∈ t.lazies, ∀ ty, ¬ (accepts x ty = true ∧ accepts mf.2.produces ty = true)
  ownLL : ∀ mf ∈ t.lazies, ∀ mf' ∈ t.lazies, mf.1 ≠ mf'.1 →
    ∀ ty, ¬ (accepts mf.2.produces ty = true ∧ accepts mf'.2.produces ty = true)
  exist : ∀ mf ∈ t.lazies, mf.1 ∉ t.mods → ∀ ty ∈ t.looked, accepts mf.2.produces ty = false

theorem ti_empty (mods : List String) : TI { mods := mods } :=
  ⟨fun _ h => (nomatch h), fun _ h => (nomatch h), fun _ h => (nomatch h), fun _ h => (nomatch h),
    fun _ h => (nomatch h)⟩

theorem fresh_spec {t : Track} {b : Backend} (h : t.fresh b = true) :
    (∀ x ∈ t.eager, x.name ≠ b.name) ∧ ∀ mf ∈ t.lazies, mf.2.produces.name ≠ b.name := by
  have := List.all_eq_true.1 h
  refine ⟨fun x hx => ?_, fun mf hmf => ?_⟩
  · simpa using this x (List.mem_append_left _ hx)
  · simpa using this mf.2.produces (List.mem_append_right _ (List.mem_map.2 ⟨mf, hmf, rfl⟩))

theorem ti_add_eager {t : Track} (h : TI t) (b : Backend) (hf : t.fresh b = true)
    (hd : t.lazies.all (fun mf => disjointTypes b mf.2.produces) = true) :
    TI { t with eager := t.eager ++ [b] } := by
  refine ⟨fun x hx mf hmf => ?_, h.nameLL, fun x hx mf hmf ty => ?_, h.ownLL, h.exist⟩
  · rcases List.mem_append.1 hx with hx | hx
    · exact h.nameEL x hx mf hmf
    · rw [List.mem_singleton.1 hx]; exact fun e => (fresh_spec hf).2 mf hmf e.symm
  · rcases List.mem_append.1 hx with hx | hx
    · exact h.ownEL x hx mf hmf ty
    · rw [List.mem_singleton.1 hx]; exact disjointTypes_spec (List.all_eq_true.1 hd mf hmf) ty

theorem ti_add_lazy {t : Track} (h : TI t) (m : String) (f : Factory) (hf : t.fresh f.produces = true)
    (okE : ∀ x ∈ t.eager, disjointTypes x f.produces = true)
    (okL : ∀ mf ∈ t.lazies, mf.1 ≠ m → disjointTypes mf.2.produces f.produces = true)
    (okK : ∀ ty ∈ t.looked, accepts f.produces ty = false) : TI { t with lazies := t.lazies ++ [(m, f)] } := by
  obtain ⟨f1, f2⟩ := fresh_spec hf
  refine ⟨fun x hx mf hmf => ?_, fun mf hmf mf' hmf' e => ?_, fun x hx mf hmf ty => ?_,
    fun mf hmf mf' hmf' hne ty => ?_, fun mf hmf hnm ty hty => ?_⟩
  · rcases List.mem_append.1 hmf with hmf | hmf
    · exact h.nameEL x hx mf hmf
    · rw [List.mem_singleton.1 hmf]; exact f1 x hx
  · rcases List.mem_append.1 hmf with hmf | hmf <;> rcases List.mem_append.1 hmf' with hmf' | hmf'
    · exact h.nameLL mf hmf mf' hmf' e
    · rw [List.mem_singleton.1 hmf'] at e; exact absurd e (f2 mf hmf)
    · rw [List.mem_singleton.1 hmf] at e; exact absurd e.symm (f2 mf' hmf')
    · rw [List.mem_singleton.1 hmf, List.mem_singleton.1 hmf']
  · rcases List.mem_append.1 hmf with hmf | hmf
    · exact h.ownEL x hx mf hmf ty
    · rw [List.mem_singleton.1 hmf]; exact disjointTypes_spec (okE x hx) ty
  · rcases List.mem_append.1 hmf with hmf | hmf <;> rcases List.mem_append.1 hmf' with hmf' | hmf'
    · exact h.ownLL mf hmf mf' hmf' hne ty
    · rw [List.mem_singleton.1 hmf'] at hne ⊢
      exact disjointTypes_spec (okL mf hmf hne) ty
    · rw [List.mem_singleton.1 hmf] at hne ⊢
      exact fun hh => disjointTypes_spec (okL mf' hmf' (fun e => hne e.symm)) ty ⟨hh.2, hh.1⟩
    · rw [List.mem_singleton.1 hmf, List.mem_singleton.1 hmf'] at hne; exact absurd rfl hne
  · rcases List.mem_append.1 hmf with hmf | hmf
    · exact h.exist mf hmf hnm ty hty
    · rw [List.mem_singleton.1 hmf]; exact okK ty hty

theorem ti_step {t : Track} (h : TI t) (op : Op) (ok : t.ok op = true) : TI (t.step op) := by
  cases op with
  | register b =>
    simp only [Track.ok, Bool.and_eq_true] at ok
    exact ti_add_eager h b ok.1 ok.2
  | registerOnImport m f =>
    simp only [Track.ok, Bool.and_eq_true] at ok
    obtain ⟨hf, ok⟩ := ok
    simp only [Track.step]
    by_cases hm : t.mods.contains m = true
    · rw [if_pos hm] at ok ⊢
      exact ti_add_eager h f.produces hf ok
    · rw [if_neg hm] at ok ⊢
      simp only [Bool.and_eq_true, List.all_eq_true] at ok
      obtain ⟨⟨okE, okL⟩, okK⟩ := ok
      exact ti_add_lazy h m f hf okE (fun mf hmf hne => by simpa [hne] using okL mf hmf)
        (fun ty hty => by simpa using okK ty hty)
  | importModule m =>
    refine ⟨h.nameEL, h.nameLL, h.ownEL, h.ownLL, fun mf hmf hnm ty hty => h.exist mf hmf (fun hin => hnm ?_) ty hty⟩
    show mf.1 ∈ (if t.mods.contains m then t.mods else t.mods ++ [m])
    split
    · exact hin
    · exact List.mem_append_left _ hin
  | get arg tys =>
    refine ⟨h.nameEL, h.nameLL, h.ownEL, h.ownLL, fun mf hmf hnm ty hty => ?_⟩
    rcases List.mem_append.1 hty with hty | hty
    · exact h.exist mf hmf hnm ty hty
    · have := List.all_eq_true.1 ok mf hmf
      have hnm0 : mf.1 ∉ t.mods := hnm
      have hnm' : t.mods.contains mf.1 = false := by simpa using hnm0
      simp only [hnm', Bool.false_or] at this
      simpa using List.all_eq_true.1 this ty hty
  | getByName n => exact h
  | enter b => exact h
  | exit b => exact h

/-! ### the invariant that ties the registry's state to the remembered history -/

structure CI (s : State) (mods : List String) (t : Track) : Prop where
  modsEq : mods = t.mods
  wf : WFs s mods
  backends : ∀ x ∈ s.backends, x ∈ t.eager ∨ ∃ mf ∈ t.lazies, mf.1 ∈ s.seen ∧ x = mf.2.produces
  uninit : ∀ m fs f, dictGet s.uninit m = some fs → f ∈ fs → (m, f) ∈ t.lazies
  names : ∀ kv ∈ s.names, ∃ x ∈ s.backends, x.name = kv.1
  memoOK : MemoOK s
  memoLooked : ∀ en ∈ s.memo, ∀ ty ∈ en.1, ty ∈ t.looked
  memoPending : ∀ en ∈ s.memo, ∀ m fs f, m ∈ mods → m ∉ s.seen → dictGet s.uninit m = some fs → f ∈ fs →
    ∀ ty ∈ en.1, accepts f.produces ty = false

theorem ci_empty (mods : List String) : CI {} mods { mods := mods } :=
  ⟨rfl, ⟨fun _ h => (by cases h), fun _ h => (by cases h)⟩, fun _ h => (by cases h), fun _ _ _ h => (by cases h),
    fun _ h => (by cases h), fun _ h => (by cases h), fun _ h => (by cases h), fun _ h => (by cases h)⟩

section
variable {s : State} {mods : List String} {t : Track}

theorem CI.with_stack (ci : CI s mods t) (st : List Backend) : CI { s with stack := st } mods t :=
  ⟨ci.modsEq, ci.wf, ci.backends, ci.uninit, ci.names, ci.memoOK, ci.memoLooked, ci.memoPending⟩

theorem ci_types (ci : CI s mods t) (ti : TI t) {ty : Nat} (hs : supporting s.backends ty ≠ [])
    {m : String} {fs : List Factory} {f : Factory} (hm : m ∉ s.seen) (hd : dictGet s.uninit m = some fs)
    (hf : f ∈ fs) : accepts f.produces ty = false := by
  obtain ⟨x, hx, hax⟩ := exists_accepts_of_supporting hs
  have hl := ci.uninit m fs f hd hf
  cases hacc : accepts f.produces ty with
  | false => rfl
  | true =>
    rcases ci.backends x hx with he | ⟨mf, hmf, hseen, rfl⟩
    · exact absurd ⟨hax, hacc⟩ (ti.ownEL x he (m, f) hl ty)
    · have hne : mf.1 ≠ m := fun e => hm (e ▸ hseen)
      exact absurd ⟨hax, hacc⟩ (ti.ownLL mf hmf (m, f) hl hne ty)

theorem ci_names (ci : CI s mods t) (ti : TI t) {x : Backend} (hx : x ∈ s.backends)
    {m : String} {fs : List Factory} {f : Factory} (hm : m ∉ s.seen) (hd : dictGet s.uninit m = some fs)
    (hf : f ∈ fs) : f.produces.name ≠ x.name := by
  have hl := ci.uninit m fs f hd hf
  rcases ci.backends x hx with he | ⟨mf, hmf, hseen, rfl⟩
  · exact fun e => ti.nameEL x he (m, f) hl e.symm
  · intro e
    have : mf = (m, f) := ti.nameLL mf hmf (m, f) hl e.symm
    rw [this] at hseen
    exact hm hseen

theorem ci_due (ci : CI s mods t) (ti : TI t) {f : Factory} (hf : f ∈ due s mods) :
    (∀ ty, supporting s.backends ty ≠ [] → accepts f.produces ty = false) ∧
    (∀ x ∈ s.backends, f.produces.name ≠ x.name) := by
  obtain ⟨m, _, hns, fs, hd, hff⟩ := mem_due.1 hf
  exact ⟨fun ty hs => ci_types ci ti hs hns hd hff, fun x hx => ci_names ci ti hx hns hd hff⟩

theorem ci_names_stable (cfg : Cfg) (ci : CI s mods t) (ti : TI t) :
    ∀ kv ∈ s.names, dictGet (s.flush cfg mods).names kv.1 = dictGet s.names kv.1 := by
  intro kv hkv
  obtain ⟨x, hx, hxn⟩ := ci.names kv hkv
  rw [flush_names]
  refine dictGet_namesAfter_other _ _ _ fun y hy => ?_
  obtain ⟨f, hf, rfl⟩ := List.mem_map.1 hy
  exact hxn ▸ (ci_due ci ti hf).2 x hx

theorem supporting_flush (cfg : Cfg) (s : State) (mods : List String) {ty : Nat}
    (h : ∀ f ∈ due s mods, accepts f.produces ty = false) :
    supporting (s.flush cfg mods).backends ty = supporting s.backends ty := by
  have : supporting ((due s mods).map (·.produces)) ty = [] :=
    supporting_eq_nil fun x hx => by obtain ⟨f, hf, rfl⟩ := List.mem_map.1 hx; exact h f hf
  rw [flush_backends, supporting_append, this, List.append_nil]

theorem ci_memo_flush (cfg : Cfg) (ci : CI s mods t) (ti : TI t) :
    ∀ en ∈ s.memo, select (s.flush cfg mods) en.1 = [en.2] := by
  intro en hen
  have hsel := ci.memoOK en hen
  by_cases hsc : en.1.all isScalarTy = true
  · rw [select_scalars hsc] at hsel ⊢
    cases hd : dictGet s.names "numpy" with
    | none => rw [hd] at hsel; cases hsel
    | some b => rw [ci_names_stable cfg ci ti _ (mem_of_dictGet hd), hd]; exact hd ▸ hsel
  · rw [select_tensors hsc] at hsel ⊢
    rw [← hsel]
    congr 1
    refine candFold_congr _ _ fun ty hty => supporting_flush cfg s mods fun f hf => ?_
    obtain ⟨m, hm, hns, fs, hd, hff⟩ := mem_due.1 hf
    exact ci.memoPending en hen m fs f hm hns hd hff ty hty

theorem ci_discipline (cfg : Cfg) (ci : CI s mods t) (ti : TI t) (tys : List Nat) :
    LazyDiscipline cfg s mods tys :=
  ⟨fun en hen he => he ▸ ci_memo_flush cfg ci ti en hen,
    fun ty _ hs => supporting_flush cfg s mods fun _ hf => (ci_due ci ti hf).1 ty hs,
    ci_names_stable cfg ci ti⟩

theorem ci_flush (cfg : Cfg) (ci : CI s mods t) (ti : TI t) : CI (s.flush cfg mods) mods t := by
  refine ⟨ci.modsEq, wfs_flush cfg ci.wf, fun x hx => ?_, fun m fs f hd hf => ?_, fun kv hkv => ?_,
    fun en hen => ci_memo_flush cfg ci ti en (flush_memo cfg s mods en hen),
    fun en hen => ci.memoLooked en (flush_memo cfg s mods en hen), fun en _ m fs f hm _ hd _ => ?_⟩
  · rw [flush_backends] at hx
    rcases List.mem_append.1 hx with hx | hx
    · rcases ci.backends x hx with he | ⟨mf, hmf, hs, e⟩
      · exact Or.inl he
      · exact Or.inr ⟨mf, hmf, (mem_flush_seen cfg s mods).2 (Or.inl hs), e⟩
    · obtain ⟨f, hf, rfl⟩ := List.mem_map.1 hx
      obtain ⟨m, hm, _, fs, hd, hff⟩ := mem_due.1 hf
      exact Or.inr ⟨(m, f), ci.uninit m fs f hd hff, (mem_flush_seen cfg s mods).2 (Or.inr hm), rfl⟩
  · rw [flush_uninit] at hd
    split at hd
    · cases hd
    · exact ci.uninit m fs f hd hf
  · rw [flush_names] at hkv
    rw [flush_backends]
    rcases mem_namesAfter _ _ hkv with h | ⟨y, hy, rfl⟩
    · obtain ⟨x, hx, e⟩ := ci.names kv h
      exact ⟨x, List.mem_append_left _ hx, e⟩
    · exact ⟨y, List.mem_append_right _ hy, rfl⟩
  · rw [flush_quiet cfg s mods ci.wf.2 m hm] at hd; cases hd

/-- A lookup moves the memo and the looked-up types only. -/
theorem ci_memo_ext {s' : State} {t' : Track} (ci : CI s mods t) (hs : SameM s s') (hm : t'.mods = t.mods)
    (he : t'.eager = t.eager) (hl : t'.lazies = t.lazies) (hk : ∀ ty ∈ t.looked, ty ∈ t'.looked)
    (hmem : ∀ en ∈ s'.memo, en ∈ s.memo ∨
      (select s en.1 = [en.2] ∧ (∀ ty ∈ en.1, ty ∈ t'.looked) ∧
        ∀ m fs f, m ∈ mods → m ∉ s.seen → dictGet s.uninit m = some fs → f ∈ fs →
          ∀ ty ∈ en.1, accepts f.produces ty = false)) : CI s' mods t' := by
  refine ⟨ci.modsEq.trans hm.symm, wfs_congr hs.seen.symm hs.uninit.symm ci.wf, ?_, ?_, ?_, ?_, ?_, ?_⟩
  · rw [← hs.backends, ← hs.seen, he, hl]; exact ci.backends
  · rw [← hs.uninit, hl]; exact ci.uninit
  · rw [← hs.names, ← hs.backends]; exact ci.names
  · intro en hen
    rw [← select_congr hs.same]
    exact (hmem en hen).elim (ci.memoOK en) (·.1)
  · intro en hen
    exact (hmem en hen).elim (fun h ty hty => hk ty (ci.memoLooked en h ty hty)) (·.2.1)
  · intro en hen
    rw [← hs.seen, ← hs.uninit]
    exact (hmem en hen).elim (ci.memoPending en) (·.2.2)

end

/-! ### preservation -/

theorem ci_add_eager (cfg : Cfg) (hc : cfg.registerClearsMemo = true) {s : State} {mods : List String} {t : Track}
    (ci : CI s mods t) (b : Backend) : CI (s.register cfg b) mods { t with eager := t.eager ++ [b] } := by
  have hm := register_memo hc s b
  refine ⟨ci.modsEq, wfs_congr rfl rfl ci.wf, fun x hx => ?_, ci.uninit, fun kv hkv => ?_,
    fun en hen => ?_, fun en hen => ?_, fun en hen => ?_⟩
  · rcases List.mem_append.1 (show x ∈ s.backends ++ [b] from hx) with hx | hx
    · rcases ci.backends x hx with he | h
      · exact Or.inl (List.mem_append_left _ he)
      · exact Or.inr h
    · exact Or.inl (List.mem_append_right _ hx)
  · rcases mem_dictSet (show kv ∈ dictSet s.names b.name b from hkv) with rfl | h
    · exact ⟨b, List.mem_append_right _ (List.mem_singleton.2 rfl), rfl⟩
    · obtain ⟨x, hx, e⟩ := ci.names kv h
      exact ⟨x, List.mem_append_left _ hx, e⟩
  · rw [hm] at hen; cases hen
  · rw [hm] at hen; cases hen
  · rw [hm] at hen; cases hen

theorem ci_add_lazy {s : State} {mods : List String} {t : Track} (ci : CI s mods t) (m : String)
    (f : Factory) (hm : mods.contains m = false) {U' : List (String × List Factory)}
    (hget : ∀ k, dictGet U' k = if k = m then some ((dictGet s.uninit m).getD [] ++ [f]) else dictGet s.uninit k) :
    CI { s with uninit := U' } mods { t with lazies := t.lazies ++ [(m, f)] } := by
  have hm' : m ∉ mods := by simpa using hm
  refine ⟨ci.modsEq, wfs_wait ci.wf hm hget, fun x hx => ?_, fun k fs' g hd hg => ?_, ci.names, ci.memoOK,
    ci.memoLooked, fun en hen k fs' g hk hns hd hg ty hty => ?_⟩
  · rcases ci.backends x hx with he | ⟨mf, hmf, h⟩
    · exact Or.inl he
    · exact Or.inr ⟨mf, List.mem_append_left _ hmf, h⟩
  · have hd' : dictGet U' k = some fs' := hd
    rw [hget] at hd'
    split at hd'
    · next hk =>
      cases hd'
      rcases List.mem_append.1 hg with hg | hg
      · cases h0 : dictGet s.uninit m with
        | none => rw [h0] at hg; cases hg
        | some fs0 => rw [h0] at hg; exact List.mem_append_left _ (hk ▸ ci.uninit m fs0 g h0 hg)
      · rw [hk, List.mem_singleton.1 hg]; exact List.mem_append_right _ (List.mem_singleton_self _)
    · exact List.mem_append_left _ (ci.uninit k fs' g hd' hg)
  · have hd' : dictGet U' k = some fs' := hd
    rw [hget, if_neg fun e : k = m => hm' (e ▸ hk)] at hd'
    exact ci.memoPending en hen k fs' g hk hns hd' hg ty hty

theorem ci_step {cfg : Cfg} (hc : cfg.registerClearsMemo = true) {w w' : World} {op : Op} (sh : Shape cfg w op w')
    {t : Track} (ci : CI w.st w.mods t) (ti : TI t) : CI w'.st w'.mods (t.step op) := by
  have hmods (m : String) : t.mods.contains m = w.mods.contains m := by rw [ci.modsEq]
  cases sh with
  | register b => exact ci_add_eager cfg hc ci b
  | regNow m f hm =>
    simp only [Track.step, hmods, hm, ↓reduceIte]
    exact ci_add_eager cfg hc ci f.produces
  | regWait m f hm U' hU =>
    simp only [Track.step, hmods, hm, Bool.false_eq_true, ↓reduceIte]
    exact ci_add_lazy ci m f hm hU
  | imported m hm =>
    simp only [Track.step, hmods, hm, ↓reduceIte]
    exact ci
  | importNew m hm =>
    simp only [Track.step, hmods, hm, Bool.false_eq_true, ↓reduceIte]
    have hm' : m ∉ t.mods := by rw [← ci.modsEq]; simpa using hm
    refine ⟨by rw [← ci.modsEq], ⟨fun k hk => List.mem_append_left _ (ci.wf.1 k hk), ci.wf.2⟩, ci.backends, ci.uninit,
      ci.names, ci.memoOK, ci.memoLooked, fun en hen k fs g hk hns hd hg ty hty => ?_⟩
    rcases List.mem_append.1 hk with hk | hk
    · exact ci.memoPending en hen k fs g hk hns hd hg ty hty
    · rw [List.mem_singleton.1 hk] at hd
      exact ti.exist (m, g) (ci.uninit m fs g hd hg) hm' ty (ci.memoLooked en hen ty hty)
  | getErr arg tys =>
    exact ci_memo_ext ci (SameM.refl _) rfl rfl rfl (fun ty hty => List.mem_append_left _ hty) fun en hen => Or.inl hen
  | getOk arg tys s' b hg =>
    rcases get_ok hg with ⟨hs, hmem⟩ | ⟨hs, hmem⟩
    · refine ci_memo_ext ci hs rfl rfl rfl (fun ty hty => List.mem_append_left _ hty) fun en hen => ?_
      refine (hmem en hen).imp_right ?_
      rintro ⟨rfl, h2, h3⟩
      exact ⟨h2, fun ty hty => List.mem_append_right _ hty,
        fun k fs g _ hns hd hgm ty hty => ci_types ci ti (h3 ty hty) hns hd hgm⟩
    · have hq := flush_quiet cfg w.st w.mods ci.wf.2
      refine ci_memo_ext (ci_flush cfg ci ti) hs rfl rfl rfl (fun ty hty => List.mem_append_left _ hty)
        fun en hen => ?_
      refine (hmem en hen).imp_right ?_
      rintro ⟨rfl, h2⟩
      exact ⟨h2 (ci_discipline cfg ci ti tys), fun ty hty => List.mem_append_right _ hty,
        fun k fs g hk _ hd _ _ _ => by rw [hq k hk] at hd; cases hd⟩
  | byName => exact ci
  | byNameFlush => exact ci_flush cfg ci ti
  | enter b => exact ci.with_stack _
  | exit b => exact ci.with_stack _

/-! ### the converse: everything registered is where it should be -/

structure RI (s : State) (t : Track) : Prop where
  eager : ∀ x ∈ t.eager, x ∈ s.backends
  flushed : ∀ mf ∈ t.lazies, mf.1 ∈ s.seen → mf.2.produces ∈ s.backends
  waiting : ∀ mf ∈ t.lazies, mf.1 ∉ s.seen → ∃ fs, dictGet s.uninit mf.1 = some fs ∧ mf.2 ∈ fs
  names : ∀ x ∈ s.backends, dictGet s.names x.name = some x

theorem ri_empty (mods : List String) : RI {} { mods := mods } :=
  ⟨fun _ h => (by cases h), fun _ h => (by cases h), fun _ h => (by cases h), fun _ h => (by cases h)⟩

theorem RI.congr {s s' : State} {t t' : Track} (ri : RI s t) (h1 : s.seen = s'.seen) (h2 : s.uninit = s'.uninit)
    (h3 : s.backends = s'.backends) (h4 : s.names = s'.names) (he : t'.eager = t.eager)
    (hl : t'.lazies = t.lazies) : RI s' t' := by
  refine ⟨?_, ?_, ?_, ?_⟩
  · rw [he, ← h3]; exact ri.eager
  · rw [hl, ← h3, ← h1]; exact ri.flushed
  · rw [hl, ← h2, ← h1]; exact ri.waiting
  · rw [← h3, ← h4]; exact ri.names

theorem ri_add_eager (cfg : Cfg) {s : State} {mods : List String} {t : Track}
    (ci : CI s mods t) (ri : RI s t) (b : Backend) (hf : t.fresh b = true) :
    RI (s.register cfg b) { t with eager := t.eager ++ [b] } := by
  obtain ⟨f1, f2⟩ := fresh_spec hf
  refine ⟨fun x hx => ?_, fun mf hmf hs => List.mem_append_left _ (ri.flushed mf hmf hs), ri.waiting, fun x hx => ?_⟩
  · rcases List.mem_append.1 hx with hx | hx
    · exact List.mem_append_left _ (ri.eager x hx)
    · exact List.mem_append_right _ hx
  · show dictGet (dictSet s.names b.name b) x.name = some x
    rw [dictGet_dictSet]
    rcases List.mem_append.1 (show x ∈ s.backends ++ [b] from hx) with hx | hx
    · have hne : x.name ≠ b.name := by
        rcases ci.backends x hx with he | ⟨mf, hmf, _, rfl⟩
        · exact f1 x he
        · exact f2 mf hmf
      rw [if_neg hne]; exact ri.names x hx
    · rw [List.mem_singleton.1 hx, if_pos rfl]

theorem ri_add_lazy {s : State} {mods : List String} {t : Track} (ci : CI s mods t) (ri : RI s t)
    (m : String) (f : Factory) (hm : mods.contains m = false) {U' : List (String × List Factory)}
    (hget : ∀ k, dictGet U' k = if k = m then some ((dictGet s.uninit m).getD [] ++ [f]) else dictGet s.uninit k) :
    RI { s with uninit := U' } { t with lazies := t.lazies ++ [(m, f)] } := by
  have hm' : m ∉ mods := by simpa using hm
  refine ⟨ri.eager, fun mf hmf hs => ?_, fun mf hmf hs => ?_, ri.names⟩
  · rcases List.mem_append.1 hmf with hmf | hmf
    · exact ri.flushed mf hmf hs
    · rw [List.mem_singleton.1 hmf] at hs
      exact absurd (ci.wf.1 m hs) hm'
  · show ∃ fs, dictGet U' mf.1 = some fs ∧ mf.2 ∈ fs
    rw [hget]
    rcases List.mem_append.1 hmf with hmf | hmf
    · obtain ⟨fs, hd, hf⟩ := ri.waiting mf hmf hs
      by_cases hk : mf.1 = m
      · rw [if_pos hk]
        refine ⟨_, rfl, List.mem_append_left _ ?_⟩
        rw [← hk, hd]; exact hf
      · rw [if_neg hk]; exact ⟨fs, hd, hf⟩
    · rw [List.mem_singleton.1 hmf, if_pos rfl]
      exact ⟨_, rfl, List.mem_append_right _ (List.mem_singleton.2 rfl)⟩

theorem ri_flush (cfg : Cfg) {s : State} {mods : List String} {t : Track}
    (ci : CI s mods t) (ri : RI s t) (ti : TI t) : RI (s.flush cfg mods) t := by
  refine ⟨fun x hx => ?_, fun mf hmf hs => ?_, fun mf hmf hs => ?_, fun x hx => ?_⟩
  · rw [flush_backends]; exact List.mem_append_left _ (ri.eager x hx)
  · rw [flush_backends]
    by_cases hs0 : mf.1 ∈ s.seen
    · exact List.mem_append_left _ (ri.flushed mf hmf hs0)
    · have hm : mf.1 ∈ mods := ((mem_flush_seen cfg s mods).1 hs).resolve_left hs0
      obtain ⟨fs, hd, hf⟩ := ri.waiting mf hmf hs0
      exact List.mem_append_right _ (List.mem_map.2 ⟨mf.2, mem_due.2 ⟨mf.1, hm, hs0, fs, hd, hf⟩, rfl⟩)
  · have hs0 : mf.1 ∉ s.seen := fun h => hs ((mem_flush_seen cfg s mods).2 (Or.inl h))
    have hm : mf.1 ∉ mods := fun h => hs ((mem_flush_seen cfg s mods).2 (Or.inr h))
    obtain ⟨fs, hd, hf⟩ := ri.waiting mf hmf hs0
    refine ⟨fs, ?_, hf⟩
    rw [flush_uninit, if_neg (fun h => hm h.1)]; exact hd
  · rw [flush_backends] at hx
    rw [flush_names]
    rcases List.mem_append.1 hx with hx | hx
    · rw [dictGet_namesAfter_other]
      · exact ri.names x hx
      · intro y hy
        obtain ⟨f, hf, rfl⟩ := List.mem_map.1 hy
        exact (ci_due ci ti hf).2 x hx
    · refine dictGet_namesAfter_mem x _ _ (Or.inl hx) fun y hy e => ?_
      obtain ⟨f, hf, rfl⟩ := List.mem_map.1 hx
      obtain ⟨g, hg, rfl⟩ := List.mem_map.1 hy
      obtain ⟨m, _, _, fs, hd, hff⟩ := mem_due.1 hf
      obtain ⟨m', _, _, fs', hd', hgg⟩ := mem_due.1 hg
      have := ti.nameLL (m', g) (ci.uninit m' fs' g hd' hgg) (m, f) (ci.uninit m fs f hd hff) e
      rw [(Prod.mk.inj this).2]

theorem ri_step {cfg : Cfg} {w w' : World} {op : Op} (sh : Shape cfg w op w') {t : Track} (ci : CI w.st w.mods t)
    (ri : RI w.st t) (ti : TI t) (ok : t.ok op = true) : RI w'.st (t.step op) := by
  have hmods (m : String) : t.mods.contains m = w.mods.contains m := by rw [ci.modsEq]
  cases sh with
  | register b =>
    simp only [Track.ok, Bool.and_eq_true] at ok
    exact ri_add_eager cfg ci ri b ok.1
  | regNow m f hm =>
    simp only [Track.ok, Bool.and_eq_true] at ok
    simp only [Track.step, hmods, hm, ↓reduceIte]
    exact ri_add_eager cfg ci ri f.produces ok.1
  | regWait m f hm U' hU =>
    simp only [Track.step, hmods, hm, Bool.false_eq_true, ↓reduceIte]
    exact ri_add_lazy ci ri m f hm hU
  | imported | importNew | getErr | enter | exit => exact ri.congr rfl rfl rfl rfl rfl rfl
  | byName => exact ri
  | getOk _ _ s' _ hg =>
    rcases get_ok hg with ⟨hs, _⟩ | ⟨hs, _⟩
    · exact ri.congr hs.seen hs.uninit hs.backends hs.names rfl rfl
    · exact (ri_flush cfg ci ri ti).congr hs.seen hs.uninit hs.backends hs.names rfl rfl
  | byNameFlush => exact ri_flush cfg ci ri ti

theorem run_all (cfg : Cfg) (hc : cfg.registerClearsMemo = true) : ∀ (ops : List Op) (w : World) (t : Track) (σ : State),
    CI w.st w.mods t → RI w.st t → TI t → w.st.stack = σ.stack → disciplined t ops = true →
    CI (runOps cfg w ops).1.st (runOps cfg w ops).1.mods (ops.foldl Track.step t) ∧
    RI (runOps cfg w ops).1.st (ops.foldl Track.step t) ∧ TI (ops.foldl Track.step t) ∧
    (runOps cfg w ops).1.st.stack = (ops.foldl specStep σ).stack
  | [], _, _, _, ci, ri, ti, hst, _ => ⟨ci, ri, ti, hst⟩
  | op :: ops, w, t, σ, ci, ri, ti, hst, hd => by
    simp only [disciplined, Bool.and_eq_true] at hd
    rw [runOps_cons_fst, List.foldl_cons, List.foldl_cons]
    have sh := step_shape cfg w op
    exact run_all cfg hc ops _ _ _ (ci_step hc sh ci ti) (ri_step sh ci ri ti hd.1) (ti_step ti op hd.1)
      (stack_step sh hst) hd.2

/-! ### the effective state, syntactically -/

theorem effective_mem (cfg : Cfg) {s : State} {mods : List String} {t : Track}
    (ci : CI s mods t) (ri : RI s t) (ti : TI t) (x : Backend) :
    x ∈ (s.flush cfg mods).backends ↔ x ∈ t.effective := by
  have cie := ci_flush cfg ci ti
  have rie := ri_flush cfg ci ri ti
  have hsm : ∀ m, m ∈ (s.flush cfg mods).seen ↔ m ∈ t.mods := by
    intro m; rw [mem_flush_seen, ← ci.modsEq]
    exact ⟨fun h => h.elim (ci.wf.1 m) id, Or.inr⟩
  unfold Track.effective
  rw [List.mem_append, List.mem_map]
  constructor
  · intro hx
    rcases cie.backends x hx with he | ⟨mf, hmf, hs, rfl⟩
    · exact Or.inl he
    · exact Or.inr ⟨mf, List.mem_filter.2 ⟨hmf, by simpa using (hsm _).1 hs⟩, rfl⟩
  · rintro (he | ⟨mf, hmf, rfl⟩)
    · exact rie.eager x he
    · obtain ⟨hmf, hc⟩ := List.mem_filter.1 hmf
      exact rie.flushed mf hmf ((hsm _).2 (by simpa using hc))

theorem effective_names (cfg : Cfg) {s : State} {mods : List String} {t : Track}
    (ci : CI s mods t) (ri : RI s t) (ti : TI t) (n : String) (x : Backend) :
    dictGet (s.flush cfg mods).names n = some x ↔ x ∈ (s.flush cfg mods).backends ∧ x.name = n := by
  have cie := ci_flush cfg ci ti
  have rie := ri_flush cfg ci ri ti
  constructor
  · intro h
    obtain ⟨x', hx', hn'⟩ := cie.names _ (mem_of_dictGet h)
    have := rie.names x' hx'
    rw [hn', h] at this
    cases this
    exact ⟨hx', hn'⟩
  · rintro ⟨hx, rfl⟩
    exact rie.names x hx

end Einx.Registry
