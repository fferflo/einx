import EinxModel.Proofs.OptDagRun
/-!
Soundness of the pattern decisions of `Optimize/Dag.lean` against the DAG evaluator, from the laws `Sem.Laws`: whatever a
pattern that fires on tracer `i` of an evaluated store returns (`Action`) evaluates to the value of tracer `i` (`ActOK`).
-/
namespace Einx.OptDag
variable {V : Type}

def ActOK (Sm : Sem V) (envO : List V) : Action → V → Prop
  | .fwd v, vo => evalToks envO v = .ok [.val vo]
  | .merge fn x lit, vo => ∃ f xE, evalToks envO fn = .ok [.val f] ∧ evalToks envO x = .ok xE ∧
      (refFree lit = true → Sm.app (mergedCall f xE lit) = .ok vo)

section
variable (Sm : Sem V) (S : Store) (bindO : List (Nat × V)) (envO : List V) (hO : EnvOK Sm S.nodes bindO envO)
include hO

theorem old_value (i : Nat) (n : Node) (h : S.nodes[i]? = some n) : ∃ vo, envO[i]? = some vo :=
  let ⟨v, hv, _⟩ := hO.2 i n h
  ⟨v, hv⟩

end

section
variable {Sm : Sem V} {S : Store} {bindO : List (Nat × V)} {envO : List V} (hO : EnvOK Sm S.nodes bindO envO)
include hO

theorem old_tyOK {i : Nat} {n : Node} {x : V} (h : S.nodes[i]? = some n) (hx : envO[i]? = some x) : tyOK Sm n.ty x = true := by
  obtain ⟨v, hv, he⟩ := hO.2 i n h
  rw [hx] at hv; cases hv
  obtain ⟨ty, o⟩ := n
  cases o with
  | none => exact (evalNode_none.1 he).2
  | app a =>
    obtain ⟨_, _, _, _, _, ht, _⟩ := evalNode_app.1 he
    exact ht
  | proj s k => exact (evalNode_proj he).elim

theorem old_app {i : Nat} {ty : Ty} {a : App} (h : S.nodes[i]? = some ⟨ty, .app a⟩) :
    ∃ vo ea, envO[i]? = some vo ∧ evalApp envO a = .ok ea ∧ Sm.app ea = .ok vo ∧ a.out = [.ref 0] ∧ a.head.evaluable = true ∧
      inplaceOK Sm ea vo = true := by
  obtain ⟨v, hv, he⟩ := hO.2 i _ h
  obtain ⟨hout, hpure, ea, h1, h2, _, hio⟩ := evalNode_app.1 he
  have hm := evalApp_mono (envO.take i) (envO.drop i) a ea h1
  rw [List.take_append_drop] at hm
  exact ⟨v, ea, hv, hm, h2, hout, hpure, hio⟩

theorem old_no_proj {i : Nat} {ty : Ty} {s k : Nat} (h : S.nodes[i]? = some ⟨ty, .proj s k⟩) : False :=
  let ⟨_, _, he⟩ := hO.2 i _ h
  evalNode_proj he

theorem appOf_inv {i : Nat} {a : App} {base k : Nat} (h : S.appOf i = some (a, base, k)) :
    ∃ ty, S.nodes[i]? = some ⟨ty, .app a⟩ ∧ i = base ∧ 0 = k := by
  rcases appOf_cases h with ⟨ty, hn, rfl, rfl⟩ | ⟨ty, _, hn, _⟩
  · exact ⟨ty, hn, rfl, rfl⟩
  · exact (old_no_proj hO hn).elim

theorem old_pre_ref {i : Nat} {ty : Ty} {a : App} {j : Nat} (hn : S.nodes[i]? = some ⟨ty, .app a⟩) (hp : a.pre = [[.ref j]]) :
    ∃ vo m ea, envO[i]? = some vo ∧ envO[j]? = some m ∧ evalApp envO a = .ok ea ∧ ea.head = a.head ∧ ea.pre = [[.val m]] ∧
      Sm.app ea = .ok vo ∧ a.out = [.ref 0] ∧ ea.out = [.ref 0] := by
  obtain ⟨vo, ea, h1, h2, h3, hout, _, _⟩ := old_app hO hn
  obtain ⟨pre, args, kwargs, deps, hpre, _, _, _, rfl⟩ := (evalApp_ok envO a ea).1 h2
  rw [hp] at hpre
  obtain ⟨rs, rss, e1, e2, rfl⟩ := (evalOperands_cons envO _ _ _).1 hpre
  rw [evalOperands_nil] at e2; cases e2
  obtain ⟨m, hm, rfl⟩ := evalToks_ref_inv envO j rs e1
  exact ⟨vo, m, _, h1, hm, h2, rfl, rfl, h3, hout, hout⟩

theorem matchPath_isFn (pat : FnPat) : ∀ (path : List String) (i : Nat) (f : V), S.matchPath pat path i = true → envO[i]? = some f →
    IsFn Sm pat path f
  | [], i, f, hm, hf => by
    unfold Store.matchPath at hm
    split at hm
    · rename_i a hn
      obtain ⟨vo, ea, h1, h2, h3, _, _, _⟩ := old_app hO hn
      rw [hf] at h1; cases h1
      obtain ⟨pre, args, kwargs, deps, _, _, _, _, rfl⟩ := (evalApp_ok envO a ea).1 h2
      exact ⟨_, by simpa using hm, h3⟩
    · cases hm
  | key :: rest, i, f, hm, hf => by
    unfold Store.matchPath at hm
    split at hm
    · rename_i a hn
      simp only [Bool.and_eq_true, beq_iff_eq] at hm
      obtain ⟨hk, hm⟩ := hm
      split at hm
      · rename_i j hp
        obtain ⟨vo, m, ea, h1, hj, _, hh, hpre, h3, _, _⟩ := old_pre_ref hO hn hp
        rw [hf] at h1; cases h1
        exact ⟨m, ea, matchPath_isFn pat rest j m hm hj, hh.trans hk, hpre, h3⟩
      · cases hm
    · cases hm

theorem call_sound {pat : FnPat} {i : Nat} {a : App} {vo : V} (h : S.callOf [.ref i] pat = some a) (hv : envO[i]? = some vo) :
    ∃ (ea : EApp V) (fi : Nat) (fv : V), a.pre = [[.ref fi]] ∧ envO[fi]? = some fv ∧ IsFn Sm pat pat.path.reverse fv ∧
      ea.head = .call ∧ ea.pre = [[.val fv]] ∧ Sm.app ea = .ok vo ∧
      ∀ (k : Nat) (v : List Tok), a.args[k]? = some v → ∃ vE, ea.args[k]? = some vE ∧ evalToks envO v = .ok vE := by
  obtain ⟨i', base, k, f, e, ha, hc, hp, hf⟩ := callOf_inv h
  cases e
  obtain ⟨ty, hn, _, _⟩ := appOf_inv hO ha
  unfold Store.fnMatches at hf
  split at hf
  · rename_i fi
    obtain ⟨vo', fv, ea, h1, hj, h2, _, hpre, h3, _, _⟩ := old_pre_ref hO hn hp
    rw [hv] at h1
    cases h1
    obtain ⟨pre, args, kwargs, deps, _, hargs, _, _, rfl⟩ := (evalApp_ok envO a ea).1 h2
    exact ⟨_, fi, fv, hp, hj, matchPath_isFn hO pat _ fi fv hf hj, hc, hpre, h3, fun k v hk => evalOperands_getElem envO _ _ k v hargs hk⟩
  · cases hf

theorem shapeOf_sound {v : List Tok} {s : List Nat} (h : S.shapeOf v = .ok s) :
    ∃ j, v = [.ref j] ∧ ∀ x, envO[j]? = some x → Sm.shapeOf x = some s := by
  obtain ⟨j, ty, rfl, hty, hs⟩ := (shapeOf_spec S v).ok h
  refine ⟨j, rfl, fun x hx => ?_⟩
  obtain ⟨n, hn, rfl⟩ := Option.map_eq_some_iff.1 hty
  have := old_tyOK hO hn hx
  rcases hs with hs | ⟨d, hs⟩ <;> simpa [tyOK, hs] using this

theorem noop_sound {pat : FnPat} {i : Nat} {a : App} {input lit : List Tok} {test : List Nat → List Nat → Bool} {vo : V}
    (hu : unaryCallOf S pat i = .ok (some (a, input, lit))) (hn : noopTest S input lit test = .ok true) (hv : envO[i]? = some vo) :
    ∃ (ea : EApp V) (j : Nat) (x : V) (s ishape : List Nat), input = [.ref j] ∧ envO[j]? = some x ∧ IsCall Sm pat ea ∧
      ea.args[0]? = some [.val x] ∧ ea.args[1]? = some (lits lit) ∧ seqNats lit = some s ∧ test s ishape = true ∧
      Sm.shapeOf x = some ishape ∧ Sm.app ea = .ok vo := by
  obtain ⟨hc, h0, h1⟩ := unaryCallOf_inv hu
  obtain ⟨ea, fi, fv, _, _, hfn, hhead, hepre, happ, hargs⟩ := call_sound hO hc hv
  obtain ⟨s, ishape, hs, hsh, htest⟩ := (noopTest_spec _ _ _ _).ok hn rfl
  obtain ⟨j, rfl, hj⟩ := shapeOf_sound hO hsh
  obtain ⟨inE, ha0, hin⟩ := hargs 0 _ h0
  obtain ⟨litE, ha1, hlit⟩ := hargs 1 _ h1
  obtain ⟨x, hx, rfl⟩ := evalToks_ref_inv envO j inE hin
  rw [evalToks_lits envO lit (seqNats_refFree lit s hs)] at hlit
  cases hlit
  exact ⟨ea, j, x, s, ishape, rfl, hx, ⟨hhead, fv, hepre, hfn⟩, ha0, ha1, hs, htest, hj x hx, happ⟩

end

section
variable {Sm : Sem V} {S : Store} {pats : List Pattern} {bindO : List (Nat × V)} {envO : List V}
  (hO : EnvOK Sm S.nodes bindO envO) (hL : Sm.Laws pats)
include hO hL

theorem old_cast {i : Nat} {a : App} {base k j : Nat} (ha : S.appOf i = some (a, base, k)) (hc : a.head = .cast) (hp : a.pre = [[.ref j]])
    {x : V} (hx : envO[i]? = some x) : envO[j]? = some x := by
  obtain ⟨ty, hn, _, _⟩ := appOf_inv hO ha
  obtain ⟨vo, m, ea, h1, hj, _, hh, hpre, h3, _, hout⟩ := old_pre_ref hO hn hp
  rw [hx] at h1; cases h1
  exact hL.cast_id ea m x (hh.trans hc) hpre hout h3 ▸ hj

/-- `_skip_id` that ends in a tracer started from a tracer with the same value: a `Cast` is the identity (`Sem.Laws.cast_id`). -/
theorem skipId_ref {v : List Tok} {j : Nat} (h : skipId S v = .ok [.ref j]) :
    ∃ i, v = [.ref i] ∧ ∀ x, envO[i]? = some x → envO[j]? = some x := by
  obtain ⟨w, hw, h⟩ := skipId_spec (r := fun j i => ∀ x, envO[i]? = some x → envO[j]? = some x) (fun _ _ hx => hx)
    (fun h1 h2 x hx => h1 x (h2 x hx)) (fun _ _ _ _ _ ha hc hp _ hx => old_cast hO hL ha hc hp hx) h
  have hcast : ∃ i', w = [.ref i'] ∧ ∀ x, envO[i']? = some x → envO[j]? = some x := by
    rcases h with rfl | ⟨i, a, base, k, j', _, ha, hw', hj', e⟩
    · exact ⟨j, rfl, fun x hx => hx⟩
    · cases e
      obtain ⟨ty, hn, rfl, _⟩ := appOf_inv hO ha
      obtain ⟨_, _, _, _, _, hout, _, _⟩ := old_app hO hn
      refine ⟨i, ?_, hj'⟩
      rw [← hw', App.outAt, hout]
      simp
  obtain ⟨i', rfl, hi'⟩ := hcast
  cases hw with
  | keep _ hnil => cases hnil; exact ⟨i', rfl, hi'⟩
  | down hr hnil => cases hnil; exact ⟨_, rfl, fun x hx => hi' x (hr x hx)⟩

theorem merge_sound {pat : FnPat} {i : Nat} {a a2 : App} {input lit f : List Tok} {vo : V}
    (hu : unaryCallOf S pat i = .ok (some (a, input, lit))) (hin : innerCall S pat input = .ok (some a2)) (hf : a.pre = [f])
    (hv : envO[i]? = some vo) :
    ∃ (ea1 ea2 : EApp V) (fv y : V) (litE : List (RTok V)), evalToks envO f = .ok [.val fv] ∧ IsFn Sm pat pat.path.reverse fv ∧
      IsCall Sm pat ea1 ∧ Sm.app ea1 = .ok y ∧ (∀ (k : Nat) (v : List Tok), a2.args[k]? = some v → ∃ vE, ea1.args[k]? = some vE ∧ evalToks envO v = .ok vE) ∧
      ea2.head = .call ∧ ea2.pre = [[.val fv]] ∧ ea2.args[0]? = some [.val y] ∧ ea2.args[1]? = some litE ∧
      evalToks envO lit = .ok litE ∧ Sm.app ea2 = .ok vo := by
  obtain ⟨hc, h0, h1⟩ := unaryCallOf_inv hu
  obtain ⟨ea, fi, fv, hpre, hfv, hfn, hhead, hepre, happ, hargs⟩ := call_sound hO hc hv
  obtain ⟨inE, ha0, hinE⟩ := hargs 0 _ h0
  obtain ⟨litE, ha1, hlit⟩ := hargs 1 _ h1
  obtain ⟨input', hs, hc2⟩ := (innerCall_spec _ _ _).ok hin _ rfl
  obtain ⟨j2, _, _, _, rfl, _⟩ := callOf_inv hc2
  obtain ⟨j, rfl, hjj⟩ := skipId_ref hO hL hs
  obtain ⟨x, hx, rfl⟩ := evalToks_ref_inv envO j inE hinE
  obtain ⟨ea2, _, fv2, _, _, hfn2, hhead2, hepre2, happ2, hargs2⟩ := call_sound hO hc2 (hjj x hx)
  rw [hpre] at hf
  cases hf
  exact ⟨ea2, ea, fv, x, litE, evalToks_ref envO fi fv hfv, hfn, ⟨hhead2, fv2, hepre2, hfn2⟩, happ2, hargs2, hhead, hepre, ha0, ha1,
    hlit, happ⟩

theorem decideReshape_sound (pat : FnPat) (hp : Pattern.skipReshape pat ∈ pats) (i : Nat) (act : Action) (vo : V)
    (h : decideReshape S pat i = .ok (some act)) (hv : envO[i]? = some vo) : ActOK Sm envO act vo := by
  obtain ⟨a, input, shape, hu, ⟨hn, rfl⟩ | ⟨a2, ioi, f, hin, h20, hf, rfl⟩⟩ := (decideReshape_spec _ _ _).ok h _ rfl
  · obtain ⟨ea, j, x, s, ishape, rfl, hx, hc, ha0, ha1, hs, htest, hsh, happ⟩ :=
      noop_sound hO hu hn hv
    have hse : s = ishape := by simpa [Extracted.reshapeNoop] using htest
    subst hse
    have := hL.reshape_noop pat hp ea x vo shape s hc ha0 ha1 hs hsh happ
    subst this
    exact evalToks_ref envO j _ hx
  · obtain ⟨ea1, ea2, fv, y, litE, hfE, hfn, hc1, happ1, hargs1, hhead, hepre, ha0, ha1, hlit, happ⟩ :=
      merge_sound hO hL hu hin hf hv
    obtain ⟨xE, e1, e2⟩ := hargs1 0 ioi h20
    refine ⟨fv, xE, hfE, e2, fun hfree => ?_⟩
    rw [evalToks_lits envO shape hfree] at hlit
    cases hlit
    exact hL.reshape_merge pat hp ea1 ea2 fv xE y vo shape hc1 e1 happ1 hhead hepre hfn ha0 ha1 happ

theorem decideTranspose_sound (pat : FnPat) (hp : Pattern.skipTranspose pat ∈ pats) (i : Nat) (act : Action) (vo : V)
    (h : decideTranspose S pat i = .ok (some act)) (hv : envO[i]? = some vo) : ActOK Sm envO act vo := by
  obtain ⟨a, input, perm, hu, ⟨hn, rfl⟩ | ⟨a2, ioi, perm1, p1, p2, p, f, hin, h20, h21, hp1, hp2, hc, hf, rfl⟩⟩ := (decideTranspose_spec _ _ _).ok h _ rfl
  · obtain ⟨ea, j, x, s, ishape, rfl, hx, hc, ha0, ha1, hs, htest, hsh, happ⟩ :=
      noop_sound hO hu hn hv
    have := hL.transpose_noop pat hp ea x vo perm s ishape hc ha0 ha1 hs hsh htest happ
    subst this
    exact evalToks_ref envO j _ hx
  · obtain ⟨ea1, ea2, fv, y, litE, hfE, hfn, hc1, happ1, hargs1, hhead, hepre, ha0, ha1, hlit, happ⟩ :=
      merge_sound hO hL hu hin hf hv
    obtain ⟨xE, e1, e2⟩ := hargs1 0 ioi h20
    obtain ⟨p1E, e3, e4⟩ := hargs1 1 perm1 h21
    rw [evalToks_lits envO perm1 (seqNats_refFree perm1 p1 hp1)] at e4
    cases e4
    rw [evalToks_lits envO perm (seqNats_refFree perm p2 hp2)] at hlit
    cases hlit
    exact ⟨fv, xE, hfE, e2, fun _ => hL.transpose_merge pat hp ea1 ea2 fv xE y vo perm1 perm p1 p2 p hc1 e1 e3 happ1
      hhead hepre hfn ha0 ha1 happ hp1 hp2 hc⟩

theorem decideBroadcast_sound (pat : FnPat) (hp : Pattern.skipBroadcastTo pat ∈ pats) (i : Nat) (act : Action) (vo : V)
    (h : decideBroadcast S pat i = .ok (some act)) (hv : envO[i]? = some vo) : ActOK Sm envO act vo := by
  obtain ⟨a, input, shape, hu, hn, rfl⟩ := (decideBroadcast_spec _ _ _).ok h _ rfl
  obtain ⟨ea, j, x, s, ishape, rfl, hx, hc, ha0, ha1, hs, htest, hsh, happ⟩ :=
    noop_sound hO hu hn hv
  have hse : s = ishape := by simpa [Extracted.broadcastNoop] using htest
  subst hse
  have := hL.broadcast_noop pat hp ea x vo shape s hc ha0 ha1 hs hsh happ
  subst this
  exact evalToks_ref envO j _ hx

theorem decideConcat_sound (pat : FnPat) (hp : Pattern.skipConcatenate pat ∈ pats) (i : Nat) (act : Action) (vo : V)
    (h : decideConcat S pat i = .ok (some act)) (hv : envO[i]? = some vo) : ActOK Sm envO act vo := by
  obtain ⟨a, c, rest, hc, h0, hcc, rfl⟩ := (decideConcat_spec _ _ _).ok h _ rfl
  obtain ⟨ea, fi, fv, _, _, hfn, hhead, hepre, happ, hargs⟩ := call_sound hO hc hv
  obtain ⟨tE, e1, e2⟩ := hargs 0 _ h0
  obtain ⟨r, es, e3, e4, rfl⟩ := (evalToks_cons envO _ _ _).1 e2
  cases e3
  have := hL.concat_noop pat hp ea vo c es ⟨hhead, fv, hepre, hfn⟩ e1 hcc happ
  subst this
  exact e4

theorem decideCast_sound (i : Nat) (act : Action) (vo : V)
    (h : decideCast S i = .ok (some act)) (hv : envO[i]? = some vo) : ActOK Sm envO act vo := by
  obtain ⟨a, base, k, j, ha, hc, hp, _, rfl⟩ := (decideCast_spec _ _).ok h _ rfl
  exact evalToks_ref envO j _ (old_cast hO hL ha hc hp hv)

/-- **Every pattern decision is sound**: the first pattern of a sub-list of the pattern list that fires on tracer `i`
returns an action that has the value of tracer `i`. -/
theorem firstMatch_sound (fuel : Nat) (ps : List Pattern) (hps : ∀ p ∈ ps, p ∈ pats) (i : Nat) (act : Action) (vo : V)
    (h : firstMatch S fuel ps (.ref i) = .ok (some act)) (hv : envO[i]? = some vo) : ActOK Sm envO act vo := by
  obtain ⟨p, hp, hd⟩ := firstMatch_inv h
  have hp := hps p hp
  exact decide_ref_cases hd
    (fun pat e h => decideReshape_sound hO hL pat (e ▸ hp) i act vo h hv)
    (fun pat e h => decideTranspose_sound hO hL pat (e ▸ hp) i act vo h hv)
    (fun pat e h => decideBroadcast_sound hO hL pat (e ▸ hp) i act vo h hv)
    (fun pat e h => decideConcat_sound hO hL pat (e ▸ hp) i act vo h hv)
    (fun _ h => decideCast_sound hO hL i act vo h hv)

end

end Einx.OptDag
