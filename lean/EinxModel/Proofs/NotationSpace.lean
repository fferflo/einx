import EinxModel.Proofs.NotationSegment
import EinxModel.Proofs.NotationTree
import EinxModel.Proofs.NotationParseSim
import EinxModel.Proofs.NotationSimBack
/-!
# M1 Notation — `parse_op` ignores a redundant space (assembly of the four layers)
-/
namespace Einx.Notation

theorem ESim.shape_eq {φ : Nat → Nat} : ∀ (x y : Expr), ESim φ x y → x.shape = y.shape := fun _ _ h => by
  have children : ∀ {cs cs' : List Expr}, Forall2 (fun c c' => ESim φ c c' ∧ c.shape = c'.shape) cs cs' → shapeL cs = shapeL cs' :=
    fun ih => by rw [shapeL_eq_map, shapeL_eq_map]; exact ih.map_eq fun _ _ h => h.2
  exact ESim.induct1 (P := fun x y => x.shape = y.shape)
    (axis := fun {_ _ v _ _ _ _} _ hv => by
      cases v with
      | none => simp only [Expr.shape, hv rfl]
      | some _ => rfl)
    (flat := fun _ ih => by simp only [Expr.shape, ih])
    (brackets := fun _ ih => by simp only [Expr.shape, ih])
    (ellipsis := fun _ ih => by simp only [Expr.shape, ih])
    (concat := fun ih => by simp only [Expr.shape, children ih])
    (list := fun ih => by simp only [Expr.shape, children ih])
    (args := fun ih => by simp only [Expr.shape, children ih])
    (op := fun ih => by simp only [Expr.shape, children ih]) h

theorem ESimL.shapeL_eq {φ : Nat → Nat} : ∀ (cs cs' : List Expr), ESimL φ cs cs' → shapeL cs = shapeL cs' := fun _ _ h => by
  rw [shapeL_eq_map, shapeL_eq_map]
  exact (esimL_iff.mp h).map_eq ESim.shape_eq

/-- Begin positions before `k` stay, the others move one to the right. -/
def shiftAt (k p : Nat) : Nat := if p < k then p else p + 1

theorem shiftAt_injective (k : Nat) : Function.Injective (shiftAt k) := by
  intro a b h
  unfold shiftAt at h
  split at h <;> split at h <;> omega

theorem find_invalid_rel {R : Token → Token → Prop} (hR : ∀ t t', R t t' → t'.text = t.text) :
    ∀ {B B' : List Token}, Forall2 R B B' →
      (∃ t t', B.find? (fun t => !validToken t.text) = some t ∧ B'.find? (fun t => !validToken t.text) = some t') ∨
      (B.find? (fun t => !validToken t.text) = none ∧ B'.find? (fun t => !validToken t.text) = none)
  | [], _, h => by cases h; exact Or.inr ⟨rfl, rfl⟩
  | t :: B, _, h => by
    cases h with
    | cons h1 h2 =>
      simp only [List.find?_cons, hR _ _ h1]
      cases validToken t.text with
      | false => exact Or.inl ⟨_, _, rfl, rfl⟩
      | true => exact find_invalid_rel hR h2

theorem lex_insert {text text' : Str} {A B B' : List Token} {sp : Token} {R : Token → Token → Prop}
    (hR : ∀ t t', R t t' → t'.text = t.text)
    (h1 : segment literals text 0 0 [] = A ++ B) (h2 : segment literals text' 0 0 [] = A ++ sp :: B')
    (hsp : sp.text = spaceLit) (hB : Forall2 R B B') :
    ExceptR ErrSim (fun ts ts' => ts = A ++ B ∧ ts' = A ++ sp :: B') (lex text) (lex text') := by
  rw [lex_def, lex_def, h1, h2, List.find?_append, List.find?_append]
  cases hA : A.find? (fun t => !validToken t.text) with
  | some t => exact Eq.refl SynKind.invalidToken
  | none =>
    have hv : validToken sp.text = true := by rw [hsp]; decide
    simp only [Option.none_or, List.find?_cons, hv, Bool.not_true]
    rcases find_invalid_rel hR hB with ⟨t, t', h3, h4⟩ | ⟨h3, h4⟩
    · rw [h3, h4]
      exact Eq.refl SynKind.invalidToken
    · rw [h3, h4]
      exact ⟨rfl, rfl⟩

/-- `parse_op` of a text and of the text with one redundant space inserted: the results are equal up to positions and
    the renumbering `shiftAt k` of the fresh ids, or both are errors of the same kind. -/
theorem parseOp_insert (xs ys : Str) (h : RedundantAt xs ys = true) :
    ∃ k, RSim (shiftAt k) (parseOp (xs ++ ys)) (parseOp (xs ++ ' ' :: ys)) := by
  obtain ⟨A, B, B', sp, k, h1, h2, hsp, hA, hB, hBB, hc⟩ := segment_insert xs ys h
  refine ⟨k, ?_⟩
  have hRA : Forall2 (TokRel (shiftAt k)) A A :=
    Forall2.self_of_mem (fun t ht => ⟨rfl, by simp [shiftAt, hA t ht]⟩)
  have hRB : Forall2 (TokRel (shiftAt k)) B B' :=
    Forall2.imp_mem hBB (fun t ht t' htt => ⟨htt.1, by
      have := hB t ht
      rw [htt.2]
      unfold shiftAt
      rw [if_neg (by omega)]⟩)
  rw [parseOp_bind, parseOp_bind]
  refine rsim_iff.mpr ((lex_insert (fun _ _ h => h.1) h1 h2 hsp hBB).bind fun _ _ _ _ hl => ?_)
  rw [hl.1, hl.2]
  exact (treeRel_iff.mp (tree_insert (shiftAt k) A A B B' sp hRA hRB hsp hc)).bind fun T T' _ _ ht =>
    (parse_sim T 0 _ false T' 0 _ ht).bind fun _ _ _ _ hxy => rsim_iff.mp (finish_sim (shiftAt_injective k) _ _ hxy)

end Einx.Notation
