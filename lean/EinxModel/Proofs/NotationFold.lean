import EinxModel.Notation.Lexer
import EinxModel.Proofs.ExceptList
/-!
# M1 Notation — the delimiter stack as a fold

`buildTree` is a fold of a one-token transition `step` over a state (`frames`, `base`), followed by `finishSt`
(`buildTree_eq_full`; the fold is `full`).  `full_inv`: what holds of the tree or the error that `buildTree` returns
follows from an invariant of the four kinds of steps.
-/
namespace Einx.Notation

theorem delimsFront_eq : delimsFront = [['('], ['[']] := by decide
theorem delimsBack_eq : delimsBack = [[')'], [']']] := by decide

namespace TreeIns

abbrev Frame := Token × List Tok
/-- Stack state: `frames` (innermost first) and `base`. -/
abbrev St := List Frame × List Tok

/-- Append items to the innermost open level. -/
def appTop (xs : List Tok) : St → St
  | ([], base) => ([], base ++ xs)
  | ((o, items) :: rest, base) => ((o, items ++ xs) :: rest, base)

def closeErr (t : Token) : Err := .syntax .closingNotOpened (posRange (Int.ofNat t.b) (Int.ofNat t.e)) []

def openErr (o : Token) : Err := .syntax .openingNotClosed (posRange (Int.ofNat o.b) (Int.ofNat o.e)) []

/-- One token of the delimiter stack. -/
def step (t : Token) (s : St) : Res St :=
  if delimsFront.contains t.text then .ok ((t, []) :: s.1, s.2)
  else if delimsBack.contains t.text then
    match s.1 with
    | [] => .error (closeErr t)
    | (o, items) :: rest =>
      if closingOf o.text != some t.text then .error (closeErr t)
      else .ok (appTop [.group o t items] (rest, s.2))
  else .ok (appTop [.atom t] s)

/-- End of input. -/
def finishSt : St → Res (List Tok)
  | ([], base) => .ok base
  | ((o, _) :: _, _) => .error (.syntax .openingNotClosed (posRange (Int.ofNat o.b) (Int.ofNat o.e)) [])

def full : List Token → St → Res (List Tok)
  | [], s => finishSt s
  | t :: ts, s => step t s >>= full ts

theorem buildTree_eq_full : ∀ (ts : List Token) (frames : List Frame) (base : List Tok),
    buildTree ts frames base = full ts (frames, base) := by
  intro ts
  induction ts with
  | nil =>
    intro frames base
    cases frames with
    | nil => rfl
    | cons f fs => obtain ⟨o, items⟩ := f; rfl
  | cons t ts ih =>
    intro frames base
    simp only [buildTree, full, step]
    split
    · exact ih _ _
    · split
      · cases frames with
        | nil => rfl
        | cons f fs =>
          obtain ⟨o, items⟩ := f
          simp only
          split
          · rfl
          · cases fs with
            | nil => exact ih _ _
            | cons f2 fs2 => obtain ⟨o2, items2⟩ := f2; exact ih _ _
      · cases frames with
        | nil => exact ih _ _
        | cons f fs => obtain ⟨o, items⟩ := f; exact ih _ _

theorem step_front {t : Token} (s : St) (h : delimsFront.contains t.text = true) :
    step t s = .ok ((t, []) :: s.1, s.2) := by
  simp only [step, h, ↓reduceIte]

theorem step_atom {t : Token} (s : St) (h1 : delimsFront.contains t.text = false) (h2 : delimsBack.contains t.text = false) :
    step t s = .ok (appTop [.atom t] s) := by
  simp only [step, h1, h2, Bool.false_eq_true, ↓reduceIte]

theorem step_back_nil {t : Token} (base : List Tok) (h1 : delimsFront.contains t.text = false)
    (h2 : delimsBack.contains t.text = true) : step t ([], base) = .error (closeErr t) := by
  simp only [step, h1, h2, Bool.false_eq_true, ↓reduceIte]

theorem step_back_cons {t o : Token} (items : List Tok) (rest : List Frame) (base : List Tok)
    (h1 : delimsFront.contains t.text = false) (h2 : delimsBack.contains t.text = true) :
    step t ((o, items) :: rest, base) =
      if closingOf o.text != some t.text then .error (closeErr t) else .ok (appTop [.group o t items] (rest, base)) := by
  simp only [step, h1, h2, Bool.false_eq_true, ↓reduceIte]

theorem full_cons (t : Token) (ts : List Token) (s : St) :
    full (t :: ts) s = step t s >>= full ts := by
  simp only [full]

theorem full_cons_ok {t : Token} {ts : List Token} {s s1 : St} (h : step t s = .ok s1) :
    full (t :: ts) s = full ts s1 := by
  rw [full_cons, h]; rfl

theorem appTop_appTop (xs ys : List Tok) (s : St) : appTop ys (appTop xs s) = appTop (xs ++ ys) s := by
  obtain ⟨fr, base⟩ := s
  cases fr with
  | nil => simp [appTop]
  | cons f fs => obtain ⟨o, items⟩ := f; simp [appTop]

theorem full_inv {I : List Token → St → Prop} {E : Err → Prop} {Q : List Tok → Prop}
    (front : ∀ t ts s, delimsFront.contains t.text = true → I (t :: ts) s → I ts ((t, []) :: s.1, s.2))
    (atom : ∀ t ts s, delimsFront.contains t.text = false → delimsBack.contains t.text = false → I (t :: ts) s →
      I ts (appTop [.atom t] s))
    (close : ∀ t ts o items rest base, delimsFront.contains t.text = false → delimsBack.contains t.text = true →
      closingOf o.text = some t.text → I (t :: ts) ((o, items) :: rest, base) →
      I ts (appTop [.group o t items] (rest, base)))
    (closeE : ∀ t ts s, delimsBack.contains t.text = true → I (t :: ts) s → E (closeErr t))
    (fin : ∀ base, I [] ([], base) → Q base)
    (finE : ∀ o items rest base, I [] ((o, items) :: rest, base) → E (openErr o)) :
    ∀ ts s, I ts s → ExceptP E Q (full ts s) := by
  intro ts
  induction ts with
  | nil =>
    intro s hI
    obtain ⟨fr, base⟩ := s
    cases fr with
    | nil => exact fin base hI
    | cons f rest => exact finE f.1 f.2 rest base hI
  | cons t ts ih =>
    intro s hI
    rw [full_cons]
    cases h1 : delimsFront.contains t.text with
    | true => rw [step_front s h1]; exact ih _ (front t ts s h1 hI)
    | false =>
      cases h2 : delimsBack.contains t.text with
      | false => rw [step_atom s h1 h2]; exact ih _ (atom t ts s h1 h2 hI)
      | true =>
        obtain ⟨fr, base⟩ := s
        cases fr with
        | nil => rw [step_back_nil base h1 h2]; exact closeE t ts _ h2 hI
        | cons f rest =>
          obtain ⟨o, items⟩ := f
          rw [step_back_cons items rest base h1 h2]
          by_cases h3 : closingOf o.text = some t.text
          · rw [if_neg (by rw [h3]; simp)]
            exact ih _ (close t ts o items rest base h1 h2 h3 hI)
          · rw [if_pos (by simpa using h3)]
            exact closeE t ts _ h2 hI

end TreeIns
end Einx.Notation
