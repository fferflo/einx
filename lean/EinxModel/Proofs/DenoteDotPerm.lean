import EinxModel.Proofs.DenoteDot
import EinxModel.Proofs.DenoteReducePerm
/-!
Contractions (C08b, C08c).  `conX f base ins`: for every assignment `τ` of the contracted axes, the product of what each
operand reads under `inputAssign (base σ τ) τ`; `mkRed f` reduces the terms.  `dotX` (`f = "sum"`, `base σ τ = τ ++ σ`)
and `redX` (one operand, `base σ τ = σ`) are instances, and the laws are proved for `conX`.  A permuted operand enumerates
the terms in another order, so the laws hold after a re-canonicaliser, a parameter: `Cell.resort` for a reduction,
`Cell.resortAt "red:sum"` for dot, where a product `multiply […]` keeps its operand order and has to be left alone.
-/
namespace Einx.Denote
open Einx Einx.IR List
open Einx.Update (mapOpt mapOpt_eq_some_iff mapOpt_congr mapOpt_mem mapOpt_zipIdx_set_congr)

def mulStep (acc d : Cell) : Cell := .app "multiply" [acc, d]

theorem mkProd_cons (c : Cell) (rest : List Cell) : mkProd (c :: rest) = rest.foldl mulStep c := rfl

theorem subst_foldl_mul (regs : List (Tensor Cell)) : ∀ (rest : List Cell) (c : Cell),
    subst regs (rest.foldl mulStep c) = (rest.map (subst regs)).foldl mulStep (subst regs c) := by
  intro rest
  induction rest with
  | nil => intro c; rfl
  | cons d rest ih =>
    intro c
    simp only [List.foldl_cons, List.map_cons]
    rw [ih]
    congr 1

theorem subst_mkProd (regs : List (Tensor Cell)) (cs : List Cell) :
    subst regs (mkProd cs) = mkProd (cs.map (subst regs)) := by
  cases cs with
  | nil => simp [mkProd, subst_app]
  | cons c rest => rw [mkProd_cons, subst_foldl_mul, List.map_cons, mkProd_cons]

theorem foldl_mul_head : ∀ (rest : List Cell) (acc : Cell), (∃ args, acc = .app "multiply" args) →
    ∃ args, rest.foldl mulStep acc = .app "multiply" args := by
  intro rest
  induction rest with
  | nil => intro acc h; exact h
  | cons d rest ih => intro acc _; exact ih _ ⟨_, rfl⟩

theorem red_ne_multiply (f : String) : "red:" ++ f ≠ "multiply" := by
  intro e
  have := congrArg (fun s => s.toList.head?) e
  simp at this

/-- A product of input elements is not a `red:f` application: the restricted re-canonicaliser leaves it alone. -/
theorem resortAt_mkProd_src (f : String) (fs : List Cell) (h : ∀ c ∈ fs, ∃ i k, c = Cell.src i k) :
    Cell.resortAt ("red:" ++ f) (mkProd fs) = mkProd fs := by
  have hne : ("multiply" == "red:" ++ f) = false := beq_eq_false_iff_ne.mpr (red_ne_multiply f).symm
  match fs, h with
  | [], _ => simp [mkProd, Cell.resortAt, hne]
  | [c], h =>
    obtain ⟨i, k, rfl⟩ := h c (by simp)
    rfl
  | c :: d :: rest, _ =>
    rw [mkProd_cons, List.foldl_cons]
    obtain ⟨args, hargs⟩ := foldl_mul_head rest (mulStep c d) ⟨_, rfl⟩
    rw [hargs]
    simp [Cell.resortAt, hne]

/-- Every operand's register has the shape of its concatenation-free view; no axis name is both bracketed and
un-bracketed within one operand; leaf sizes are consistent per name across all operands and the output view `w`. -/
structure DotOK (ins : List (List Dim × List Nat)) (w : List Dim) : Prop where
  shape : ∀ p ∈ ins, p.2 = viewShape p.1 ∧ Dim.concatFreeL p.1 = true
  msep : ∀ p ∈ ins, MarkSep (Dim.leavesL p.1)
  cons : Consistent (ins.flatMap (fun p => Dim.leavesL p.1) ++ Dim.leavesL w)

def dotOKB (ins : List (List Dim × List Nat)) (w : List Dim) : Bool :=
  ins.all (fun p => p.2 == viewShape p.1 && Dim.concatFreeL p.1 && markSepB (Dim.leavesL p.1)) &&
    consistentB (ins.flatMap (fun p => Dim.leavesL p.1) ++ Dim.leavesL w)

theorem dotOKB_spec {ins : List (List Dim × List Nat)} {w : List Dim} (h : dotOKB ins w = true) : DotOK ins w := by
  simp only [dotOKB, Bool.and_eq_true, List.all_eq_true, beq_iff_eq] at h
  exact ⟨fun p hp => ⟨(h.1 p hp).1.1, (h.1 p hp).1.2⟩, fun p hp => markSepB_spec (h.1 p hp).2, consistentB_spec h.2⟩

theorem allLeaves_mem {ins : List (List Dim × List Nat)} {p : List Dim × List Nat} (hp : p ∈ ins) :
    ∀ l ∈ Dim.leavesL p.1, l ∈ ins.flatMap (fun p => Dim.leavesL p.1) :=
  fun _ hl => List.mem_flatMap.mpr ⟨p, hp, hl⟩

theorem allLeaves_set {ins : List (List Dim × List Nat)} {j : Nat} {v v' : List Dim} {s s' : List Nat}
    (hj : ins[j]? = some (v, s)) (hm : ∀ l, l ∈ Dim.leavesL v ↔ l ∈ Dim.leavesL v') (l : Leaf) :
    l ∈ (ins.set j (v', s')).flatMap (fun p => Dim.leavesL p.1) ↔ l ∈ ins.flatMap (fun p => Dim.leavesL p.1) := by
  simp only [List.mem_flatMap]
  constructor
  · rintro ⟨p, hp, hl⟩
    obtain ⟨k, hk, hpk⟩ := List.getElem_of_mem hp
    have hk' : k < ins.length := by simpa using hk
    rw [List.getElem_set] at hpk
    by_cases hjk : j = k
    · simp only [hjk, if_true] at hpk
      subst hpk
      exact ⟨(v, s), List.mem_of_getElem? hj, (hm l).mpr hl⟩
    · simp only [hjk, if_false] at hpk
      exact ⟨p, by rw [← hpk]; exact List.getElem_mem hk', hl⟩
  · rintro ⟨p, hp, hl⟩
    obtain ⟨k, hk, hpk⟩ := List.getElem_of_mem hp
    by_cases hjk : j = k
    · subst hjk
      have : ins[j]? = some p := by rw [List.getElem?_eq_getElem hk, hpk]
      rw [hj] at this
      have hp' : p = (v, s) := (Option.some.inj this).symm
      subst hp'
      refine ⟨(v', s'), ?_, (hm l).mp hl⟩
      exact List.mem_iff_getElem.mpr ⟨j, by simpa using hk, by simp⟩
    · refine ⟨p, ?_, hl⟩
      exact List.mem_iff_getElem.mpr ⟨k, by simpa using hk, by rw [List.getElem_set]; simp [hjk, hpk]⟩

theorem dotMarked_axes (ins : List (List Dim × List Nat)) :
    ∀ q ∈ dotMarked ins, ∃ l ∈ ins.flatMap (fun p => Dim.leavesL p.1), l.name = q.1 ∧ l.size = q.2 := by
  intro q hq
  obtain ⟨l, hl, h⟩ := axesOf_leaf hq
  exact ⟨l, (List.mem_filter.mp hl).1, h⟩

theorem resortAt_red (f : String) (args : List Cell) :
    Cell.resortAt ("red:" ++ f) (.app ("red:" ++ f) args) = .app ("red:" ++ f) (sortCells args) := by
  simp [Cell.resortAt]

theorem map_set_congr {α β : Type} (g : α → β) (l : List α) (j : Nat) (a b : α) (h : g a = g b) :
    (l.set j a).map g = (l.set j b).map g := by
  rw [List.map_set, List.map_set, h]

/-- The element of input `q.2` (view and shape `q.1`) read under `inputAssign σ τ`: bracketed axes from `τ`, the others
from `σ`.  `redCell v s σ τ` is `inCellM σ τ ((v, s), 0)`, and `dotFactor σ τ q` is `inCellM (τ ++ σ) τ q`. -/
def inCellM (σ τ : Assign) (q : (List Dim × List Nat) × Nat) : Option Cell :=
  match inputAssign σ τ (Dim.leavesL q.1.1) with
  | some a => cellAt q.1.1 q.1.2 q.2 a
  | none => none

theorem inCellM_eq_readVia (σ τ : Assign) : inCellM σ τ = readVia (inputAssign σ τ) := rfl

theorem inCellM_congr {σ σ' τ τ' : Assign} (hσ : SameGet σ σ') (hτ : SameGet τ τ') (q : (List Dim × List Nat) × Nat) :
    inCellM σ τ q = inCellM σ' τ' q := by
  unfold inCellM; rw [inputAssign_congr hσ hτ]

theorem inCellM_src {σ τ : Assign} {q : (List Dim × List Nat) × Nat} {c : Cell} (h : inCellM σ τ q = some c) :
    ∃ k, c = Cell.src q.2 k :=
  readVia_src (B := inputAssign σ τ) h

theorem inCellM_regroup (σ τ : Assign) (pre mid post : List Dim) (i : Nat) :
    inCellM σ τ ((pre ++ [Dim.flat mid] ++ post, viewShape (pre ++ [Dim.flat mid] ++ post)), i)
      = inCellM σ τ ((pre ++ mid ++ post, viewShape (pre ++ mid ++ post)), i) :=
  readVia_regroup (inputAssign σ τ) pre mid post i

/-- What the laws need of `base`, which makes the assignment of the un-bracketed axes from `σ` (output axes) and `τ`
(contracted axes). -/
structure BaseOK (base : Assign → Assign → Assign) : Prop where
  congr : ∀ {σ σ' τ τ'}, SameGet σ σ' → SameGet τ τ' → SameGet (base σ τ) (base σ' τ')
  inRange : ∀ {σ τ ls}, InRangeOn σ ls → InRangeOn τ ls → InRangeOn (base σ τ) ls

theorem baseOK_left : BaseOK (fun σ _ => σ) := ⟨fun h _ => h, fun h _ => h⟩

theorem baseOK_append : BaseOK (fun σ τ => τ ++ σ) :=
  ⟨fun {_ σ' τ _} hσ hτ n => by rw [get_append, get_append, hσ n, hτ n], fun hσ hτ => hτ.append hσ⟩

def conTerm (base : Assign → Assign → Assign) (ins : List (List Dim × List Nat)) (σ τ : Assign) : Option Cell :=
  (mapOpt (inCellM (base σ τ) τ) ins.zipIdx).map mkProd

def conArgs (base : Assign → Assign → Assign) (ins : List (List Dim × List Nat)) (σ : Assign) : Option (List Cell) :=
  mapOpt (conTerm base ins σ) (assignments (dotMarked ins))

def conX (f : String) (base : Assign → Assign → Assign) (ins : List (List Dim × List Nat)) (σ : Assign) : Option Cell :=
  (conArgs base ins σ).map (mkRed f)

theorem conTerm_single (base : Assign → Assign → Assign) (v : List Dim) (s : List Nat) (σ τ : Assign) :
    conTerm base [(v, s)] σ τ = inCellM (base σ τ) τ ((v, s), 0) := by
  show (mapOpt (inCellM (base σ τ) τ) [((v, s), 0)]).map mkProd = _
  simp only [mapOpt]
  cases inCellM (base σ τ) τ ((v, s), 0) <;> rfl

theorem redArgs_eq_conArgs (v : List Dim) (s : List Nat) : redArgs v s = conArgs (fun σ _ => σ) [(v, s)] := by
  funext σ
  have hax : markedAxes v = dotMarked [(v, s)] := by simp [markedAxes, dotMarked]
  have : redCell v s σ = conTerm (fun σ _ => σ) [(v, s)] σ :=
    funext fun τ => (conTerm_single (fun σ _ => σ) v s σ τ).symm
  rw [redArgs, conArgs, hax, this]

theorem redX_eq_conX (f : String) (v : List Dim) (s : List Nat) : redX f v s = conX f (fun σ _ => σ) [(v, s)] := by
  funext σ; rw [redX, conX, redArgs_eq_conArgs]

theorem dotX_eq_conX (ins : List (List Dim × List Nat)) : dotX ins = conX "sum" (fun σ τ => τ ++ σ) ins := rfl

theorem conTerm_congr {base : Assign → Assign → Assign} (hb : BaseOK base) (ins : List (List Dim × List Nat))
    {σ σ' τ τ' : Assign} (hσ : SameGet σ σ') (hτ : SameGet τ τ') : conTerm base ins σ τ = conTerm base ins σ' τ' := by
  unfold conTerm
  rw [funext fun q => inCellM_congr (hb.congr hσ hτ) hτ q]

/-- So the laws of permuting the output view (`genCells_permute_output`, `genTensor_permute_output`) apply to a contraction. -/
theorem conX_getInvariant (f : String) {base : Assign → Assign → Assign} (hb : BaseOK base)
    (ins : List (List Dim × List Nat)) : GetInvariant (conX f base ins) := by
  intro σ σ' h
  unfold conX conArgs
  have : conTerm base ins σ = conTerm base ins σ' := funext fun τ => conTerm_congr hb ins h (fun _ => rfl)
  rw [this]

theorem dotX_getInvariant (ins : List (List Dim × List Nat)) : GetInvariant (dotX ins) :=
  dotX_eq_conX ins ▸ conX_getInvariant "sum" baseOK_append ins

theorem redX_getInvariant (f : String) (v : List Dim) (s : List Nat) : GetInvariant (redX f v s) :=
  redX_eq_conX f v s ▸ conX_getInvariant f baseOK_left [(v, s)]

theorem conTerm_src (f : String) {base : Assign → Assign → Assign} {ins : List (List Dim × List Nat)} {σ τ : Assign}
    {c : Cell} (h : conTerm base ins σ τ = some c) : Cell.resortAt ("red:" ++ f) c = c := by
  unfold conTerm at h
  cases hm : mapOpt (inCellM (base σ τ) τ) ins.zipIdx with
  | none => rw [hm] at h; nomatch h
  | some fs =>
    rw [hm] at h
    cases h
    apply resortAt_mkProd_src
    intro c hc
    obtain ⟨q, _, hq⟩ := mapOpt_mem hm hc
    obtain ⟨k, rfl⟩ := inCellM_src hq
    exact ⟨_, _, rfl⟩

theorem conTerm_permute_input {base : Assign → Assign → Assign} (hb : BaseOK base)
    {ins : List (List Dim × List Nat)} {j : Nat} {v v' w : List Dim}
    {perm : List Nat} {plan : Plan} {σ τ : Assign} {axes : List (String × Nat)}
    (hj : ins[j]? = some (v, viewShape v)) (hok : DotOK ins w)
    (hperm : isPermOf perm v.length = true) (hv' : permuteL perm v = some v')
    (hplan : planInstr (ins.map (·.2)) (.transpose j perm) = .ok plan)
    (hσ : σ ∈ outAssignments w) (hτ : τ ∈ assignments axes)
    (haxes : ∀ q ∈ axes, ∃ l ∈ ins.flatMap (fun p => Dim.leavesL p.1), l.name = q.1 ∧ l.size = q.2) :
    (conTerm base (ins.set j (v', viewShape v')) σ τ).map (subst (permRegs (ins.set j (v', viewShape v')) j plan))
      = conTerm base ins σ τ := by
  have hca : Consistent (ins.flatMap (fun p => Dim.leavesL p.1)) := hok.cons.left
  have hτr := assignments_inRange hca hτ haxes
  have hfs := mapOpt_permRegs (B := inputAssign (base σ τ) τ) hj hok.shape
    (fun p hp => inputAssign_fills (hok.msep p hp) (hca.mono (allLeaves_mem hp))
      ((hb.inRange (outAssignments_inRange hok.cons hσ) hτr).mono (allLeaves_mem hp)) (hτr.mono (allLeaves_mem hp)))
    hperm hv' hplan
  unfold conTerm
  rw [inCellM_eq_readVia, ← hfs]
  cases mapOpt (readVia (inputAssign (base σ τ) τ)) (ins.set j (v', viewShape v')).zipIdx with
  | none => rfl
  | some fs => simp only [Option.map_some, subst_mkProd]

theorem conArgs_permute_input {base : Assign → Assign → Assign} (hb : BaseOK base)
    {ins : List (List Dim × List Nat)} {j : Nat} {v v' w : List Dim}
    {perm : List Nat} {plan : Plan} {σ : Assign}
    (hj : ins[j]? = some (v, viewShape v)) (hok : DotOK ins w)
    (hperm : isPermOf perm v.length = true) (hv' : permuteL perm v = some v')
    (hplan : planInstr (ins.map (·.2)) (.transpose j perm) = .ok plan)
    (hσ : σ ∈ outAssignments w) :
    (conArgs base (ins.set j (v', viewShape v')) σ = none ∧ conArgs base ins σ = none) ∨
      ∃ r' r, conArgs base (ins.set j (v', viewShape v')) σ = some r' ∧ conArgs base ins σ = some r ∧
        r'.map (subst (permRegs (ins.set j (v', viewShape v')) j plan)) ~ r := by
  have hca : Consistent (ins.flatMap (fun p => Dim.leavesL p.1)) := hok.cons.left
  have hm := allLeaves_set (s' := viewShape v') hj (leavesL_permute hperm hv')
  have hmf : ∀ l, l ∈ ((ins.set j (v', viewShape v')).flatMap (fun p => Dim.leavesL p.1)).filter (·.marked)
      ↔ l ∈ (ins.flatMap (fun p => Dim.leavesL p.1)).filter (·.marked) := by
    intro l; simp only [List.mem_filter, hm l]
  have hperm_axes : dotMarked (ins.set j (v', viewShape v')) ~ dotMarked ins :=
    axesOf_perm hmf (hca.mono fun l hl => (hm l).mp (List.mem_filter.mp hl).1)
  exact mapOpt_assignments_perm hperm_axes (axesOf_nodup _) _
    (fun τ hτ => conTerm_permute_input hb hj hok hperm hv' hplan hσ hτ
      (fun q hq => dotMarked_axes _ q (hperm_axes.mem_iff.mp hq)))
    (fun τ τ' h => conTerm_congr hb ins (fun _ => rfl) h)

/-- **Permuting the root dimensions of one operand of a contraction -- contracted or not -- together with its tensor leaves
the whole result unchanged**, after `R`: any re-canonicaliser that sorts `red:f` again and leaves the terms alone. -/
theorem conCells_permute_input {base : Assign → Assign → Assign} (hb : BaseOK base) {f : String} {R : Cell → Cell}
    {ins : List (List Dim × List Nat)} {j : Nat} {v v' w : List Dim}
    {perm sw : List Nat} {plan : Plan}
    (hR : ∀ args, R (.app ("red:" ++ f) args) = .app ("red:" ++ f) (sortCells args))
    (hfix : ∀ σ τ c, conTerm base ins σ τ = some c → R c = c)
    (hj : ins[j]? = some (v, viewShape v)) (hok : DotOK ins w)
    (hperm : isPermOf perm v.length = true) (hv' : permuteL perm v = some v')
    (hplan : planInstr (ins.map (·.2)) (.transpose j perm) = .ok plan) :
    (genCells (conX f base (ins.set j (v', viewShape v'))) w sw).map
        (List.map (fun c => R (subst (permRegs (ins.set j (v', viewShape v')) j plan) c)))
      = genCells (conX f base ins) w sw := by
  rw [← genCells_map]
  refine genCells_congr fun σ hσ => ?_
  unfold conX
  rcases conArgs_permute_input hb hj hok hperm hv' hplan hσ with ⟨e1, e2⟩ | ⟨r', r, e1, e2, hp⟩
  · rw [e1, e2]; rfl
  · rw [e1, e2]
    exact congrArg some (canon_subst_mkRed hR _ hp
      (fun c hc => by obtain ⟨τ, _, hτ⟩ := mapOpt_mem e2 hc; exact hfix σ τ c hτ))

/-- **The same in value**, for every interpretation with permutation-invariant reductions (no assumption on
`multiply`). -/
theorem conCells_permute_input_sem {base : Assign → Assign → Assign} (hb : BaseOK base) {f : String}
    {α : Type} {A : Alg α} (hA : RedInvariant A) (xs : List (Tensor α))
    {ins : List (List Dim × List Nat)} {j : Nat} {v v' w : List Dim} {perm sw : List Nat} {plan : Plan}
    (hj : ins[j]? = some (v, viewShape v)) (hok : DotOK ins w)
    (hperm : isPermOf perm v.length = true) (hv' : permuteL perm v = some v')
    (hplan : planInstr (ins.map (·.2)) (.transpose j perm) = .ok plan) :
    (genCells (conX f base (ins.set j (v', viewShape v'))) w sw).map (List.map (evalCell A
        ((permRegs (ins.set j (v', viewShape v')) j plan).map (Tensor.map (evalCell A xs)))))
      = (genCells (conX f base ins) w sw).map (List.map (evalCell A xs)) := by
  rw [← conCells_permute_input hb (sw := sw) (resortAt_red f) (fun _ _ _ h => conTerm_src f h) hj hok hperm hv' hplan,
    Option.map_map, List.map_comp_map]
  refine genCells_map_congr fun σ hσ c' hX => ?_
  unfold conX at hX
  rcases conArgs_permute_input hb hj hok hperm hv' hplan hσ with ⟨e1, _⟩ | ⟨r', r, e1, e2, hp⟩
  · rw [e1] at hX; nomatch hX
  · rw [e1] at hX
    cases hX
    have hc := canon_subst_mkRed (R := Cell.resortAt ("red:" ++ f)) (resortAt_red f) _ hp
      (fun c hc => by obtain ⟨τ, _, hτ⟩ := mapOpt_mem e2 hc; exact conTerm_src f hτ)
    exact (eval_mkRed_subst hA f xs _ hp).trans (congrArg (evalCell A xs) hc.symm)

/-- **Parentheses on one operand** (`pre (mid) post` against `pre mid post`, the register reshaped): the results are
equal. -/
theorem conX_regroup_input (f : String) (base : Assign → Assign → Assign) (ins : List (List Dim × List Nat)) (j : Nat)
    (pre mid post : List Dim) :
    conX f base (ins.set j (pre ++ [Dim.flat mid] ++ post, viewShape (pre ++ [Dim.flat mid] ++ post)))
      = conX f base (ins.set j (pre ++ mid ++ post, viewShape (pre ++ mid ++ post))) := by
  funext σ
  unfold conX conArgs
  have hmk : dotMarked (ins.set j (pre ++ [Dim.flat mid] ++ post, viewShape (pre ++ [Dim.flat mid] ++ post)))
      = dotMarked (ins.set j (pre ++ mid ++ post, viewShape (pre ++ mid ++ post))) := by
    unfold dotMarked
    rw [List.flatMap_def, List.flatMap_def]
    rw [map_set_congr (fun p : List Dim × List Nat => Dim.leavesL p.1) ins j _
      (pre ++ mid ++ post, viewShape (pre ++ mid ++ post)) (by simp only [leavesL_regroup])]
  have hterm : conTerm base (ins.set j (pre ++ [Dim.flat mid] ++ post, viewShape (pre ++ [Dim.flat mid] ++ post))) σ
      = conTerm base (ins.set j (pre ++ mid ++ post, viewShape (pre ++ mid ++ post))) σ := by
    funext τ
    unfold conTerm
    rw [mapOpt_zipIdx_set_congr (inCellM (base σ τ) τ) ins j _ (pre ++ mid ++ post, viewShape (pre ++ mid ++ post))]
    exact inCellM_regroup (base σ τ) τ pre mid post j
  rw [hmk, hterm]

theorem dotOK_single {v w : List Dim} (hc : Dim.concatFreeL v = true)
    (hcons : Consistent (Dim.leavesL v ++ Dim.leavesL w)) (hms : MarkSep (Dim.leavesL v)) :
    DotOK [(v, viewShape v)] w where
  shape := fun p hp => by rw [List.mem_singleton.mp hp]; exact ⟨rfl, hc⟩
  msep := fun p hp => by rw [List.mem_singleton.mp hp]; exact hms
  cons := by simpa using hcons

theorem conTerm_single_src {v : List Dim} {s : List Nat} {σ τ : Assign} {c : Cell}
    (h : conTerm (fun σ _ => σ) [(v, s)] σ τ = some c) : Cell.resort c = c := by
  rw [conTerm_single] at h
  obtain ⟨k, rfl⟩ := inCellM_src h
  rfl

end Einx.Denote
