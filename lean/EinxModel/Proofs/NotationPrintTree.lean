import EinxModel.Proofs.NotationGrammars
import EinxModel.Proofs.NotationDigits
import EinxModel.Proofs.NotationPieces
import EinxModel.Proofs.NotationStack
/-!
# M1 Notation — from the printed text of a printable expression to its token tree

`Good`: token texts that are well separated (`wellSep`) and valid tokens.  It is kept by the ways the printer joins pieces:
separators (`SepOK`) and delimiter pairs (`DelimOK`).  `tree_of_print`: lexer, duplicate-space pass and delimiter stack on
`str(t)` yield a token tree that erases to `t.ptree`.
-/
namespace Einx.Notation

theorem textsL_append : ∀ (xs ys : List PTok), textsL (xs ++ ys) = textsL xs ++ textsL ys
  | [], _ => rfl
  | x :: xs, ys => by simp only [List.cons_append, textsL, textsL_append xs ys, List.append_assoc]

theorem wfL_append : ∀ (xs ys : List PTok), wfL (xs ++ ys) = (wfL xs && wfL ys)
  | [], _ => by simp [wfL]
  | x :: xs, ys => by simp only [List.cons_append, wfL, wfL_append xs ys, Bool.and_assoc]

/-- Texts of a piece: literal, or a word that is a valid token. -/
def goodText (p : Str) : Bool := literals.contains p || (isWord p && validToken p)

/-- The hypotheses of `lex_pieces`. -/
def Good (ps : List Str) : Prop := wellSep ps = true ∧ ∀ p ∈ ps, validToken p = true

theorem literal_valid {l : Str} (h : literals.contains l = true) : validToken l = true := by
  simp only [validToken, h, Bool.true_or]

theorem good_nil : Good [] := ⟨rfl, by simp⟩

theorem good_lit {l : Str} (h : literals.contains l = true) : Good [l] :=
  ⟨by simp only [wellSep, h, Bool.true_or], by intro p hp; simp at hp; subst hp; exact literal_valid h⟩

theorem good_word {w : Str} (h : isWord w = true) (hv : validToken w = true) : Good [w] :=
  ⟨by simp only [wellSep, h, Bool.or_true], by intro p hp; simp at hp; subst hp; exact hv⟩

theorem good_cons_lit {l : Str} {ps : List Str} (hl : literals.contains l = true) (h : Good ps) : Good (l :: ps) := by
  refine ⟨?_, ?_⟩
  · cases ps with
    | nil => simp only [wellSep, hl, Bool.true_or]
    | cons q r => simp only [wellSep, hl, Bool.true_or, Bool.true_and]; exact h.1
  · intro p hp
    rcases List.mem_cons.mp hp with rfl | hp
    · exact literal_valid hl
    · exact h.2 p hp

theorem good_append_lit : ∀ {xs : List Str} {l : Str} {ys : List Str}, Good xs → literals.contains l = true →
    Good (l :: ys) → Good (xs ++ l :: ys)
  | [], _, _, _, _, h => h
  | [p], l, ys, hx, hl, h => by
    refine ⟨?_, ?_⟩
    · have h1 := hx.1
      simp only [wellSep] at h1
      simp only [List.cons_append, List.nil_append, wellSep, hl, Bool.and_true]
      rw [h.1, Bool.and_true]
      cases hp : literals.contains p with
      | true => rfl
      | false => rw [hp] at h1; simpa using h1
    · intro q hq
      simp only [List.cons_append, List.nil_append, List.mem_cons] at hq
      rcases hq with rfl | hq
      · exact hx.2 _ (by simp)
      · exact h.2 q (List.mem_cons.mpr hq)
  | p :: q :: r, l, ys, hx, hl, h => by
    have h1 := hx.1
    simp only [wellSep, Bool.and_eq_true] at h1
    have ih := good_append_lit (xs := q :: r) ⟨h1.2, fun a ha => hx.2 a (List.mem_cons_of_mem _ ha)⟩ hl h
    refine ⟨?_, ?_⟩
    · simp only [List.cons_append, wellSep, Bool.and_eq_true]
      exact ⟨h1.1, ih.1⟩
    · intro a ha
      simp only [List.cons_append, List.mem_cons] at ha
      rcases ha with rfl | ha
      · exact hx.2 _ (by simp)
      · exact ih.2 a (List.mem_cons.mpr ha)

theorem good_snoc_lit {xs : List Str} {l : Str} (hx : Good xs) (hl : literals.contains l = true) : Good (xs ++ [l]) :=
  good_append_lit hx hl (good_lit hl)

theorem good_lits_append : ∀ {ls : List Str} {ys : List Str}, (∀ l ∈ ls, literals.contains l = true) → Good ys → Good (ls ++ ys)
  | [], _, _, h => h
  | l :: ls, ys, hl, h =>
    good_cons_lit (hl l (by simp)) (good_lits_append (fun a ha => hl a (List.mem_cons_of_mem _ ha)) h)

def SepOK (sep : List PTok) (s : Str) : Prop :=
  wfL sep = true ∧ textsL sep ≠ [] ∧ (∀ a ∈ textsL sep, literals.contains a = true) ∧
    hasAdjSpaces (textsL sep) = false ∧ (textsL sep).flatten = s

def DelimOK (o c : Str) (oc cc : Char) : Prop :=
  literals.contains o = true ∧ literals.contains c = true ∧ (delimsFront.contains o && closingOf o == some c) = true ∧
    (o == spaceLit) = false ∧ (c == spaceLit) = false ∧ o = [oc] ∧ c = [cc]

section
variable {sep : List PTok} {s : Str} (h : SepOK sep s)
include h
theorem SepOK.wf : wfL sep = true := h.1
theorem SepOK.texts_ne : textsL sep ≠ [] := h.2.1
theorem SepOK.lits : ∀ a ∈ textsL sep, literals.contains a = true := h.2.2.1
theorem SepOK.noAdj : hasAdjSpaces (textsL sep) = false := h.2.2.2.1
theorem SepOK.flatten : (textsL sep).flatten = s := h.2.2.2.2
end

section
variable {o c : Str} {oc cc : Char} (h : DelimOK o c oc cc)
include h
theorem DelimOK.open_lit : literals.contains o = true := h.1
theorem DelimOK.close_lit : literals.contains c = true := h.2.1
theorem DelimOK.wf : (delimsFront.contains o && closingOf o == some c) = true := h.2.2.1
theorem DelimOK.open_ne_space : (o == spaceLit) = false := h.2.2.2.1
theorem DelimOK.close_ne_space : (c == spaceLit) = false := h.2.2.2.2.1
theorem DelimOK.open_eq : o = [oc] := h.2.2.2.2.2.1
theorem DelimOK.close_eq : c = [cc] := h.2.2.2.2.2.2
end

theorem good_sep {xs ys S : List Str} (hx : Good xs) (hne : S ≠ []) (hS : ∀ a ∈ S, literals.contains a = true)
    (hy : Good ys) : Good (xs ++ S ++ ys) := by
  obtain ⟨l, ls, rfl⟩ := List.exists_cons_of_ne_nil hne
  rw [List.append_assoc, List.cons_append]
  have hl := hS l (by simp)
  exact good_append_lit hx hl (good_cons_lit hl (good_lits_append (fun a ha => hS a (List.mem_cons_of_mem _ ha)) hy))

theorem good_joinP {sep : List PTok} {s : Str} (hs : SepOK sep s) :
    ∀ (ps : List (List PTok)), (∀ p ∈ ps, Good (textsL p)) → Good (textsL (joinP sep ps))
  | [], _ => good_nil
  | [x], h => h x (by simp)
  | x :: y :: xs, h => by
    simp only [joinP, textsL_append]
    exact good_sep (h x (by simp)) hs.texts_ne hs.lits (good_joinP hs (y :: xs) (fun p hp => h p (List.mem_cons_of_mem _ hp)))

theorem wfL_joinP {sep : List PTok} (hsep : wfL sep = true) :
    ∀ (ps : List (List PTok)), (∀ p ∈ ps, wfL p = true) → wfL (joinP sep ps) = true
  | [], _ => rfl
  | [x], h => h x (by simp)
  | x :: y :: xs, h => by
    simp only [joinP, wfL_append, Bool.and_eq_true]
    exact ⟨⟨h x (by simp), hsep⟩, wfL_joinP hsep (y :: xs) (fun p hp => h p (List.mem_cons_of_mem _ hp))⟩

theorem flatten_textsL_joinP (sep : List PTok) : ∀ (ps : List (List PTok)),
    (textsL (joinP sep ps)).flatten = joinWith (textsL sep).flatten (ps.map (fun p => (textsL p).flatten))
  | [] => rfl
  | [x] => rfl
  | x :: y :: xs => by
    simp only [joinP, textsL_append, List.flatten_append, List.map_cons, joinWith, flatten_textsL_joinP sep (y :: xs),
      List.append_assoc]

theorem isAxisName_isWord {n : Str} (h : isAxisName n = true) : isWord n = true := by
  cases n with
  | nil => simp [isAxisName] at h
  | cons c cs =>
    simp only [isAxisName, Bool.and_eq_true] at h
    simp only [isWord, List.isEmpty_cons, Bool.not_false, List.all_cons, Bool.true_and, Bool.and_eq_true]
    refine ⟨?_, h.2⟩
    have := h.1
    simp only [isNameStart, isNameCont, Bool.or_eq_true] at this ⊢
    rcases this with h1 | h1
    · exact Or.inl (Or.inl h1)
    · exact Or.inr h1

theorem isAxisName_valid {n : Str} (h : isAxisName n = true) : validToken n = true := by
  simp [validToken, h]

theorem word_not_delim {w : Str} (h : isWord w = true) : (!delimsFront.contains w && !delimsBack.contains w) = true := by
  cases w with
  | nil => simp [isWord] at h
  | cons c cs =>
    simp only [isWord, List.isEmpty_cons, Bool.not_false, List.all_cons, Bool.true_and, Bool.and_eq_true] at h
    have hc := h.1
    have h1 : c ≠ '(' := by intro h0; subst h0; revert hc; decide +kernel
    have h2 : c ≠ '[' := by intro h0; subst h0; revert hc; decide +kernel
    have h3 : c ≠ ')' := by intro h0; subst h0; revert hc; decide +kernel
    have h4 : c ≠ ']' := by intro h0; subst h0; revert hc; decide +kernel
    simp [delimsFront, delimsBack, Einx.Extracted.delimitersFront, Einx.Extracted.delimitersBack, h1, h2, h3, h4]

/-- The facts about the literal tables that the printer proofs use, evaluated once. -/
theorem seps_ok : SepOK sepPlus (lit " + ") ∧ SepOK sepList (lit " ") ∧ SepOK sepArgs (lit ", ") ∧ SepOK sepOp (lit " -> ") := by
  unfold SepOK
  decide +kernel

theorem delims_ok : DelimOK (lit "(") (lit ")") '(' ')' ∧ DelimOK (lit "[") (lit "]") '[' ']' := by
  unfold DelimOK
  decide +kernel

theorem ell_ok : literals.contains (lit "...") = true ∧ (PTok.atom (lit "...")).wf = true ∧
    (lit "..." == spaceLit) = false := by decide +kernel

theorem natStr_valid (k : Nat) : validToken (natStr k) = true := by
  simp only [validToken, natStr_isDigitStr, Bool.or_true]

/-- `s` is the concatenation of the texts of the token tree `P`, which `lex_pieces` can lex (`Good`) and `buildTree_texts`
    can nest (`wfL`). -/
def TextsOK (s : Str) (P : List PTok) : Prop :=
  s = (textsL P).flatten ∧ Good (textsL P) ∧ wfL P = true

theorem ptreeL_eq_map : ∀ cs : List Expr, ptreeL cs = cs.map Expr.ptree
  | [] => by simp only [ptreeL, List.map_nil]
  | c :: cs => by simp only [ptreeL, List.map_cons, ptreeL_eq_map cs]

theorem forall_ptreeL {P : List PTok → Prop} {cs : List Expr} (h : ∀ c ∈ cs, P c.ptree) : ∀ Q ∈ ptreeL cs, P Q := by
  rw [ptreeL_eq_map]
  exact List.forall_mem_map.mpr h

theorem textsOK_atom {w : Str} (hg : Good [w]) (hwf : (PTok.atom w).wf = true) : TextsOK w [.atom w] := by
  refine ⟨?_, ?_, ?_⟩
  · simp only [textsL, PTok.texts, List.append_nil, List.flatten_singleton]
  · simpa only [textsL, PTok.texts, List.append_nil] using hg
  · simpa only [wfL, Bool.and_true] using hwf

theorem textsOK_group {o c : Str} {oc cc : Char} {inner : List PTok} {s : Str} (hd : DelimOK o c oc cc)
    (h : TextsOK s inner) : TextsOK (oc :: (s ++ [cc])) [.group o c inner] := by
  refine ⟨?_, ?_, ?_⟩
  · simp only [textsL, PTok.texts, List.append_nil, List.flatten_cons, List.flatten_append, List.flatten_nil, ← h.1,
      hd.open_eq, hd.close_eq, List.cons_append, List.nil_append]
  · simp only [textsL, PTok.texts, List.append_nil]
    exact good_cons_lit hd.open_lit (good_snoc_lit h.2.1 hd.close_lit)
  · simp only [wfL, PTok.wf, h.2.2, Bool.and_true]
    exact hd.wf

theorem textsOK_snoc {P : List PTok} {s l : Str} (hl : literals.contains l = true) (hwf : (PTok.atom l).wf = true)
    (h : TextsOK s P) : TextsOK (s ++ l) (P ++ [.atom l]) := by
  refine ⟨?_, ?_, ?_⟩
  · simp only [textsL_append, List.flatten_append, textsL, PTok.texts, List.append_nil, List.flatten_singleton, ← h.1]
  · simp only [textsL_append, textsL, PTok.texts, List.append_nil]
    exact good_snoc_lit h.2.1 hl
  · simp only [wfL_append, h.2.2, wfL, hwf, Bool.and_true]

theorem textsOK_join {sep : List PTok} {s : Str} {cs : List Expr} (hs : SepOK sep s)
    (h : ∀ c ∈ cs, TextsOK c.print c.ptree) : TextsOK (joinWith s (printL cs)) (joinP sep (ptreeL cs)) := by
  refine ⟨?_, good_joinP hs _ (forall_ptreeL fun c hc => (h c hc).2.1),
    wfL_joinP hs.wf _ (forall_ptreeL fun c hc => (h c hc).2.2)⟩
  have hp : printL cs = (ptreeL cs).map (fun p => (textsL p).flatten) := by
    induction cs with
    | nil => rfl
    | cons c cs ih =>
      simp only [printL, ptreeL, List.map_cons, ← (h c List.mem_cons_self).1, ← ih fun a ha => h a (List.mem_cons_of_mem _ ha)]
  rw [flatten_textsL_joinP, hp, hs.flatten]

theorem textsOK_PT {inBr al : Bool} {a : Expr} (h : PT inBr al a = true) : TextsOK a.print a.ptree := by
  induction h using PT.rules with
  | named hn =>
    exact textsOK_atom (good_word (isAxisName_isWord hn) (isAxisName_valid hn)) (word_not_delim (isAxisName_isWord hn))
  | @valued _ _ _ k =>
    exact textsOK_atom (good_word (natStr_isWord k) (natStr_valid k)) (word_not_delim (natStr_isWord k))
  | flat _ _ _ ih =>
    simp only [Expr.print, Expr.ptree]
    exact textsOK_group delims_ok.1 ih
  | brackets _ _ _ ih =>
    simp only [Expr.print, Expr.ptree]
    exact textsOK_group delims_ok.2 ih
  | dots =>
    simp only [Expr.print, Expr.ptree, isAnonAxis_anon, if_true]
    exact textsOK_atom (good_lit ell_ok.1) ell_ok.2.1
  | @ell _ _ i _ _ _ ha hop _ ih =>
    have hl : isListLenNe1 i = false := by cases i <;> first | rfl | cases hop
    simp only [Expr.print, Expr.ptree, ha, hl, Bool.false_eq_true, if_false]
    exact textsOK_snoc ell_ok.1 ell_ok.2.1 ih
  | concat _ _ _ ih =>
    simp only [Expr.print, Expr.ptree]
    exact textsOK_group delims_ok.1 (textsOK_join seps_ok.1 ih)
  | list _ _ ih => exact textsOK_join seps_ok.2.1 ih

theorem textsOK_PArgs {a : Expr} (h : PArgs a = true) : TextsOK a.print a.ptree := by
  induction h using PArgs.rules with
  | args _ has => exact textsOK_join seps_ok.2.2.1 fun c hc => textsOK_PT (has c hc)

theorem textsOK_PRoot {t : Expr} (h : PRoot t = true) : TextsOK t.print t.ptree := by
  induction h using PRoot.rules with
  | one hs => exact textsOK_join seps_ok.2.2.2 (by simpa using textsOK_PArgs hs)
  | two h1 h2 => exact textsOK_join seps_ok.2.2.2 (by simpa using ⟨textsOK_PArgs h1, textsOK_PArgs h2⟩)

theorem tree_of_print (t : Expr) (h : PRoot t = true) (hadj : hasAdjSpaces (textsL t.ptree) = false) :
    ∃ toks T, lex t.print = .ok toks ∧ buildTree (dedupSpaces toks false) [] [] = .ok T ∧ eraseL T = t.ptree := by
  obtain ⟨h1, h2, h3⟩ := textsOK_PRoot h
  obtain ⟨toks, hl, ht⟩ := lex_pieces (textsL t.ptree) h2.1 h2.2
  obtain ⟨T, hT, hE⟩ := buildTree_texts t.ptree h3 toks ht
  refine ⟨toks, T, by rw [h1]; exact hl, ?_, hE⟩
  rw [dedup_no_adj toks (by rw [ht]; exact hadj)]
  exact hT

end Einx.Notation
