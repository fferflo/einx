import EinxModel.Cache.NumHash
import Mathlib.Tactic.Ring
import Mathlib.Data.Nat.ModEq
/-!
Lemmas for `Props/C06Num.lean`: the 61-bit rotation is multiplication by a power of two modulo `2^61 - 1`; the digit loop
of `long_hash` and the mantissa loop of `_Py_HashDouble` compute the residue of the value.
-/
namespace Einx.Cache.NumHash
open Einx.Cache

theorem P_val : P = 2305843009213693951 := by decide

theorem P_pos : 0 < P := by rw [P_val]; omega

/-- The rotation written with arithmetic instead of bit operations. -/
theorem rotl_eq (x k : Nat) (hx : x < P) (hk : k ≤ 61) :
    rotl x k = (x % 2 ^ (61 - k)) * 2 ^ k + x / 2 ^ (61 - k) := by
  have h61 : 2 ^ 61 = 2 ^ (61 - k) * 2 ^ k := by rw [← Nat.pow_add]; congr 1; omega
  have hq : x / 2 ^ (61 - k) < 2 ^ k := by
    apply Nat.div_lt_of_lt_mul
    rw [← h61]
    have : P < 2 ^ 61 := by rw [P_val]; omega
    omega
  unfold rotl P
  rw [Nat.and_two_pow_sub_one_eq_mod, Nat.shiftLeft_eq, Nat.shiftRight_eq_div_pow, h61, Nat.mul_mod_mul_right,
    Nat.mul_comm (x % _) (2 ^ k)]
  exact (Nat.two_pow_add_eq_or_of_lt hq _).symm

/-- **Rotation by `k` inside 61 bits is multiplication by `2^k` modulo `2^61 - 1`** (on reduced values). -/
theorem rotl_spec (x k : Nat) (hx : x < P) (hk : k ≤ 61) : rotl x k < P ∧ rotl x k = (x * 2 ^ k) % P := by
  rw [rotl_eq x k hx hk]
  have hAB : 2 ^ (61 - k) * 2 ^ k = P + 1 := by
    rw [← Nat.pow_add, P_val]
    have : 61 - k + k = 61 := by omega
    rw [this]
  have hBpos : 0 < 2 ^ (61 - k) := Nat.two_pow_pos _
  have hApos : 0 < 2 ^ k := Nat.two_pow_pos _
  generalize 2 ^ (61 - k) = B at *
  generalize 2 ^ k = A at *
  have hx' : B * (x / B) + x % B = x := Nat.div_add_mod x B
  have hr : x % B < B := Nat.mod_lt _ hBpos
  have hq : x / B < A := by
    apply Nat.div_lt_of_lt_mul
    omega
  generalize x / B = q at *
  generalize x % B = r at *
  have h1 : (r + 1) * A ≤ B * A := Nat.mul_le_mul_right A hr
  have h1' : (r + 1) * A = r * A + A := by ring
  have h2 : B * (q + 1) = B * q + B := by ring
  have hlt : r * A + q < P := by
    by_contra hge
    have hge' : P ≤ r * A + q := Nat.le_of_not_lt hge
    have hqA : q + 1 = A := by omega
    have h3 : B * A ≤ (r + 1) * A := by omega
    have h4 : B ≤ r + 1 := Nat.le_of_mul_le_mul_right h3 hApos
    have h5 : B * (q + 1) = P + 1 := by rw [hqA]; exact hAB
    omega
  refine ⟨hlt, ?_⟩
  have hxa : x * A = (r * A + q) + P * q := by
    rw [← hx']
    calc (B * q + r) * A = (B * A) * q + r * A := by ring
      _ = (P + 1) * q + r * A := by rw [hAB]
      _ = _ := by ring
  rw [hxa, Nat.add_mul_mod_self_left, Nat.mod_eq_of_lt hlt]

/-- One step of either loop: `x ↦ (x · 2^k + y) mod P`. -/
theorem accum_spec (k x y : Nat) (hx : x < P) (hk : k ≤ 61) (hy : y < P) :
    accum k x y < P ∧ accum k x y = (x * 2 ^ k + y) % P := by
  obtain ⟨hlt, heq⟩ := rotl_spec x k hx hk
  have hmod : (x * 2 ^ k + y) % P = (rotl x k + y) % P := by rw [heq, Nat.mod_add_mod]
  unfold accum
  simp only
  rw [hmod]
  by_cases hge : rotl x k + y ≥ P
  · rw [if_pos hge]
    have h2 : rotl x k + y - P < P := by omega
    refine ⟨h2, ?_⟩
    rw [Nat.mod_eq_sub_mod hge, Nat.mod_eq_of_lt h2]
  · rw [if_neg hge]
    have h2 : rotl x k + y < P := by omega
    exact ⟨h2, (Nat.mod_eq_of_lt h2).symm⟩

theorem longLoop_cons (d : Nat) (ds : List Nat) : longLoop (d :: ds) = accum 30 (longLoop ds) d := rfl

theorem mod_mul_add_mod (a c d : Nat) : ((a % P) * c + d) % P = (a * c + d) % P := by
  rw [Nat.add_mod, Nat.mod_mul_mod, ← Nat.add_mod]

/-- **The digit loop of `long_hash` computes `|n| mod (2^61 - 1)`.** -/
theorem longLoop_digits (n : Nat) : longLoop (digits30 n) < P ∧ longLoop (digits30 n) = n % P := by
  induction n using Nat.strongRecOn with
  | _ n ih =>
    rw [digits30]
    by_cases h : n = 0
    · subst h
      simp [longLoop, P_pos]
    · rw [dif_neg h]
      have hlt : n / 2 ^ 30 < n := Nat.div_lt_self (Nat.pos_of_ne_zero h) (by decide)
      obtain ⟨h1, h2⟩ := ih _ hlt
      have hd : n % 2 ^ 30 < P := by rw [P_val]; omega
      have := accum_spec 30 (longLoop (digits30 (n / 2 ^ 30))) (n % 2 ^ 30) h1 (by omega) hd
      rw [longLoop_cons]
      refine ⟨this.1, ?_⟩
      rw [this.2, h2, mod_mul_add_mod, Nat.div_add_mod' n (2 ^ 30)]

/-! ### The mantissa loop of `_Py_HashDouble` -/

/-- `2^z mod P` for an integer exponent: `2` has order 61 modulo `2^61 - 1`. -/
def pw (z : Int) : Nat := 2 ^ (z % 61).toNat

theorem two_pow_61 : 2 ^ 61 ≡ 1 [MOD P] := by
  unfold Nat.ModEq
  rw [P_val]
  decide

theorem two_pow_mod (n : Nat) : 2 ^ n ≡ 2 ^ (n % 61) [MOD P] := by
  have h : 2 ^ n = (2 ^ 61) ^ (n / 61) * 2 ^ (n % 61) := by
    rw [← Nat.pow_mul, ← Nat.pow_add, Nat.div_add_mod]
  calc 2 ^ n = (2 ^ 61) ^ (n / 61) * 2 ^ (n % 61) := h
    _ ≡ 1 ^ (n / 61) * 2 ^ (n % 61) [MOD P] := Nat.ModEq.mul_right _ (Nat.ModEq.pow _ two_pow_61)
    _ = 2 ^ (n % 61) := by rw [Nat.one_pow, Nat.one_mul]

theorem pw_nat (n : Nat) : pw (n : Int) ≡ 2 ^ n [MOD P] := by
  have h : ((n : Int) % 61).toNat = n % 61 := by omega
  unfold pw
  rw [h]
  exact (two_pow_mod n).symm

theorem pw_add (u v : Int) : pw (u + v) ≡ pw u * pw v [MOD P] := by
  unfold pw
  have hu : u % 61 = ((u % 61).toNat : Int) := (Int.toNat_of_nonneg (Int.emod_nonneg _ (by decide))).symm
  have hv : v % 61 = ((v % 61).toNat : Int) := (Int.toNat_of_nonneg (Int.emod_nonneg _ (by decide))).symm
  have h : ((u + v) % 61).toNat = ((u % 61).toNat + (v % 61).toNat) % 61 := by
    rw [Int.add_emod, hu, hv]
    exact Int.toNat_natCast _
  rw [h, ← Nat.pow_add]
  exact (two_pow_mod _).symm

theorem two_pow_mul_pw (n : Nat) {z z' : Int} (h : (n : Int) + z = z') : 2 ^ n * pw z ≡ pw z' [MOD P] :=
  h ▸ ((pw_nat n).symm.mul_right _).trans (pw_add n z).symm

theorem lt_two_pow_bitLen (a : Nat) : a < 2 ^ bitLen a := by
  induction a using Nat.strongRecOn with
  | _ a ih =>
    rw [bitLen]
    by_cases h : a = 0
    · subst h; simp
    · rw [dif_neg h]
      have := ih (a / 2) (Nat.div_lt_self (Nat.pos_of_ne_zero h) (by decide))
      rw [Nat.pow_succ]
      omega

/-- One round of the mantissa loop: 28 more bits `y`, the exponent 28 lower. -/
theorem accum_pw (x y : Nat) (e : Int) (hx : x < P) (hy : y < 2 ^ 28) :
    accum 28 x y < P ∧ accum 28 x y * pw (e - 28) ≡ x * pw e + y * pw (e - 28) [MOD P] := by
  obtain ⟨h1, h2⟩ := accum_spec 28 x y hx (by omega) (by rw [P_val]; omega)
  refine ⟨h1, ?_⟩
  have c1 : 2 ^ 28 * pw (e - 28) ≡ pw e [MOD P] := two_pow_mul_pw 28 (by omega)
  rw [h2]
  calc (x * 2 ^ 28 + y) % P * pw (e - 28)
      ≡ (x * 2 ^ 28 + y) * pw (e - 28) [MOD P] := (Nat.mod_modEq _ _).mul_right _
    _ = x * (2 ^ 28 * pw (e - 28)) + y * pw (e - 28) := by rw [Nat.add_mul, Nat.mul_assoc]
    _ ≡ x * pw e + y * pw (e - 28) [MOD P] := (c1.mul_left x).add_right _

/-- **Invariant of the mantissa loop**: with `m = a / 2^L`, the quantity `x · 2^e + m · 2^e` (modulo `2^61 - 1`, the
exponent read modulo 61) is preserved; at the end the mantissa is used up. -/
theorem dblLoop_spec (L : Nat) : ∀ (a x : Nat) (e : Int), a < 2 ^ L → x < P →
    (dblLoop a L x e).1 < P ∧ (dblLoop a L x e).1 * pw (dblLoop a L x e).2 ≡ x * pw e + a * pw (e - L) [MOD P] := by
  induction L using Nat.strongRecOn with
  | _ L ih =>
    intro a x e ha hx
    rw [dblLoop]
    by_cases h0 : a = 0
    · subst h0
      simp only [if_true]
      refine ⟨hx, ?_⟩
      rw [Nat.zero_mul, Nat.add_zero]
    · rw [if_neg h0]
      by_cases hL : L ≤ 28
      · rw [if_pos hL]
        have hy : a <<< (28 - L) < 2 ^ 28 := by
          rw [Nat.shiftLeft_eq, show 2 ^ 28 = 2 ^ L * 2 ^ (28 - L) by rw [← Nat.pow_add]; congr 1; omega]
          exact Nat.mul_lt_mul_of_lt_of_le ha (Nat.le_refl _) (Nat.two_pow_pos _)
        obtain ⟨h1, h2⟩ := accum_pw x _ e hx hy
        refine ⟨h1, h2.trans (Nat.ModEq.add_left _ ?_)⟩
        have c2 : 2 ^ (28 - L) * pw (e - 28) ≡ pw (e - L) [MOD P] := two_pow_mul_pw (28 - L) (by omega)
        rw [Nat.shiftLeft_eq, Nat.mul_assoc]
        exact c2.mul_left a
      · rw [if_neg hL]
        have hL' : 28 < L := Nat.lt_of_not_le hL
        have hy : a >>> (L - 28) < 2 ^ 28 := by
          rw [Nat.shiftRight_eq_div_pow]
          apply Nat.div_lt_of_lt_mul
          rw [← Nat.pow_add, show L - 28 + 28 = L by omega]
          exact ha
        obtain ⟨h1, h2⟩ := accum_pw x _ e hx hy
        obtain ⟨i1, i2⟩ := ih (L - 28) (by omega) (a % 2 ^ (L - 28)) _ (e - 28) (Nat.mod_lt _ (Nat.two_pow_pos _)) h1
        refine ⟨i1, i2.trans ?_⟩
        have c2 : 2 ^ (L - 28) * pw (e - L) ≡ pw (e - 28) [MOD P] := two_pow_mul_pw (L - 28) (by omega)
        rw [show e - 28 - ((L - 28 : Nat) : Int) = e - L by omega, Nat.shiftRight_eq_div_pow]
        rw [Nat.shiftRight_eq_div_pow] at h2
        -- the bits consumed in this round and the remaining ones make up `a`
        calc accum 28 x (a / 2 ^ (L - 28)) * pw (e - 28) + a % 2 ^ (L - 28) * pw (e - L)
            ≡ x * pw e + a / 2 ^ (L - 28) * pw (e - 28) + a % 2 ^ (L - 28) * pw (e - L) [MOD P] := h2.add_right _
          _ ≡ x * pw e + a / 2 ^ (L - 28) * (2 ^ (L - 28) * pw (e - L)) + a % 2 ^ (L - 28) * pw (e - L) [MOD P] :=
              ((c2.mul_left _).symm.add_left _).add_right _
          _ = x * pw e + (2 ^ (L - 28) * (a / 2 ^ (L - 28)) + a % 2 ^ (L - 28)) * pw (e - L) := by
              rw [Nat.add_mul, ← Nat.mul_assoc, Nat.mul_comm (a / _), Nat.add_assoc]
          _ = x * pw e + a * pw (e - L) := by rw [Nat.div_add_mod]

theorem finalShift_eq (e : Int) : finalShift e = (e % 61).toNat := by
  unfold finalShift
  split <;> omega

end Einx.Cache.NumHash
