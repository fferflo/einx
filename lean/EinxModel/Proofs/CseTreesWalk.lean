import EinxModel.Proofs.CseTreesBasic
/-!
The replacement walk `repl` and its events `trace`, for arbitrary searches `mn` (node level) and `ma` (list loop); nothing is
assumed about a candidate list.  If every event is good for a pair of assignments (before / after: a copied unknown axis keeps
its length, `cse.<k>` has the value of what it replaces, a replaced root-level part has one dimension), the output nodes have
the values of the input nodes.  Events arise only where a search hits; renumbering the answers of the searches renames the new axes.
-/
namespace Einx.Solve.CseT
open Einx.Solve

def isList : VExpr → Bool
  | .list _ => true
  | _ => false

theorem noListL_cons (c : VExpr) (cs : List VExpr) : noListL (c :: cs) = (!isList c && noListL cs) := by
  cases c <;> simp [noListL, isList]

section
variable (mn : Id → Option Nat) (ma : Id → Nat → Nat → Option (Nat × Nat))

section Cases
variable {mn ma} {id pid : Id} {ts' : List VExpr}

theorem repl_matched_ok {k : Nat} (h : mn id = some k) {e : VExpr}
    (hr : repl cseName mn ma id e = .ok ts') :
    ∃ m ub, valueRange e = some (m, ub) ∧ ts' = [.axis (cseName k) (valueOf e) m] := by
  have he : repl cseName mn ma id e = (do pure [← newAxis (cseName k) (valueOf e) (valueRange e)]) := by
    cases e <;> simp [repl, nodeOr, h]
  obtain ⟨a, ha, hp⟩ := bind_ok.mp (he ▸ hr)
  obtain ⟨m, ub, hrange, rfl⟩ := newAxis_ok ha
  exact ⟨m, ub, hrange, (pure_ok.mp hp).symm⟩

theorem trace_matched {k : Nat} (h : mn id = some k) (lvl : Bool) (e : VExpr) :
    trace mn ma lvl id e = [.used k e 1 lvl] := by
  cases e <;> simp [trace, evNode, h]

theorem repl_axis_ok (hm : mn id = none) {n : String} {v : Option Nat} {m : Nat}
    (h : repl cseName mn ma id (.axis n v m) = .ok ts') : ts' = [.axis n v m] := by
  simp only [repl, nodeOr, hm] at h
  exact (pure_ok.mp h).symm

theorem repl_flat_ok (hm : mn id = none) {e : VExpr} (h : repl cseName mn ma id (.flat e) = .ok ts') :
    ∃ ts2, repl cseName mn ma (id ++ [0]) e = .ok ts2 ∧ ts' = [mkFlat (mkList ts2)] := by
  simp only [repl, nodeOr, hm] at h
  obtain ⟨ts2, h2, hp⟩ := bind_ok.mp h
  exact ⟨ts2, h2, (pure_ok.mp hp).symm⟩

theorem repl_brackets_ok (hm : mn id = none) {e : VExpr} (h : repl cseName mn ma id (.brackets e) = .ok ts') :
    ∃ ts2, repl cseName mn ma (id ++ [0]) e = .ok ts2 ∧ ts' = [mkBrackets (mkList ts2)] := by
  simp only [repl, nodeOr, hm] at h
  obtain ⟨ts2, h2, hp⟩ := bind_ok.mp h
  exact ⟨ts2, h2, (pure_ok.mp hp).symm⟩

theorem repl_concat_ok (hm : mn id = none) {cs : List VExpr} (h : repl cseName mn ma id (.concat cs) = .ok ts') :
    ∃ ts2 c, replC cseName mn ma id 0 cs = .ok ts2 ∧ mkConcat ts2 = .ok c ∧ ts' = [c] := by
  simp only [repl, nodeOr, hm] at h
  obtain ⟨ts2, h2, hr2⟩ := bind_ok.mp h
  obtain ⟨c, hc, hp⟩ := bind_ok.mp hr2
  exact ⟨ts2, c, h2, hc, (pure_ok.mp hp).symm⟩

theorem repl_list_eq (hm : mn id = none) (cs : List VExpr) :
    repl cseName mn ma id (.list cs) =
      if cs.length == 1 then replC cseName mn ma id 0 cs else replL cseName mn ma id cs.length 0 0 cs := by
  simp only [repl, nodeOr, hm]

theorem replC_cons_ok {k : Nat} {c : VExpr} {cs : List VExpr} (h : replC cseName mn ma pid k (c :: cs) = .ok ts') :
    ∃ a r, repl cseName mn ma (pid ++ [k]) c = .ok a ∧ replC cseName mn ma pid (k + 1) cs = .ok r ∧ ts' = a ++ r := by
  simp only [replC] at h
  obtain ⟨a, ha, hr2⟩ := bind_ok.mp h
  obtain ⟨r, hrr, hp⟩ := bind_ok.mp hr2
  exact ⟨a, r, ha, hrr, (pure_ok.mp hp).symm⟩

theorem replL_hit_ok {n i idx len : Nat} {t : VExpr} {ts : List VExpr} (hma : ma pid i n = some (idx, len))
    (h : replL cseName mn ma pid n i 0 (t :: ts) = .ok ts') :
    ∃ m r, (∃ ub, valueRange (.list ((t :: ts).take len)) = some (m, ub)) ∧
      replL cseName mn ma pid n (i + 1) (len - 1) ts = .ok r ∧
      ts' = .axis (cseName idx) (valueOf (.list ((t :: ts).take len))) m :: r := by
  simp only [replL, Nat.lt_irrefl, if_false, hma] at h
  obtain ⟨a, ha, hr2⟩ := bind_ok.mp h
  obtain ⟨r, hrr, hp⟩ := bind_ok.mp hr2
  obtain ⟨m, ub, hrange, rfl⟩ := newAxis_ok ha
  exact ⟨m, r, ⟨ub, hrange⟩, hrr, by rw [← pure_ok.mp hp]; simp only [valueOf]⟩

theorem replL_miss_ok {n i : Nat} {t : VExpr} {ts : List VExpr} (hma : ma pid i n = none)
    (h : replL cseName mn ma pid n i 0 (t :: ts) = .ok ts') :
    ∃ a r, repl cseName mn ma (pid ++ [i]) t = .ok a ∧ replL cseName mn ma pid n (i + 1) 0 ts = .ok r ∧ ts' = a ++ r := by
  simp only [replL, Nat.lt_irrefl, if_false, hma] at h
  obtain ⟨a, ha, hr2⟩ := bind_ok.mp h
  obtain ⟨r, hrr, hp⟩ := bind_ok.mp hr2
  exact ⟨a, r, ha, hrr, (pure_ok.mp hp).symm⟩

theorem replL_skip {n i skip : Nat} (hs : 0 < skip) (t : VExpr) (ts : List VExpr) :
    replL cseName mn ma pid n i skip (t :: ts) = replL cseName mn ma pid n (i + 1) (skip - 1) ts := by
  simp only [replL, hs, if_true]

theorem traceL_skip {lvl : Bool} {n i skip : Nat} (hs : 0 < skip) (t : VExpr) (ts : List VExpr) :
    traceL mn ma lvl pid n i skip (t :: ts) = traceL mn ma lvl pid n (i + 1) (skip - 1) ts := by
  simp only [traceL, hs, if_true]

theorem traceL_hit {lvl : Bool} {n i idx len : Nat} (hma : ma pid i n = some (idx, len)) (t : VExpr) (ts : List VExpr) :
    traceL mn ma lvl pid n i 0 (t :: ts) =
      .used idx (.list ((t :: ts).take len)) len lvl :: traceL mn ma lvl pid n (i + 1) (len - 1) ts := by
  simp only [traceL, Nat.lt_irrefl, if_false, hma]

theorem traceL_miss {lvl : Bool} {n i : Nat} (hma : ma pid i n = none) (t : VExpr) (ts : List VExpr) :
    traceL mn ma lvl pid n i 0 (t :: ts) = trace mn ma lvl (pid ++ [i]) t ++ traceL mn ma lvl pid n (i + 1) 0 ts := by
  simp only [traceL, Nat.lt_irrefl, if_false, hma]

end Cases

variable (σ σ' : Var → Nat)

theorem used_axis_eval {k : Nat} {e : VExpr} {len : Nat} {r : Bool} (m : Nat)
    (hg : GoodEv σ σ' (.used k e len r)) : evalV σ' (.axis (cseName k) (valueOf e) m) = evalV σ e := by
  obtain ⟨_, h2, _⟩ := hg
  cases hv : valueOf e with
  | none => simp only [evalV]; exact h2 hv
  | some v => simp only [evalV]; exact (valueOf_some_eval σ e v hv).symm

def RNode (t : VExpr) : Prop :=
  ∀ (lvl : Bool) (id : Id) (ts' : List VExpr), wfV t = true → repl cseName mn ma id t = .ok ts' →
    (∀ ev ∈ trace mn ma lvl id t, GoodEv σ σ' ev) →
    natProd (evalVL σ' ts') = evalV σ t ∧ (lvl = true → evalVL σ' (itemsL ts') = evalVL σ (items t)) ∧
      (isList t = false → ∃ t', ts' = [t'])

def RList (l : List VExpr) : Prop :=
  (∀ (lvl : Bool) (pid : Id) (n i skip : Nat) (ts' : List VExpr), wfVL l = true →
    replL cseName mn ma pid n i skip l = .ok ts' → (∀ ev ∈ traceL mn ma lvl pid n i skip l, GoodEv σ σ' ev) →
    natProd (evalVL σ' ts') = natProd (evalVL σ (l.drop skip)) ∧
      (lvl = true → evalVL σ' (itemsL ts') = evalVL σ (itemsL (l.drop skip)))) ∧
  (∀ (lvl : Bool) (pid : Id) (k : Nat) (ts' : List VExpr), wfVL l = true →
    replC cseName mn ma pid k l = .ok ts' → (∀ ev ∈ traceC mn ma lvl pid k l, GoodEv σ σ' ev) →
    natProd (evalVL σ' ts') = natProd (evalVL σ l) ∧
      (lvl = true → evalVL σ' (itemsL ts') = evalVL σ (itemsL l)) ∧
      (noListL l = true → evalVL σ' ts' = evalVL σ l ∧ ts'.length = l.length))

theorem rNode_matched {id : Id} {k : Nat} (hm : mn id = some k) (t : VExpr) (lvl : Bool) (ts' : List VExpr)
    (hr : repl cseName mn ma id t = .ok ts') (hg : ∀ ev ∈ trace mn ma lvl id t, GoodEv σ σ' ev) :
    natProd (evalVL σ' ts') = evalV σ t ∧ (lvl = true → evalVL σ' (itemsL ts') = evalVL σ (items t)) ∧
      (isList t = false → ∃ t', ts' = [t']) := by
  rw [trace_matched hm] at hg
  obtain ⟨m, ub, _, rfl⟩ := repl_matched_ok hm hr
  have hgood := hg _ (List.mem_singleton.mpr rfl)
  have hev := used_axis_eval σ σ' m hgood
  refine ⟨by simp [evalVL, natProd, hev], ?_, fun _ => ⟨_, rfl⟩⟩
  intro hl
  have hnd : ndim t = 1 := hgood.2.2 hl
  rw [ndim_one_vals σ t hnd]
  simp [itemsL, items, evalVL, hev]

theorem single_out {t t' : VExpr} (lvl : Bool) (hev : evalV σ' t' = evalV σ t) (h' : items t' = [t']) (ht : items t = [t]) :
    natProd (evalVL σ' [t']) = evalV σ t ∧ (lvl = true → evalVL σ' (itemsL [t']) = evalVL σ (items t)) ∧
      (isList t = false → ∃ x, [t'] = [x]) :=
  ⟨by simp [evalVL, natProd, hev], fun _ => by simp [itemsL, h', ht, evalVL, hev], fun _ => ⟨_, rfl⟩⟩

theorem cons_eq_take_append_drop {α : Type} (t : α) (ts : List α) {len : Nat} (h : 0 < len) :
    t :: ts = (t :: ts).take len ++ ts.drop (len - 1) := by
  conv => lhs; rw [← List.take_append_drop len (t :: ts)]
  rw [List.drop_cons h]

theorem rNode_rList : (∀ t, RNode mn ma σ σ' t) ∧ ∀ l, RList mn ma σ σ' l := by
  apply VExpr.induct₂
  case node =>
    intro t ih lvl id ts' hwf hr hg
    cases hm : mn id with
    | some k => exact rNode_matched mn ma σ σ' hm _ lvl ts' hr hg
    | none =>
      cases t with
      | axis n v m =>
        simp only [trace, evNode, hm] at hg
        have := repl_axis_ok hm hr; subst this
        refine single_out σ σ' lvl ?_ rfl rfl
        cases v with
        | none => simp only [evalV]; exact hg _ (List.mem_singleton.mpr rfl)
        | some w => simp [evalV]
      | flat e =>
        simp only [trace, evNode, hm] at hg
        obtain ⟨ts2, h2, rfl⟩ := repl_flat_ok hm hr
        obtain ⟨ih1, _, _⟩ := ih false (id ++ [0]) ts2 (by simpa [wfV] using hwf) h2 hg
        refine single_out σ σ' lvl ?_ (mkFlat_spec σ' _).2.1 rfl
        rw [(mkFlat_spec σ' _).1, (mkList_spec σ' ts2).1, ih1]; simp [evalV]
      | brackets e =>
        simp only [trace, evNode, hm] at hg
        obtain ⟨ts2, h2, rfl⟩ := repl_brackets_ok hm hr
        obtain ⟨ih1, ih2, _⟩ := ih lvl (id ++ [0]) ts2 (by simpa [wfV] using hwf) h2 hg
        have hev : evalV σ' (mkBrackets (mkList ts2)) = evalV σ (.brackets e) := by
          rw [(mkBrackets_spec σ' _).1, (mkList_spec σ' ts2).1, ih1]; simp [evalV]
        refine ⟨by simp [evalVL, natProd, hev], fun hl => ?_, fun _ => ⟨_, rfl⟩⟩
        simp only [itemsL, List.append_nil, (mkBrackets_spec σ' _).2.1, (mkList_spec σ' ts2).2.1, items]
        exact ih2 hl
      | concat cs =>
        simp only [trace, evNode, hm] at hg
        obtain ⟨ts2, c', h2, hc, rfl⟩ := repl_concat_ok hm hr
        simp only [wfV, Bool.and_eq_true, decide_eq_true_eq] at hwf
        obtain ⟨⟨hw1, hw2⟩, hw3⟩ := hwf
        obtain ⟨_, _, ih3⟩ := ih.2 lvl id 0 ts2 hw1 h2 hg
        obtain ⟨ihv, ihl⟩ := ih3 hw2
        have hcc := mkConcat_spec ts2 c' hc (by omega)
        subst hcc
        exact single_out σ σ' lvl (by simp only [evalV]; rw [ihv]) rfl rfl
      | list cs =>
        rw [repl_list_eq hm] at hr
        simp only [trace, evNode, hm] at hg
        have hw : wfVL cs = true := by simpa [wfV] using hwf
        split at hr
        · rename_i h1
          simp only [h1, if_true] at hg
          obtain ⟨j1, j2, _⟩ := ih.2 lvl id 0 ts' hw hr hg
          exact ⟨j1, fun hl => by simpa [items] using j2 hl, fun h => by simp [isList] at h⟩
        · rename_i h1
          simp only [h1] at hg
          obtain ⟨j1, j2⟩ := ih.1 lvl id cs.length 0 0 ts' hw hr hg
          exact ⟨by simpa [evalV] using j1, fun hl => by simpa [items] using j2 hl, fun h => by simp [isList] at h⟩
  case nil =>
    refine ⟨?_, ?_⟩
    · intro lvl pid n i skip ts' _ hr _
      simp only [replL] at hr
      have := pure_ok.mp hr; subst this
      simp [evalVL, itemsL]
    · intro lvl pid k ts' _ hr _
      simp only [replC] at hr
      have := pure_ok.mp hr; subst this
      simp [evalVL, itemsL]
  case cons =>
    intro t ts iht ihts
    refine ⟨?_, ?_⟩
    · intro lvl pid n i skip ts' hwf hr hg
      simp only [wfVL, Bool.and_eq_true] at hwf
      by_cases hs : 0 < skip
      · rw [replL_skip hs] at hr
        rw [traceL_skip hs] at hg
        rw [List.drop_cons hs]
        exact ihts.1 lvl pid n (i + 1) (skip - 1) ts' hwf.2 hr hg
      · have hs0 : skip = 0 := by omega
        subst hs0
        simp only [List.drop_zero]
        cases hma : ma pid i n with
        | some p =>
          obtain ⟨idx, len⟩ := p
          rw [traceL_hit hma] at hg
          obtain ⟨m, r, _, hrr, rfl⟩ := replL_hit_ok hma hr
          have hgood := hg _ List.mem_cons_self
          have hev := used_axis_eval σ σ' m hgood
          obtain ⟨ih1, ih2⟩ := ihts.1 lvl pid n (i + 1) (len - 1) r hwf.2 hrr
            (fun ev hev => hg ev (List.mem_cons_of_mem _ hev))
          have hsplit := cons_eq_take_append_drop t ts hgood.1
          constructor
          · conv => rhs; rw [hsplit]
            simp only [evalVL, natProd, evalVL_append, natProd_append, hev, ih1, evalV]
          · intro hl
            conv => rhs; rw [hsplit]
            have h1 := ndim_one_vals σ _ (hgood.2.2 hl)
            simp only [items] at h1
            simp only [itemsL, items, itemsL_append, evalVL_append, evalVL, List.singleton_append, hev, ih2 hl, h1]
        | none =>
          rw [traceL_miss hma] at hg
          obtain ⟨a, r, ha, hrr, rfl⟩ := replL_miss_ok hma hr
          obtain ⟨ih1, ih2, _⟩ := iht lvl (pid ++ [i]) a hwf.1 ha (fun ev hev => hg ev (List.mem_append_left _ hev))
          obtain ⟨jh1, jh2⟩ := ihts.1 lvl pid n (i + 1) 0 r hwf.2 hrr
            (fun ev hev => hg ev (List.mem_append_right _ hev))
          simp only [List.drop_zero] at jh1 jh2
          constructor
          · simp only [evalVL_append, natProd_append, evalVL, natProd, ih1, jh1]
          · intro hl
            simp only [itemsL_append, evalVL_append, itemsL, ih2 hl, jh2 hl]
    · intro lvl pid k ts' hwf hr hg
      simp only [wfVL, Bool.and_eq_true] at hwf
      simp only [traceC] at hg
      obtain ⟨a, r, ha, hrr, rfl⟩ := replC_cons_ok hr
      obtain ⟨ih1, ih2, ih3⟩ := iht lvl (pid ++ [k]) a hwf.1 ha (fun ev hev => hg ev (List.mem_append_left _ hev))
      obtain ⟨jh1, jh2, jh3⟩ := ihts.2 lvl pid (k + 1) r hwf.2 hrr
        (fun ev hev => hg ev (List.mem_append_right _ hev))
      refine ⟨?_, ?_, ?_⟩
      · simp only [evalVL_append, natProd_append, evalVL, natProd, ih1, jh1]
      · intro hl
        simp only [itemsL_append, evalVL_append, itemsL, ih2 hl, jh2 hl]
      · intro hnl
        rw [noListL_cons] at hnl
        simp only [Bool.and_eq_true, Bool.not_eq_true'] at hnl
        obtain ⟨t', rfl⟩ := ih3 hnl.1
        obtain ⟨k1, k2⟩ := jh3 hnl.2
        simp only [evalVL, natProd, Nat.mul_one] at ih1
        simp [evalVL, ih1, k1, k2]

theorem rNode (t : VExpr) : RNode mn ma σ σ' t := (rNode_rList mn ma σ σ').1 t

theorem rList : ∀ l : List VExpr, RList mn ma σ σ' l := (rNode_rList mn ma σ σ').2

end

/-! ### the unknown axes of output and input, read off the events -/

theorem mkConcat_free {ts : List VExpr} {c : VExpr} (h : mkConcat ts = .ok c) : freeAxes c = freeAxesL ts := by
  unfold mkConcat at h
  split at h
  · cases h
  · have := pure_ok.mp h; subst this; simp [freeAxesL]
  · split at h
    · have := pure_ok.mp h; subst this; simp [freeAxes]
    · cases h

theorem freeAxes_newAxis (k : Nat) (e : VExpr) (m : Nat) (ub : Bool) (h : valueRange e = some (m, ub)) :
    freeAxes (.axis (cseName k) (valueOf e) m) = outDecls (.used k e 1 true) := by
  cases hv : valueOf e <;> simp [freeAxes, outDecls, hv, h]

section
variable (mn : Id → Option Nat) (ma : Id → Nat → Nat → Option (Nat × Nat))

def DNode (t : VExpr) : Prop :=
  ∀ (lvl : Bool) (id : Id) (ts' : List VExpr), repl cseName mn ma id t = .ok ts' →
    (∀ ev ∈ trace mn ma lvl id t, EvPos ev) →
    freeAxesL ts' = (trace mn ma lvl id t).flatMap outDecls ∧ freeAxes t = (trace mn ma lvl id t).flatMap inDecls

def DList (l : List VExpr) : Prop :=
  (∀ (lvl : Bool) (pid : Id) (n i skip : Nat) (ts' : List VExpr),
    replL cseName mn ma pid n i skip l = .ok ts' → (∀ ev ∈ traceL mn ma lvl pid n i skip l, EvPos ev) →
    freeAxesL ts' = (traceL mn ma lvl pid n i skip l).flatMap outDecls ∧
      freeAxesL (l.drop skip) = (traceL mn ma lvl pid n i skip l).flatMap inDecls) ∧
  (∀ (lvl : Bool) (pid : Id) (k : Nat) (ts' : List VExpr),
    replC cseName mn ma pid k l = .ok ts' → (∀ ev ∈ traceC mn ma lvl pid k l, EvPos ev) →
    freeAxesL ts' = (traceC mn ma lvl pid k l).flatMap outDecls ∧
      freeAxesL l = (traceC mn ma lvl pid k l).flatMap inDecls)

theorem dNode_matched {id : Id} {k : Nat} (hm : mn id = some k) (t : VExpr) (lvl : Bool) (ts' : List VExpr)
    (hr : repl cseName mn ma id t = .ok ts') :
    freeAxesL ts' = (trace mn ma lvl id t).flatMap outDecls ∧ freeAxes t = (trace mn ma lvl id t).flatMap inDecls := by
  rw [trace_matched hm]
  obtain ⟨m, ub, hrange, rfl⟩ := repl_matched_ok hm hr
  constructor
  · simp only [freeAxesL, List.append_nil, List.flatMap_cons, List.flatMap_nil]
    rw [freeAxes_newAxis k t m ub hrange]; simp [outDecls]
  · simp [inDecls]

theorem dNode_dList : (∀ t, DNode mn ma t) ∧ ∀ l, DList mn ma l := by
  apply VExpr.induct₂
  case node =>
    intro t ih lvl id ts' hr hg
    cases hm : mn id with
    | some k => exact dNode_matched mn ma hm _ lvl ts' hr
    | none =>
      cases t with
      | axis n v m =>
        have := repl_axis_ok hm hr; subst this
        simp only [trace, evNode, hm]
        cases v <;> simp [freeAxesL, freeAxes, outDecls, inDecls]
      | flat e =>
        simp only [trace, evNode, hm] at hg ⊢
        obtain ⟨ts2, h2, rfl⟩ := repl_flat_ok hm hr
        simp only [freeAxesL, List.append_nil, mkFlat_free, mkList_free, freeAxes]
        exact ih false (id ++ [0]) ts2 h2 hg
      | brackets e =>
        simp only [trace, evNode, hm] at hg ⊢
        obtain ⟨ts2, h2, rfl⟩ := repl_brackets_ok hm hr
        simp only [freeAxesL, List.append_nil, mkBrackets_free, mkList_free, freeAxes]
        exact ih lvl (id ++ [0]) ts2 h2 hg
      | concat cs =>
        simp only [trace, evNode, hm] at hg ⊢
        obtain ⟨ts2, c', h2, hc, rfl⟩ := repl_concat_ok hm hr
        simp only [freeAxesL, List.append_nil, mkConcat_free hc, freeAxes]
        exact ih.2 lvl id 0 ts2 h2 hg
      | list cs =>
        rw [repl_list_eq hm] at hr
        simp only [trace, evNode, hm, freeAxes] at hg ⊢
        split at hr
        · rename_i h1
          simp only [h1, if_true] at hg ⊢
          exact ih.2 lvl id 0 ts' hr hg
        · rename_i h1
          simp only [h1] at hg ⊢
          simpa using ih.1 lvl id cs.length 0 0 ts' hr hg
  case nil =>
    refine ⟨?_, ?_⟩
    · intro lvl pid n i skip ts' hr _
      simp only [replL] at hr
      have := pure_ok.mp hr; subst this
      simp [traceL, freeAxesL]
    · intro lvl pid k ts' hr _
      simp only [replC] at hr
      have := pure_ok.mp hr; subst this
      simp [traceC, freeAxesL]
  case cons =>
    intro t ts iht ihts
    refine ⟨?_, ?_⟩
    · intro lvl pid n i skip ts' hr hg
      by_cases hs : 0 < skip
      · rw [replL_skip hs] at hr
        rw [traceL_skip hs] at hg ⊢
        rw [List.drop_cons hs]
        exact ihts.1 lvl pid n (i + 1) (skip - 1) ts' hr hg
      · have hs0 : skip = 0 := by omega
        subst hs0
        simp only [List.drop_zero]
        cases hma : ma pid i n with
        | some p =>
          obtain ⟨idx, len⟩ := p
          rw [traceL_hit hma] at hg ⊢
          obtain ⟨m, r, ⟨ub, hrange⟩, hrr, rfl⟩ := replL_hit_ok hma hr
          obtain ⟨ih1, ih2⟩ := ihts.1 lvl pid n (i + 1) (len - 1) r hrr
            (fun ev hev => hg ev (List.mem_cons_of_mem _ hev))
          constructor
          · simp only [freeAxesL, List.flatMap_cons, ih1]
            rw [freeAxes_newAxis idx _ m ub hrange]; simp [outDecls]
          · conv => lhs; rw [cons_eq_take_append_drop t ts (hg _ List.mem_cons_self)]
            simp only [freeAxesL_append, List.flatMap_cons, inDecls, freeAxes, ih2]
        | none =>
          rw [traceL_miss hma] at hg ⊢
          obtain ⟨a, r, ha, hrr, rfl⟩ := replL_miss_ok hma hr
          obtain ⟨ih1, ih2⟩ := iht lvl (pid ++ [i]) a ha (fun ev hev => hg ev (List.mem_append_left _ hev))
          obtain ⟨jh1, jh2⟩ := ihts.1 lvl pid n (i + 1) 0 r hrr
            (fun ev hev => hg ev (List.mem_append_right _ hev))
          simp only [List.drop_zero] at jh2
          simp only [freeAxesL_append, List.flatMap_append, freeAxesL, ih1, ih2, jh1, jh2, and_self]
    · intro lvl pid k ts' hr hg
      simp only [traceC] at hg ⊢
      obtain ⟨a, r, ha, hrr, rfl⟩ := replC_cons_ok hr
      obtain ⟨ih1, ih2⟩ := iht lvl (pid ++ [k]) a ha (fun ev hev => hg ev (List.mem_append_left _ hev))
      obtain ⟨jh1, jh2⟩ := ihts.2 lvl pid (k + 1) r hrr (fun ev hev => hg ev (List.mem_append_right _ hev))
      simp only [freeAxesL_append, List.flatMap_append, freeAxesL, ih1, ih2, jh1, jh2, and_self]

theorem dNode (t : VExpr) : DNode mn ma t := (dNode_dList mn ma).1 t

theorem dList : ∀ l : List VExpr, DList mn ma l := (dNode_dList mn ma).2

end

/-! ### an event arises only where a search hits, or at a copied axis -/

section
variable {roots : List (Option VExpr)} {mn : Id → Option Nat} {ma : Id → Nat → Nat → Option (Nat × Nat)} {P : Ev → Prop}

theorem drop_tail {α : Type} {cs : List α} {i : Nat} {t : α} {ts : List α} (h : t :: ts = cs.drop i) :
    ts = cs.drop (i + 1) ∧ cs[i]? = some t := by
  have h1 : cs.drop (i + 1) = (cs.drop i).drop 1 := by rw [List.drop_drop]
  constructor
  · rw [h1, ← h]; rfl
  · have : (cs.drop i)[0]? = some t := by rw [← h]; rfl
    simpa [List.getElem?_drop] using this

theorem forall_trace_traceL (H : HitsOK roots mn ma P) :
    (∀ (t : VExpr) (lvl : Bool) (id : Id), nodeAt roots id = some t → ∀ ev ∈ trace mn ma lvl id t, P ev) ∧
    ∀ (l : List VExpr),
      (∀ (lvl : Bool) (pid : Id) (cs : List VExpr) (i skip : Nat), nodeAt roots pid = some (.list cs) → l = cs.drop i →
        ∀ ev ∈ traceL mn ma lvl pid cs.length i skip l, P ev) ∧
      (∀ (lvl : Bool) (pid : Id) (e : VExpr) (k : Nat), nodeAt roots pid = some e → (∀ j, childAt e (k + j) = l[j]?) →
        ∀ ev ∈ traceC mn ma lvl pid k l, P ev) := by
  apply VExpr.induct₂
  case node =>
    intro t ih lvl id hn ev hev
    cases hm : mn id with
    | some k =>
      rw [trace_matched hm, List.mem_singleton] at hev
      exact hev ▸ H.node id k t lvl hm hn
    | none =>
      cases t with
      | axis n v m =>
        simp only [trace, evNode, hm] at hev
        cases v <;> simp at hev
        exact hev ▸ H.surv n m
      | flat e =>
        simp only [trace, evNode, hm] at hev
        exact ih false (id ++ [0]) (by rw [nodeAt_snoc hn]; simp [childAt]) ev hev
      | brackets e =>
        simp only [trace, evNode, hm] at hev
        exact ih lvl (id ++ [0]) (by rw [nodeAt_snoc hn]; simp [childAt]) ev hev
      | concat cs =>
        simp only [trace, evNode, hm] at hev
        exact ih.2 lvl id (.concat cs) 0 hn (fun j => by simp [childAt]) ev hev
      | list cs =>
        simp only [trace, evNode, hm] at hev
        split at hev
        · exact ih.2 lvl id (.list cs) 0 hn (fun j => by simp [childAt]) ev hev
        · exact ih.1 lvl id cs 0 0 hn (by simp) ev hev
  case nil =>
    constructor
    · intro lvl pid cs i skip _ _ ev hev; simp [traceL] at hev
    · intro lvl pid e k _ _ ev hev; simp [traceC] at hev
  case cons =>
    intro t ts iht ihts
    constructor
    · intro lvl pid cs i skip hn hl ev hev
      obtain ⟨hts, hti⟩ := drop_tail hl
      simp only [traceL] at hev
      split at hev
      · exact ihts.1 lvl pid cs (i + 1) (skip - 1) hn hts ev hev
      · cases hma : ma pid i cs.length with
        | some p =>
          obtain ⟨idx, len⟩ := p
          simp only [hma, List.mem_cons] at hev
          rcases hev with rfl | hev
          · exact hl ▸ H.run pid i idx len cs lvl hma hn
          · exact ihts.1 lvl pid cs (i + 1) (len - 1) hn hts ev hev
        | none =>
          simp only [hma, List.mem_append] at hev
          rcases hev with hev | hev
          · exact iht lvl (pid ++ [i]) (by rw [nodeAt_snoc hn]; simpa [childAt] using hti) ev hev
          · exact ihts.1 lvl pid cs (i + 1) 0 hn hts ev hev
    · intro lvl pid e k hn hc ev hev
      simp only [traceC, List.mem_append] at hev
      rcases hev with hev | hev
      · exact iht lvl (pid ++ [k]) (by rw [nodeAt_snoc hn]; simpa using hc 0) ev hev
      · exact ihts.2 lvl pid e (k + 1) hn (tail_from hc) ev hev

theorem forall_trace (H : HitsOK roots mn ma P) (t : VExpr) (lvl : Bool) (id : Id) (hn : nodeAt roots id = some t) :
    ∀ ev ∈ trace mn ma lvl id t, P ev :=
  (forall_trace_traceL H).1 t lvl id hn
end

/-! ### naturality of the replacement in the numbering -/

section Natural
variable (nm : Nat → String) (ρ : Nat → Nat) (mn : Id → Option Nat) (ma : Id → Nat → Nat → Option (Nat × Nat))

theorem nodeOr_natural (id : Id) (e : VExpr) (other : Except String (List VExpr)) :
    nodeOr nm (fun i => (mn i).map ρ) id e other = nodeOr (fun k => nm (ρ k)) mn id e other := by
  unfold nodeOr
  cases h : mn id <;> simp [h]

mutual
theorem repl_natural : ∀ (t : VExpr) (id : Id),
    repl nm (fun i => (mn i).map ρ) (fun p i n => (ma p i n).map (fun r => (ρ r.1, r.2))) id t =
      repl (fun k => nm (ρ k)) mn ma id t
  | .axis n v m, id => by simp only [repl, nodeOr_natural]
  | .flat e, id => by simp only [repl, nodeOr_natural, repl_natural e]
  | .brackets e, id => by simp only [repl, nodeOr_natural, repl_natural e]
  | .concat cs, id => by simp only [repl, nodeOr_natural, (replL_natural cs).2]
  | .list cs, id => by simp only [repl, nodeOr_natural, (replL_natural cs).1, (replL_natural cs).2]
theorem replL_natural : ∀ (l : List VExpr),
    (∀ (pid : Id) (n i skip : Nat),
      replL nm (fun i => (mn i).map ρ) (fun p i n => (ma p i n).map (fun r => (ρ r.1, r.2))) pid n i skip l =
        replL (fun k => nm (ρ k)) mn ma pid n i skip l) ∧
    (∀ (pid : Id) (k : Nat),
      replC nm (fun i => (mn i).map ρ) (fun p i n => (ma p i n).map (fun r => (ρ r.1, r.2))) pid k l =
        replC (fun k => nm (ρ k)) mn ma pid k l)
  | [] => by constructor <;> intros <;> simp only [replL, replC]
  | t :: ts => by
    constructor
    · intro pid n i skip
      simp only [replL, repl_natural t, (replL_natural ts).1]
      cases ma pid i n <;> simp
    · intro pid k
      simp only [replC, repl_natural t, (replL_natural ts).2]
end

theorem replaceRootsM_natural (rs : List (Option VExpr)) (k : Nat) :
    replaceRootsM nm (fun i => (mn i).map ρ) (fun p i n => (ma p i n).map (fun r => (ρ r.1, r.2))) k rs =
      replaceRootsM (fun k => nm (ρ k)) mn ma k rs := by
  induction rs generalizing k with
  | nil => simp only [replaceRootsM]
  | cons r rs ih => cases r <;> simp only [replaceRootsM, ih, repl_natural]
end Natural

theorem replaceRoots_nil_ok {cands : List Cand} {k : Nat} {out : List (Option VExpr)}
    (h : replaceRoots cands k [] = .ok out) : out = [] :=
  (pure_ok.mp h).symm

theorem replaceRoots_none_ok {cands : List Cand} {k : Nat} {rs out : List (Option VExpr)}
    (h : replaceRoots cands k (none :: rs) = .ok out) : ∃ o, replaceRoots cands (k + 1) rs = .ok o ∧ out = none :: o := by
  obtain ⟨o, ho, hp⟩ := bind_ok.mp h
  exact ⟨o, ho, (pure_ok.mp hp).symm⟩

theorem replaceRoots_some_ok {cands : List Cand} {k : Nat} {r : VExpr} {rs out : List (Option VExpr)}
    (h : replaceRoots cands k (some r :: rs) = .ok out) :
    ∃ a o, repl cseName (matchNode cands) (matchAt cands) [k] r = .ok a ∧ replaceRoots cands (k + 1) rs = .ok o ∧
      out = some (mkList a) :: o := by
  obtain ⟨a, ha, h2⟩ := bind_ok.mp h
  obtain ⟨o, ho, hp⟩ := bind_ok.mp h2
  exact ⟨a, o, ha, ho, (pure_ok.mp hp).symm⟩

theorem roots_vals (cands : List Cand) (σ σ' : Var → Nat) (rs : List (Option VExpr)) (k : Nat) (out : List (Option VExpr))
    (h : replaceRoots cands k rs = .ok out) (hwf : wfForest rs = true)
    (hg : ∀ ev ∈ traceRoots cands k rs, GoodEv σ σ' ev) :
    out.map (rootVals σ') = rs.map (rootVals σ) := by
  induction rs generalizing k out with
  | nil => rw [replaceRoots_nil_ok h]; rfl
  | cons r rs ih =>
    simp only [wfForest, List.all_cons, Bool.and_eq_true] at hwf
    cases r with
    | none =>
      obtain ⟨o, ho, rfl⟩ := replaceRoots_none_ok h
      simp only [traceRoots] at hg
      simp [rootVals, ih (k + 1) o ho hwf.2 hg]
    | some r =>
      obtain ⟨a, o, ha, ho, rfl⟩ := replaceRoots_some_ok h
      simp only [traceRoots] at hg
      have ih := ih (k + 1) o ho hwf.2 (fun ev hev => hg ev (List.mem_append_right _ hev))
      obtain ⟨_, h1, _⟩ := rNode (matchNode cands) (matchAt cands) σ σ' r true [k] a hwf.1 ha
        (fun ev hev => hg ev (List.mem_append_left _ hev))
      simp only [List.map_cons, rootVals, ih, (mkList_spec σ' a).2.1, h1 rfl]

theorem roots_decls (cands : List Cand) (rs : List (Option VExpr)) (k : Nat) (out : List (Option VExpr))
    (h : replaceRoots cands k rs = .ok out) (hg : ∀ ev ∈ traceRoots cands k rs, EvPos ev) :
    rootDecls out = (traceRoots cands k rs).flatMap outDecls ∧ rootDecls rs = (traceRoots cands k rs).flatMap inDecls := by
  induction rs generalizing k out with
  | nil => rw [replaceRoots_nil_ok h]; simp [rootDecls, traceRoots]
  | cons r rs ih =>
    cases r with
    | none =>
      obtain ⟨o, ho, rfl⟩ := replaceRoots_none_ok h
      simp only [traceRoots] at hg ⊢
      simpa [rootDecls] using ih (k + 1) o ho hg
    | some r =>
      obtain ⟨a, o, ha, ho, rfl⟩ := replaceRoots_some_ok h
      simp only [traceRoots] at hg ⊢
      obtain ⟨ih1, ih2⟩ := ih (k + 1) o ho (fun ev hev => hg ev (List.mem_append_right _ hev))
      obtain ⟨h1, h2⟩ := dNode (matchNode cands) (matchAt cands) r true [k] a ha
        (fun ev hev => hg ev (List.mem_append_left _ hev))
      simp only [rootDecls, List.flatMap_append, mkList_free, h1, h2, ih1, ih2, and_self]

theorem accounts_replaceRoots {cands : List Cand} {rs out : List (Option VExpr)} {r₀ : Nat}
    (hrun : replaceRoots cands r₀ rs = .ok out) (hwf : wfForest rs = true)
    (hpos : ∀ ev ∈ traceRoots cands r₀ rs, EvPos ev) : Accounts (traceRoots cands r₀ rs) rs out :=
  ⟨fun σ σ' hg => roots_vals cands σ σ' rs r₀ out hrun hwf hg, (roots_decls cands rs r₀ out hrun hpos).1,
    (roots_decls cands rs r₀ out hrun hpos).2⟩

theorem forall_traceRoots {roots : List (Option VExpr)} {cands : List Cand} {P : Ev → Prop}
    (H : HitsOK roots (matchNode cands) (matchAt cands) P) : ∀ ev ∈ traceRoots cands 0 roots, P ev := by
  intro ev hev
  obtain ⟨j, r, hj, hev⟩ := of_mem_roots (F := traceRoots cands) (f := trace (matchNode cands) (matchAt cands) true)
    (fun _ => rfl) (fun _ _ => rfl) (fun _ _ _ => rfl) roots 0 hev
  rw [Nat.zero_add] at hev
  exact forall_trace H r true [j] (nodeAt_root roots j r hj) ev hev

end Einx.Solve.CseT
