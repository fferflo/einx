import EinxModel.Proofs.SolveRankSem
/-!
`unroll` (ellipsis = written-out repetition) against the path-free semantics and the rank system.
-/
namespace Einx.Solve

theorem ellIdsL_eq : ∀ cs, ellIdsL cs = cs.flatMap ellIds
  | [] => rfl
  | c :: cs => by simp only [ellIdsL, List.flatMap_cons, ellIdsL_eq cs]

theorem axis_var_nil (x : String) : x ++ idxSuffix [] = x := by
  rw [idxSuffix_nil, String.append_empty]

theorem unroll_evalItems (ρ ρ' σ : Var → Nat) (e : Expr) : ∀ (idx : List Nat),
    evalItems ρ' σ [] (unroll ρ idx e) = evalItems ρ σ idx e := by
  induction e using Expr.induct with
  | axis n => intro idx; simp only [unroll, evalItems, axis_var_nil]
  | num _ => exact fun _ => rfl
  | brackets e ih => exact ih
  | flat e ih => intro idx; simp only [unroll, evalItems]; rw [ih idx]
  | concat cs ih => intro idx; dsimp only [unroll, evalItems] at ih ⊢; rw [ih idx]
  | ellipsis id e ih =>
    intro idx
    simp only [unroll, evalItems, evalItemsL_eq, List.flatMap_map]
    simp only [ih]
  | nil => exact fun _ => rfl
  | cons c cs ihc ihcs =>
    intro idx
    dsimp only [unroll, unrollL, evalItems, evalItemsL] at ihcs ⊢
    rw [ihc idx, ihcs idx]

theorem unrollL_evalItems (ρ ρ' σ : Var → Nat) (cs : List Expr) (idx : List Nat) :
    evalItemsL ρ' σ [] (unrollL ρ idx cs) = evalItemsL ρ σ idx cs :=
  unroll_evalItems ρ ρ' σ (.list cs) idx

theorem unroll_nodeValues (ρ ρ' σ : Var → Nat) (e : Expr) : ∀ (idx : List Nat),
    nodeValues ρ' σ [] (unroll ρ idx e) = nodeValues ρ σ idx e := by
  induction e using Expr.induct with
  | axis _ => exact fun _ => rfl
  | num _ => exact fun _ => rfl
  | brackets e ih => exact ih
  | flat e ih => intro idx; simp only [unroll, nodeValues]; rw [ih idx, unroll_evalItems ρ ρ' σ e idx]
  | concat cs ih =>
    intro idx
    dsimp only [unroll, nodeValues] at ih ⊢
    rw [ih idx, unrollL_evalItems ρ ρ' σ cs idx]
  | ellipsis id e ih =>
    intro idx
    simp only [unroll, nodeValues, nodeValuesL_eq, List.flatMap_map]
    simp only [ih]
  | nil => exact fun _ => rfl
  | cons c cs ihc ihcs =>
    intro idx
    dsimp only [unroll, unrollL, nodeValues, nodeValuesL] at ihcs ⊢
    rw [ihc idx, ihcs idx]

theorem unrollL_nodeValues (ρ ρ' σ : Var → Nat) : ∀ (cs : List Expr) (idx : List Nat),
    nodeValuesL ρ' σ [] (unrollL ρ idx cs) = nodeValuesL ρ σ idx cs :=
  fun cs => unroll_nodeValues ρ ρ' σ (.list cs)

/-- an expanded axis as an axis of the long form: its own name, no ellipsis index -/
def flatAxis (a : String × List Nat × Var) : String × List Nat × Var := (a.2.2, [], a.2.2)

theorem unroll_axesOf (ρ ρ' : Var → Nat) (e : Expr) : ∀ (idx : List Nat),
    axesOf ρ' [] (unroll ρ idx e) = (axesOf ρ idx e).map flatAxis := by
  induction e using Expr.induct with
  | axis n => intro idx; simp only [unroll, axesOf, axis_var_nil, List.map_cons, List.map_nil, flatAxis]
  | num _ => exact fun _ => rfl
  | brackets e ih => exact ih
  | flat e ih => exact ih
  | concat cs ih => exact ih
  | ellipsis id e ih =>
    intro idx
    simp only [unroll, axesOf, axesOfL_eq, List.flatMap_map, List.map_flatMap]
    simp only [ih]
  | nil => exact fun _ => rfl
  | cons c cs ihc ihcs =>
    intro idx
    dsimp only [unroll, unrollL, axesOf, axesOfL] at ihcs ⊢
    rw [List.map_append, ihc idx, ihcs idx]

theorem unrollL_axesOf (ρ ρ' : Var → Nat) : ∀ (cs : List Expr) (idx : List Nat),
    axesOfL ρ' [] (unrollL ρ idx cs) = (axesOfL ρ idx cs).map flatAxis :=
  fun cs => unroll_axesOf ρ ρ' (.list cs)

theorem unroll_ellIds (ρ : Var → Nat) (e : Expr) : ∀ (idx : List Nat), ellIds (unroll ρ idx e) = [] := by
  induction e using Expr.induct with
  | axis _ => exact fun _ => rfl
  | num _ => exact fun _ => rfl
  | brackets e ih => exact ih
  | flat e ih => exact ih
  | concat cs ih => exact ih
  | ellipsis id e ih =>
    intro idx
    simp only [unroll, ellIds, ellIdsL_eq, List.flatMap_map]
    simp only [ih]
    simp
  | nil => exact fun _ => rfl
  | cons c cs ihc ihcs =>
    intro idx
    dsimp only [unroll, unrollL, ellIds, ellIdsL] at ihcs ⊢
    rw [ihc idx, ihcs idx]; rfl

theorem unrollL_ellIds (ρ : Var → Nat) : ∀ (cs : List Expr) (idx : List Nat), ellIdsL (unrollL ρ idx cs) = [] :=
  fun cs => unroll_ellIds ρ (.list cs)

theorem unroll_occs (ρ : Var → Nat) (e : Expr) : ∀ (idx : List Nat), ∀ p ∈ occs [] (unroll ρ idx e), p.2 = [] := by
  induction e using Expr.induct with
  | axis _ => intro _; simp [unroll, occs]
  | num _ => intro _; simp [unroll, occs]
  | brackets e ih => exact ih
  | flat e ih => exact ih
  | concat cs ih => exact ih
  | ellipsis id e ih =>
    intro idx
    simp only [unroll, occs, occsL_eq, List.flatMap_map, List.forall_mem_flatMap]
    exact fun i _ => ih (idx ++ [i])
  | nil => intro _; simp [unroll, unrollL, occs, occsL]
  | cons c cs ihc ihcs =>
    intro idx
    dsimp only [unroll, unrollL, occs, occsL] at ihcs ⊢
    rw [List.forall_mem_append]
    exact ⟨ihc idx, ihcs idx⟩

theorem unrollL_occs (ρ : Var → Nat) : ∀ (cs : List Expr) (idx : List Nat), ∀ p ∈ occsL [] (unrollL ρ idx cs), p.2 = [] :=
  fun cs => unroll_occs ρ (.list cs)

/-- `unroll` keeps the width because it keeps the items, whatever the lengths. -/
theorem unroll_width (ρ ρ' : Var → Nat) (e : Expr) (idx : List Nat) : width ρ' (unroll ρ idx e) = width ρ e := by
  rw [← length_evalItems ρ' (fun _ => 0) _ [], unroll_evalItems, length_evalItems]

theorem unrollL_width (ρ ρ' : Var → Nat) : ∀ (cs : List Expr) (idx : List Nat), widthL ρ' (unrollL ρ idx cs) = widthL ρ cs :=
  fun cs => unroll_width ρ ρ' (.list cs)

/-! ### The long form at the rank level: every equation is a true constant equation -/

theorem sameName_nil_stacks (ρ : Var → Nat) (l : List (String × List Var)) (h : ∀ p ∈ l, p.2 = []) :
    ∀ q ∈ sameNameEqns [] l, holds ρ q := by
  rw [sameName_holds]
  intro p hp st0 hl
  have h0 : st0 = [] := h _ (mem_of_lookup (by simpa using hl))
  rw [h0, h p hp]

theorem unrollInput_occs (inp : Input) (ρ : Var → Nat) : ∀ p ∈ (unrollInput inp ρ).occs, p.2 = [] := by
  unfold Input.occs unrollInput
  simp only [List.flatMap_map, List.forall_mem_flatMap]
  intro t _
  exact unroll_occs ρ t.expr []

theorem unrollInput_ellIds (inp : Input) (ρ : Var → Nat) : (unrollInput inp ρ).ellIds = [] := by
  unfold Input.ellIds unrollInput
  simp only [List.flatMap_map, unroll_ellIds]
  simp

theorem mem_unrollConstraints {inp : Input} {ρ : Var → Nat} {c' : Constraint} :
    c' ∈ (unrollInput inp ρ).constraints ↔
      ∃ c ∈ inp.constraints, ∃ a ∈ inp.axes ρ, a.1 = c.name ∧ ∃ v, constraintValue c a.2.1 = some v ∧
        c' = ⟨a.2.2, [], [v]⟩ := by
  unfold unrollInput unrollConstraint
  simp only [List.mem_flatMap, List.mem_filterMap, List.mem_filter, beq_iff_eq, Option.map_eq_some_iff]
  constructor
  · rintro ⟨c, hc, a, ⟨ha, hn⟩, v, hv, rfl⟩
    exact ⟨c, hc, a, ha, hn, v, hv, rfl⟩
  · rintro ⟨c, hc, a, ha, hn, v, hv, rfl⟩
    exact ⟨c, hc, a, ⟨ha, hn⟩, v, hv, rfl⟩

theorem unrollInput_tensors (inp : Input) (ρ : Var → Nat) :
    (unrollInput inp ρ).tensors = inp.tensors.map (fun t => ⟨unroll ρ [] t.expr, t.shape⟩) := rfl

theorem unroll_rank_sat (inp : Input) (ρ : Var → Nat) (hρ : Sat (rankSystem true inp) ρ) (ρ' : Var → Nat) :
    Sat (rankSystem true (unrollInput inp ρ)) ρ' := by
  rw [sat_rankSystem_iff] at hρ ⊢
  obtain ⟨hr, _, _⟩ := hρ
  refine ⟨?_, sameName_nil_stacks ρ' _ (unrollInput_occs inp ρ), ?_⟩
  · simp only [unrollInput_tensors, List.forall_mem_map, holds_rankEqn, unroll_width]
    exact fun t ht => (holds_rankEqn ρ t).mp (hr t ht)
  · intro c' hc'
    obtain ⟨c, _, a, _, _, v, _, rfl⟩ := mem_unrollConstraints.mp hc'
    exact constraintRank_scalar ρ' _ _ v

/-- The long form has the same semantic solutions: axes, nodes and roots are literally the same; a
constraint array against its scalars needs the array to have a value at every expanded axis
(`constraintValue_defined`). -/
theorem unroll_semSat (inp : Input) (ρ : Var → Nat) (hρ : Sat (rankSystem true inp) ρ)
    (hwf : ∀ c ∈ inp.constraints, c.vals.length = c.shape.foldr (· * ·) 1) (ρ' σ : Var → Nat) :
    SemSat inp ρ σ ↔ SemSat (unrollInput inp ρ) ρ' σ := by
  simp only [semSat_iff, unrollInput_tensors, List.forall_mem_map, unroll_axesOf,
    unroll_nodeValues, unroll_evalItems, flatAxis]
  refine and_congr_right fun _ => and_congr_right fun _ => and_congr_right fun _ =>
    ⟨fun h c' hc' t ht b hb hn => ?_, fun h c hc t ht a ha hn => ?_⟩
  · obtain ⟨c, hc, a, ha, hna, v, hv, rfl⟩ := mem_unrollConstraints.mp hc'
    obtain ⟨ta, hta, haa⟩ := mem_inputAxes.mp ha
    have := h c hc ta hta a haa hna
    rw [hv] at this
    rw [constraintValue_scalar, hn, this]
  · obtain ⟨v, hv⟩ := constraintValue_defined inp ρ hρ c hc (hwf c hc) t ht a ha hn
    have := h ⟨a.2.2, [], [v]⟩
      (mem_unrollConstraints.mpr ⟨c, hc, a, mem_inputAxes.mpr ⟨t, ht, ha⟩, hn, v, hv, rfl⟩) t ht a ha rfl
    rw [constraintValue_scalar] at this
    rw [hv, this]

theorem unroll_semShapes (inp : Input) (ρ ρ' σ : Var → Nat) :
    semShapes (unrollInput inp ρ) ρ' σ = semShapes inp ρ σ :=
  semShapes_map inp (unroll ρ []) _ ρ ρ' σ σ fun t _ => unroll_evalItems ρ ρ' σ t.expr []

theorem unrollInput_axes (inp : Input) (ρ ρ' : Var → Nat) :
    (unrollInput inp ρ).axes ρ' = (inp.axes ρ).map flatAxis := by
  simp only [inputAxes_eq, unrollInput_tensors, List.flatMap_map, unroll_axesOf, List.map_flatMap]

end Einx.Solve
