import EinxModel.Solve.Unexpanded
import EinxModel.Solve.Cse
import EinxModel.Proofs.SolveSemInput
/-!
Helpers for `Props/C02Unexpanded.lean`: `expandU` with all counts given is `expand`; the set of
values a repeated expression can contribute to a flattened axis (`PowVals`); elementary facts about
products of equal / large factors.
-/
namespace Einx.Solve

mutual
theorem expandU_some (ρ : Var → Nat) : ∀ (e : Expr) (path : String) (idx : List Nat),
    expandU (fun id => some (ρ id)) path idx e = expand ρ path idx e
  | .axis _ => fun _ _ => rfl
  | .num _ => fun _ _ => rfl
  | .brackets e => expandU_some ρ e
  | .flat e => fun path idx => by simp only [expandU, expand]; rw [expandU_some ρ e _ idx]
  | .concat cs => fun path idx => by simp only [expandU, expand]; rw [expandUL_some ρ cs _ idx 0]
  | .ellipsis id e => fun path idx => by
    simp only [expandU, expand]
    congr 1
    apply List.map_congr_left
    intro i _
    exact expandU_some ρ e path (idx ++ [i])
  | .list cs => fun path idx => expandUL_some ρ cs path idx 0
theorem expandUL_some (ρ : Var → Nat) : ∀ (cs : List Expr) (path : String) (idx : List Nat) (k : Nat),
    expandUL (fun id => some (ρ id)) path idx k cs = expandL ρ path idx k cs
  | [] => fun _ _ _ => rfl
  | c :: cs => fun path idx k => by
    simp only [expandUL, expandL]
    rw [expandU_some ρ c _ idx, expandUL_some ρ cs path idx (k + 1)]
end

theorem gensU_some (inp : Input) (ρ : Var → Nat) : gensU inp (fun id => some (ρ id)) = gens inp ρ := by
  unfold gensU gens
  simp only [expandU_some]

/-- With every expansion determined, the value system of the `UnexpandedEllipsis` model is the value
system of `Solve/Tree.lean`. -/
theorem valueSystemU_some (inp : Input) (ρ : Var → Nat) :
    valueSystemU inp (fun id => some (ρ id)) = valueSystem inp ρ := by
  unfold valueSystemU valueSystem valueSystemA
  simp only [gensU_some, gens_tabulate]

/-- The values `∏_{i<k} v_i` a `k`-fold repetition of `e` can contribute to a flattened axis, `k`
free, every copy with its own admissible assignment (the copies' axes `a.i` are distinct variables). -/
def PowVals (e : VExpr) (u : Nat) : Prop :=
  ∃ σs : List (Var → Nat), (∀ σ ∈ σs, Admissible e σ) ∧ natProd (σs.map (fun σ => evalV σ e)) = u

theorem natProd_const_small {m : Nat} (hm : m ≤ 1) : ∀ l : List Nat, (∀ x ∈ l, x = m) → natProd l ≤ 1
  | [] => fun _ => by simp [natProd]
  | x :: l => fun h => by
    have hx : x = m := h x (by simp)
    have ih := natProd_const_small hm l (fun y hy => h y (by simp [hy]))
    simp only [natProd]
    have : x * natProd l ≤ 1 * 1 := Nat.mul_le_mul (hx ▸ hm) ih
    omega

theorem natProd_pos_of_pos : ∀ l : List Nat, (∀ x ∈ l, 1 ≤ x) → 1 ≤ natProd l
  | [] => fun _ => by simp [natProd]
  | x :: l => fun h => Nat.mul_pos (h x (by simp)) (natProd_pos_of_pos l (fun y hy => h y (by simp [hy])))

theorem natProd_const_ne_succ {m : Nat} (hm : 2 ≤ m) : ∀ l : List Nat, (∀ x ∈ l, x = m) → natProd l ≠ m + 1
  | [] => fun _ => by simp only [natProd]; omega
  | x :: l => fun h => by
    have hx : x = m := h x (by simp)
    have hq : 1 ≤ natProd l := natProd_pos_of_pos l (fun y hy => by rw [h y (by simp [hy])]; omega)
    simp only [natProd, hx]
    intro he
    rcases Nat.lt_or_ge (natProd l) 2 with h2 | h2
    · have : natProd l = 1 := by omega
      rw [this] at he; omega
    · have : m * 2 ≤ m * natProd l := Nat.mul_le_mul_left m h2
      omega

theorem natProd_big : ∀ l : List Nat, (∀ x ∈ l, 3 ≤ x) → natProd l = 1 ∨ 3 ≤ natProd l
  | [] => fun _ => Or.inl rfl
  | x :: l => fun h => by
    right
    have hx := h x (by simp)
    have hq : 1 ≤ natProd l := natProd_pos_of_pos l (fun y hy => by have := h y (by simp [hy]); omega)
    simp only [natProd]
    have : x * 1 ≤ x * natProd l := Nat.mul_le_mul_left x hq
    omega

theorem prodL_threes : ∀ l : List Nat, prodL (l.flatMap (fun _ => [3])) ≠ 2
  | [] => by simp [prodL]
  | _ :: l => by
    simp only [List.flatMap_cons, List.singleton_append, prodL]
    omega

end Einx.Solve
