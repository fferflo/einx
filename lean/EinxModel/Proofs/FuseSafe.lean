import EinxModel.Proofs.FuseSound
/-!
C04, name re-use: the `fuse` loop of the code generator only merges variables whose live ranges do not overlap.

If a statement list `P` defines every variable at most once, reads no variable before its definition, and any two variables that
share a name are ordered by `Before` (defined earlier, and dead when the other is defined), the renaming is `fuseSafe`;
`Proofs/FuseLoop.lean` keeps that order as an invariant of the loop.
-/
namespace Einx.Compile

theorem split_tri {α : Type} (pre p : List α) (s t : α) (rest r : List α) (h : pre ++ s :: rest = p ++ t :: r) :
    (pre = p ∧ s = t ∧ rest = r) ∨ (∃ mid, p = pre ++ s :: mid ∧ rest = mid ++ t :: r) ∨
    (∃ mid, pre = p ++ t :: mid ∧ r = mid ++ s :: rest) := by
  rcases List.append_eq_append_iff.1 h with ⟨a', hp, ha⟩ | ⟨c', hpre, hc⟩
  · cases a' with
    | nil =>
      obtain ⟨h1, h2⟩ := List.cons.inj ha
      exact Or.inl ⟨by rw [hp, List.append_nil], h1, h2⟩
    | cons x mid =>
      obtain ⟨h1, h2⟩ := List.cons.inj ha
      exact Or.inr (Or.inl ⟨mid, by rw [hp, h1], h2⟩)
  · cases c' with
    | nil =>
      obtain ⟨h1, h2⟩ := List.cons.inj hc
      exact Or.inl ⟨by rw [hpre, List.append_nil], h1.symm, h2.symm⟩
    | cons x mid =>
      obtain ⟨h1, h2⟩ := List.cons.inj hc
      exact Or.inr (Or.inr ⟨mid, by rw [hpre, h1], h2⟩)

theorem Stmt.reads_sub_inputVars (s : Stmt) (w : Nat) (h : w ∈ s.reads) : w ∈ s.inputVars := by
  have hin : ∀ e ∈ s.inputs, w ∈ e.vars → w ∈ s.inputVars := fun e he hw => List.mem_flatMap.2 ⟨e, he, hw⟩
  cases s with
  | assign v rhs eff => exact hin rhs (by simp [Stmt.inputs]) h
  | exprStmt e extra => exact hin e (by simp [Stmt.inputs]) h
  | update t op v extra =>
    rcases List.mem_append.1 h with h | h
    · exact hin t (by simp [Stmt.inputs]) h
    · exact hin v (by simp [Stmt.inputs]) h
  | assert_ c msg extra => exact hin c (by simp [Stmt.inputs]) h
  | return_ e => exact hin e (by simp [Stmt.inputs]) h
  | _ => cases h

theorem Stmt.assign_of_io (s : Stmt) (v o : Nat) (hv : v ∈ s.inputVars) (ho : o ∈ s.outputVars) :
    ∃ rhs eff, s = .assign o rhs eff ∧ v ∈ rhs.vars := by
  cases s <;> simp only [Stmt.outputVars, List.mem_singleton, List.not_mem_nil] at ho <;>
    simp only [Stmt.inputVars, Stmt.inputs, List.flatMap_nil, List.not_mem_nil] at hv
  rename_i v' rhs eff
  subst ho
  exact ⟨rhs, eff, rfl, by simpa using hv⟩

theorem Stmt.inputVars_kind (s : Stmt) (v : Nat) (hv : v ∈ s.inputVars) : s.isImport = false ∧ s.isParam = false := by
  cases s <;> simp only [Stmt.inputVars, Stmt.inputs, List.flatMap_nil, List.not_mem_nil] at hv <;>
    simp [Stmt.isImport, Stmt.isParam]

theorem fuseSafe_of_splits (ρ : Nat → Nat) : ∀ (l : List Stmt),
    (∀ pre s rest, l = pre ++ s :: rest → ∀ o ∈ s.outputVars, ∀ w ∈ liveIn rest, w = o ∨ ρ w ≠ ρ o) → fuseSafe ρ l = true
  | [], _ => rfl
  | s :: rest, h => by
    simp only [fuseSafe, Bool.and_eq_true, List.all_eq_true, Bool.or_eq_true, beq_iff_eq, bne_iff_ne, ne_eq]
    refine ⟨fun o ho w hw => h [] s rest rfl o ho w hw, ?_⟩
    exact fuseSafe_of_splits ρ rest (fun pre s' rest' hl => h (s :: pre) s' rest' (by rw [hl]; rfl))

/-- `w1` is defined before `w2`, and no statement after the definition of `w2` has `w1` among its inputs. -/
def Before (P : List Stmt) (w1 w2 : Nat) : Prop :=
  ∃ pre s rest, P = pre ++ s :: rest ∧ w2 ∈ s.outputVars ∧ w1 ∈ outsOf pre ∧ ∀ r ∈ rest, w1 ∉ r.inputVars

theorem split_unique (P : List Stmt) (hnd : (outsOf P).Nodup) (pre p rest r : List Stmt) (s t : Stmt) (o : Nat)
    (h1 : P = pre ++ s :: rest) (h2 : P = p ++ t :: r) (ho1 : o ∈ s.outputVars) (ho2 : o ∈ t.outputVars) :
    pre = p ∧ s = t ∧ rest = r := by
  rcases split_tri pre p s t rest r (h1.symm.trans h2) with h | ⟨mid, hp, hr⟩ | ⟨mid, hp, hr⟩
  · exact h
  · exfalso
    rw [h1] at hnd
    exact (outs_disj pre rest s hnd).2.2 o ho1 (by rw [hr]; exact (mem_outsOf _ _).2 ⟨t, by simp, ho2⟩)
  · exfalso
    rw [h2] at hnd
    exact (outs_disj p r t hnd).2.2 o ho2 (by rw [hr]; exact (mem_outsOf _ _).2 ⟨s, by simp, ho1⟩)

theorem split_prefix (P : List Stmt) (hnd : (outsOf P).Nodup) (pre p rest r : List Stmt) (s t : Stmt) (o : Nat)
    (h1 : P = pre ++ s :: rest) (h2 : P = p ++ t :: r) (ho1 : o ∈ s.outputVars) (ho2 : o ∈ outsOf p) :
    ∃ mid, p = pre ++ s :: mid ∧ rest = mid ++ t :: r := by
  rcases split_tri pre p s t rest r (h1.symm.trans h2) with ⟨hp, hs, hr⟩ | ⟨mid, hp, hr⟩ | ⟨mid, hp, hr⟩
  · exfalso
    rw [h1] at hnd
    exact (outs_disj pre rest s hnd).1 o (by rw [hp]; exact ho2) ho1
  · exact ⟨mid, hp, hr⟩
  · exfalso
    rw [h1] at hnd
    refine (outs_disj pre rest s hnd).1 o ?_ ho1
    rw [hp, outsOf_append]
    exact List.mem_append_left _ ho2

theorem Before.trans {P : List Stmt} (hnd : (outsOf P).Nodup) {w1 w2 w3 : Nat} (h12 : Before P w1 w2) (h23 : Before P w2 w3) :
    Before P w1 w3 := by
  obtain ⟨p2, s2, r2, e2, o2, d2, dead2⟩ := h12
  obtain ⟨p3, s3, r3, e3, o3, d3, dead3⟩ := h23
  obtain ⟨mid, hp, hr⟩ := split_prefix P hnd p2 p3 r2 r3 s2 s3 w2 e2 e3 o2 d3
  refine ⟨p3, s3, r3, e3, o3, ?_, ?_⟩
  · rw [hp, outsOf_append]
    exact List.mem_append_left _ d2
  · intro r hr'
    exact dead2 r (by rw [hr]; simp [hr'])

theorem filter_map_split {α β : Type} (q : α → Bool) (f : α → β) : ∀ (body : List α) (F1 F2 : List β) (s : β),
    (body.filter q).map f = F1 ++ s :: F2 →
    ∃ B1 y B2, body = B1 ++ y :: B2 ∧ q y = true ∧ f y = s ∧ F1 = (B1.filter q).map f ∧ F2 = (B2.filter q).map f
  | [], F1, F2, s, h => by simp at h
  | x :: xs, F1, F2, s, h => by
    by_cases hq : q x = true
    · rw [List.filter_cons_of_pos hq, List.map_cons] at h
      match F1, h with
      | [], h =>
        simp only [List.nil_append, List.cons.injEq] at h
        exact ⟨[], x, xs, rfl, hq, h.1, rfl, h.2.symm⟩
      | a :: F1', h =>
        simp only [List.cons_append, List.cons.injEq] at h
        obtain ⟨B1, y, B2, hb, hy, hfy, h1, h2⟩ := filter_map_split q f xs F1' F2 s h.2
        refine ⟨x :: B1, y, B2, by rw [hb]; rfl, hy, hfy, ?_, h2⟩
        rw [List.filter_cons_of_pos hq, List.map_cons, ← h1, h.1]
    · rw [List.filter_cons_of_neg hq] at h
      obtain ⟨B1, y, B2, hb, hy, hfy, h1, h2⟩ := filter_map_split q f xs F1 F2 s h
      refine ⟨x :: B1, y, B2, by rw [hb]; rfl, hy, hfy, ?_, h2⟩
      rw [List.filter_cons_of_neg hq, ← h1]

theorem filter_map_of_split {α β : Type} (q : α → Bool) (f : α → β) (B1 B2 : List α) (y : α) (hy : q y = true) :
    ((B1 ++ y :: B2).filter q).map f = (B1.filter q).map f ++ f y :: (B2.filter q).map f := by
  rw [List.filter_append, List.filter_cons_of_pos hy, List.map_append, List.map_cons]

/-- The text is a header `H` and the statements of `body` that `q` keeps (the text of one block); it must keep the definition of
the later of two variables that share a name whenever it keeps that of the earlier (`hkept`).  A variable `w` that is live after
the definition of `o` is not dead there (so not `Before w o`), and its definition does not follow in the text (so not
`Before o w`: nothing reads `w` before its definition). -/
theorem text_safe_of_ordered {α : Type} (f : α → Stmt) (q : α → Bool) (body : List α) (ρ : Nat → Nat) (H : List Stmt)
    (hnd : (outsOf (body.map f)).Nodup) (hcl : liveIn (body.map f) = [])
    (hord : ∀ w1 w2, w1 ≠ w2 → ρ w1 = ρ w2 → Before (body.map f) w1 w2 ∨ Before (body.map f) w2 w1)
    (hkept : ∀ y ∈ body, q y = true → ∀ o ∈ (f y).outputVars, ∀ w, w ≠ o → ρ w = ρ o → Before (body.map f) o w →
      ∃ bpre d brest, body = bpre ++ d :: brest ∧ q d = true ∧ w ∈ (f d).outputVars)
    (hH : ∀ s ∈ H, ∀ o ∈ s.outputVars, ∀ w, w ≠ o → ρ w ≠ ρ o) :
    fuseSafe ρ (H ++ (body.filter q).map f) = true := by
  apply fuseSafe_of_splits
  intro tpre s trest hT o ho w hw
  by_cases hwo : w = o
  · exact Or.inl hwo
  refine Or.inr fun hρ => ?_
  -- the statement belongs to the kept part of `body`
  have main : ∀ F1, (body.filter q).map f = F1 ++ s :: trest → False := by
    intro F1 hF
    obtain ⟨B1, y, B2, hbody, hy, rfl, _, hF2⟩ := filter_map_split q f body F1 trest s hF
    have hP : body.map f = B1.map f ++ f y :: B2.map f := by rw [hbody]; simp
    rcases hord w o hwo hρ with hb | hb
    · -- `w` is dead after the definition of `o`
      obtain ⟨p, t, r, e, ot, _, dead⟩ := hb
      obtain ⟨_, _, hr⟩ := split_unique _ hnd _ p _ r (f y) t o hP e ho ot
      obtain ⟨x, hx, hwx⟩ := mem_liveIn_reads trest w hw
      refine dead x ?_ (Stmt.reads_sub_inputVars x w hwx)
      rw [← hr]
      rw [hF2] at hx
      obtain ⟨z, hz, rfl⟩ := List.mem_map.1 hx
      exact List.mem_map.2 ⟨z, (List.mem_filter.1 hz).1, rfl⟩
    · obtain ⟨bpre, d, brest, hbody2, hqd, hwd⟩ := hkept y (by rw [hbody]; simp) hy o ho w hwo hρ hb
      have hP2 : body.map f = bpre.map f ++ f d :: brest.map f := by rw [hbody2]; simp
      obtain ⟨hnr, hnd2⟩ := no_read_before_def _ hnd hcl _ _ _ hP2 w hwd
      obtain ⟨p, t, r, e, wt, od, _⟩ := hb
      obtain ⟨hp, _, _⟩ := split_unique _ hnd _ p _ r _ t w hP2 e hwd wt
      have hnd' := hnd
      rw [hP] at hnd'
      rcases split_tri B1 bpre y d B2 brest (hbody.symm.trans hbody2) with ⟨hB1, _, _⟩ | ⟨mid, hbp, hB2⟩ | ⟨mid, hB1, _⟩
      · -- the statement defines `w` itself: `o` would be defined before it
        exact (outs_disj _ _ (f y) hnd').1 o (by rw [hB1, hp]; exact od) ho
      · -- `w` is defined later in the text, before its readers
        rw [hF2, hB2, filter_map_of_split q f mid brest _ hqd] at hw
        refine not_live_of_defined_first _ _ _ w hwd ?_ hnd2 hw
        intro r hr
        apply hnr r
        rw [hbp]
        obtain ⟨z, hz, rfl⟩ := List.mem_map.1 hr
        exact List.mem_map.2 ⟨z, by simp [(List.mem_filter.1 hz).1], rfl⟩
      · -- `w` is defined before `o`: contradicts `Before o w`
        refine (outs_disj _ _ (f y) hnd').1 o ?_ ho
        rw [hB1, List.map_append, outsOf_append]
        exact List.mem_append_left _ (by rw [hp]; exact od)
  rcases List.append_eq_append_iff.1 hT with ⟨a', _, hF⟩ | ⟨c', hHs, hc⟩
  · exact main a' hF
  · match c', hHs, hc with
    | [], _, hc => exact main [] (by simpa using hc.symm)
    | s' :: c'', hHs, hc =>
      simp only [List.cons_append, List.cons.injEq] at hc
      exact hH s (by rw [hHs, hc.1]; simp) o ho w hwo hρ

theorem safe_of_ordered (P : List Stmt) (ρ : Nat → Nat) (hnd : (outsOf P).Nodup) (hcl : liveIn P = [])
    (hord : ∀ w1 w2, w1 ≠ w2 → ρ w1 = ρ w2 → Before P w1 w2 ∨ Before P w2 w1) : fuseSafe ρ P = true := by
  have h := text_safe_of_ordered id (fun _ => true) P ρ []
  rw [List.nil_append, List.filter_eq_self.2 (fun _ _ => rfl), List.map_id] at h
  exact h hnd hcl hord (fun y _ _ o _ w _ _ ⟨pre, t, rest, e, wt, _⟩ => ⟨pre, t, rest, e, rfl, wt⟩) (fun _ hs => nomatch hs)

end Einx.Compile
