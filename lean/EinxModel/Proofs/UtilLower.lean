import EinxModel.Proofs.ExceptList
/-! Two partial computations in `Except`, reasoned about along their `do` blocks, beside the rules of `Proofs/ExceptList.lean`:
`ExceptR Eq R` — both succeed with `R`-related results or both fail with the same message; `OkRel R` — if both succeed, the
results are `R`-related. -/
namespace Einx

theorem except_map_map {ε α β γ : Type} (x : Except ε α) (f : α → β) (g : β → γ) :
    (x.map f).map g = x.map (fun a => g (f a)) := by
  cases x <;> rfl

def OkRel {α β : Type} (R : α → β → Prop) (x : Except String α) (y : Except String β) : Prop :=
  ∀ a b, x = .ok a → y = .ok b → R a b

section
variable {α β γ δ : Type} {R : α → β → Prop} {S : γ → δ → Prop} {x : Except String α} {y : Except String β}
  {f : α → Except String γ} {g : β → Except String δ}

theorem ExceptR.okRel {E : String → String → Prop} (h : ExceptR E R x y) : OkRel R x y := by
  rintro a b rfl rfl; exact h

/-- Two runs that end alike, mapped to the same value wherever both succeed. -/
theorem ExceptR.map_eq {k : α → γ} {k' : β → γ} (h : ExceptR Eq R x y)
    (hk : ∀ a b, x = .ok a → y = .ok b → R a b → k a = k' b) : x.map k = y.map k' := by
  cases x <;> cases y <;> first | exact False.elim h | exact congrArg _ h | exact congrArg _ (hk _ _ rfl rfl h)

theorem OkRel.bind (h : OkRel R x y) (hf : ∀ a b, x = .ok a → y = .ok b → R a b → OkRel S (f a) (g b)) :
    OkRel S (x >>= f) (y >>= g) := by
  intro c d hc hd
  cases x with
  | error e => cases hc
  | ok a =>
    cases y with
    | error e => cases hd
    | ok b => exact hf a b rfl rfl (h a b rfl rfl) c d hc hd

theorem OkRel.pure {a : α} {b : β} (h : R a b) : OkRel R (Pure.pure a : Except String α) (Pure.pure b) := by
  rintro _ _ ⟨⟩ ⟨⟩; exact h

theorem OkRel.error_left {e : String} : OkRel R (.error e) y := by
  rintro _ _ ⟨⟩

theorem OkRel.guard {c c' : Prop} [Decidable c] [Decidable c'] {e e' : String} {ε ε' : Type}
    {k : ε → Except String α} {k' : ε' → Except String β} (h : OkRel R x y) :
    OkRel R (if c then throw e >>= k else x) (if c' then throw e' >>= k' else y) := by
  intro a b ha hb
  split at ha
  · cases ha
  · split at hb
    · cases hb
    · exact h a b ha hb
end

end Einx
