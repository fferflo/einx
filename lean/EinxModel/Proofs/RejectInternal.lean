import EinxModel.Proofs.RejectLex
import EinxModel.Proofs.NotationInternal
import EinxModel.Proofs.NodeWise
import EinxModel.Proofs.NotationTokAll
/-!
# `parse_op` has no internal outcome (helper lemmas for Props/C03Reject.lean)

`parse_total_cases` (Props/C12) leaves five internal outcomes open.  With the constants of the source as extracted (every operator
of `_nary_ops` has a handler; `_axis_value` accepts exactly what `int()` accepts) none of them is reachable:

* `unhandledOp`     — `naryOps ⊆ modelHandled` (obligation on the extracted table);
* `intLiteral`      — `digitRanges = decimalRanges` (obligation on the extracted tables);
* `assertAxisName`  — invariant `TokGood`: every atom of the token tree is a valid token and not a delimiter; a single atom
                      that reaches the `Axis` case is no operator and not `...`, so it is a name or a number;
* `assertDelimiter` — invariant `TokGood`: the opening token of every group is `(` or `[`;
* `assertMoveUp`    — invariant `NoOp`: after the first `move_up` pass no `Op` node is left below the root.
-/
namespace Einx.Notation

def TokenGood (t : Token) : Prop :=
  validToken t.text = true ∧ delimsFront.contains t.text = false ∧ delimsBack.contains t.text = false

abbrev TokGood : Tok → Prop := TokAll TokenGood fun o _ => IsOpen o

theorem buildTree_good {ts : List Token} {tree : List Tok} (hts : ∀ t ∈ ts, validToken t.text = true)
    (h : buildTree ts [] [] = .ok tree) : ∀ t ∈ tree, TokGood t :=
  tokAllL_iff.mp ((buildTree_all (E := fun _ => True) (T := fun t => validToken t.text = true) (O := IsOpen)
    (fun _ _ h => isOpen_iff_front.mpr h) (fun _ h h1 h2 => ⟨h, h1, h2⟩) (fun _ _ ho _ _ _ => ho) (fun _ _ => trivial)
    (fun _ _ => trivial) hts).ok h)

theorem literals_classified : ∀ l ∈ literals,
    (naryOps.contains l || delimsFront.contains l || delimsBack.contains l || l == ellipsisLit) = true := by decide +kernel

theorem parseAxis_noint (t : Token) (hg : TokenGood t) (hnop : naryOps.contains t.text = false) (hne : (t.text == ellipsisLit) = false) :
    IntP (fun _ => False) (parseAxis t) := by
  obtain ⟨hv, hnf, hnb⟩ := hg
  refine parseAxis_elim t (fun _ _ => trivial) (fun hd ha => ?_) (fun _ _ => trivial) fun hd hname => ?_
  · exact Bool.false_ne_true (ha.symm.trans (isDigitStr_all_decimal hd))
  · simp only [validToken, hnop, hd, hname, Bool.or_false] at hv
    have := literals_classified t.text (List.contains_iff_mem.mp hv)
    rw [hnop, hnf, hnb, hne] at this
    cases this

theorem parse_noint (ts : List Tok) (b e : Nat) (ipc : Bool) :
    (∀ t ∈ ts, TokGood t) → IntP (fun _ => False) (parse ts b e ipc) := by
  fun_induction parse ts b e ipc with
  -- the branches of `parse` that return a tree or a `SyntaxError`
  | case1 | case3 | case4 | case5 | case9 | case12 | case13 | case14 => intro _; trivial
  | case2 ts b e ipc o c inner hs ib err heq ih =>
    intro hts
    have hg : TokGood (Tok.group o c inner) := hts _ (mem_strip (by rw [hs]; simp))
    have := ih (tokAll_group.mp hg).2
    rw [heq] at this
    exact intP_err this
  | case6 ts b e ipc o c inner hs ib x heq h1 h2 =>
    intro hts
    have hg : TokGood (Tok.group o c inner) := hts _ (mem_strip (by rw [hs]; simp))
    exfalso
    rcases (tokAll_group.mp hg).1 with h | h
    · apply h1; rw [h]; decide
    · apply h2; rw [h]; decide
  | case7 ts b e ipc t0 rest _ hs ts1 op hop err heq ih =>
    intro hts
    have hts1 : ∀ t ∈ ts1, TokGood t := fun t ht => hts t (mem_strip (by rw [hs]; exact ht))
    obtain ⟨a, _, ha⟩ := mapM_err_mem _ _ _ heq
    have := ih a (fun t ht => hts1 t (operands_mem (mem_keepOperands a.2) ht).1)
    rw [ha] at this
    exact intP_err this
  | case8 ts b e ipc t0 rest _ hs ts1 b1 e1 op hop xs heq ih =>
    intro _
    exact combine_int.mono fun _ h => h.2 (naryOps_handled op (findOp_mem hop))
  | case10 ts b e ipc t hs hne h2 h3 ts1 hop =>
    intro hts
    have hg : TokGood (Tok.atom t) := hts _ (mem_strip (by rw [hs]; simp))
    apply parseAxis_noint t hg
    · cases hc : naryOps.contains t.text with
      | false => rfl
      | true =>
        have := findOp_eq_none hop t.text (List.contains_iff_mem.mp hc)
        simp [ts1, Tok.isText] at this
    · simpa using hne
  | case11 ts b e ipc x t hs _ err heq _ _ _ _ ih =>
    intro hts
    have hx : TokGood x := hts x (mem_strip (by rw [hs]; simp))
    have := ih (by simpa using hx)
    rw [heq] at this
    exact intP_err this

mutual
def OpsNE : Expr → Prop
  | .axis .. => True
  | .flat i _ _ | .brackets i _ _ | .ellipsis i _ _ _ => OpsNE i
  | .concat cs _ _ | .list cs _ _ | .args cs _ _ => OpsNEL cs
  | .op cs _ _ => cs ≠ [] ∧ OpsNEL cs
def OpsNEL : List Expr → Prop
  | [] => True
  | c :: cs => OpsNE c ∧ OpsNEL cs
end

theorem opsNEL_iff {cs : List Expr} : OpsNEL cs ↔ ∀ c ∈ cs, OpsNE c := by
  induction cs with
  | nil => simp [OpsNEL]
  | cons c cs ih => simp [OpsNEL, ih]

theorem opsNE_children {x : Expr} (h : OpsNE x) : ∀ c ∈ x.children, OpsNE c := by
  cases x with
  | axis => intro c hc; cases hc
  | flat i b e | brackets i b e | ellipsis i _ b e => intro c hc; rw [List.mem_singleton.mp hc]; exact h
  | concat cs b e | list cs b e | args cs b e => exact opsNEL_iff.mp h
  | op cs b e => exact opsNEL_iff.mp h.2

mutual
def NoOp : Expr → Prop
  | .axis .. => True
  | .flat i _ _ | .brackets i _ _ | .ellipsis i _ _ _ => NoOp i
  | .concat cs _ _ | .list cs _ _ | .args cs _ _ => NoOpL cs
  | .op .. => False
def NoOpL : List Expr → Prop
  | [] => True
  | c :: cs => NoOp c ∧ NoOpL cs
end

theorem noOpL_iff {cs : List Expr} : NoOpL cs ↔ ∀ c ∈ cs, NoOp c := by
  induction cs with
  | nil => simp [NoOpL]
  | cons c cs ih => simp [NoOpL, ih]

def NoOpNode : Expr → Prop
  | .op .. => False
  | _ => True

theorem noOp_nodeWise : NodeWise NoOpNode NoOp :=
  have t : ∀ {p : Prop}, p ↔ True ∧ p := ⟨fun h => ⟨trivial, h⟩, And.right⟩
  have l : ∀ cs, NoOpL cs ↔ True ∧ ∀ c ∈ cs, NoOp c := fun _ => noOpL_iff.trans t
  .of_cases (fun _ _ _ _ => Iff.rfl) (fun _ _ _ => t) (fun _ _ _ => t) (fun _ _ _ _ => t)
    (fun cs _ _ => l cs) (fun cs _ _ => l cs) (fun cs _ _ => l cs) (fun _ _ _ => ⟨False.elim, And.left⟩) trivial

/-- Alternatives of a lifted node: all children are free of `Op`. -/
def AltsNoOp (y : Expr) : Prop := ∀ c ∈ y.children, NoOp c

theorem distribute_op_noOp (cls : Cls) {children : List Expr} (b e : Int) (arrows : List Int)
    (hch : ∀ y ∈ children, AltsNoOp y) : OkP AltsNoOp (distribute .op cls children b e arrows) := by
  refine distribute_elim .op cls children b e arrows (fun _ => trivial) fun _ _ _ => List.forall_mem_map.mpr fun idx _ => ?_
  have hz : ∀ z ∈ children.map (pick idx), NoOp z := List.forall_mem_map.mpr fun y hy => noOp_nodeWise.pick idx (hch y hy)
  cases cls
  · exact noOp_nodeWise.mkList (fun _ => trivial) hz
  · exact noOp_nodeWise.mkConcat trivial hz
  · exact noOp_nodeWise.intro trivial hz

theorem altsNoOp_map {o : Expr} {f : Expr → Expr} (hf : ∀ a, NoOp a → NoOp (f a)) (h : AltsNoOp o) (b e : Int) :
    AltsNoOp (Lift.op.wrap (o.children.map f) b e) :=
  List.forall_mem_map.mpr fun a ha => hf a (h a ha)

/-- Whatever the tree, the first pass leaves no `Op` below the alternatives of the node it returns. -/
theorem moveUp_op_noOp (arrows : List Int) (x : Expr) : OkP AltsNoOp (moveUp .op arrows x) := by
  induction x using Expr.memInduction with
  | axis n v b e => exact List.forall_mem_singleton.mpr trivial
  | flat i b e ih =>
    rw [moveUp_flat]
    exact ih.bind fun o _ ho => altsNoOp_map (fun _ => noOp_nodeWise.mkFlat trivial) ho _ _
  | brackets i b e ih =>
    rw [moveUp_brackets]
    exact ih.bind fun o _ ho => altsNoOp_map (fun _ => noOp_nodeWise.mkBrackets trivial) ho _ _
  | ellipsis i id b e ih =>
    rw [moveUp_ellipsis]
    exact ih.bind fun o _ ho => altsNoOp_map (fun _ => noOp_nodeWise.mkEllipsis trivial) ho _ _
  | list cs b e ih =>
    rw [moveUp_list]
    exact (ExceptP.mapM_forall ih).bind fun ch _ hch => distribute_op_noOp .list b e arrows hch
  | concat cs b e ih =>
    rw [moveUp_concat]
    exact (ExceptP.mapM_forall ih).bind fun ch _ hch => distribute_op_noOp .concat b e arrows hch
  | args cs b e ih =>
    rw [moveUp_args]
    exact (ExceptP.mapM_forall ih).bind fun ch _ hch => distribute_op_noOp .args b e arrows hch
  | op cs b e ih =>
    rw [moveUp_op_op]
    exact (ExceptP.mapM_forall ih).bind fun ch _ hch => List.forall_mem_flatMap.mpr hch

theorem moveUpL_op_noOp (arrows : List Int) : ∀ (cs : List Expr) (ch : List Expr), moveUpL .op arrows cs = .ok ch →
    ∀ y ∈ ch, AltsNoOp y :=
  fun cs _ h => (ExceptP.mapM_forall fun c _ => moveUp_op_noOp arrows c).ok (moveUpL_eq_mapM .op arrows cs ▸ h)

/-- The second pass on an expression without `Op` cannot hit `raise AssertionError()`. -/
theorem moveUp_args_noint (arrows : List Int) : ∀ (x : Expr), NoOp x → IntP (fun _ => False) (moveUp .args arrows x) := by
  intro x
  induction x using Expr.memInduction with
  | axis n v b e => intro _; trivial
  | flat i b e ih =>
    intro h
    rw [moveUp_flat]
    exact (ih h).bind fun _ _ => trivial
  | brackets i b e ih =>
    intro h
    rw [moveUp_brackets]
    exact (ih h).bind fun _ _ => trivial
  | ellipsis i _ b e ih =>
    intro h
    rw [moveUp_ellipsis]
    exact (ih h).bind fun _ _ => trivial
  | list cs b e ih =>
    intro h
    rw [moveUp_list]
    exact (IntP.mapM fun c hc => ih c hc (noOpL_iff.mp h c hc)).bind fun ch _ => distribute_int .args _ ch b e arrows
  | concat cs b e ih =>
    intro h
    rw [moveUp_concat]
    exact (IntP.mapM fun c hc => ih c hc (noOpL_iff.mp h c hc)).bind fun ch _ => distribute_int .args _ ch b e arrows
  | args cs b e ih =>
    intro h
    rw [moveUp_args]
    exact (IntP.mapM fun c hc => ih c hc (noOpL_iff.mp h c hc)).bind fun _ _ => trivial
  | op cs b e ih => intro h; exact h.elim

theorem finish_noint (arrows : List Int) (x : Expr) : IntP (fun _ => False) (finish arrows x) := by
  rw [finish_eq]
  refine ((moveUp_res .op arrows x).intP.mono fun _ h => nomatch h.1).bind fun x1 h1 => ?_
  obtain ⟨cs, b, e, rfl⟩ := (moveUp_res .op arrows x).ok h1
  refine (IntP.mapM fun c hc => moveUp_args_noint arrows c ((moveUp_op_noOp arrows x).ok h1 c hc)).bind fun cs2 _ => ?_
  split
  · trivial
  · exact checkBrackets_int _

/-- `parse_op` never fails with an internal exception (for the constants of the source as extracted). -/
theorem parseOp_noint (text : Str) : IntP (fun _ => False) (parseOp text) := by
  rw [parseOp_bind]
  refine (lex_int text).bind fun toks hl => (buildTree_int _ [] []).bind fun tree hb => ?_
  exact (parse_noint tree 0 _ false (buildTree_good (fun t ht => (lex_ok_tokens hl).2 t (mem_dedupSpaces ht)) hb)).bind
    fun x _ => finish_noint _ x

end Einx.Notation
