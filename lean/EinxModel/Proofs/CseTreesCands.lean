import EinxModel.Proofs.CseTreesBasic
/-!
The candidate list `common_exprs` of `cse`, without the walk: what `replace` may assume about it (`CandsOK`), and that the
selection establishes it for every enumeration of the dict `str_to_common_expr`.  An exprlist is the run of nodes at its
identities and is keyed by them, so it belongs to one candidate only; hence the two searches of `replace` are determined by
the key of the candidate they find, not by its position, and what they find passed the filter of `cse`.
-/
namespace Einx.Solve.CseT
open Einx.Solve

/-- the entry consists of the nodes at the paths `ps` below the node `e` (whose identity is `id`), and its key is
computed from these nodes -/
def EntOK (id : Id) (e : VExpr) (x : String × Occ) : Prop :=
  ∃ ps : List (List Nat), ps ≠ [] ∧ x.2.ids = ps.map (id ++ ·) ∧ ps.map (subAt e) = x.2.nodes.map some ∧
    x.1 = strSlice x.2.nodes

theorem strSlice_singleton (e : VExpr) : strSlice [e] = strV e := by
  show String.intercalate " " [strV e] = strV e
  rfl

theorem entOK_self (id : Id) (ib uf hp : Bool) (e : VExpr) : ∀ x ∈ selfEntry id ib uf hp e, EntOK id e x := by
  intro x hx
  unfold selfEntry at hx
  split at hx
  · simp only [List.mem_singleton] at hx
    subst hx
    exact ⟨[[]], by simp, by simp, by simp [subAt], (strSlice_singleton e).symm⟩
  · cases hx

theorem take_drop_map_some (cs : List VExpr) (s m : Nat) (h : s + m ≤ cs.length) :
    ((cs.drop s).take m).map some = (List.range m).map (fun j => cs[s + j]?) := by
  apply List.ext_getElem?
  intro j
  simp only [List.getElem?_map, List.getElem?_take, List.getElem?_drop]
  by_cases hj : j < m
  · have hlt : s + j < cs.length := by omega
    simp [hj, List.getElem?_eq_getElem hlt]
  · simp [hj]

theorem entOK_slices (id : Id) (ib uf : Bool) (cs : List VExpr) (e : VExpr) (he : ∀ j, childAt e j = cs[j]?) :
    ∀ x ∈ slices id ib uf cs, EntOK id e x := by
  intro x hx
  simp only [slices, List.mem_flatMap, List.mem_map, List.mem_range] at hx
  obtain ⟨s, hs, l, hl, rfl⟩ := hx
  refine ⟨(List.range (l + 1)).map (fun j => [s + j]), by simp, by simp [List.map_map, Function.comp_def], ?_, rfl⟩
  simp only [List.map_map, Function.comp_def]
  rw [take_drop_map_some cs s (l + 1) (by omega)]
  apply List.map_congr_left
  intro j _
  simp only [subAt, he]
  cases cs[s + j]? <;> rfl

theorem entOK_lift {id : Id} {e c : VExpr} {k : Nat} (hc : childAt e k = some c) {x : String × Occ}
    (h : EntOK (id ++ [k]) c x) : EntOK id e x := by
  obtain ⟨ps, h0, h1, h2, h3⟩ := h
  refine ⟨ps.map (k :: ·), by simpa using h0, ?_, ?_, h3⟩
  · rw [h1]; simp [List.map_map, Function.comp_def]
  · rw [← h2]; simp only [List.map_map, Function.comp_def]
    apply List.map_congr_left
    intro p _
    simp [subAt, hc]

theorem entOK_entries :
    (∀ (e : VExpr) (id : Id) (ib uf hp : Bool), ∀ x ∈ entries id ib uf hp e, EntOK id e x) ∧
    ∀ (cs : List VExpr) (e : VExpr) (id : Id) (ib uf : Bool) (k : Nat),
      (∀ j, childAt e (k + j) = cs[j]?) → ∀ x ∈ entriesL id ib uf k cs, EntOK id e x := by
  apply VExpr.induct₂
  case node =>
    intro e ih id ib uf hp x hx
    cases e with
    | axis n v m =>
      simp only [entries] at hx
      exact entOK_self id ib uf hp _ x hx
    | list cs =>
      simp only [entries, List.mem_append] at hx
      rcases hx with (hx | hx) | hx
      · exact entOK_self id ib uf hp _ x hx
      · split at hx
        · exact entOK_slices id ib uf cs (.list cs) (fun j => by simp [childAt]) x hx
        · cases hx
      · exact ih (.list cs) id ib uf 0 (fun j => by simp [childAt]) x hx
    | concat cs =>
      simp only [entries, List.mem_append] at hx
      rcases hx with hx | hx
      · exact entOK_self id ib uf hp _ x hx
      · exact ih (.concat cs) id ib uf 0 (fun j => by simp [childAt]) x hx
    | flat e | brackets e =>
      simp only [entries, List.mem_append] at hx
      rcases hx with hx | hx
      · exact entOK_self id ib uf hp _ x hx
      · exact entOK_lift (k := 0) (by simp [childAt]) (ih (id ++ [0]) _ _ true x hx)
  case nil =>
    intro e id ib uf k _ x hx
    simp [entriesL] at hx
  case cons =>
    intro c cs ihc ihcs e id ib uf k he x hx
    simp only [entriesL, List.mem_append] at hx
    rcases hx with hx | hx
    · have hc : childAt e k = some c := by simpa using he 0
      exact entOK_lift hc (ihc (id ++ [k]) ib uf true x hx)
    · exact ihcs e id ib uf (k + 1) (tail_from he) x hx

theorem entOK_entriesL : ∀ (cs : List VExpr) (e : VExpr) (id : Id) (ib uf : Bool) (k : Nat),
    (∀ j, childAt e (k + j) = cs[j]?) → ∀ x ∈ entriesL id ib uf k cs, EntOK id e x :=
  entOK_entries.2

/-- the entry consists of the nodes at its identities in the forest, and its key is computed from these nodes -/
def RootEntOK (roots : List (Option VExpr)) (x : String × Occ) : Prop :=
  0 < x.2.ids.length ∧ x.2.ids.map (nodeAt roots) = x.2.nodes.map some ∧ x.1 = strSlice x.2.nodes

theorem rootEntOK_of_entOK {roots : List (Option VExpr)} {r : Nat} {root : VExpr} (hr : roots[r]? = some (some root))
    {x : String × Occ} (h : EntOK [r] root x) : RootEntOK roots x := by
  obtain ⟨ps, hp0, h1, h2, h3⟩ := h
  refine ⟨?_, ?_, h3⟩
  · rw [h1, List.length_map]
    exact List.length_pos_iff.mpr hp0
  · rw [h1, ← h2, List.map_map]
    exact List.map_congr_left fun p _ => by simp [nodeAt, hr]

theorem rootEntOK_allEntries (roots : List (Option VExpr)) : ∀ x ∈ allEntries 0 roots, RootEntOK roots x := by
  intro x hx
  obtain ⟨j, r, hj, hx⟩ := of_mem_roots (F := allEntries) (f := (entries · false false false))
    (fun _ => rfl) (fun _ _ => rfl) (fun _ _ _ => rfl) roots 0 hx
  exact rootEntOK_of_entOK hj (entOK_entries.1 r [j] false false false x (by simpa using hx))

theorem key_of_ids {roots : List (Option VExpr)} {x y : String × Occ} (hx : RootEntOK roots x) (hy : RootEntOK roots y)
    (hid : x.2.ids = y.2.ids) : x.1 = y.1 := by
  obtain ⟨_, hx2, hx3⟩ := hx
  obtain ⟨_, hy2, hy3⟩ := hy
  have hnodes : x.2.nodes = y.2.nodes :=
    (List.map_inj_right fun _ _ => Option.some.inj).mp (by rw [← hx2, ← hy2, hid])
  rw [hx3, hy3, hnodes]

theorem mem_insertEntry {S : String × Occ → Prop} (k : String) (o : Occ) (hko : S (k, o)) (g : List Cand)
    (hg : ∀ c ∈ g, ∀ o' ∈ c.occs, S (c.key, o')) : ∀ c ∈ insertEntry k o g, ∀ o' ∈ c.occs, S (c.key, o') := by
  induction g with
  | nil =>
    intro c hc o' ho'
    simp only [insertEntry, List.mem_singleton] at hc
    subst hc
    simp only [List.mem_singleton] at ho'
    subst ho'; exact hko
  | cons d rest ih =>
    intro c hc o' ho'
    simp only [insertEntry] at hc
    split at hc
    · rename_i hk
      have hk' : d.key = k := by simpa using hk
      rcases List.mem_cons.mp hc with rfl | hc'
      · simp only [List.mem_append, List.mem_singleton] at ho'
        rcases ho' with ho' | rfl
        · exact hg d List.mem_cons_self o' ho'
        · simpa [hk'] using hko
      · exact hg c (List.mem_cons_of_mem _ hc') o' ho'
    · rcases List.mem_cons.mp hc with rfl | hc'
      · exact hg _ List.mem_cons_self o' ho'
      · exact ih (fun c hc => hg c (List.mem_cons_of_mem _ hc)) c hc' o' ho'

theorem mem_groupEntries (es : List (String × Occ)) : ∀ c ∈ groupEntries es, ∀ o ∈ c.occs, (c.key, o) ∈ es := by
  unfold groupEntries
  suffices ∀ (l : List (String × Occ)) (g : List Cand), (∀ x ∈ l, x ∈ es) →
      (∀ c ∈ g, ∀ o ∈ c.occs, (c.key, o) ∈ es) →
      ∀ c ∈ l.foldl (fun g e => insertEntry e.1 e.2 g) g, ∀ o ∈ c.occs, (c.key, o) ∈ es from
    this es [] (fun _ h => h) (by simp)
  intro l
  induction l with
  | nil => intro g _ hg; exact hg
  | cons e l ih =>
    intro g hl hg
    simp only [List.foldl_cons]
    exact ih _ (fun x hx => hl x (List.mem_cons_of_mem _ hx))
      (mem_insertEntry (S := fun x => x ∈ es) e.1 e.2 (hl e List.mem_cons_self) g hg)

theorem mem_dedupe (os seen : List Occ) : ∀ o ∈ dedupe seen os, o ∈ os := by
  induction os generalizing seen with
  | nil => intro o ho; simp [dedupe] at ho
  | cons a os ih =>
    intro o ho
    simp only [dedupe] at ho
    split at ho
    · exact List.mem_cons_of_mem _ (ih seen o ho)
    · rcases List.mem_cons.mp ho with rfl | ho'
      · exact List.mem_cons_self
      · exact List.mem_cons_of_mem _ (ih _ o ho')

theorem mem_selectFrom (opts : Opts) (roots : List (Option VExpr)) (g : List Cand) :
    ∀ c' ∈ selectFrom opts roots g, allReplaceable c' = true ∧ ∃ c ∈ g, c'.key = c.key ∧ ∀ o ∈ c'.occs, o ∈ c.occs := by
  intro c' hc'
  unfold selectFrom at hc'
  simp only [List.mem_filter, List.mem_map] at hc'
  obtain ⟨⟨⟨⟨⟨⟨⟨c, ⟨hc, _⟩, rfl⟩, _⟩, hrep⟩, _⟩, _⟩, _⟩, _⟩ := hc'
  exact ⟨hrep, c, hc, rfl, fun o ho => mem_dedupe _ _ o ho⟩

theorem candKeys_insertEntry (k : String) (o : Occ) (g : List Cand) :
    candKeys (insertEntry k o g) = if k ∈ candKeys g then candKeys g else candKeys g ++ [k] := by
  induction g with
  | nil => simp [insertEntry, candKeys]
  | cons c rest ih =>
    simp only [insertEntry]
    by_cases h : c.key = k
    · simp [h, candKeys]
    · have hb : (c.key == k) = false := by simpa using h
      simp only [candKeys] at ih
      simp only [hb, Bool.false_eq_true, if_false, candKeys, List.map_cons, List.mem_cons, ih]
      have hk : ¬ k = c.key := fun e => h e.symm
      by_cases hm : k ∈ List.map (fun x => x.key) rest <;> simp [hm, hk]

theorem nodup_insertEntry (k : String) (o : Occ) (g : List Cand) (h : (candKeys g).Nodup) :
    (candKeys (insertEntry k o g)).Nodup := by
  rw [candKeys_insertEntry]
  split
  · exact h
  · rename_i hk
    rw [List.nodup_append]
    exact ⟨h, by simp, fun a ha b hb => by simp at hb; subst hb; exact fun e => hk (e ▸ ha)⟩

theorem nodup_groupEntries (es : List (String × Occ)) : (candKeys (groupEntries es)).Nodup := by
  unfold groupEntries
  suffices ∀ (es : List (String × Occ)) (g : List Cand), (candKeys g).Nodup →
      (candKeys (es.foldl (fun g e => insertEntry e.1 e.2 g) g)).Nodup from this es [] (by simp [candKeys])
  intro es
  induction es with
  | nil => intro g h; exact h
  | cons e es ih => intro g h; exact ih _ (nodup_insertEntry e.1 e.2 g h)

theorem nodup_filter_keys (p : Cand → Bool) {g : List Cand} (h : (candKeys g).Nodup) : (candKeys (g.filter p)).Nodup :=
  h.sublist (List.Sublist.map _ List.filter_sublist)

theorem nodup_selectFrom (opts : Opts) (roots : List (Option VExpr)) {g : List Cand} (h : (candKeys g).Nodup) :
    (candKeys (selectFrom opts roots g)).Nodup := by
  unfold selectFrom
  simp only
  repeat apply nodup_filter_keys
  have : candKeys (List.map (fun c => ({ c with occs := dedupe [] c.occs } : Cand))
      (List.filter (usedOnlyInside (allAxes 0 roots)) g)) = candKeys (List.filter (usedOnlyInside (allAxes 0 roots)) g) := by
    simp [candKeys, List.map_map, Function.comp_def]
  rw [this]
  exact nodup_filter_keys _ h

theorem notInsideOther_perm {l₁ l₂ : List Cand} (h : l₁.Perm l₂) : notInsideOther l₁ = notInsideOther l₂ :=
  funext fun c => by simp only [notInsideOther, h.any_eq]

theorem selectFrom_perm (opts : Opts) (roots : List (Option VExpr)) {g₁ g₂ : List Cand} (h : g₁.Perm g₂) :
    (selectFrom opts roots g₁).Perm (selectFrom opts roots g₂) := by
  have h7 := ((((((h.filter (usedOnlyInside (allAxes 0 roots))).map
    (fun c => ({ c with occs := dedupe [] c.occs } : Cand))).filter notSingleton).filter allReplaceable).filter
    (bracketsOK opts.cseInBrackets)).filter (concatOK opts.cseConcat)).filter rootOK
  simp only [selectFrom, notInsideOther_perm h7]
  exact h7.filter _

/-! ### the two searches find a candidate by its key, whatever its position -/

def keyIdx (cands : List Cand) (k : String) : Nat := (candKeys cands).idxOf k

/-- the renumbering induced by two enumerations of the same candidates: candidates are identified by their keys -/
def renum (c₁ c₂ : List Cand) : Nat → Nat := Einx.Order.Cse.reidx (candKeys c₁) (candKeys c₂)

theorem cand_eq_of_key {c : List Cand} (hnd : (candKeys c).Nodup) {a b : Cand} (ha : a ∈ c) (hb : b ∈ c)
    (hk : a.key = b.key) : a = b := by
  induction c with
  | nil => cases ha
  | cons x xs ih =>
    simp only [candKeys, List.map_cons, List.nodup_cons, List.mem_map, not_exists, not_and] at hnd
    rcases List.mem_cons.mp ha with rfl | ha' <;> rcases List.mem_cons.mp hb with rfl | hb'
    · rfl
    · exact absurd hk.symm (hnd.1 b hb')
    · exact absurd hk (hnd.1 a ha')
    · exact ih hnd.2 ha' hb'

theorem renum_keyIdx {c₁ c₂ : List Cand} {x : Cand} (hx : x ∈ c₁) :
    renum c₁ c₂ (keyIdx c₁ x.key) = keyIdx c₂ x.key :=
  Einx.Order.Cse.reidx_idxOf (List.mem_map_of_mem hx)

theorem renum_lt {c₁ c₂ : List Cand} (hp : c₁.Perm c₂) {i : Nat} (hi : i < c₁.length) : renum c₁ c₂ i < c₁.length := by
  have := Einx.Order.Cse.reidx_lt (hp.map Cand.key) (i := i) (by simpa using hi)
  simpa [renum, candKeys, hp.length_eq] using this

theorem renum_inj {c₁ c₂ : List Cand} (hp : c₁.Perm c₂) (hnd : (candKeys c₁).Nodup) {i j : Nat}
    (hi : i < c₁.length) (hj : j < c₁.length) (h : renum c₁ c₂ i = renum c₁ c₂ j) : i = j :=
  Einx.Order.Cse.reidx_inj (hp.map Cand.key) hnd (by simpa [candKeys] using hi) (by simpa [candKeys] using hj) h

def UniqueIds (cands : List Cand) : Prop :=
  ∀ a ∈ cands, ∀ b ∈ cands, ∀ o ∈ a.occs, ∀ o' ∈ b.occs, o.ids = o'.ids → a.key = b.key

theorem uniqueIds_spec {cands : List Cand} (h : uniqueIds cands = true) : UniqueIds cands := by
  intro a ha b hb o ho o' ho' hid
  simp only [uniqueIds, List.all_eq_true, Bool.or_eq_true, Bool.not_eq_true', beq_iff_eq] at h
  rcases h a ha b hb o ho o' ho' with h1 | h1
  · simp [hid] at h1
  · exact h1

theorem matchNode_perm {c₁ c₂ : List Cand} (hp : c₁.Perm c₂) (hnd : (candKeys c₁).Nodup) (hu : UniqueIds c₁) (id : Id) :
    matchNode c₂ id = (matchNode c₁ id).map (renum c₁ c₂) := by
  refine Einx.Order.Cse.findIdx?_perm_reidx Cand.key _ hp hnd fun a ha b hb h1 h2 => ?_
  simp only [List.any_eq_true, beq_iff_eq] at h1 h2
  obtain ⟨o, ho, hoi⟩ := h1
  obtain ⟨o', ho', hoi'⟩ := h2
  exact cand_eq_of_key hnd ha hb (hu a ha b hb o ho o' ho' (by rw [hoi, hoi']))

/-! ### the search in the list loop: the longest exprlist that starts at a position -/

def bestStep {β : Type} (found : Option (β × Nat)) (x : β × Nat) : Option (β × Nat) :=
  match found with
  | none => some x
  | some (k, len) => if x.2 > len then some x else some (k, len)

theorem bestStep_some {β : Type} (x a : β × Nat) : bestStep (some x) a = some (if a.2 > x.2 then a else x) := by
  simp only [bestStep]; split <;> rfl

theorem scanOccs_eq (pid : Id) (i n idx : Nat) (os : List Occ) (found : Option (Nat × Nat)) :
    scanOccs pid i n idx os found =
      ((os.filter (occMatchesAt pid i n)).map (fun o => (idx, o.ids.length))).foldl bestStep found := by
  induction os generalizing found with
  | nil => simp [scanOccs]
  | cons o os ih =>
    simp only [scanOccs, List.filter_cons]
    cases hm : occMatchesAt pid i n o with
    | false => simp only [Bool.false_eq_true, if_false]; exact ih found
    | true =>
      simp only [if_true, List.map_cons, List.foldl_cons]
      rw [ih]
      congr 1
      cases found with
      | none => rfl
      | some p => obtain ⟨k, len⟩ := p; simp [bestStep]

def lensI (pid : Id) (i n : Nat) : Nat → List Cand → List (Nat × Nat)
  | _, [] => []
  | idx, c :: cs =>
    (c.occs.filter (occMatchesAt pid i n)).map (fun o => (idx, o.ids.length)) ++ lensI pid i n (idx + 1) cs

theorem scanCands_eq (pid : Id) (i n : Nat) (cs : List Cand) (idx : Nat) (found : Option (Nat × Nat)) :
    scanCands pid i n idx cs found = (lensI pid i n idx cs).foldl bestStep found := by
  induction cs generalizing idx found with
  | nil => simp [scanCands, lensI]
  | cons c cs ih => simp only [scanCands, lensI, List.foldl_append, ih, scanOccs_eq]

/-- the matching exprlists with the key of their candidate -/
def lensK (pid : Id) (i n : Nat) (cs : List Cand) : List (String × Nat) :=
  cs.flatMap (fun c => (c.occs.filter (occMatchesAt pid i n)).map (fun o => (c.key, o.ids.length)))

theorem keyIdx_mid {pre cs : List Cand} {h : Cand} (hnd : (candKeys (pre ++ h :: cs)).Nodup) :
    keyIdx (pre ++ h :: cs) h.key = pre.length := by
  have hlen : pre.length < (candKeys (pre ++ h :: cs)).length := by simp [candKeys]
  have hget : (candKeys (pre ++ h :: cs))[pre.length] = h.key := by simp [candKeys]
  have := List.Nodup.idxOf_getElem hnd pre.length hlen
  rw [hget] at this
  exact this

theorem lensI_eq_lensK (pid : Id) (i n : Nat) (c : List Cand) (hnd : (candKeys c).Nodup) (cs pre : List Cand)
    (hc : c = pre ++ cs) : lensI pid i n pre.length cs = (lensK pid i n cs).map (fun x => (keyIdx c x.1, x.2)) := by
  induction cs generalizing pre with
  | nil => simp [lensI, lensK]
  | cons h cs ih =>
    have hk : keyIdx c h.key = pre.length := by subst hc; exact keyIdx_mid hnd
    have ih := ih (pre ++ [h]) (by simp [hc])
    simp only [List.length_append, List.length_cons, List.length_nil, Nat.zero_add] at ih
    simp only [lensI, lensK, List.flatMap_cons, List.map_append, List.map_map, ih]
    congr 1
    simp [Function.comp_def, hk]

theorem bestStep_map {β γ : Type} (f : β → γ) (found : Option (β × Nat)) (x : β × Nat) :
    bestStep (found.map (fun y => (f y.1, y.2))) (f x.1, x.2) = (bestStep found x).map (fun y => (f y.1, y.2)) := by
  cases found with
  | none => rfl
  | some p =>
    obtain ⟨k, len⟩ := p
    simp only [bestStep, Option.map_some]
    split <;> rfl

theorem foldl_bestStep_map {β γ : Type} (f : β → γ) (l : List (β × Nat)) (found : Option (β × Nat)) :
    (l.map (fun y => (f y.1, y.2))).foldl bestStep (found.map (fun y => (f y.1, y.2))) =
      (l.foldl bestStep found).map (fun y => (f y.1, y.2)) := by
  induction l generalizing found with
  | nil => rfl
  | cons x l ih => simp only [List.map_cons, List.foldl_cons, bestStep_map, ih]

theorem matchAt_eq (c : List Cand) (hnd : (candKeys c).Nodup) (pid : Id) (i n : Nat) :
    matchAt c pid i n = ((lensK pid i n c).foldl bestStep none).map (fun x => (keyIdx c x.1, x.2)) := by
  unfold matchAt
  rw [scanCands_eq]
  have := lensI_eq_lensK pid i n c hnd c [] rfl
  simp only [List.length_nil] at this
  rw [this]
  exact foldl_bestStep_map (keyIdx c) _ none

theorem foldl_best_some {β : Type} (l : List (β × Nat)) (x : β × Nat) :
    ∃ y, l.foldl bestStep (some x) = some y ∧ y ∈ x :: l ∧ ∀ z ∈ x :: l, z.2 ≤ y.2 := by
  induction l generalizing x with
  | nil => exact ⟨x, rfl, List.mem_cons_self, fun z hz => by simp at hz; rw [hz]; exact Nat.le_refl _⟩
  | cons a l ih =>
    -- the fold goes on with the longer of `x` and `a`, which bounds both
    obtain ⟨y, h1, h2, h3⟩ := ih (if a.2 > x.2 then a else x)
    have hy := h3 _ List.mem_cons_self
    refine ⟨y, by rw [List.foldl_cons, bestStep_some, h1], ?_, fun z hz => ?_⟩
    · rcases List.mem_cons.mp h2 with rfl | h2
      · split <;> simp
      · simp [h2]
    · simp only [List.mem_cons] at hz
      rcases hz with rfl | rfl | hz
      · split at hy <;> omega
      · split at hy <;> omega
      · exact h3 z (List.mem_cons_of_mem _ hz)

theorem best_spec {β : Type} (l : List (β × Nat)) :
    (l = [] ∧ l.foldl bestStep none = none) ∨
      ∃ y, l.foldl bestStep none = some y ∧ y ∈ l ∧ ∀ z ∈ l, z.2 ≤ y.2 := by
  cases l with
  | nil => exact Or.inl ⟨rfl, rfl⟩
  | cons x l =>
    right
    simp only [List.foldl_cons]
    exact foldl_best_some l x

theorem best_perm {β : Type} {l₁ l₂ : List (β × Nat)} (hp : l₁.Perm l₂)
    (hu : ∀ a ∈ l₁, ∀ b ∈ l₁, a.2 = b.2 → a.1 = b.1) : l₁.foldl bestStep none = l₂.foldl bestStep none := by
  rcases best_spec l₁ with ⟨h1, _⟩ | ⟨y₁, e₁, m₁, x₁⟩
  · subst h1; rw [hp.nil_eq]
  · rcases best_spec l₂ with ⟨h2, _⟩ | ⟨y₂, e₂, m₂, x₂⟩
    · subst h2; have := hp.eq_nil; subst this; cases m₁
    · have h12 := x₂ y₁ (hp.mem_iff.mp m₁)
      have h21 := x₁ y₂ (hp.mem_iff.mpr m₂)
      have hlen : y₁.2 = y₂.2 := by omega
      have := hu y₁ m₁ y₂ (hp.mem_iff.mpr m₂) hlen
      rw [e₁, e₂]
      congr 1
      exact Prod.ext this hlen

theorem occMatchesAt_ids {pid : Id} {i n : Nat} {o : Occ} (h : occMatchesAt pid i n o = true) :
    o.ids = (List.range o.ids.length).map (fun j => pid ++ [i + j]) := by
  simp only [occMatchesAt, Bool.and_eq_true, beq_iff_eq] at h
  exact h.2

theorem mem_lensK {pid : Id} {i n : Nat} {cs : List Cand} {x : String × Nat} (h : x ∈ lensK pid i n cs) :
    ∃ c ∈ cs, ∃ o ∈ c.occs, occMatchesAt pid i n o = true ∧ x = (c.key, o.ids.length) := by
  simp only [lensK, List.mem_flatMap, List.mem_map, List.mem_filter] at h
  obtain ⟨c, hc, o, ⟨ho, hm⟩, rfl⟩ := h
  exact ⟨c, hc, o, ho, hm, rfl⟩

theorem matchAt_perm {c₁ c₂ : List Cand} (hp : c₁.Perm c₂) (hnd : (candKeys c₁).Nodup) (hu : UniqueIds c₁)
    (pid : Id) (i n : Nat) :
    matchAt c₂ pid i n = (matchAt c₁ pid i n).map (fun r => (renum c₁ c₂ r.1, r.2)) := by
  have hnd₂ : (candKeys c₂).Nodup := (hp.map _).nodup_iff.mp hnd
  rw [matchAt_eq c₁ hnd, matchAt_eq c₂ hnd₂]
  have hperm : (lensK pid i n c₁).Perm (lensK pid i n c₂) := hp.flatMap_right _
  have huniq : ∀ a ∈ lensK pid i n c₁, ∀ b ∈ lensK pid i n c₁, a.2 = b.2 → a.1 = b.1 := by
    intro a ha b hb hab
    obtain ⟨ca, hca, oa, hoa, hma, rfl⟩ := mem_lensK ha
    obtain ⟨cb, hcb, ob, hob, hmb, rfl⟩ := mem_lensK hb
    simp only at hab
    apply hu ca hca cb hcb oa hoa ob hob
    rw [occMatchesAt_ids hma, occMatchesAt_ids hmb, hab]
  rw [← best_perm hperm huniq]
  rcases best_spec (lensK pid i n c₁) with ⟨_, h0⟩ | ⟨y, e, m, _⟩
  · simp [h0]
  · obtain ⟨c, hc, o, _, _, rfl⟩ := mem_lensK m
    simp [e, renum_keyIdx hc]

theorem rep_singleton {t : VExpr} (h : Rep (.list [t])) : Rep t := by
  obtain ⟨h1, h2⟩ := h
  constructor
  · cases hv : valueRange t with
    | some r => rfl
    | none => simp [valueRange, valueRanges, combineRanges, hv] at h1
  · simpa [hasRepeatedAxis, axisNames, axisNamesL] using h2

/-- What `replace` may assume about `common_exprs`, for the forest `roots`: one entry per key; every exprlist consists of
the nodes at its identities and is keyed by their printed form; every exprlist passed the filter. -/
structure CandsOK (roots : List (Option VExpr)) (cands : List Cand) : Prop where
  keys : (candKeys cands).Nodup
  ent : ∀ c ∈ cands, ∀ o ∈ c.occs, RootEntOK roots (c.key, o)
  rep : ∀ c ∈ cands, ∀ o ∈ c.occs, Rep (.list o.nodes)

namespace CandsOK
variable {roots : List (Option VExpr)} {cands : List Cand}

theorem uniqueIds (h : CandsOK roots cands) : UniqueIds cands :=
  fun a ha b hb o ho o' ho' hid => key_of_ids (h.ent a ha o ho) (h.ent b hb o' ho') hid

theorem hits (h : CandsOK roots cands) : HitsOK roots (matchNode cands) (matchAt cands) FiltOK := by
  refine ⟨fun _ _ => trivial, fun id k t _ hm hn => ⟨Nat.one_pos, ?_⟩, fun pid i k len cs _ hm hn => ?_⟩
  · obtain ⟨hk, hp, _⟩ := List.findIdx?_eq_some_iff_getElem.mp hm
    simp only [List.any_eq_true, beq_iff_eq] at hp
    obtain ⟨o, ho, hid⟩ := hp
    have hnodes : o.ids.map (nodeAt roots) = o.nodes.map some := (h.ent _ (List.getElem_mem hk) o ho).2.1
    simp only [hid, List.map_cons, List.map_nil, hn] at hnodes
    have : o.nodes = [t] := (List.map_inj_right fun _ _ => Option.some.inj).mp hnodes.symm
    exact rep_singleton (this ▸ h.rep _ (List.getElem_mem hk) o ho)
  · rw [matchAt_eq _ h.keys] at hm
    rcases best_spec (lensK pid i cs.length cands) with ⟨_, h0⟩ | ⟨y, e, m, _⟩
    · simp [h0] at hm
    · obtain ⟨c, hc, o, ho, hmatch, rfl⟩ := mem_lensK m
      simp only [e, Option.map_some, Option.some.injEq, Prod.mk.injEq] at hm
      obtain ⟨_, hl⟩ := hm
      have hpos : 0 < o.ids.length := (h.ent c hc o ho).1
      have hnodes : o.ids.map (nodeAt roots) = o.nodes.map some := (h.ent c hc o ho).2.1
      have hr := h.rep c hc o ho
      have hids := occMatchesAt_ids hmatch
      have hle : i + o.ids.length ≤ cs.length := by
        simp only [occMatchesAt, Bool.and_eq_true, decide_eq_true_eq] at hmatch
        exact hmatch.1
      have hnode : o.nodes = (cs.drop i).take o.ids.length := by
        apply (List.map_inj_right fun _ _ => Option.some.inj).mp
        rw [← hnodes, take_drop_map_some cs i o.ids.length hle]
        conv => lhs; rw [hids]
        rw [List.map_map]
        apply List.map_congr_left
        intro j _
        simp only [Function.comp_def, nodeAt_snoc hn, childAt]
      rw [hnode, hl] at hr
      exact ⟨hl ▸ hpos, hr⟩

end CandsOK

/-- the filters keep the invariant: they drop whole candidates and exprlists, never add or re-key one, and
`allReplaceable` is one of them -/
theorem candsOK_selectFrom (opts : Opts) (roots : List (Option VExpr)) {g : List Cand} (hnd : (candKeys g).Nodup)
    (hg : ∀ c ∈ g, ∀ o ∈ c.occs, (c.key, o) ∈ allEntries 0 roots) : CandsOK roots (selectFrom opts roots g) := by
  refine ⟨nodup_selectFrom opts roots hnd, fun c hc o ho => ?_, fun c hc o ho => ?_⟩
  · obtain ⟨_, c0, hc0, hk, ho0⟩ := mem_selectFrom opts roots g c hc
    exact hk ▸ rootEntOK_allEntries roots _ (hg c0 hc0 o (ho0 o ho))
  · have h := (mem_selectFrom opts roots g c hc).1
    simp only [allReplaceable, List.all_eq_true, replaceable, Bool.and_eq_true, Bool.not_eq_true'] at h
    exact h o ho

theorem candsOK_enum {enum : List Cand → List Cand} (henum : ∀ l, (enum l).Perm l) (opts : Opts)
    (roots : List (Option VExpr)) : CandsOK roots (selectFrom opts roots (enum (groupEntries (allEntries 0 roots)))) :=
  candsOK_selectFrom opts roots (((henum _).map _).nodup_iff.mpr (nodup_groupEntries _))
    fun c hc => mem_groupEntries _ c ((henum _).mem_iff.mp hc)

theorem candsOK_candidates (opts : Opts) (roots : List (Option VExpr)) : CandsOK roots (candidates opts roots) :=
  candsOK_enum (enum := id) (fun _ => .refl _) opts roots

end Einx.Solve.CseT
