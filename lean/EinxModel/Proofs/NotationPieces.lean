import EinxModel.Proofs.NotationPrintDefs
import EinxModel.Proofs.NotationLexer
/-!
# M1 Notation — the lexer and the duplicate-space pass on well separated token texts (`segment_pieces`, `dedup_no_adj`)
-/
namespace Einx.Notation

theorem matchLit_none_of_head {ls : List Str} {c : Char} (h : ∀ l ∈ ls, l.head? ≠ some c) (rest : Str) :
    matchLit ls (c :: rest) = none := by
  induction ls with
  | nil => rfl
  | cons a as ih =>
    simp only [matchLit]
    rw [if_neg, ih fun l hl => h l (List.mem_cons_of_mem _ hl)]
    intro ha
    match a, h a List.mem_cons_self, ha with
    | d :: a', hd, ha =>
      simp only [List.isPrefixOf, Bool.and_eq_true, beq_iff_eq] at ha
      exact hd (by rw [List.head?_cons, ha.2.1])

theorem literals_head : ∀ l ∈ literals, l.head?.all (fun c => !isNameCont c) = true := by
  rw [literals_eq]; decide

theorem matchLit_nameCont {c : Char} (h : isNameCont c = true) (rest : Str) :
    matchLit literals (c :: rest) = none :=
  matchLit_none_of_head (fun l hl hc => by
    have := literals_head l hl
    rw [hc, Option.all_some, h] at this
    cases this) rest

theorem segment_word (w : Str) (hw : w.all isNameCont = true) (rest : Str) (pos start : Nat) (cur : Str) :
    segment literals (w ++ rest) pos start cur = segment literals rest (pos + w.length) start (cur ++ w) := by
  induction w generalizing pos cur with
  | nil => simp
  | cons c w ih =>
    simp only [List.all_cons, Bool.and_eq_true] at hw
    rw [List.cons_append, segment_cons_none (matchLit_nameCont hw.1 _), ih hw.2]
    simp only [List.length_cons, List.append_assoc, List.singleton_append]
    rw [Nat.add_assoc, Nat.add_comm 1]

theorem flush_word {w : Str} (hw : w.isEmpty = false) (start pos : Nat) : flush w start pos = [⟨w, start, pos⟩] := by
  simp [flush, hw]

theorem wellSep_tail {p : Str} {r : List Str} (h : wellSep (p :: r) = true) : wellSep r = true := by
  rcases r with _ | ⟨q, r⟩
  · rfl
  · simp only [wellSep, Bool.and_eq_true] at h
    exact h.2

theorem segment_pieces_aux (ps : List Str) (h : wellSep ps = true) (pos : Nat) :
    (segment literals ps.flatten pos pos []).map (·.text) = ps := by
  induction ps generalizing pos with
  | nil => simp [segment_nil, flush_nil]
  | cons p r ih =>
    have ht := wellSep_tail h
    rw [List.flatten_cons]
    by_cases hp : literals.contains p = true
    · rw [segment_lit _ (matchLit_lit hp _), List.map_cons, ih ht]
    · rcases r with _ | ⟨q, r⟩
      · simp only [wellSep, hp, Bool.false_or, isWord, Bool.and_eq_true, Bool.not_eq_true'] at h
        rw [List.flatten_nil, segment_word p h.2, segment_nil, List.nil_append, flush_word h.1]
        rfl
      · simp only [wellSep, hp, Bool.false_or, isWord, Bool.and_eq_true, Bool.not_eq_true'] at h
        obtain ⟨⟨⟨hne, hall⟩, hq⟩, _⟩ := h
        have hm : matchLit literals (q :: r).flatten = some q := by
          rw [List.flatten_cons]; exact matchLit_lit hq _
        rw [segment_word p hall, List.nil_append, segment_match_flush hm, flush_word hne, List.map_append, ih ht]
        rfl

/-- The lexer cuts a concatenation of well separated token texts (literals and words; a word is always followed by a
    literal or the end) back into exactly these texts. -/
theorem segment_pieces (ps : List Str) (h : wellSep ps = true) :
    (segment literals ps.flatten 0 0 []).map (·.text) = ps :=
  segment_pieces_aux ps h 0

theorem lex_pieces (ps : List Str) (h : wellSep ps = true) (hv : ∀ p ∈ ps, validToken p = true) :
    ∃ toks, lex ps.flatten = .ok toks ∧ toks.map (·.text) = ps := by
  have hs := segment_pieces ps h
  refine ⟨_, lex_elim (motive := fun r => r = .ok (segment literals ps.flatten 0 0 [])) ps.flatten (fun t ht hbad => ?_)
    (fun _ => rfl), hs⟩
  have : t.text ∈ ps := by
    rw [← hs]
    exact List.mem_map_of_mem ht
  rw [hv _ this] at hbad
  cases hbad

theorem dedup_no_adj_aux (toks : List Token) (f : Bool) (h : hasAdjSpaces (toks.map (·.text)) = false)
    (hf : f = true → ∀ t, toks.head? = some t → t.isSpace = false) :
    dedupSpaces toks f = toks := by
  induction toks generalizing f with
  | nil => rfl
  | cons t ts ih =>
    have htail : hasAdjSpaces (ts.map (·.text)) = false := by
      rcases ts with _ | ⟨u, ts⟩
      · rfl
      · simp only [List.map_cons, hasAdjSpaces, Bool.or_eq_false_iff] at h
        exact h.2
    unfold dedupSpaces
    by_cases hs : t.isSpace = true
    · have hff : f = false := by
        cases f with
        | false => rfl
        | true =>
          have := hf rfl t rfl
          rw [hs] at this
          cases this
      subst hff
      simp only [hs, if_true, Bool.false_eq_true, if_false]
      rw [ih true htail]
      intro _ u hu
      rcases ts with _ | ⟨u', ts⟩
      · simp at hu
      · simp only [List.head?_cons, Option.some.injEq] at hu
        subst hu
        simp only [List.map_cons, hasAdjSpaces, Bool.or_eq_false_iff, Bool.and_eq_false_iff] at h
        unfold Token.isSpace at hs ⊢
        rcases h.1 with h1 | h1
        · rw [hs] at h1; cases h1
        · exact h1
    · simp only [hs, Bool.false_eq_true, if_false]
      rw [ih false htail (fun hc => by cases hc)]

theorem dedup_no_adj (toks : List Token) (h : hasAdjSpaces (toks.map (·.text)) = false) :
    dedupSpaces toks false = toks :=
  dedup_no_adj_aux toks false h (fun hc => by cases hc)

end Einx.Notation
