import EinxModel.Proofs.Optimize
/-
Helper lemmas for the whole-pass soundness theorems of C05 (`rewrite_sound`, `optimize_sound`, `rebuild_preserves`):
what `Term.evalWith` computes, node by node, as `step` on the register file of the operand values; the root cases of a
pass and the rebuilding of a node from equivalent operands; `rewrite` as a strategy of the rewrite system; bindings.
-/
namespace Einx.Optimize
open Einx Einx.IR

/-- The traced-shape check of `input` and `op2`. -/
theorem check_ok {β : Type} {c : Prop} [Decidable c] {a v : β} {msg : String} :
    (if c then pure a else throw msg : E β) = .ok v ↔ c ∧ a = v := by
  by_cases h : c
  · rw [if_pos h]; exact ⟨fun e => ⟨h, Except.ok.inj e⟩, fun e => congrArg Except.ok e.2⟩
  · rw [if_neg h]; exact ⟨nofun, fun e => absurd e.1 h⟩

theorem eval_input_ok {α : Type} {A : Alg α} {O : Op2 α} {inp : List (Tensor α)} {i : Nat} {s : List Nat} {v : Tensor α} :
    (Term.input i s).evalWith A O inp = .ok v ↔ inp[i]? = some v ∧ v.shape = s := by
  rw [Term.evalWith]
  cases inp[i]? with
  | none => exact ⟨nofun, fun e => nomatch e.1⟩
  | some t =>
    refine check_ok.trans ⟨?_, ?_⟩
    · rintro ⟨hs, rfl⟩; exact ⟨rfl, hs⟩
    · rintro ⟨e, hs⟩; cases e; exact ⟨hs, rfl⟩

/-- `c` builds a one-operand node executed as instruction `i`: evaluate the operand, then `i` on the register file
that holds its value. -/
structure Node1 (c : Term → Term) (i : Instr) : Prop where
  eval : ∀ {α : Type} (A : Alg α) (O : Op2 α) (inp : List (Tensor α)) (x : Term),
    (c x).evalWith A O inp = x.evalWith A O inp >>= fun v => step A [v] i

theorem node1_reshape (s : List Nat) : Node1 (.reshape · s) (.reshape 0 s) := ⟨fun _ _ _ _ => by rw [Term.evalWith]⟩

theorem node1_transpose (p : List Nat) : Node1 (.transpose · p) (.transpose 0 p) := ⟨fun _ _ _ _ => by rw [Term.evalWith]⟩

theorem node1_broadcastTo (s : List Nat) : Node1 (.broadcastTo · s) (.broadcastTo 0 s) :=
  ⟨fun _ _ _ _ => by rw [Term.evalWith]⟩

theorem node1_concat1 (axis : Nat) : Node1 (.concat1 · axis) (.concat [0] axis) := ⟨fun _ _ _ _ => by rw [Term.evalWith]⟩

theorem Node1.ok {c : Term → Term} {i : Instr} (h : Node1 c i) {α : Type} {A : Alg α} {O : Op2 α} {inp : List (Tensor α)}
    {x : Term} {v : Tensor α} :
    (c x).evalWith A O inp = .ok v ↔ ∃ vx, x.evalWith A O inp = .ok vx ∧ step A [vx] i = .ok v := by
  rw [h.eval A O inp x]; exact bind_ok

/-- Rebuilding a node from an operand that computes the same (possibly over another register file `inp'`). -/
theorem Node1.congr {c : Term → Term} {i : Instr} (h : Node1 c i) {α : Type} {A : Alg α} {O : Op2 α}
    {inp inp' : List (Tensor α)} {x r : Term} {v : Tensor α}
    (ih : ∀ w, x.evalWith A O inp = .ok w → r.evalWith A O inp' = .ok w)
    (hv : (c x).evalWith A O inp = .ok v) : (c r).evalWith A O inp' = .ok v := by
  obtain ⟨y, hy, hs⟩ := h.ok.1 hv
  exact h.ok.2 ⟨y, ih y hy, hs⟩

theorem eval_concat2_ok {α : Type} {A : Alg α} {O : Op2 α} {inp : List (Tensor α)} {x y : Term} {axis : Nat} {v : Tensor α} :
    (Term.concat2 x y axis).evalWith A O inp = .ok v ↔
      ∃ a b, x.evalWith A O inp = .ok a ∧ y.evalWith A O inp = .ok b ∧ step A [a, b] (.concat [0, 1] axis) = .ok v := by
  rw [Term.evalWith]
  simp only [bind_ok]
  exact ⟨fun ⟨a, ha, b, hb, h⟩ => ⟨a, b, ha, hb, h⟩, fun ⟨a, b, ha, hb, h⟩ => ⟨a, ha, b, hb, h⟩⟩

theorem eval_cast {α : Type} (A : Alg α) (O : Op2 α) (inp : List (Tensor α)) (x : Term) :
    (Term.cast x).evalWith A O inp = x.evalWith A O inp := by
  rw [Term.evalWith]

theorem eval_op2_ok {α : Type} {A : Alg α} {O : Op2 α} {inp : List (Tensor α)} {f : String} {x y : Term} {s : List Nat}
    {v : Tensor α} :
    (Term.op2 f x y s).evalWith A O inp = .ok v ↔
      ∃ a b, x.evalWith A O inp = .ok a ∧ y.evalWith A O inp = .ok b ∧
        O f a b = .ok v ∧ v.shape = s := by
  rw [Term.evalWith]
  simp only [bind_ok, check_ok]
  constructor
  · rintro ⟨a, ha, b, hb, r, hr, hs, rfl⟩; exact ⟨a, b, ha, hb, hr, hs⟩
  · rintro ⟨a, b, ha, hb, hr, hs⟩; exact ⟨a, ha, b, hb, v, hr, hs, rfl⟩

theorem ewiseOp_wf {α : Type} (A : Alg α) : (ewiseOp A).WF :=
  fun f a b r h => step_ewise_wf A [a, b] f _ r h

theorem eval_shape {α : Type} (A : Alg α) (O : Op2 α) (hO : O.WF) (inp : List (Tensor α))
    (hin : ∀ x ∈ inp, x.data.length = prod x.shape) (t : Term) (v : Tensor α)
    (h : t.evalWith A O inp = .ok v) : v.shape = t.shape ∧ v.data.length = prod v.shape := by
  induction t generalizing v with
  | input i s =>
    obtain ⟨hi, hs⟩ := eval_input_ok.1 h
    exact ⟨hs, hin v (List.mem_of_getElem? hi)⟩
  | reshape x s _ =>
    obtain ⟨vx, _, hs⟩ := (node1_reshape s).ok.1 h
    obtain ⟨-, rfl⟩ := (step_reshape_ok A (x := 0) rfl).1 hs
    exact ⟨rfl, pick_wf A vx _ _⟩
  | transpose x p ih =>
    obtain ⟨vx, hx, hs⟩ := (node1_transpose p).ok.1 h
    obtain ⟨-, rfl⟩ := (step_transpose_ok A (x := 0) rfl).1 hs
    exact ⟨congrArg (permShape p) (ih vx hx).1, pick_wf A vx _ _⟩
  | broadcastTo x s _ =>
    obtain ⟨vx, _, hs⟩ := (node1_broadcastTo s).ok.1 h
    obtain ⟨-, rfl⟩ := (step_broadcastTo_ok A (x := 0) rfl).1 hs
    exact ⟨rfl, pick_wf A vx _ _⟩
  | concat1 x axis ih =>
    obtain ⟨vx, hx, hs⟩ := (node1_concat1 axis).ok.1 h
    obtain ⟨-, rfl⟩ := (step_concat1_ok A (x := 0) rfl).1 hs
    exact ⟨(ih vx hx).1, pick_wf A vx _ _⟩
  | concat2 x y axis ihx ihy =>
    obtain ⟨a, b, ha, hb, hs⟩ := eval_concat2_ok.1 h
    obtain ⟨hsh, hwf⟩ := step_concat2_wf A a b axis v hs
    exact ⟨by rw [hsh, (ihx a ha).1, (ihy b hb).1]; rfl, hwf⟩
  | cast x ih => rw [eval_cast] at h; exact ih v h
  | op2 f x y s _ _ =>
    obtain ⟨a, b, _, _, hr, hs⟩ := eval_op2_ok.1 h
    exact ⟨hs, hO f a b v hr⟩

theorem Node1.drop {c : Term → Term} {i : Instr} (h : Node1 c i) {α : Type} {A : Alg α} {O : Op2 α} {inp : List (Tensor α)}
    (hO : O.WF) (hin : ∀ x ∈ inp, x.data.length = prod x.shape) {x : Term} {v : Tensor α}
    (hi : ∀ y : Tensor α, y.shape = x.shape → y.data.length = prod y.shape → step A [y] i = .ok v → v = y)
    (hv : (c x).evalWith A O inp = .ok v) : x.evalWith A O inp = .ok v := by
  obtain ⟨y, hy, hst⟩ := h.ok.1 hv
  obtain ⟨hsh, hwf⟩ := eval_shape A O hO inp hin x y hy
  exact hi y hsh hwf hst ▸ hy

/-! The root cases of a pass: `inp` are inputs whose data have the size their shapes say (`hin`); the no-op tests are given
in decoded form (`Props/C05.lean` decodes the extracted tests with the `…Noop_sound` obligations). -/

section Root
variable {α : Type} (A : Alg α) (O : Op2 α) (inp : List (Tensor α))

theorem eval_reshape_noop (hO : O.WF) (hin : ∀ x ∈ inp, x.data.length = prod x.shape) (x : Term) (s : List Nat) (v : Tensor α)
    (hs : s = x.shape) (h : (Term.reshape x s).evalWith A O inp = .ok v) : x.evalWith A O inp = .ok v :=
  (node1_reshape s).drop hO hin (fun y hsh hwf hst => by
    rw [hs, ← hsh, reshape_same_step A rfl hwf] at hst; exact (Except.ok.inj hst).symm) h

theorem eval_transpose_noop (hO : O.WF) (hin : ∀ x ∈ inp, x.data.length = prod x.shape) (x : Term) (p : List Nat) (v : Tensor α)
    (hp : p = List.range x.shape.length) (h : (Term.transpose x p).evalWith A O inp = .ok v) : x.evalWith A O inp = .ok v :=
  (node1_transpose p).drop hO hin (fun y hsh hwf hst => by
    rw [hp, ← hsh, transpose_id_step A rfl hwf] at hst; exact (Except.ok.inj hst).symm) h

theorem eval_broadcastTo_noop (hO : O.WF) (hin : ∀ x ∈ inp, x.data.length = prod x.shape) (x : Term) (s : List Nat) (v : Tensor α)
    (hs : s = x.shape) (h : (Term.broadcastTo x s).evalWith A O inp = .ok v) : x.evalWith A O inp = .ok v :=
  (node1_broadcastTo s).drop hO hin (fun y hsh hwf hst => by
    rw [hs, ← hsh, broadcast_same_step A rfl hwf] at hst; exact (Except.ok.inj hst).symm) h

theorem eval_concat1_noop (hO : O.WF) (hin : ∀ x ∈ inp, x.data.length = prod x.shape) (x : Term) (axis : Nat) (v : Tensor α)
    (h : (Term.concat1 x axis).evalWith A O inp = .ok v) : x.evalWith A O inp = .ok v :=
  (node1_concat1 axis).drop hO hin (fun _ _ hwf hst => concat_singleton_step A rfl hwf hst) h

theorem eval_reshape_merge (x' r : Term) (s1 s : List Nat) (v : Tensor α)
    (ih : ∀ w, x'.evalWith A O inp = .ok w → r.evalWith A O inp = .ok w)
    (h : (Term.reshape (.reshape x' s1) s).evalWith A O inp = .ok v) : (Term.reshape r s).evalWith A O inp = .ok v := by
  obtain ⟨y, hy, hs⟩ := (node1_reshape s).ok.1 h
  obtain ⟨t, ht, hs1⟩ := (node1_reshape s1).ok.1 hy
  exact (node1_reshape s).ok.2 ⟨t, ih t ht, reshape_reshape_step A rfl hs1 rfl hs⟩

theorem eval_transpose_composable (x' : Term) (p1 p2 : List Nat) (v : Tensor α)
    (h : (Term.transpose (.transpose x' p1) p2).evalWith A O inp = .ok v) : ∃ p, p2.mapM (fun q => p1[q]?) = some p := by
  obtain ⟨y, hy, hs⟩ := (node1_transpose p2).ok.1 h
  obtain ⟨t, ht, hs1⟩ := (node1_transpose p1).ok.1 hy
  obtain ⟨k1, k2⟩ := transpose_transpose_perms A (x := 0) (x' := 0) rfl hs1 rfl hs
  exact ⟨_, composePerm_eq k1 k2⟩

theorem eval_transpose_merge (x' r : Term) (p1 p2 p : List Nat) (v : Tensor α)
    (hc : Extracted.composePerm p1 p2 = some p)
    (ih : ∀ w, x'.evalWith A O inp = .ok w → r.evalWith A O inp = .ok w)
    (h : (Term.transpose (.transpose x' p1) p2).evalWith A O inp = .ok v) : (Term.transpose r p).evalWith A O inp = .ok v := by
  obtain ⟨y, hy, hs⟩ := (node1_transpose p2).ok.1 h
  obtain ⟨t, ht, hs1⟩ := (node1_transpose p1).ok.1 hy
  exact (node1_transpose p).ok.2 ⟨t, ih t ht, transpose_transpose_step A rfl hs1 rfl hs hc⟩

theorem eval_concat2_congr (inp' : List (Tensor α)) (x y rx ry : Term) (axis : Nat) (v : Tensor α)
    (ihx : ∀ w, x.evalWith A O inp = .ok w → rx.evalWith A O inp' = .ok w)
    (ihy : ∀ w, y.evalWith A O inp = .ok w → ry.evalWith A O inp' = .ok w)
    (h : (Term.concat2 x y axis).evalWith A O inp = .ok v) : (Term.concat2 rx ry axis).evalWith A O inp' = .ok v := by
  obtain ⟨a, b, ha, hb, hs⟩ := eval_concat2_ok.1 h
  exact eval_concat2_ok.2 ⟨a, b, ihx a ha, ihy b hb, hs⟩

theorem eval_op2_congr (inp' : List (Tensor α)) (f : String) (x y rx ry : Term) (s : List Nat) (v : Tensor α)
    (ihx : ∀ w, x.evalWith A O inp = .ok w → rx.evalWith A O inp' = .ok w)
    (ihy : ∀ w, y.evalWith A O inp = .ok w → ry.evalWith A O inp' = .ok w)
    (h : (Term.op2 f x y s).evalWith A O inp = .ok v) : (Term.op2 f rx ry s).evalWith A O inp' = .ok v := by
  obtain ⟨a, b, ha, hb, hs⟩ := eval_op2_ok.1 h
  exact eval_op2_ok.2 ⟨a, b, ihx a ha, ihy b hb, hs⟩

end Root

theorem rewrite_rewrites (t : Term) : Rewrites t (rewrite t).1 :=
  (rewrite_spec t).1

theorem evalLets_cons_ok {α : Type} (A : Alg α) (O : Op2 α) (b : Term) (bs : List Term) (env env' : List (Tensor α)) :
    evalLetsWith A O (b :: bs) env = .ok env' ↔ ∃ v, b.evalWith A O env = .ok v ∧ evalLetsWith A O bs (env ++ [v]) = .ok env' := by
  rw [evalLetsWith]; exact bind_ok

theorem evalLets_extends {α : Type} (A : Alg α) (O : Op2 α) : ∀ (bs : List Term) (env env' : List (Tensor α)),
    evalLetsWith A O bs env = .ok env' → ∃ vs, env' = env ++ vs ∧ vs.length = bs.length
  | [], env, env', h => ⟨[], (Except.ok.inj h).symm.trans (List.append_nil env).symm, rfl⟩
  | b :: bs, env, env', h => by
    obtain ⟨v, _, hr⟩ := (evalLets_cons_ok A O b bs env env').1 h
    obtain ⟨vs, e, hl⟩ := evalLets_extends A O bs _ _ hr
    exact ⟨v :: vs, e.trans (List.append_assoc env [v] vs), congrArg (· + 1) hl⟩

theorem evalLets_wf {α : Type} (A : Alg α) (O : Op2 α) (hO : O.WF) : ∀ (bs : List Term) (env env' : List (Tensor α)),
    (∀ x ∈ env, x.data.length = prod x.shape) → evalLetsWith A O bs env = .ok env' →
      ∀ x ∈ env', x.data.length = prod x.shape
  | [], env, env', hin, h => Except.ok.inj h ▸ hin
  | b :: bs, env, env', hin, h => by
    obtain ⟨v, hv, hr⟩ := (evalLets_cons_ok A O b bs env env').1 h
    exact evalLets_wf A O hO bs _ _
      (List.forall_mem_append.2 ⟨hin, List.forall_mem_singleton.2 (eval_shape A O hO env hin b v hv).2⟩) hr

/-- Rewriting every binding once by a transformation that preserves what a term computes preserves the
whole register file (so every consumer of a binding reads the same value as before). -/
theorem evalLets_map {α : Type} (A : Alg α) (O : Op2 α) (hO : O.WF) (f : Term → Term)
    (hf : ∀ env : List (Tensor α), (∀ x ∈ env, x.data.length = prod x.shape) →
      ∀ t v, t.evalWith A O env = .ok v → (f t).evalWith A O env = .ok v) :
    ∀ (bs : List Term) (env env' : List (Tensor α)), (∀ x ∈ env, x.data.length = prod x.shape) →
      evalLetsWith A O bs env = .ok env' → evalLetsWith A O (bs.map f) env = .ok env'
  | [], _, _, _, h => h
  | b :: bs, env, env', hin, h => by
    obtain ⟨v, hv, hr⟩ := (evalLets_cons_ok A O b bs env env').1 h
    rw [List.map_cons]
    exact (evalLets_cons_ok A O _ _ env env').2 ⟨v, hf env hin b v hv, evalLets_map A O hO f hf bs _ _
      (List.forall_mem_append.2 ⟨hin, List.forall_mem_singleton.2 (eval_shape A O hO env hin b v hv).2⟩) hr⟩

/-- Substituting trees that compute the bound values for the leaves that read them. -/
theorem eval_subst {α : Type} (A : Alg α) (O : Op2 α) (env vs : List (Tensor α)) (σ : List Term)
    (hσ : σ.map (·.evalWith A O env) = vs.map .ok) (t : Term) :
    ∀ v, t.evalWith A O (env ++ vs) = .ok v → (t.subst env.length σ).evalWith A O env = .ok v := by
  induction t with
  | input i s =>
    intro v h
    obtain ⟨hi, hs⟩ := eval_input_ok.1 h
    rw [Term.subst]
    split
    · rename_i hlt
      rw [List.getElem?_append_left hlt] at hi
      exact eval_input_ok.2 ⟨hi, hs⟩
    · rename_i hge
      rw [List.getElem?_append_right (Nat.le_of_not_lt hge)] at hi
      have := congrArg (·[i - env.length]?) hσ
      simp only [List.getElem?_map, hi, Option.map_some] at this
      obtain ⟨t, ht, he⟩ := Option.map_eq_some_iff.1 this
      rw [ht]
      exact he
  | reshape x s ih => intro v h; exact (node1_reshape s).congr ih h
  | transpose x p ih => intro v h; exact (node1_transpose p).congr ih h
  | broadcastTo x s ih => intro v h; exact (node1_broadcastTo s).congr ih h
  | concat1 x axis ih => intro v h; exact (node1_concat1 axis).congr ih h
  | concat2 x y axis ihx ihy => intro v h; exact eval_concat2_congr A O _ env x y _ _ axis v ihx ihy h
  | cast x ih => intro v h; rw [Term.subst, eval_cast]; exact ih v (by rwa [eval_cast] at h)
  | op2 f x y s ihx ihy => intro v h; exact eval_op2_congr A O _ env f x y _ _ s v ihx ihy h

/-- The tree unfolding of every binding computes, from the graph inputs alone, the value of that binding. -/
theorem unfoldLets_eval {α : Type} (A : Alg α) (O : Op2 α) (env : List (Tensor α)) :
    ∀ (bs σ : List Term) (vs env' : List (Tensor α)), σ.map (·.evalWith A O env) = vs.map .ok →
      evalLetsWith A O bs (env ++ vs) = .ok env' →
      ∃ ws, env' = env ++ ws ∧ (unfoldLets env.length bs σ).map (·.evalWith A O env) = ws.map .ok
  | [], σ, vs, env', hσ, h => ⟨vs, (Except.ok.inj h).symm, hσ⟩
  | b :: bs, σ, vs, env', hσ, h => by
    obtain ⟨v, hv, hr⟩ := (evalLets_cons_ok A O b bs _ env').1 h
    rw [List.append_assoc] at hr
    refine unfoldLets_eval A O env bs _ (vs ++ [v]) env' ?_ hr
    rw [List.map_append, List.map_append, hσ, List.map_singleton, List.map_singleton,
      eval_subst A O env vs σ hσ b v hv]

theorem rewriteLets_facts : ∀ bs : List Term,
    ((rewriteLets bs).1.map Term.size).sum ≤ (bs.map Term.size).sum ∧
      ((rewriteLets bs).2 = true → ((rewriteLets bs).1.map Term.size).sum < (bs.map Term.size).sum)
  | [] => by simp [rewriteLets]
  | b :: bs => by
    have hb := rewrite_facts b
    have ih := rewriteLets_facts bs
    simp only [rewriteLets, List.map_cons, List.sum_cons, List.any_cons, Bool.or_eq_true] at ih ⊢
    refine ⟨by omega, ?_⟩
    rintro (h | h)
    · have := hb.2.1 h; omega
    · have := ih.2 h; omega

/-- The pass loop instantiated with the memoised pass over bindings. -/
def letsPassModel : PassModel (List Term) :=
  { pass := rewriteLets, measure := fun bs => (bs.map Term.size).sum,
    decreases := fun bs h => (rewriteLets_facts bs).2 h }

end Einx.Optimize
