import EinxModel.Proofs.DenoteConcatLaws
/-!
Every virtual tensor enumerated by `views` is well formed (`Dim.viewOKL`): a chosen block `off o d t` of a concatenation
fits into the concatenation (`o + d.size ≤ t`).
-/
namespace Einx.Denote
open Einx Einx.IR List

mutual
/-- Every chosen block inside the dimension fits (concatenations that are still unresolved are allowed). -/
def Dim.wf : Dim → Prop
  | .axis _ => True
  | .flat ds => Dim.wfL ds
  | .concat ds => Dim.wfL ds
  | .off o d t => d.wf ∧ o + d.size ≤ t
def Dim.wfL : List Dim → Prop
  | [] => True
  | d :: ds => d.wf ∧ Dim.wfL ds
end

theorem wfL_append : ∀ {a b : List Dim}, Dim.wfL a → Dim.wfL b → Dim.wfL (a ++ b)
  | [], _, _, hb => hb
  | _ :: _, _, ha, hb => ⟨ha.1, wfL_append ha.2 hb⟩

theorem dims_wf (m : Bool) (e : Expr) : Dim.wfL (dims m e) := by
  induction e using Expr.induct generalizing m with
  | axis => exact ⟨trivial, trivial⟩
  | flat _ ih | concat _ ih => exact ⟨ih m, trivial⟩
  | br _ ih => exact ih true
  | nil => exact trivial
  | cons c cs ihc ihcs => exact wfL_append (ihc m) (ihcs m)

theorem dimsL_wf : ∀ (m : Bool) (cs : List Expr), Dim.wfL (dimsL m cs) :=
  fun m cs => dims_wf m (.list cs)

theorem wfL_getElem? : ∀ (ds : List Dim) (k : Nat) (d : Dim), Dim.wfL ds → ds[k]? = some d → d.wf
  | [], k, d, _, h => by simp at h
  | x :: ds, 0, d, hw, h => by
    simp only [List.getElem?_cons_zero, Option.some.injEq] at h
    subst h; exact hw.1
  | x :: ds, k + 1, d, hw, h => by
    simp only [List.getElem?_cons_succ] at h
    exact wfL_getElem? ds k d hw.2 h

theorem choose_wf_both (k : Nat) :
    (∀ d d' : Dim, d.choose k = some d' → d.wf → d'.wf) ∧
      (∀ ds ds' : List Dim, Dim.chooseL k ds = some ds' → Dim.wfL ds → Dim.wfL ds') :=
  Dim.choose_ind_both k
    (fun _ _ _ h => h)
    (fun ds d hk hw => ⟨wfL_getElem? ds k d hw hk, by have := foldl_size_le ds k 0 d hk; omega⟩)
    (fun _ d d' _ hc h hw => ⟨h hw.1, by rw [choose_size k d d' hc]; exact hw.2⟩)
    (fun _ _ _ _ _ h hw => ⟨h hw.1, hw.2⟩)
    (fun _ _ _ _ _ h hw => ⟨hw.1, h hw.2⟩)

theorem choose_wf (k : Nat) : ∀ (d d' : Dim), d.wf → d.choose k = some d' → d'.wf :=
  fun d d' hw h => (choose_wf_both k).1 d d' h hw

theorem chooseL_wf (k : Nat) (ds ds' : List Dim) (hw : Dim.wfL ds) (h : Dim.chooseL k ds = some ds') : Dim.wfL ds' :=
  (choose_wf_both k).2 ds ds' h hw

theorem viewOK_of_wf : ∀ d : Dim, d.wf → d.nconcat = 0 → d.viewOK = true := by
  intro d
  induction d using Dim.induct with
  | axis | nil => exact fun _ _ => rfl
  | concat => exact fun _ hn => by simp [Dim.nconcat] at hn
  | off o d t ih =>
    simp only [Dim.viewOK, Bool.and_eq_true, decide_eq_true_eq]
    exact fun hw hn => ⟨ih hw.1 hn, hw.2⟩
  | cons d ds ihd ihds =>
    simp only [Dim.nconcat, Dim.nconcatL, Dim.viewOK, Dim.viewOKL, Bool.and_eq_true] at ihds ⊢
    exact fun hw hn => ⟨ihd hw.1 (by omega), ihds hw.2 (by omega)⟩

theorem viewOKL_of_wf (ds : List Dim) : Dim.wfL ds → Dim.nconcatL ds = 0 → Dim.viewOKL ds = true :=
  viewOK_of_wf (.flat ds)

theorem viewsFuel_wf (n : Nat) (ds : List Dim) (hw : Dim.wfL ds) : ∀ v ∈ viewsFuel n ds, Dim.wfL v :=
  viewsFuel_ind (fun k a b hc h => chooseL_wf k a b h hc) n ds hw

theorem views_viewOK (e : Expr) : ∀ v ∈ views e, Dim.viewOKL v = true := by
  intro v hv
  unfold views at hv
  exact viewOKL_of_wf v (viewsFuel_wf _ _ (dims_wf false e) v hv) (viewsFuel_concatFree _ _ (by omega) v hv)

end Einx.Denote
