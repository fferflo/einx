import EinxModel.Exec.View
/-! Helper lemmas for `Props/C13Exec.lean`: structural facts about the translation `toFactory` (which tracers a translated value
mentions, which applications translate to a call or a cast), about pytrees of tracers (`isVarTree`) and the keys the generator
registers for them. -/
namespace Einx.Exec
open Einx.Compile Einx.Factory

theorem refsL_eq_flatMap (vs : List V) : refsL vs = vs.flatMap V.refs := by
  induction vs with
  | nil => rfl
  | cons v rest ih => rw [refsL, ih, List.flatMap_cons]

theorem mem_refsL (vs : List V) (r : Nat) : r ∈ refsL vs ↔ ∃ v ∈ vs, r ∈ v.refs := by
  rw [refsL_eq_flatMap]
  exact List.mem_flatMap

theorem mem_refsL_nil (r : Nat) : r ∈ refsL [] ↔ False := List.mem_nil_iff r

theorem mem_refsL_cons (v : V) (vs : List V) (r : Nat) : r ∈ refsL (v :: vs) ↔ r ∈ v.refs ∨ r ∈ refsL vs :=
  List.mem_append

theorem mem_refsL_append (l1 l2 : List V) (r : Nat) : r ∈ refsL (l1 ++ l2) ↔ r ∈ refsL l1 ∨ r ∈ refsL l2 := by
  simp only [refsL_eq_flatMap, List.flatMap_append, List.mem_append]

theorem toVL_eq (a : E) : toVL a = a.toList.map toV := by
  induction a with
  | cons h t _ iht => simp [toVL, E.toList, iht]
  | _ => simp [toVL, E.toList]

theorem mem_refsL_map (l : List E) (r : Nat) : r ∈ refsL (l.map toV) ↔ ∃ o ∈ l, r ∈ (toV o).refs := by
  rw [refsL_eq_flatMap, List.flatMap_map]
  exact List.mem_flatMap

theorem mem_refs_toVL (a : E) (r : Nat) : r ∈ refsL (toVL a) ↔ ∃ o ∈ a.toList, r ∈ (toV o).refs := by
  rw [toVL_eq]
  exact mem_refsL_map a.toList r

theorem mem_evens_odds {α : Type} (x : α) : ∀ (l : List α), x ∈ evens l ++ odds l ↔ x ∈ l
  | [] => by simp [evens, odds]
  | [a] => by simp [evens, odds]
  | a :: b :: rest => by
    have := mem_evens_odds x rest
    simp only [evens, odds, List.mem_append, List.mem_cons] at this ⊢
    rw [← this]
    simp only [or_assoc, or_left_comm]

theorem mem_refsL_evens_odds (l : List V) (r : Nat) : r ∈ refsL (evens l ++ odds l) ↔ r ∈ refsL l := by
  rw [mem_refsL, mem_refsL]
  constructor
  · rintro ⟨v, hv, hr⟩
    exact ⟨v, (mem_evens_odds v l).1 hv, hr⟩
  · rintro ⟨v, hv, hr⟩
    exact ⟨v, (mem_evens_odds v l).2 hv, hr⟩

theorem mem_refsL_padSlice (r : Nat) : ∀ (fs : List Bool) (ps : List V), r ∈ refsL (padSlice fs ps) ↔ r ∈ refsL ps := by
  intro fs
  induction fs with
  | nil => intro ps; rw [padSlice]
  | cons f fs ih =>
    intro ps
    cases f with
    | true =>
      cases ps with
      | nil => rw [padSlice]; exact ih []
      | cons p ps => rw [padSlice]; simp only [refsL, List.mem_append, ih ps]
    | false =>
      rw [padSlice]
      simp only [refsL, V.refs, List.nil_append, ih ps]

theorem toV_tuple (a : E) : toV (.node .tuple a) = .seq "tuple" (toVL a) := by simp [toV]
theorem toV_list (a : E) : toV (.node .list a) = .seq "list" (toVL a) := by simp [toV]
theorem toV_dict (a : E) : toV (.node .dict a) = .seq "dict" (evens (toVL a) ++ odds (toVL a)) := by simp [toV]
theorem toV_slice (x y z : Bool) (a : E) : toV (.node (.slice x y z) a) = .seq "slice" (padSlice [x, y, z] (toVL a)) := by
  simp [toV]

theorem mem_refs_tuple (a : E) (r : Nat) : r ∈ (toV (.node .tuple a)).refs ↔ ∃ o ∈ a.toList, r ∈ (toV o).refs := by
  rw [toV_tuple]; simp only [V.refs]; exact mem_refs_toVL a r

theorem mem_refs_list (a : E) (r : Nat) : r ∈ (toV (.node .list a)).refs ↔ ∃ o ∈ a.toList, r ∈ (toV o).refs := by
  rw [toV_list]; simp only [V.refs]; exact mem_refs_toVL a r

theorem mem_refs_dict (a : E) (r : Nat) : r ∈ (toV (.node .dict a)).refs ↔ ∃ o ∈ a.toList, r ∈ (toV o).refs := by
  rw [toV_dict]; simp only [V.refs]; rw [mem_refsL_evens_odds]; exact mem_refs_toVL a r

theorem mem_refs_slice (x y z : Bool) (a : E) (r : Nat) :
    r ∈ (toV (.node (.slice x y z) a)).refs ↔ ∃ o ∈ a.toList, r ∈ (toV o).refs := by
  rw [toV_slice]; simp only [V.refs]; rw [mem_refsL_padSlice]; exact mem_refs_toVL a r

theorem mem_refs_node (tag : Tag) (a : E) (r : Nat) (hr : r ∈ (toV (.node tag a)).refs) :
    ∃ o ∈ a.toList, r ∈ (toV o).refs := by
  cases tag with
  | tuple => exact (mem_refs_tuple a r).1 hr
  | list => exact (mem_refs_list a r).1 hr
  | dict => exact (mem_refs_dict a r).1 hr
  | slice x y z => exact (mem_refs_slice x y z a r).1 hr
  | _ => simp [toV, V.refs] at hr

theorem refs_lit (s : String) : (toV (.lit s)).refs = [] := by
  simp only [toV]; cases litKind s <;> simp [V.refs]

theorem refs_var (t : Nat) : (toV (.var t)).refs = [t] := by simp [toV, V.refs]

theorem refs_gref (k : Nat) : (toV (.gref k)).refs = [] := by simp [toV, V.refs]

theorem toTracers_origin (origin : List (Option Nat)) (aux : List TAux) (f : Nat) :
    ((toTracers origin aux)[f]?).map (·.origin) = origin[f]? := by
  simp only [toTracers, List.getElem?_map, List.getElem?_zipIdx, Option.map_map]
  cases origin[f]? <;> rfl

theorem originOf_iff (g : Compile.Graph) (t i : Nat) (a : App) :
    g.originOf t = some (i, a) ↔ g.origin[t]? = some (some i) ∧ g.apps[i]? = some a := by
  unfold Graph.originOf
  split
  · rename_i j hj
    rw [hj, Option.map_eq_some_iff]
    constructor
    · rintro ⟨a', ha', h⟩
      cases h
      exact ⟨rfl, ha'⟩
    · rintro ⟨h, ha'⟩
      cases h
      exact ⟨a, ha', rfl⟩
  · rename_i hne
    exact ⟨fun h => (nomatch h), fun ⟨h, _⟩ => (hne i h).elim⟩

theorem toFactory_eq (g : Compile.Graph) (aux : List TAux) (fg : Factory.Graph) (h : toFactory g aux = some fg) :
    ∃ k sg, g.top = .gref k ∧ g.graphs[k]? = some sg ∧
      fg = { inputs := sg.inputs, output := toV sg.output, apps := g.apps.map toGApp, tracers := toTracers g.origin aux } := by
  unfold toFactory at h
  split at h
  · rename_i k htop
    split at h
    · rename_i sg hsg
      exact ⟨k, sg, htop, hsg, (Option.some.inj h).symm⟩
    · cases h
  · cases h

theorem tracer_origin (g : Compile.Graph) (aux : List TAux) (fg : Factory.Graph) (hfg : toFactory g aux = some fg) (t : Nat) :
    (fg.tracers[t]?).map (·.origin) = g.origin[t]? := by
  obtain ⟨_, _, _, _, rfl⟩ := toFactory_eq g aux fg hfg
  exact toTracers_origin g.origin aux t

theorem toFactory_app (g : Compile.Graph) (aux : List TAux) (fg : Factory.Graph) (hfg : toFactory g aux = some fg) (i : Nat) :
    fg.apps[i]? = (g.apps[i]?).map toGApp := by
  obtain ⟨_, _, _, _, rfl⟩ := toFactory_eq g aux fg hfg
  exact List.getElem?_map

theorem toV_ref_inv (x : E) (f : Nat) (h : toV x = .ref f) : x = .var f := by
  cases x with
  | var t => cases h; rfl
  | lit s => simp only [toV] at h; generalize litKind s = k at h; cases k <;> cases h
  | node tag a => cases tag <;> cases h
  | _ => cases h

theorem toGApp_call_inv (a : App) (fn : Factory.V) (args : List Factory.V) (kwargs : List (String × Factory.V))
    (deps : List Factory.V) (out : Factory.V) (h : toGApp a = ⟨.call fn args kwargs deps, out⟩) :
    ∃ fn' args' kwargs' deps' o, a = .call fn' args' kwargs' deps' o ∧ fn = toV fn' ∧ args = args'.map toV ∧
      kwargs = kwargs'.map (fun kv => (kv.1, toV kv.2)) := by
  cases a with
  | call fn' args' kwargs' deps' o =>
    cases h
    exact ⟨fn', args', kwargs', deps', o, rfl, rfl, rfl, rfl⟩
  | _ => cases h

theorem toGApp_cast_inv (a : App) (x y : Nat) (h : toGApp a = ⟨.cast (.ref x), .ref y⟩) : a = .cast (.var x) (.var y) := by
  cases a with
  | cast input out =>
    simp only [toGApp, toNode, App.out, Factory.GApp.mk.injEq, Factory.GNode.cast.injEq] at h
    rw [toV_ref_inv input x h.1, toV_ref_inv out y h.2]
  | _ => simp [toGApp, toNode] at h

/-! ### Operands: what the generator asks for = what the translated node consumes -/

def sliceFlat : E → List E
  | .node (.slice ..) a => a.toList
  | p => [p]

theorem mem_refs_sliceFlat (p : E) (r : Nat) : r ∈ (toV p).refs ↔ ∃ o ∈ sliceFlat p, r ∈ (toV o).refs := by
  have single : sliceFlat p = [p] → (r ∈ (toV p).refs ↔ ∃ o ∈ sliceFlat p, r ∈ (toV o).refs) := fun h => by
    rw [h]
    exact ⟨fun h => ⟨p, List.mem_singleton_self _, h⟩, fun ⟨o, ho, h⟩ => List.mem_singleton.1 ho ▸ h⟩
  cases p with
  | node tag a =>
    cases tag with
    | slice x y z => exact mem_refs_slice x y z a r
    | _ => exact single rfl
  | _ => exact single rfl

theorem mem_refs_key (key : E) (r : Nat) :
    r ∈ (toV key).refs ↔ ∃ o ∈ (keyParts key).flatMap sliceFlat, r ∈ (toV o).refs := by
  have single : ∀ k : E, keyParts k = [k] →
      (r ∈ (toV k).refs ↔ ∃ o ∈ (keyParts k).flatMap sliceFlat, r ∈ (toV o).refs) := by
    intro k hk
    rw [hk]
    simpa using mem_refs_sliceFlat k r
  cases key with
  | node tag a =>
    cases tag with
    | tuple =>
      simp only [keyParts, List.mem_flatMap]
      rw [mem_refs_tuple]
      constructor
      · rintro ⟨p, hp, hr⟩
        obtain ⟨o, ho, hro⟩ := (mem_refs_sliceFlat p r).1 hr
        exact ⟨o, ⟨p, hp, ho⟩, hro⟩
      · rintro ⟨o, ⟨p, hp, ho⟩, hro⟩
        exact ⟨p, hp, (mem_refs_sliceFlat p r).2 ⟨o, ho, hro⟩⟩
    | _ => exact single _ rfl
  | _ => exact single _ rfl

theorem genOperands_getitem (obj key : E) (out : Nat) :
    (App.getitem obj key out).genOperands = obj :: (keyParts key).flatMap sliceFlat := by
  simp only [App.genOperands]
  congr 2

theorem genOperands_updateitem (obj key value : E) (op : String) (out : Nat) :
    (App.updateitem obj key value op out).genOperands = obj :: (keyParts key).flatMap sliceFlat ++ [value, obj] := by
  simp only [App.genOperands]
  congr 3

theorem kw_vals (kwargs : List (String × E)) :
    (kwargs.map (fun kv => (kv.1, toV kv.2))).map (·.2) = (kwargs.map (·.2)).map toV := by
  simp [List.map_map, Function.comp_def]

/-- **Operands agree**: the tracers the translated node consumes (C13: `GNode.operands`) are exactly those of the values
the generator asks expressions for (C04: `App.genOperands`); additional dependencies are operands of neither. -/
theorem operand_refs (a : App) (r : Nat) :
    r ∈ refsL (toNode a).operands ↔ ∃ o ∈ a.genOperands, r ∈ (toV o).refs := by
  -- the operands of the translated node are the translated `genOperands`, except that a key stands for its parts
  -- (`mem_refs_key`) and `updateitem` asks for its object twice
  rw [← mem_refsL_map]
  cases a with
  | call fn args kwargs deps out =>
    simp only [toNode, GNode.operands, App.genOperands, kw_vals, List.cons_append, List.map_cons, List.map_append]
  | callInplace xs fn args kwargs deps out =>
    simp only [toNode, GNode.operands, App.genOperands, kw_vals, List.cons_append, List.nil_append, List.map_cons, List.map_append]
  | getitem obj key out =>
    rw [genOperands_getitem]
    simp only [toNode, GNode.operands, List.map_cons, mem_refsL_cons, mem_refsL_nil, or_false]
    rw [mem_refs_key key, ← mem_refsL_map]
  | updateitem obj key value op out =>
    rw [genOperands_updateitem]
    simp only [toNode, GNode.operands, List.map_cons, List.map_append, List.map_nil, List.cons_append, mem_refsL_cons,
      mem_refsL_append, mem_refsL_nil, or_false]
    rw [mem_refs_key key, ← mem_refsL_map]
    constructor
    · rintro (h | h | h)
      · exact Or.inl h
      · exact Or.inr (Or.inl h)
      · exact Or.inr (Or.inr (Or.inl h))
    · rintro (h | h | h | h)
      · exact Or.inl h
      · exact Or.inr (Or.inl h)
      · exact Or.inr (Or.inr h)
      · exact Or.inl h
  | _ =>
    simp only [toNode, GNode.operands, App.genOperands, List.map_cons, List.map_nil]

/-! ### Pytrees of tracers and their keys -/

theorem refs_of_key (x : E) :
    (∀ k, keyOf x = some k → isVarTree k = true → (toV x).refs = k.vars) ∧
    (isVarTreeL (keyOf.keyL x) = true → refsL (toVL x) = (keyOf.keyL x).vars) := by
  induction x with
  | var t => exact ⟨fun k hk _ => (by cases hk; exact refs_var t), fun _ => rfl⟩
  | lit s => exact ⟨fun k hk => (nomatch hk), fun _ => rfl⟩
  | gref g => exact ⟨fun k hk hv => (by cases hk; cases hv), fun _ => rfl⟩
  | nil => exact ⟨fun k hk => (nomatch hk), fun _ => rfl⟩
  | cons h t ihh iht =>
    refine ⟨fun k hk => (nomatch hk), fun hv => ?_⟩
    cases hk : keyOf h with
    | none => simp [keyOf.keyL, hk, isVarTreeL, isVarTree] at hv
    | some kh =>
      simp only [keyOf.keyL, hk, Option.getD_some, isVarTreeL, Bool.and_eq_true] at hv ⊢
      simp only [toVL, refsL, E.vars, ihh.1 kh hk hv.1, iht.2 hv.2]
  | node tag a ih =>
    refine ⟨fun k hk hv => ?_, fun _ => rfl⟩
    cases tag with
    | tuple | list =>
      simp only [keyOf, Option.some.injEq] at hk
      subst hk
      simp only [isVarTree] at hv
      simp only [toV, V.refs, E.vars, ih.2 hv]
    | _ => simp [keyOf] at hk

theorem keyOf_varTree (o : E) :
    (isVarTree o = true → keyOf o = some o) ∧ (isVarTreeL o = true → keyOf.keyL o = o) := by
  induction o with
  | var t => exact ⟨fun _ => rfl, fun h => (nomatch h)⟩
  | lit s => exact ⟨fun h => (nomatch h), fun h => (nomatch h)⟩
  | gref g => exact ⟨fun h => (nomatch h), fun h => (nomatch h)⟩
  | nil => exact ⟨fun h => (nomatch h), fun _ => rfl⟩
  | cons h t ihh iht =>
    refine ⟨fun h => (nomatch h), fun hv => ?_⟩
    simp only [isVarTreeL, Bool.and_eq_true] at hv
    simp only [keyOf.keyL, ihh.1 hv.1, iht.2 hv.2, Option.getD_some]
  | node tag a ih =>
    refine ⟨fun hv => ?_, fun h => (nomatch h)⟩
    cases tag with
    | tuple | list => simp only [isVarTree] at hv; simp only [keyOf, ih.2 hv]
    | _ => simp [isVarTree] at hv

theorem refs_varTree (o : E) (h : isVarTree o = true) : (toV o).refs = o.vars :=
  (refs_of_key o).1 o ((keyOf_varTree o).1 h) h

theorem regKeys_varTree (o : E) :
    (isVarTree o = true → (∀ r, E.var r ∈ regKeys o ↔ r ∈ o.vars) ∧
      ∀ k ∈ regKeys o, isVarTree k = true ∧ ∀ r ∈ k.vars, r ∈ o.vars) ∧
    (isVarTreeL o = true → (∀ r, E.var r ∈ regKeys.regKeysL o ↔ r ∈ o.vars) ∧
      ∀ k ∈ regKeys.regKeysL o, isVarTree k = true ∧ ∀ r ∈ k.vars, r ∈ o.vars) := by
  induction o with
  | var t =>
    refine ⟨fun _ => ⟨fun r => (by simp [regKeys, keyOf, E.vars]), fun k hk => ?_⟩, fun h => (nomatch h)⟩
    simp only [regKeys, keyOf, Option.toList, List.mem_singleton] at hk
    subst hk
    exact ⟨rfl, fun r hr => hr⟩
  | lit s => exact ⟨fun h => (nomatch h), fun h => (nomatch h)⟩
  | gref g => exact ⟨fun h => (nomatch h), fun h => (nomatch h)⟩
  | nil => exact ⟨fun h => (nomatch h), fun _ => ⟨fun r => (by simp [regKeys.regKeysL, E.vars]), fun k hk => (nomatch hk)⟩⟩
  | cons h t ihh iht =>
    refine ⟨fun h => (nomatch h), fun hv => ?_⟩
    simp only [isVarTreeL, Bool.and_eq_true] at hv
    obtain ⟨h1, h2⟩ := ihh.1 hv.1
    obtain ⟨t1, t2⟩ := iht.2 hv.2
    refine ⟨fun r => (by simp only [regKeys.regKeysL, E.vars, List.mem_append, h1 r, t1 r]), fun k hk => ?_⟩
    simp only [E.vars, List.mem_append]
    rcases List.mem_append.1 hk with hk | hk
    · exact ⟨(h2 k hk).1, fun r hr => Or.inl ((h2 k hk).2 r hr)⟩
    · exact ⟨(t2 k hk).1, fun r hr => Or.inr ((t2 k hk).2 r hr)⟩
  | node tag a ih =>
    refine ⟨fun hv => ?_, fun h => (nomatch h)⟩
    cases tag with
    | tuple | list =>
      have hva : isVarTreeL a = true := by simpa [isVarTree] using hv
      obtain ⟨a1, a2⟩ := ih.2 hva
      simp only [regKeys, keyOf, (keyOf_varTree a).2 hva, Option.toList]
      refine ⟨fun r => (by simp [E.vars, a1 r]), fun k hk => ?_⟩
      rcases List.mem_cons.1 hk with rfl | hk
      · exact ⟨hv, fun r hr => hr⟩
      · exact a2 k hk
    | _ => simp [isVarTree] at hv

theorem varTree_regKeys_iff (o : E) (h : isVarTree o = true) (r : Nat) : E.var r ∈ regKeys o ↔ r ∈ (toV o).refs := by
  rw [refs_varTree o h]
  exact ((regKeys_varTree o).1 h).1 r

theorem varTree_regKeys_sub (o : E) (h : isVarTree o = true) (k : E) (hk : k ∈ regKeys o) :
    isVarTree k = true ∧ ∀ r ∈ k.vars, E.var r ∈ regKeys o :=
  ⟨(((regKeys_varTree o).1 h).2 k hk).1, fun r hr => (((regKeys_varTree o).1 h).1 r).2 ((((regKeys_varTree o).1 h).2 k hk).2 r hr)⟩

end Einx.Exec
