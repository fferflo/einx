import EinxModel.Solve.CseCheck2
import EinxModel.Proofs.CseTreesWalk
import EinxModel.Proofs.CseTreesCands
/-!
The walk with the candidates `cse` selects, and the conjuncts of `cseCheck` that hold for **every** input
(`Props/C02Cse2.lean`).

* The walk with a candidate list that satisfies `CandsOK` replaces only what passed the filter of `cse`, and its result depends
  on the enumeration of the candidates only through the numbering of the new axes.
* An expression with an unknown value that passed the filter of `cse` has an unbounded range (the conjunct
  `(valueOf e).isSome || ub` of `usedOK`), by `unknown_value_unbounded`.
* Every replaced part is a part of the input, so its lower bounds are among the declared ones; with `minPosForest`
  they are positive (the conjunct `MinPos` of `usedOK`).
* The conjuncts of `cseCheck` follow from those of `cseCheckReduced`.
-/
namespace Einx.Solve.CseT
open Einx.Solve

theorem CandsOK.filt {roots : List (Option VExpr)} {cands : List Cand} (h : CandsOK roots cands) :
    ∀ ev ∈ traceRoots cands 0 roots, FiltOK ev :=
  forall_traceRoots h.hits

theorem filt_cseEvents (opts : Opts) (roots : List (Option VExpr)) : ∀ ev ∈ cseEvents opts roots, FiltOK ev :=
  (candsOK_candidates opts roots).filt

theorem replaceRootsM_perm {c₁ c₂ : List Cand} (hp : c₁.Perm c₂) (hnd : (candKeys c₁).Nodup) (hu : UniqueIds c₁)
    (nm : Nat → String) (k : Nat) (rs : List (Option VExpr)) :
    replaceRootsM nm (matchNode c₂) (matchAt c₂) k rs =
      replaceRootsM (fun i => nm (renum c₁ c₂ i)) (matchNode c₁) (matchAt c₁) k rs := by
  have h1 : matchNode c₂ = fun id => (matchNode c₁ id).map (renum c₁ c₂) := funext (matchNode_perm hp hnd hu)
  have h2 : matchAt c₂ = fun pid i n => (matchAt c₁ pid i n).map (fun r => (renum c₁ c₂ r.1, r.2)) :=
    funext fun pid => funext fun i => funext (matchAt_perm hp hnd hu pid i)
  rw [h1, h2]
  exact replaceRootsM_natural nm (renum c₁ c₂) (matchNode c₁) (matchAt c₁) rs k

theorem allPairs_spec {f : Ev → Ev → Bool} {evs : List Ev} (h : allPairs f evs = true) :
    ∀ a ∈ evs, ∀ b ∈ evs, f a b = true := by
  simp only [allPairs, List.all_eq_true] at h
  exact h

theorem pairOK_of_parts {a b : Ev} (h1 : freshPair a b = true) (h2 : copiedPair a b = true)
    (h3 : sharedPair a b = true) : pairOK a b = true := by
  cases a <;> cases b <;> simp_all [pairOK, freshPair, copiedPair, sharedPair]

theorem used_minPos (opts : Opts) (rs out : List (Option VExpr)) (hrun : cseTrees opts rs = .ok out)
    (hmin : minPosForest rs = true) {k : Nat} {e : VExpr} {len : Nat} {r : Bool}
    (hu : Ev.used k e len r ∈ cseEvents opts rs) : ∀ p ∈ freeAxes e, 1 ≤ p.2 := by
  obtain ⟨_, hdi⟩ := roots_decls (candidates opts rs) rs 0 out hrun (evPos_of_filt (filt_cseEvents opts rs))
  intro p hp
  simp only [minPosForest, List.all_eq_true, decide_eq_true_eq] at hmin
  apply hmin
  rw [hdi]
  exact List.mem_flatMap.mpr ⟨_, hu, by simpa [inDecls] using hp⟩

theorem usedOK_of_parts (opts : Opts) (rs out : List (Option VExpr)) (hrun : cseTrees opts rs = .ok out)
    (hmin : minPosForest rs = true) {ev : Ev} (hev : ev ∈ cseEvents opts rs) (hroot : rootDimOK ev = true) :
    usedOK ev = true := by
  cases ev with
  | surv n m => rfl
  | used k e len r =>
    obtain ⟨_, hrep⟩ := filt_cseEvents opts rs _ hev
    have hmp := used_minPos opts rs out hrun hmin hev
    simp only [usedOK, Bool.and_eq_true, List.all_eq_true, decide_eq_true_eq, Bool.or_eq_true]
    refine ⟨⟨hmp, ?_⟩, by simpa [rootDimOK] using hroot⟩
    cases hv : valueOf e with
    | some v => left; rfl
    | none =>
      right
      obtain ⟨m, ub, hr⟩ := hrep.range
      simp [hr, unknown_value_unbounded hr hv]

end Einx.Solve.CseT
