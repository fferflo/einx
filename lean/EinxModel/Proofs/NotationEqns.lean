import EinxModel.Proofs.NotationLexer
import EinxModel.Proofs.NotationTokens
import EinxModel.Proofs.NotationFold
/-!
# M1 Notation — the trees and the passes in the form the proofs use

The list half of each mutual pair as `map`/`flatMap`/`mapM` of the tree half, an eliminator with one premise per outcome for each
function without recursion, one equation per constructor of `moveUp`, `finish` and `parseOp` as chains of `>>=`: a walk over a pass
is then an induction over the tree with one `bind` rule (Proofs/ExceptList.lean) per step.
-/
namespace Einx.Notation

/-- The recursor of the nested type; structural recursion over `Expr` is dear to compile. -/
theorem Expr.induct {P : Expr → Prop} {Q : List Expr → Prop}
    (axis : ∀ n v b e, P (.axis n v b e))
    (flat : ∀ i b e, P i → P (.flat i b e))
    (brackets : ∀ i b e, P i → P (.brackets i b e))
    (ellipsis : ∀ i id b e, P i → P (.ellipsis i id b e))
    (concat : ∀ cs b e, Q cs → P (.concat cs b e))
    (list : ∀ cs b e, Q cs → P (.list cs b e))
    (args : ∀ cs b e, Q cs → P (.args cs b e))
    (op : ∀ cs b e, Q cs → P (.op cs b e))
    (nil : Q [])
    (cons : ∀ c cs, P c → Q cs → Q (c :: cs)) : (∀ x, P x) ∧ (∀ cs, Q cs) :=
  ⟨Expr.rec axis flat brackets ellipsis concat list args op nil cons,
    Expr.rec_1 axis flat brackets ellipsis concat list args op nil cons⟩

theorem Expr.memInduction {P : Expr → Prop} (axis : ∀ n v b e, P (.axis n v b e))
    (flat : ∀ i b e, P i → P (.flat i b e)) (brackets : ∀ i b e, P i → P (.brackets i b e))
    (ellipsis : ∀ i id b e, P i → P (.ellipsis i id b e))
    (concat : ∀ cs b e, (∀ c ∈ cs, P c) → P (.concat cs b e)) (list : ∀ cs b e, (∀ c ∈ cs, P c) → P (.list cs b e))
    (args : ∀ cs b e, (∀ c ∈ cs, P c) → P (.args cs b e)) (op : ∀ cs b e, (∀ c ∈ cs, P c) → P (.op cs b e)) (x : Expr) : P x :=
  (Expr.induct (Q := fun cs => ∀ c ∈ cs, P c) axis flat brackets ellipsis concat list args op
    (fun _ h => nomatch h) (fun _ _ hx hxs => List.forall_mem_cons.mpr ⟨hx, hxs⟩)).1 x

theorem moveUpL_eq_mapM (k : Lift) (arrows : List Int) : ∀ (cs : List Expr),
    moveUpL k arrows cs = cs.mapM (moveUp k arrows)
  | [] => by simp only [moveUpL, List.mapM_nil]; rfl
  | c :: cs => by
    rw [moveUpL, List.mapM_cons, moveUpL_eq_mapM k arrows cs]
    cases moveUp k arrows c with
    | error err => rfl
    | ok x => cases cs.mapM (moveUp k arrows) <;> rfl

theorem occsL_eq_flatMap (br : List Int) (m : Bool) : ∀ cs : List Expr, occsL br m cs = cs.flatMap (occs br m)
  | [] => rfl
  | c :: cs => by rw [occsL, List.flatMap_cons, occsL_eq_flatMap br m cs]

theorem flattenAll_eq_flatMap : ∀ cs : List Expr, flattenAll cs = cs.flatMap flattenOne
  | [] => rfl
  | c :: cs => by rw [flattenAll, List.flatMap_cons, flattenAll_eq_flatMap cs]

theorem traverseL_eq_map (inBr : Bool) : ∀ cs : List Expr, traverseL inBr cs = cs.map (traverse inBr)
  | [] => rfl
  | c :: cs => by rw [traverseL, List.map_cons, traverseL_eq_map inBr cs]

theorem shapeL_eq_map : ∀ cs : List Expr, shapeL cs = cs.map Expr.shape
  | [] => rfl
  | c :: cs => by rw [shapeL, List.map_cons, shapeL_eq_map cs]

/-! ### What a function without recursion returns: one premise per outcome -/

theorem mkFlat_elim {motive : Expr → Prop} {i : Expr} {b e : Int}
    (same : i.isFlat = true → motive i) (wrap : i.isFlat = false → motive (.flat i b e)) : motive (mkFlat i b e) := by
  unfold mkFlat
  split
  · exact same ‹_›
  · rename_i h; exact wrap (by simpa using h)

theorem mkBrackets_elim {motive : Expr → Prop} {i : Expr} {b e : Int}
    (same : i.isBrackets = true → motive i) (empty : i.ndim = some 0 → motive emptyList)
    (wrap : i.isBrackets = false → (i.ndim != some 0) = true → motive (.brackets i b e)) : motive (mkBrackets i b e) := by
  unfold mkBrackets
  split
  · exact same ‹_›
  · rename_i h1
    split
    · rename_i h2; exact empty (by simpa using h2)
    · rename_i h2; exact wrap (by simpa using h1) (by simpa using h2)

theorem mkEllipsis_elim {motive : Expr → Prop} {i : Expr} {b e : Int} {d : Nat}
    (empty : i.ndim = some 0 → motive emptyList) (wrap : (i.ndim != some 0) = true → motive (.ellipsis i d b e)) :
    motive (mkEllipsis i b e d) := by
  unfold mkEllipsis
  split
  · rename_i h; exact empty (by simpa using h)
  · rename_i h; exact wrap (by simpa using h)

theorem mkConcat_elim {motive : Expr → Prop} {cs : List Expr} {b e : Int}
    (one : ∀ c, cs = [c] → motive c) (many : cs.length ≠ 1 → motive (.concat cs b e)) : motive (mkConcat cs b e) := by
  unfold mkConcat
  split
  · exact one _ rfl
  · refine many fun h => ?_
    obtain ⟨c, rfl⟩ := List.length_eq_one_iff.mp h
    exact ‹∀ c, _ = [c] → False› c rfl

theorem mkList_elim {motive : Expr → Prop} {cs : List Expr} {b e : Int}
    (one : ∀ c, flattenAll cs = [c] → motive c) (many : (flattenAll cs).length ≠ 1 → motive (.list (flattenAll cs) b e)) :
    motive (mkList cs b e) := by
  unfold mkList
  split
  · exact one _ ‹_›
  · refine many fun h => ?_
    obtain ⟨c, hc⟩ := List.length_eq_one_iff.mp h
    exact ‹∀ c, _ = [c] → False› c hc

theorem parseAxis_elim {motive : Res Expr → Prop} (t : Token)
    (num : isDigitStr t.text = true → t.text.all isDecimalChar = true →
      motive (.ok (.axis (unnamedName t.b) (some (intOfDecimals t.text)) t.b t.e)))
    (intLit : isDigitStr t.text = true → t.text.all isDecimalChar = false → motive (.error (.internal .intLiteral)))
    (name : isDigitStr t.text = false → isAxisName t.text = true → motive (.ok (.axis t.text none t.b t.e)))
    (noName : isDigitStr t.text = false → isAxisName t.text = false → motive (.error (.internal .assertAxisName))) :
    motive (parseAxis t) := by
  unfold parseAxis
  split
  · rename_i hd
    split
    · exact num hd ‹_›
    · rename_i ha; exact intLit hd (by simpa using ha)
  · rename_i hd
    split
    · exact name (by simpa using hd) ‹_›
    · rename_i hn; exact noName (by simpa using hd) (by simpa using hn)

theorem distribute_elim {motive : Res Expr → Prop} (k : Lift) (cls : Cls) (children : List Expr) (b e : Int) (arrows : List Int)
    (err : (∃ c ∈ children, c.children.length ≠ 1) →
      motive (.error (.syntax (match k with | .op => .arrowLevel | .args => .commaLevel) arrows [])))
    (ok : ∀ num, (num = 1 ∨ ∃ c ∈ children, c.children.length = num) →
      (∀ c ∈ children, c.children.length = 1 ∨ c.children.length = num) →
      motive (.ok (k.wrap ((List.range num).map fun idx => cls.create (children.map (pick idx)) b e) b e))) :
    motive (distribute k cls children b e arrows) := by
  unfold distribute
  dsimp only
  generalize hnums : ((children.map fun c => c.children.length).filter (· != 1)).eraseDups = nums
  have hmem : ∀ n, n ∈ nums ↔ n ≠ 1 ∧ ∃ c ∈ children, c.children.length = n := fun n => by
    simp only [← hnums, List.mem_eraseDups, List.mem_filter, List.mem_map, bne_iff_ne, and_comm]
  have hall : ∀ c ∈ children, c.children.length = 1 ∨ c.children.length ∈ nums := fun c hc =>
    (Decidable.em _).imp_right fun h1 => (hmem _).mpr ⟨h1, c, hc, rfl⟩
  match nums, hmem, hall with
  | [], _, hall => exact ok 1 (.inl rfl) fun c hc => (hall c hc).imp_right nofun
  | [n], hmem, hall =>
    exact ok n (.inr ((hmem n).mp (List.mem_singleton_self n)).2) fun c hc => (hall c hc).imp_right List.eq_of_mem_singleton
  | n :: _ :: _, hmem, _ =>
    obtain ⟨h1, c, hc, rfl⟩ := (hmem n).mp List.mem_cons_self
    exact err ⟨c, hc, h1⟩

theorem distribute_elim₂ {motive : Res Expr → Res Expr → Prop} (k : Lift) (cls : Cls) {ch ch' : List Expr} (b e b' e' : Int)
    (a a' : List Int) (h : ch.map (fun c => c.children.length) = ch'.map fun c => c.children.length)
    (err : ∀ kind, motive (.error (.syntax kind a [])) (.error (.syntax kind a' [])))
    (ok : ∀ num, motive (.ok (k.wrap ((List.range num).map fun idx => cls.create (ch.map (pick idx)) b e) b e))
      (.ok (k.wrap ((List.range num).map fun idx => cls.create (ch'.map (pick idx)) b' e') b' e'))) :
    motive (distribute k cls ch b e a) (distribute k cls ch' b' e' a') := by
  unfold distribute
  dsimp only
  rw [h]
  split
  · exact err _
  · exact ok _

theorem checkBrackets_elim {motive : Res Expr → Prop} (x : Expr)
    (ok : conflictNames (occs [] false x) = [] → motive (.ok x))
    (conflict : ∀ n ns, conflictNames (occs [] false x) = n :: ns → motive (.error (.syntax .inconsistentBrackets
      (conflictPos (occs [] false x) n) (ns.map (conflictPos (occs [] false x)))))) : motive (checkBrackets x) := by
  unfold checkBrackets
  dsimp only
  cases hc : conflictNames (occs [] false x) with
  | nil => exact ok hc
  | cons n ns => exact conflict n ns hc

theorem checkBrackets_eq_ok_iff {x t : Expr} : checkBrackets x = .ok t ↔ t = x ∧ conflictNames (occs [] false x) = [] :=
  checkBrackets_elim (motive := fun r => r = .ok t ↔ t = x ∧ conflictNames (occs [] false x) = []) x
    (fun hc => ⟨fun h => ⟨(Except.ok.inj h).symm, hc⟩, fun h => h.1 ▸ rfl⟩)
    fun _ _ hc => ⟨nofun, fun h => absurd (hc.symm.trans h.2) (List.cons_ne_nil _ _)⟩

/-- Some name occurs both marked and unmarked. -/
def Conflict (os : List Occ) : Prop :=
  ∃ o1 ∈ os, ∃ o2 ∈ os, o1.name = o2.name ∧ o1.marked = true ∧ o2.marked = false

theorem conflictNames_ne_nil_iff (os : List Occ) : conflictNames os ≠ [] ↔ Conflict os := by
  unfold conflictNames Conflict
  constructor
  · intro hne
    obtain ⟨n, hn⟩ := List.exists_mem_of_ne_nil _ hne
    have hp := (List.mem_filter.mp hn).2
    simp only [Bool.and_eq_true, List.any_eq_true, beq_iff_eq, Bool.not_eq_true'] at hp
    obtain ⟨⟨o1, ho1, hn1, hm1⟩, ⟨o2, ho2, hn2, hm2⟩⟩ := hp
    exact ⟨o1, ho1, o2, ho2, hn1.trans hn2.symm, hm1, hm2⟩
  · rintro ⟨o1, ho1, o2, ho2, hn, hm1, hm2⟩
    have hmem : o1.name ∈ (List.map (fun x => x.name) os).eraseDups :=
      List.mem_eraseDups.mpr (List.mem_map.mpr ⟨o1, ho1, rfl⟩)
    have : o1.name ∈ List.filter (fun n =>
        os.any (fun o => o.name == n && o.marked) && os.any (fun o => o.name == n && !o.marked))
        (List.map (fun x => x.name) os).eraseDups := by
      refine List.mem_filter.mpr ⟨hmem, ?_⟩
      simp only [Bool.and_eq_true, List.any_eq_true, beq_iff_eq, Bool.not_eq_true']
      exact ⟨⟨o1, ho1, rfl, hm1⟩, ⟨o2, ho2, hn.symm, hm2⟩⟩
    exact List.ne_nil_of_mem this

/-! ### `combine`: one equation per operator, and its outcomes -/

/-- The operators `combine` has a branch for. -/
def modelHandled : List Str := [lit " ", lit "->", lit ",", lit "+"]

theorem naryOps_handled : ∀ op ∈ naryOps, op ∈ modelHandled := by decide +kernel

theorem opCases {motive : Str → Prop} (op : Str) (space : motive (lit " ")) (arrow : motive (lit "->"))
    (comma : motive (lit ",")) (plus : motive (lit "+")) (other : op ∉ modelHandled → motive op) : motive op := by
  by_cases h : op ∈ modelHandled
  · simp only [modelHandled, List.mem_cons, List.not_mem_nil, or_false] at h
    rcases h with rfl | rfl | rfl | rfl
    · exact space
    · exact arrow
    · exact comma
    · exact plus
  · exact other h

theorem combine_space (xs : List Expr) (b e : Nat) (ipc : Bool) (ts : List Tok) :
    combine (lit " ") xs b e ipc ts = .ok (mkList xs b e) := rfl

theorem combine_arrow (xs : List Expr) (b e : Nat) (ipc : Bool) (ts : List Tok) :
    combine (lit "->") xs b e ipc ts = .ok (.op xs b e) := rfl

theorem combine_comma (xs : List Expr) (b e : Nat) (ipc : Bool) (ts : List Tok) :
    combine (lit ",") xs b e ipc ts = .ok (.args xs b e) := rfl

theorem combine_plus (xs : List Expr) (b e : Nat) (ipc : Bool) (ts : List Tok) :
    combine (lit "+") xs b e ipc ts =
      if !(xs.filter (fun o => !isAxisOrFlat o)).isEmpty then
        .error (.syntax .concatOperand
          ((xs.filter (fun o => !isAxisOrFlat o)).flatMap (fun o => posRange o.b o.e) ++
            (ts.filter (Tok.isText (lit "+"))).flatMap (fun t => posRange (Int.ofNat t.b) (Int.ofNat t.e))) [])
      else if !ipc then .error (.syntax .concatNotWrapped (posRange (Int.ofNat b) (Int.ofNat e)) [])
      else .ok (mkConcat xs b e) := rfl

theorem combine_plus_ok {xs : List Expr} (h : xs.all isAxisOrFlat = true) (b e : Nat) (S : List Tok) :
    combine (lit "+") xs b e true S = .ok (mkConcat xs b e) := by
  rw [combine_plus, List.filter_eq_nil_iff.mpr fun x hx => by simp [List.all_eq_true.mp h x hx]]
  rfl

theorem combine_other {op : Str} (h : op ∉ modelHandled) (xs : List Expr) (b e : Nat) (ipc : Bool) (ts : List Tok) :
    combine op xs b e ipc ts = .error (.internal (.unhandledOp op)) := by
  simp only [modelHandled, List.mem_cons, List.not_mem_nil, or_false, not_or] at h
  simp only [combine, beq_iff_eq, h, if_false]

theorem combine_elim {motive : Res Expr → Prop} (op : Str) (xs : List Expr) (b e : Nat) (ipc : Bool) (ts : List Tok)
    (space : op = lit " " → motive (.ok (mkList xs b e)))
    (arrow : op = lit "->" → motive (.ok (.op xs b e)))
    (comma : op = lit "," → motive (.ok (.args xs b e)))
    (operand : op = lit "+" → xs.filter (fun o => !isAxisOrFlat o) ≠ [] →
      motive (.error (.syntax .concatOperand
        ((xs.filter (fun o => !isAxisOrFlat o)).flatMap (fun o => posRange o.b o.e) ++
          (ts.filter (Tok.isText (lit "+"))).flatMap (fun t => posRange (Int.ofNat t.b) (Int.ofNat t.e))) [])))
    (bare : op = lit "+" → (∀ x ∈ xs, isAxisOrFlat x = true) → ipc = false →
      motive (.error (.syntax .concatNotWrapped (posRange (Int.ofNat b) (Int.ofNat e)) [])))
    (concat : op = lit "+" → (∀ x ∈ xs, isAxisOrFlat x = true) → ipc = true → motive (.ok (mkConcat xs b e)))
    (other : op ∉ modelHandled → motive (.error (.internal (.unhandledOp op)))) :
    motive (combine op xs b e ipc ts) := by
  cases op using opCases with
  | space => rw [combine_space]; exact space rfl
  | arrow => rw [combine_arrow]; exact arrow rfl
  | comma => rw [combine_comma]; exact comma rfl
  | plus =>
    rw [combine_plus]
    by_cases hf : xs.filter (fun o => !isAxisOrFlat o) = []
    · have hax : ∀ x ∈ xs, isAxisOrFlat x = true := fun x hx => by simpa using List.filter_eq_nil_iff.mp hf x hx
      rw [hf]
      cases ipc with
      | false => exact bare rfl hax rfl
      | true => exact concat rfl hax rfl
    · rw [if_pos (by rw [Bool.not_eq_true', List.isEmpty_eq_false_iff]; exact hf)]
      exact operand rfl hf
  | other h => rw [combine_other h]; exact other h

/-! ### `move_up`: one equation per constructor, the error handed on by `>>=` -/

/-- What a pass makes of a node with one child, given the pass result `o` of the child. -/
def liftOne (k : Lift) (mk : Expr → Expr) (o : Expr) : Res Expr := .ok (k.wrap (o.children.map mk) o.b o.e)

theorem moveUp_flat (k : Lift) (a : List Int) (i : Expr) (b e : Int) :
    moveUp k a (.flat i b e) = moveUp k a i >>= liftOne k (mkFlat · b e) := by
  rw [moveUp]
  cases moveUp k a i <;> rfl

theorem moveUp_brackets (k : Lift) (a : List Int) (i : Expr) (b e : Int) :
    moveUp k a (.brackets i b e) = moveUp k a i >>= liftOne k (mkBrackets · b e) := by
  rw [moveUp]
  cases moveUp k a i <;> rfl

theorem moveUp_ellipsis (k : Lift) (a : List Int) (i : Expr) (id : Nat) (b e : Int) :
    moveUp k a (.ellipsis i id b e) = moveUp k a i >>= liftOne k (mkEllipsis · b e id) := by
  rw [moveUp]
  cases moveUp k a i <;> rfl

theorem moveUp_list (k : Lift) (a : List Int) (cs : List Expr) (b e : Int) :
    moveUp k a (.list cs b e) = cs.mapM (moveUp k a) >>= fun ch => distribute k .list ch b e a := by
  rw [moveUp, moveUpL_eq_mapM]
  cases cs.mapM (moveUp k a) <;> rfl

theorem moveUp_concat (k : Lift) (a : List Int) (cs : List Expr) (b e : Int) :
    moveUp k a (.concat cs b e) = cs.mapM (moveUp k a) >>= fun ch => distribute k .concat ch b e a := by
  rw [moveUp, moveUpL_eq_mapM]
  cases cs.mapM (moveUp k a) <;> rfl

theorem moveUp_args (k : Lift) (a : List Int) (cs : List Expr) (b e : Int) :
    moveUp k a (.args cs b e) = cs.mapM (moveUp k a) >>= fun ch =>
      match k with
      | .op => distribute k .args ch b e a
      | .args => .ok (.args (ch.flatMap Expr.children) b e) := by
  rw [moveUp, moveUpL_eq_mapM]
  cases cs.mapM (moveUp k a) <;> rfl

theorem moveUp_op_op (a : List Int) (cs : List Expr) (b e : Int) :
    moveUp .op a (.op cs b e) = cs.mapM (moveUp .op a) >>= fun ch => .ok (.op (ch.flatMap Expr.children) b e) := by
  rw [moveUp, moveUpL_eq_mapM]
  cases cs.mapM (moveUp .op a) <;> rfl

theorem moveUp_args_op (a : List Int) (cs : List Expr) (b e : Int) :
    moveUp .args a (.op cs b e) = .error (.internal .assertMoveUp) := by
  rw [moveUp]

theorem wrap_op_isOp (cs : List Expr) (b e : Int) : Lift.op.wrap cs b e = .op cs b e := rfl

/-- Lines 249–403 of `parse.py`: both `move_up` passes, redundant-bracket removal, the two post-checks. -/
def finish (arrows : List Int) (x : Expr) : Res Expr :=
  match moveUp .op arrows x with
  | .error err => .error err
  | .ok x1 =>
    match x1 with
    | .op cs b e =>
      match moveUpL .args arrows cs with
      | .error err => .error err
      | .ok cs2 =>
        let x3 := traverse false (.op cs2 b e)
        if x3.children.length > 2 then .error (.syntax .multipleArrows arrows [])
        else checkBrackets x3
    | _ => .error (.internal .assertRoot)

theorem parseOp_eq (text : Str) : parseOp text =
    match lex text with
    | .error err => .error err
    | .ok toks =>
      match buildTree (dedupSpaces toks false) [] [] with
      | .error err => .error err
      | .ok tree =>
        match parse tree 0 (lastEnd tree 0) false with
        | .error err => .error err
        | .ok x => finish (posForLiteral (lit "->") text 0) x := by
  unfold parseOp finish
  rfl

theorem finish_eq (arrows : List Int) (x : Expr) : finish arrows x =
    moveUp .op arrows x >>= fun x1 =>
      match x1 with
      | .op cs b e =>
        cs.mapM (moveUp .args arrows) >>= fun cs2 =>
          if (traverse false (.op cs2 b e)).children.length > 2 then .error (.syntax .multipleArrows arrows [])
          else checkBrackets (traverse false (.op cs2 b e))
      | _ => .error (.internal .assertRoot) := by
  rw [finish]
  cases moveUp .op arrows x with
  | error _ => rfl
  | ok x1 =>
    cases x1 with
    | op cs b e =>
      show _ = cs.mapM (moveUp .args arrows) >>= _
      dsimp only
      rw [moveUpL_eq_mapM]
      cases cs.mapM (moveUp .args arrows) <;> rfl
    | _ => rfl

theorem parseOp_bind (text : Str) : parseOp text =
    lex text >>= fun toks => buildTree (dedupSpaces toks false) [] [] >>= fun tree =>
      parse tree 0 (lastEnd tree 0) false >>= finish (posForLiteral (lit "->") text 0) := by
  rw [parseOp_eq]
  cases lex text with
  | error _ => rfl
  | ok toks =>
    show _ = buildTree (dedupSpaces toks false) [] [] >>= _
    dsimp only
    cases buildTree (dedupSpaces toks false) [] [] with
    | error _ => rfl
    | ok tree =>
      show _ = parse tree 0 (lastEnd tree 0) false >>= _
      dsimp only
      cases parse tree 0 (lastEnd tree 0) false <;> rfl

theorem finish_ok_inv {arrows : List Int} {y t : Expr} (h : finish arrows y = .ok t) :
    ∃ cs b e cs2, moveUp .op arrows y = .ok (.op cs b e) ∧ cs.mapM (moveUp .args arrows) = .ok cs2 ∧
      t = .op (traverseL false cs2) b e ∧ (traverseL false cs2).length ≤ 2 := by
  rw [finish_eq] at h
  obtain ⟨x1, hm, h⟩ := bind_ok.mp h
  cases x1 with
  | op cs b e =>
    obtain ⟨cs2, hm2, h⟩ := bind_ok.mp h
    split at h
    · cases h
    · rename_i hlen
      exact ⟨cs, b, e, cs2, hm, hm2, (checkBrackets_eq_ok_iff.mp h).1, Nat.le_of_not_lt hlen⟩
  | _ => cases h

theorem finish_of_passes {arrows : List Int} {x : Expr} {cs cs2 : List Expr} {b e : Int}
    (h1 : moveUp .op arrows x = .ok (.op cs b e)) (h2 : moveUpL .args arrows cs = .ok cs2)
    (hlen : (traverseL false cs2).length ≤ 2) : finish arrows x = checkBrackets (.op (traverseL false cs2) b e) := by
  simp only [finish, h1, h2, traverse, Expr.children]
  exact if_neg (Nat.not_lt.mpr hlen)

theorem parseOp_of_lex_error {text : Str} {err : Err} (h : lex text = .error err) : parseOp text = .error err := by
  rw [parseOp_bind, h]
  rfl

theorem parseOp_of_stack_error {text : Str} {toks : List Token} {err : Err} (hl : lex text = .ok toks)
    (h : buildTree (dedupSpaces toks false) [] [] = .error err) : parseOp text = .error err := by
  rw [parseOp_bind, hl]
  show buildTree (dedupSpaces toks false) [] [] >>= _ = _
  rw [h]
  rfl

theorem parseOp_of_stages {text : Str} {toks : List Token} {tree : List Tok} {y : Expr} (hl : lex text = .ok toks)
    (hb : buildTree (dedupSpaces toks false) [] [] = .ok tree) (hp : parse tree 0 (lastEnd tree 0) false = .ok y) :
    parseOp text = finish (posForLiteral (lit "->") text 0) y := by
  rw [parseOp_bind, hl]
  show buildTree (dedupSpaces toks false) [] [] >>= _ = _
  rw [hb]
  show parse tree 0 (lastEnd tree 0) false >>= _ = _
  rw [hp]
  rfl

theorem parseOp_ok_inv {text : Str} {t : Expr} (h : parseOp text = .ok t) :
    ∃ toks tree y, lex text = .ok toks ∧ buildTree (dedupSpaces toks false) [] [] = .ok tree ∧
      parse tree 0 (lastEnd tree 0) false = .ok y ∧ finish (posForLiteral (lit "->") text 0) y = .ok t := by
  rw [parseOp_bind] at h
  obtain ⟨toks, hl, h⟩ := bind_ok.mp h
  obtain ⟨tree, hb, h⟩ := bind_ok.mp h
  obtain ⟨y, hp, h⟩ := bind_ok.mp h
  exact ⟨toks, tree, y, hl, hb, hp, h⟩

end Einx.Notation
