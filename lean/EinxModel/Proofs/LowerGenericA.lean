import EinxModel.Generic.LowerSim
import EinxModel.Proofs.GroupCmp
import EinxModel.Proofs.Stb
/-! Size-genericity of the decomposer's lowering (C17), part A: what the relation `gsimL` (same description, two length
assignments with the same 1-pattern) gives, and the preparation of one input (`_decompose_single`, removal of the unit
axes, `_squeeze_transpose_broadcast(…, broadcast_to_unitary=True)`) on two related assignments. -/
namespace Einx.Lower
open Einx Einx.IR Einx.Generic Einx.Denote

theorem lprod_eq_prod : ∀ l : List Nat, lprod l = prod l
  | [] => rfl
  | x :: xs => by simp [lprod, prod, lprod_eq_prod xs]

theorem nat_mul_eq_one {m n : Nat} : m * n = 1 ↔ m = 1 ∧ n = 1 :=
  ⟨fun h => ⟨Nat.eq_one_of_mul_eq_one_right h, Nat.eq_one_of_mul_eq_one_left h⟩, fun h => by rw [h.1, h.2]⟩

theorem beq_one_eq_iff {a b : Nat} : (a == 1) = (b == 1) ↔ (a = 1 ↔ b = 1) := by
  rw [Bool.eq_iff_iff, beq_iff_eq, beq_iff_eq]

theorem _root_.Einx.Generic.Sim.append {a a' b b' : List Ax} (h1 : Sim a a') (h2 : Sim b b') : Sim (a ++ b) (a' ++ b') := by
  induction h1 with
  | nil => simpa using h2
  | cons hn ho _ ih => exact .cons hn ho ih

theorem _root_.Einx.Generic.Sim.pat1 {l l' : List Ax} (h : Sim l l') : pat1 (lens l) = pat1 (lens l') := by
  induction h with
  | nil => rfl
  | cons _ ho _ ih =>
    simp only [Generic.pat1, lens, List.map_cons, List.map_map] at ih ⊢
    rw [ho, ih]

mutual
theorem gsim_induct {motive : G → G → Prop} {motiveL : List G → List G → Prop}
    (ax : ∀ a b : Ax, a.name = b.name → (a.len == 1) = (b.len == 1) → motive (.ax a) (.ax b))
    (grp : ∀ gs hs, motiveL gs hs → motive (.grp gs) (.grp hs)) (nil : motiveL [] [])
    (cons : ∀ g h gs hs, gsim g h = true → motive g h → motiveL gs hs → motiveL (g :: gs) (h :: hs)) :
    ∀ (g g' : G), gsim g g' = true → motive g g'
  | .ax a, .ax b, h => by
    simp only [gsim, Bool.and_eq_true, beq_iff_eq] at h
    exact ax a b h.1 h.2
  | .grp gs, .grp hs, h => grp gs hs (gsimL_induct ax grp nil cons gs hs (by simpa only [gsim] using h))
  | .ax _, .grp _, h => by simp [gsim] at h
  | .grp _, .ax _, h => by simp [gsim] at h
theorem gsimL_induct {motive : G → G → Prop} {motiveL : List G → List G → Prop}
    (ax : ∀ a b : Ax, a.name = b.name → (a.len == 1) = (b.len == 1) → motive (.ax a) (.ax b))
    (grp : ∀ gs hs, motiveL gs hs → motive (.grp gs) (.grp hs)) (nil : motiveL [] [])
    (cons : ∀ g h gs hs, gsim g h = true → motive g h → motiveL gs hs → motiveL (g :: gs) (h :: hs)) :
    ∀ (gs gs' : List G), gsimL gs gs' = true → motiveL gs gs'
  | [], [], _ => nil
  | g :: gs, h :: hs, hh => by
    simp only [gsimL, Bool.and_eq_true] at hh
    exact cons g h gs hs hh.1 (gsim_induct ax grp nil cons g h hh.1) (gsimL_induct ax grp nil cons gs hs hh.2)
  | [], _ :: _, h => by simp [gsimL] at h
  | _ :: _, [], h => by simp [gsimL] at h
end

theorem gsimL_induct' {motiveL : List G → List G → Prop} (nil : motiveL [] [])
    (cons : ∀ g h gs hs, gsim g h = true → motiveL gs hs → motiveL (g :: gs) (h :: hs)) :
    ∀ (gs gs' : List G), gsimL gs gs' = true → motiveL gs gs' :=
  gsimL_induct (motive := fun _ _ => True) (fun _ _ _ _ => trivial) (fun _ _ _ => trivial) nil
    (fun g h gs hs hg _ ih => cons g h gs hs hg ih)

theorem gsim_leaves : ∀ (g g' : G), gsim g g' = true → Sim g.leaves g'.leaves :=
  gsim_induct (motiveL := fun gs gs' => Sim (G.leavesL gs) (G.leavesL gs')) (fun _ _ hn ho => .cons hn ho .nil)
    (fun _ _ h => h) .nil (fun _ _ _ _ _ h1 h2 => h1.append h2)

theorem gsimL_leaves : ∀ (gs gs' : List G), gsimL gs gs' = true → Sim (G.leavesL gs) (G.leavesL gs') :=
  gsimL_induct (motive := fun g g' => Sim g.leaves g'.leaves) (fun _ _ hn ho => .cons hn ho .nil)
    (fun _ _ h => h) .nil (fun _ _ _ _ _ h1 h2 => h1.append h2)

theorem gsim_one : ∀ (g g' : G), gsim g g' = true → (g.size = 1 ↔ g'.size = 1) :=
  gsim_induct (motiveL := fun gs gs' => G.sizeL gs = 1 ↔ G.sizeL gs' = 1) (fun _ _ _ ho => beq_one_eq_iff.mp ho)
    (fun _ _ h => h) Iff.rfl (fun g h gs hs _ h1 h2 => by simp only [G.sizeL, nat_mul_eq_one, h1, h2])

theorem gsimL_one : ∀ (gs gs' : List G), gsimL gs gs' = true → (G.sizeL gs = 1 ↔ G.sizeL gs' = 1) :=
  gsimL_induct (motive := fun g g' => g.size = 1 ↔ g'.size = 1) (fun _ _ _ ho => beq_one_eq_iff.mp ho)
    (fun _ _ h => h) Iff.rfl (fun g h gs hs _ h1 h2 => by simp only [G.sizeL, nat_mul_eq_one, h1, h2])

theorem gsim_depth : ∀ (g g' : G), gsim g g' = true → g.depth = g'.depth :=
  gsim_induct (motiveL := fun gs gs' => G.depthL gs = G.depthL gs') (fun _ _ _ _ => rfl)
    (fun _ _ h => by simp only [G.depth, h]) rfl (fun g h gs hs _ h1 h2 => by simp only [G.depthL, h1, h2])

theorem gsimL_depth : ∀ (gs gs' : List G), gsimL gs gs' = true → G.depthL gs = G.depthL gs' :=
  gsimL_induct (motive := fun g g' => g.depth = g'.depth) (fun _ _ _ _ => rfl)
    (fun _ _ h => by simp only [G.depth, h]) rfl (fun g h gs hs _ h1 h2 => by simp only [G.depthL, h1, h2])

theorem gsimL_length : ∀ (e e' : List G), gsimL e e' = true → e.length = e'.length :=
  gsimL_induct' rfl (fun _ _ _ _ _ ih => by simp only [List.length_cons, ih])

theorem gsimL_append (a a' b b' : List G) (h1 : gsimL a a' = true) (h2 : gsimL b b' = true) :
    gsimL (a ++ b) (a' ++ b') = true :=
  gsimL_induct' (motiveL := fun a a' => gsimL (a ++ b) (a' ++ b') = true) (by simpa using h2)
    (fun g h gs hs hg ih => by simp only [List.cons_append, gsimL, hg, ih, Bool.and_self]) a a' h1

theorem gsimL_unflatten1 : ∀ (e e' : List G), gsimL e e' = true → gsimL (unflatten1 e) (unflatten1 e') = true :=
  gsimL_induct' (by simp [unflatten1, gsimL]) (fun g h gs hs hg ih => by
    rw [unflatten1_cons, unflatten1_cons]
    apply gsimL_append _ _ _ _ _ ih
    cases g with
    | ax a =>
      cases h with
      | ax b => simp only [gsimL, hg, Bool.and_true]
      | grp _ => simp [gsim] at hg
    | grp gs1 =>
      cases h with
      | ax b => simp [gsim] at hg
      | grp hs1 => simpa only [gsim] using hg)

theorem gsim_isGrp : ∀ (g g' : G), gsim g g' = true → isGrp g = isGrp g'
  | .ax _, .ax _, _ => rfl
  | .grp _, .grp _, _ => rfl
  | .ax _, .grp _, h => by simp [gsim] at h
  | .grp _, .ax _, h => by simp [gsim] at h

theorem gsimL_anyGrp : ∀ (e e' : List G), gsimL e e' = true → e.any isGrp = e'.any isGrp :=
  gsimL_induct' rfl (fun g h _ _ hg ih => by simp only [List.any_cons, ih, gsim_isGrp g h hg])

/-- The members of a root dimension as `_decompose_single` sees them: the sizes of the members of a flattened axis. -/
def mem1 : G → List Nat
  | .grp gs => gs.map G.size
  | .ax a => [a.len]

/-- The leaf lengths below a root dimension (what `_compose_next` multiplies). -/
def lv (g : G) : List Nat := lens g.leaves

theorem lprod_map_size : ∀ gs : List G, lprod (gs.map G.size) = G.sizeL gs
  | [] => rfl
  | g :: gs => by simp [lprod, G.sizeL, lprod_map_size gs]

theorem lprod_mem1 (g : G) : lprod (mem1 g) = g.size := by
  cases g with
  | ax a => simp [mem1, lprod, G.size]
  | grp gs => simp [mem1, G.size, lprod_map_size]

theorem gShape_eq_groups (e : List G) : gShape e = (e.map mem1).map lprod := by
  simp [gShape, List.map_map, Function.comp_def, lprod_mem1]

theorem gShape_append (a b : List G) : gShape (a ++ b) = gShape a ++ gShape b := by simp [gShape]

theorem gShape_unflatten1 : ∀ e : List G, gShape (unflatten1 e) = (e.map mem1).flatten
  | [] => by simp [unflatten1, gShape]
  | g :: e => by
    rw [unflatten1_cons, gShape_append, gShape_unflatten1 e]
    cases g with
    | ax a => simp [mem1, gShape, G.size]
    | grp gs => simp [mem1, gShape]

theorem gShape_eq_lv (e : List G) : gShape e = (e.map lv).map lprod := by
  simp only [gShape, List.map_map, Function.comp_def, lv]
  apply List.map_congr_left
  intro g _
  rw [lprod_eq_prod, size_eq_leaves]

theorem lens_leavesL_eq : ∀ e : List G, lens (G.leavesL e) = (e.map lv).flatten
  | [] => rfl
  | g :: e => by
    simp only [G.leavesL, lens_append, List.map_cons, List.flatten_cons, lv]
    rw [lens_leavesL_eq e]

theorem sizes_pat : ∀ (gs hs : List G), gsimL gs hs = true → pat1 (gs.map G.size) = pat1 (hs.map G.size) :=
  gsimL_induct' rfl (fun g h _ _ hg ih => by
    simp only [Generic.pat1, List.map_cons, List.map_map] at ih ⊢
    rw [ih, beq_one_eq_iff.mpr (gsim_one g h hg)])

theorem gsim_pat_mem1 : ∀ (g g' : G), gsim g g' = true → pat1 (mem1 g) = pat1 (mem1 g')
  | .ax a, .ax b, h => by
    simp only [gsim, Bool.and_eq_true, beq_iff_eq] at h
    simp [mem1, Generic.pat1, h.2]
  | .grp gs, .grp hs, h => sizes_pat gs hs (by simpa only [gsim] using h)
  | .ax _, .grp _, h => by simp [gsim] at h
  | .grp _, .ax _, h => by simp [gsim] at h

theorem gsimL_groups_pat : ∀ (e e' : List G), gsimL e e' = true → (e.map mem1).map pat1 = (e'.map mem1).map pat1 :=
  gsimL_induct' rfl (fun g h _ _ hg ih => by simp only [List.map_cons, gsim_pat_mem1 g h hg, ih])

theorem gsimL_lv_pat : ∀ (e e' : List G), gsimL e e' = true → (e.map lv).map pat1 = (e'.map lv).map pat1 :=
  gsimL_induct' rfl (fun g h _ _ hg ih => by
    have h1 : pat1 (lv g) = pat1 (lv h) := (gsim_leaves g h hg).pat1
    simp only [List.map_cons, h1, ih])

/-- **The no-op test of `_decompose_single`'s reshape** (grouped shape vs. the list of the members) gives the same
answer for two length assignments with the same 1-pattern. -/
theorem decompose_test {e e' : List G} (h : gsimL e e' = true) :
    (gShape e == gShape (unflatten1 e)) = (gShape e' == gShape (unflatten1 e')) := by
  rw [gShape_eq_groups e, gShape_unflatten1 e, gShape_eq_groups e', gShape_unflatten1 e']
  exact groups_cmp_generic _ _ (gsimL_groups_pat e e' h)

/-- **The no-op test of `_compose_next`'s reshape** (flat shape vs. the grouped output shape). -/
theorem compose_test {e e' : List G} (h : gsimL e e' = true) :
    (lens (G.leavesL e) == gShape e) = (lens (G.leavesL e') == gShape e') := by
  rw [gShape_eq_lv e, lens_leavesL_eq e, gShape_eq_lv e', lens_leavesL_eq e']
  exact groups_cmp_generic_symm _ _ (gsimL_lv_pat e e' h)

theorem depthL_append (a b : List G) : G.depthL (a ++ b) = max (G.depthL a) (G.depthL b) := by
  induction a with
  | nil => simp [G.depthL]
  | cons g a ih => simp only [List.cons_append, G.depthL, ih, Nat.max_assoc]

theorem depthL_unflatten1 : ∀ e : List G, G.depthL (unflatten1 e) ≤ G.depthL e - 1
  | [] => Nat.zero_le _
  | g :: e => by
    have ih := depthL_unflatten1 e
    rw [unflatten1_cons, depthL_append]
    cases g with
    | ax a => simp only [G.depthL, G.depth, Nat.max_zero, Nat.zero_max]; exact ih
    | grp gs =>
      simp only [G.depthL, G.depth]
      exact Nat.max_le.mpr ⟨Nat.le_sub_one_of_lt (Nat.lt_of_lt_of_le (Nat.lt_succ_self _) (Nat.le_max_left _ _)),
        Nat.le_trans ih (Nat.sub_le_sub_right (Nat.le_max_right _ _) 1)⟩

theorem depthL_zero_flat : ∀ e : List G, G.depthL e = 0 → e.any isGrp = false
  | [], _ => rfl
  | g :: e, h => by
    simp only [G.depthL] at h
    have h1 : g.depth = 0 := by omega
    have h2 : G.depthL e = 0 := by omega
    simp only [List.any_cons, depthL_zero_flat e h2, Bool.or_false]
    cases g with
    | ax a => rfl
    | grp gs => simp [G.depth] at h1

theorem noGrp_depth : ∀ e : List G, e.any isGrp = false → G.depthL e = 0
  | [], _ => rfl
  | g :: e, h => by
    simp only [List.any_cons, Bool.or_eq_false_iff] at h
    simp only [G.depthL, noGrp_depth e h.2]
    cases g with
    | ax a => rfl
    | grp gs => simp [isGrp] at h

theorem decompose_flat : ∀ (fuel : Nat) (s : St) (e : List G), G.depthL e ≤ fuel →
    (decompose fuel s e).2.any isGrp = false
  | 0, s, e, h => by
    simp only [decompose]
    exact depthL_zero_flat e (by omega)
  | fuel + 1, s, e, h => by
    unfold decompose
    split
    · exact decompose_flat fuel _ _ (by have := depthL_unflatten1 e; omega)
    · rename_i hg
      simpa using hg

theorem gShape_flat : ∀ e : List G, e.any isGrp = false → gShape e = lens (G.leavesL e)
  | [], _ => rfl
  | g :: e, h => by
    simp only [List.any_cons, Bool.or_eq_false_iff] at h
    have ih := gShape_flat e h.2
    cases g with
    | ax a =>
      simp only [gShape, List.map_cons, G.size, G.leavesL, G.leaves, lens, List.cons_append, List.nil_append] at ih ⊢
      rw [ih]
    | grp gs => simp [isGrp] at h

/-- `_decompose_single` on two related assignments: the states differ only in shapes, the decomposed expressions are
again related, and the traced shapes are those of the decomposed expressions. -/
theorem decompose_rel : ∀ (fuel : Nat) {s s' : St} {e e' : List G}, Rel s s' → gsimL e e' = true →
    s.shape = gShape e → s'.shape = gShape e' →
    Rel (decompose fuel s e).1 (decompose fuel s' e').1 ∧
      gsimL (decompose fuel s e).2 (decompose fuel s' e').2 = true ∧
      (decompose fuel s e).1.shape = gShape (decompose fuel s e).2 ∧
      (decompose fuel s' e').1.shape = gShape (decompose fuel s' e').2
  | 0, _, _, _, _, hs, he, hsh, hsh' => ⟨hs, he, hsh, hsh'⟩
  | fuel + 1, s, s', e, e', hs, he, hsh, hsh' => by
    unfold decompose
    rw [gsimL_anyGrp e e' he]
    split
    · have hu := gsimL_unflatten1 e e' he
      apply decompose_rel fuel _ hu (reshapeW_shape _ _) (reshapeW_shape _ _)
      apply reshapeW_rel hs
      · rw [hsh, hsh']; exact decompose_test he
      · simp only [gShape, List.length_map]; exact gsimL_length _ _ hu
    · exact ⟨hs, he, hsh, hsh'⟩

theorem _root_.Einx.Generic.Rel.focus {s s' : St} (h : Rel s s') (r : Nat) (sh sh' : List Nat) : Rel (s.focus r sh) (s'.focus r sh') :=
  ⟨rfl, h.next, h.prog⟩

/-- `Decomposer.__call__`, first two steps for one input, on two related assignments. -/
theorem prepInput_rel {marked : List String} {s s' : St} (r : Nat) {e e' : List G} (hs : Rel s s')
    (he : gsimL e e' = true) :
    OkRel (fun p p' => Sim p.1 p'.1 ∧ Rel p.2 p'.2 ∧ p.2.shape = lens p.1 ∧ p'.2.shape = lens p'.1)
      (prepInput marked s r e) (prepInput marked s' r e') := by
  obtain ⟨hr1, he1, hsh1, hsh1'⟩ := decompose_rel (G.depthL e) (hs.focus r (gShape e) (gShape e')) he rfl rfl
  have hf := decompose_flat (G.depthL e) (s.focus r (gShape e)) e (Nat.le_refl _)
  have hf' := decompose_flat (G.depthL e) (s'.focus r (gShape e')) e' (by rw [gsimL_depth e e' he]; exact Nat.le_refl _)
  unfold prepInput
  rw [← gsimL_depth e e' he]
  refine OkRel.guard ?_
  generalize decompose (G.depthL e) (s.focus r (gShape e)) e = d at *
  generalize decompose (G.depthL e) (s'.focus r (gShape e')) e' = d' at *
  obtain ⟨t, e1⟩ := d
  obtain ⟨t', e1'⟩ := d'
  have hl := gsimL_leaves e1 e1' he1
  have hp : ∀ a b : Ax, a.name = b.name → (a.len == 1) = (b.len == 1) →
      (!(a.len == 1 && !marked.contains a.name)) = !(b.len == 1 && !marked.contains b.name) := fun a b hn ho => by rw [hn, ho]
  exact OkRel.pure ⟨hl.filter _ _ hp,
    reshapeW_filter_rel hr1 (hsh1.trans (gShape_flat e1 hf)) (hsh1'.trans (gShape_flat e1' hf')) hl _ _ hp,
    reshapeW_shape _ _, reshapeW_shape _ _⟩

theorem chainInput_rel {W W' : List Ax} {s s' : St} (i : Nat) {e e' : List G} (hs : Rel s s') (hW : Sim W W')
    (he : gsimL e e' = true) :
    OkRel (fun p p' => Sim p.1 p'.1 ∧ Rel p.2 p'.2) (chainInput W s i e) (chainInput W' s' i e') :=
  (prepInput_rel i hs he).bind fun _ _ _ _ ⟨hsim, hrel, hsh, hsh'⟩ => (stbU_generic i hrel hsh hsh' hsim hW).okRel

end Einx.Lower
