import EinxModel.Proofs.SolveRankSem
/-!
`substNum` (a numeric axis in place of a name that carries a scalar constraint) against the
path-free semantics and the rank system.
-/
namespace Einx.Solve

theorem substNum_axesOf (ρ : Var → Nat) (n : String) (v : Nat) (e : Expr) : ∀ (idx : List Nat),
    axesOf ρ idx (substNum n v e) = (axesOf ρ idx e).filter (fun a => a.1 != n) := by
  induction e using Expr.induct with
  | axis m =>
    intro idx
    by_cases hm : m = n
    · simp [substNum, hm, axesOf]
    · simp [substNum, hm, axesOf]
  | num _ => exact fun _ => rfl
  | brackets e ih => exact ih
  | flat e ih => exact ih
  | concat cs ih => exact ih
  | ellipsis id e ih =>
    intro idx
    simp only [substNum, axesOf, List.filter_flatMap]
    simp only [ih]
  | nil => exact fun _ => rfl
  | cons c cs ihc ihcs =>
    intro idx
    dsimp only [substNum, substNumL, axesOf, axesOfL] at ihcs ⊢
    rw [List.filter_append, ihc idx, ihcs idx]

theorem substNumL_axesOf (ρ : Var → Nat) (n : String) (v : Nat) : ∀ (cs : List Expr) (idx : List Nat),
    axesOfL ρ idx (substNumL n v cs) = (axesOfL ρ idx cs).filter (fun a => a.1 != n) :=
  fun cs => substNum_axesOf ρ n v (.list cs)

theorem substNum_evalItems (ρ σ : Var → Nat) (n : String) (v : Nat) (e : Expr) : ∀ (idx : List Nat),
    (∀ a ∈ axesOf ρ idx e, a.1 = n → σ a.2.2 = v) →
    evalItems ρ σ idx (substNum n v e) = evalItems ρ σ idx e := by
  induction e using Expr.induct with
  | axis m =>
    intro idx h
    by_cases hm : m = n
    · subst hm
      have hh : σ (m ++ idxSuffix idx) = v := h (m, idx, m ++ idxSuffix idx) List.mem_cons_self rfl
      simp only [substNum, ↓reduceIte, evalItems]
      rw [hh]
    · simp only [substNum, hm, ↓reduceIte]
  | num _ => exact fun _ _ => rfl
  | brackets e ih => exact ih
  | flat e ih => intro idx h; simp only [substNum, evalItems]; rw [ih idx h]
  | concat cs ih => intro idx h; dsimp only [substNum, evalItems, axesOf] at ih h ⊢; rw [ih idx h]
  | ellipsis id e ih =>
    intro idx h
    simp only [axesOf, List.forall_mem_flatMap] at h
    simp only [substNum, evalItems]
    exact flatMap_congr (fun i hi => ih (idx ++ [i]) (h i hi))
  | nil => exact fun _ _ => rfl
  | cons c cs ihc ihcs =>
    intro idx h
    dsimp only [substNum, substNumL, evalItems, evalItemsL, axesOf, axesOfL] at ihcs h ⊢
    rw [List.forall_mem_append] at h
    rw [ihc idx h.1, ihcs idx h.2]

theorem substNumL_evalItems (ρ σ : Var → Nat) (n : String) (v : Nat) (cs : List Expr) (idx : List Nat)
    (h : ∀ a ∈ axesOfL ρ idx cs, a.1 = n → σ a.2.2 = v) :
    evalItemsL ρ σ idx (substNumL n v cs) = evalItemsL ρ σ idx cs :=
  substNum_evalItems ρ σ n v (.list cs) idx h

theorem substNum_nodeValues (ρ σ : Var → Nat) (n : String) (v : Nat) (e : Expr) : ∀ (idx : List Nat),
    (∀ a ∈ axesOf ρ idx e, a.1 = n → σ a.2.2 = v) →
    nodeValues ρ σ idx (substNum n v e) = nodeValues ρ σ idx e := by
  induction e using Expr.induct with
  | axis m =>
    intro idx _
    by_cases hm : m = n
    · simp only [substNum, hm, ↓reduceIte, nodeValues]
    · simp only [substNum, hm, ↓reduceIte]
  | num _ => exact fun _ _ => rfl
  | brackets e ih => exact ih
  | flat e ih =>
    intro idx h
    simp only [axesOf] at h
    simp only [substNum, nodeValues]
    rw [ih idx h, substNum_evalItems ρ σ n v e idx h]
  | concat cs ih =>
    intro idx h
    dsimp only [substNum, nodeValues, axesOf] at ih h ⊢
    rw [ih idx h, substNumL_evalItems ρ σ n v cs idx h]
  | ellipsis id e ih =>
    intro idx h
    simp only [axesOf, List.forall_mem_flatMap] at h
    simp only [substNum, nodeValues]
    exact flatMap_congr (fun i hi => ih (idx ++ [i]) (h i hi))
  | nil => exact fun _ _ => rfl
  | cons c cs ihc ihcs =>
    intro idx h
    dsimp only [substNum, substNumL, nodeValues, nodeValuesL, axesOf, axesOfL] at ihcs h ⊢
    rw [List.forall_mem_append] at h
    rw [ihc idx h.1, ihcs idx h.2]

theorem substNumL_nodeValues (ρ σ : Var → Nat) (n : String) (v : Nat) : ∀ (cs : List Expr) (idx : List Nat),
    (∀ a ∈ axesOfL ρ idx cs, a.1 = n → σ a.2.2 = v) →
    nodeValuesL ρ σ idx (substNumL n v cs) = nodeValuesL ρ σ idx cs :=
  fun cs => substNum_nodeValues ρ σ n v (.list cs)

theorem substNum_occs (n : String) (v : Nat) (e : Expr) : ∀ (stack : List Var),
    occs stack (substNum n v e) = (occs stack e).filter (fun p => p.1 != n) := by
  induction e using Expr.induct with
  | axis m =>
    intro stack
    by_cases hm : m = n
    · simp [substNum, hm, occs]
    · simp [substNum, hm, occs]
  | num _ => exact fun _ => rfl
  | brackets e ih => exact ih
  | flat e ih => exact ih
  | concat cs ih => exact ih
  | ellipsis id e ih => exact fun stack => ih (stack ++ [id])
  | nil => exact fun _ => rfl
  | cons c cs ihc ihcs =>
    intro stack
    dsimp only [substNum, substNumL, occs, occsL] at ihcs ⊢
    rw [List.filter_append, ihc stack, ihcs stack]

theorem substNumL_occs (n : String) (v : Nat) : ∀ (cs : List Expr) (stack : List Var),
    occsL stack (substNumL n v cs) = (occsL stack cs).filter (fun p => p.1 != n) :=
  fun cs => substNum_occs n v (.list cs)

theorem substNum_ellIds (n : String) (v : Nat) : ∀ (e : Expr), ellIds (substNum n v e) = ellIds e := by
  intro e
  induction e using Expr.induct with
  | axis m =>
    by_cases hm : m = n
    · simp [substNum, hm, ellIds]
    · simp [substNum, hm]
  | num _ => rfl
  | brackets e ih => exact ih
  | flat e ih => exact ih
  | concat cs ih => exact ih
  | ellipsis id e ih => simp only [substNum, ellIds]; rw [ih]
  | nil => rfl
  | cons c cs ihc ihcs =>
    dsimp only [substNum, substNumL, ellIds, ellIdsL] at ihcs ⊢
    rw [ihc, ihcs]

theorem substNumL_ellIds (n : String) (v : Nat) : ∀ (cs : List Expr), ellIdsL (substNumL n v cs) = ellIdsL cs :=
  fun cs => substNum_ellIds n v (.list cs)

/-- Putting `v` for `n` keeps the items, hence their number, once `n` has the length `v`: take all lengths `v`. -/
theorem substNum_width (ρ : Var → Nat) (n : String) (v : Nat) (e : Expr) : width ρ (substNum n v e) = width ρ e := by
  rw [← length_evalItems ρ (fun _ => v) _ [], substNum_evalItems ρ _ n v e [] fun _ _ _ => rfl, length_evalItems]

theorem substNumL_width (ρ : Var → Nat) (n : String) (v : Nat) : ∀ (cs : List Expr), widthL ρ (substNumL n v cs) = widthL ρ cs :=
  fun cs => substNum_width ρ n v (.list cs)

theorem numForm_occs (inp : Input) (n : String) (v : Nat) :
    (numForm inp n v).occs = inp.occs.filter (fun p => p.1 != n) := by
  unfold Input.occs numForm
  simp only [List.flatMap_map, List.filter_flatMap, substNum_occs]

theorem sameStack_iff (inp : Input) (n : String) :
    sameStack inp n = true ↔ ∀ p ∈ inp.occs, ∀ q ∈ inp.occs, p.1 = n → q.1 = n → p.2 = q.2 := by
  simp only [sameStack, List.all_eq_true, not_and_or_eq_true, beq_iff_eq]

/-- The short form (number) and the long form (name + `n=v`) have the same rank solutions. -/
theorem num_rank (inp : Input) (n : String) (v : Nat) (hcn : ∀ c ∈ inp.constraints, c.name ≠ n)
    (hstack : sameStack inp n = true) (ρ : Var → Nat) :
    Sat (rankSystem true (numForm inp n v)) ρ ↔ Sat (rankSystem true (withNumConstraint inp n v)) ρ := by
  rw [sameStack_iff] at hstack
  rw [sat_rankSystem_iff, sat_rankSystem_iff, numForm_occs, show (withNumConstraint inp n v).occs = inp.occs from rfl]
  refine and_congr ?_ (and_congr ?_ ?_)
  · simp only [numForm, withNumConstraint, List.forall_mem_map, holds_rankEqn, substNum_width]
  · rw [sameName_holds, sameName_holds]
    simp only [List.nil_append, List.mem_filter, bne_iff_ne, ne_eq, and_imp]
    constructor
    · intro h p hp st0 hl
      by_cases hpn : p.1 = n
      · -- all occurrences of `n` stand under the same ellipses
        rw [show st0 = p.2 from hstack (n, st0) (hpn ▸ mem_of_lookup hl) p hp rfl hpn]
      · exact h p hp hpn st0 (by rw [lookup_filter_ne n p.1 hpn]; exact hl)
    · intro h p hp hpn st0 hl
      rw [lookup_filter_ne n p.1 hpn] at hl
      exact h p hp st0 hl
  · simp only [numForm, withNumConstraint, List.forall_mem_append, List.forall_mem_singleton]
    have : ∀ c ∈ inp.constraints, constraintRankEqns true (inp.occs.filter (fun p => p.1 != n)) c =
        constraintRankEqns true inp.occs c := by
      intro c hc
      unfold constraintRankEqns
      rw [lookup_filter_ne n c.name (hcn c hc)]
    exact ⟨fun h => ⟨fun c hc => this c hc ▸ h c hc, constraintRank_scalar ρ _ n v⟩,
      fun h c hc => this c hc ▸ h.1 c hc⟩

theorem num_semShapes (inp : Input) (n : String) (v : Nat) (ρ σ : Var → Nat)
    (hnv : ∀ t ∈ inp.tensors, ∀ a ∈ axesOf ρ [] t.expr, a.1 = n → σ a.2.2 = v) :
    semShapes (numForm inp n v) ρ σ = semShapes inp ρ σ :=
  semShapes_map inp (substNum n v) _ ρ ρ σ σ fun t ht => substNum_evalItems ρ σ n v t.expr [] (hnv t ht)

theorem num_sem_long_short (inp : Input) (n : String) (v : Nat) (ρ σ : Var → Nat)
    (h : SemSat (withNumConstraint inp n v) ρ σ) :
    SemSat (numForm inp n v) ρ σ ∧ semShapes (numForm inp n v) ρ σ = semShapes inp ρ σ := by
  simp only [semSat_iff, numForm, withNumConstraint, List.forall_mem_map, substNum_axesOf, List.mem_filter,
    List.forall_mem_append, List.forall_mem_singleton, and_imp, constraintValue_scalar, Option.some.injEq] at h ⊢
  obtain ⟨h1, h2, h3, h4, h5⟩ := h
  have hnv : ∀ t ∈ inp.tensors, ∀ a ∈ axesOf ρ [] t.expr, a.1 = n → σ a.2.2 = v :=
    fun t ht a ha hn => (h5 t ht a ha hn).symm
  exact ⟨⟨fun t ht a ha _ => h1 t ht a ha,
    fun t ht => by rw [substNum_nodeValues ρ σ n v t.expr [] (hnv t ht)]; exact h2 t ht,
    fun t ht => by rw [substNum_evalItems ρ σ n v t.expr [] (hnv t ht)]; exact h3 t ht,
    fun c hc t ht a ha _ hn => h4 c hc t ht a ha hn⟩, num_semShapes inp n v ρ σ hnv⟩

theorem num_sem_short_long_same (inp : Input) (n : String) (v : Nat) (hv : 1 ≤ v)
    (hcn : ∀ c ∈ inp.constraints, c.name ≠ n) (ρ σ : Var → Nat)
    (hnv : ∀ t ∈ inp.tensors, ∀ a ∈ axesOf ρ [] t.expr, a.1 = n → σ a.2.2 = v)
    (h : SemSat (numForm inp n v) ρ σ) : SemSat (withNumConstraint inp n v) ρ σ := by
  simp only [semSat_iff, numForm, withNumConstraint, List.forall_mem_map, substNum_axesOf, List.mem_filter,
    List.forall_mem_append, List.forall_mem_singleton, bne_iff_ne, ne_eq, and_imp, constraintValue_scalar,
    Option.some.injEq] at h ⊢
  obtain ⟨h1, h2, h3, h4⟩ := h
  exact ⟨fun t ht a ha => Decidable.byCases (fun hn : a.1 = n => by rw [hnv t ht a ha hn]; exact hv) (h1 t ht a ha),
    fun t ht => by rw [← substNum_nodeValues ρ σ n v t.expr [] (hnv t ht)]; exact h2 t ht,
    fun t ht => by rw [← substNum_evalItems ρ σ n v t.expr [] (hnv t ht)]; exact h3 t ht,
    fun c hc t ht a ha hn => h4 c hc t ht a ha (hn ▸ hcn c hc) hn, fun t ht a ha hn => (hnv t ht a ha hn).symm⟩

/-- the assignment that gives the variables of `n` the value `v` -/
def setName (inp : Input) (ρ : Var → Nat) (n : String) (v : Nat) (σ : Var → Nat) : Var → Nat :=
  fun x => if (inp.axes ρ).any (fun a => a.1 == n && a.2.2 == x) then v else σ x

theorem freshVars_iff (inp : Input) (ρ : Var → Nat) (n : String) :
    freshVars inp ρ n = true ↔ ∀ a ∈ inp.axes ρ, ∀ b ∈ inp.axes ρ, a.1 = n → b.2.2 = a.2.2 → b.1 = n := by
  simp only [freshVars, List.all_eq_true, not_and_or_eq_true, beq_iff_eq]

/-- short ⇒ long: set the variables of the fresh name to `v` -/
theorem num_sem_short_long (inp : Input) (n : String) (v : Nat) (hv : 1 ≤ v)
    (hcn : ∀ c ∈ inp.constraints, c.name ≠ n) (ρ σ : Var → Nat)
    (hfresh : freshVars inp ρ n = true) (h : SemSat (numForm inp n v) ρ σ) :
    SemSat (withNumConstraint inp n v) ρ (setName inp ρ n v σ) ∧
    (∀ a ∈ inp.axes ρ, a.1 = n → setName inp ρ n v σ a.2.2 = v) ∧
    (∀ a ∈ inp.axes ρ, a.1 ≠ n → setName inp ρ n v σ a.2.2 = σ a.2.2) ∧
    semShapes inp ρ (setName inp ρ n v σ) = semShapes (numForm inp n v) ρ σ := by
  rw [freshVars_iff] at hfresh
  have hset1 : ∀ a ∈ inp.axes ρ, a.1 = n → setName inp ρ n v σ a.2.2 = v := by
    intro a ha hn
    have : (inp.axes ρ).any (fun b => b.1 == n && b.2.2 == a.2.2) = true :=
      List.any_eq_true.mpr ⟨a, ha, by simp [hn]⟩
    simp only [setName, this, ↓reduceIte]
  have hset2 : ∀ a ∈ inp.axes ρ, a.1 ≠ n → setName inp ρ n v σ a.2.2 = σ a.2.2 := by
    intro a ha hn
    have : (inp.axes ρ).any (fun b => b.1 == n && b.2.2 == a.2.2) = false := by
      rw [List.any_eq_false]
      intro b hb hb'
      simp only [Bool.and_eq_true, beq_iff_eq] at hb'
      exact hn (hfresh b hb a ha hb'.1 hb'.2.symm)
    simp only [setName, this, Bool.false_eq_true, ↓reduceIte]
  have hnv : ∀ t ∈ inp.tensors, ∀ a ∈ axesOf ρ [] t.expr, a.1 = n → setName inp ρ n v σ a.2.2 = v :=
    fun t ht a ha hn => hset1 a (mem_inputAxes.mpr ⟨t, ht, ha⟩) hn
  -- on the axes of the short form (all names but `n`) nothing has changed
  have hagree : ∀ t ∈ (numForm inp n v).tensors, ∀ a ∈ axesOf ρ [] t.expr,
      σ a.2.2 = setName inp ρ n v σ a.2.2 := by
    simp only [numForm, List.forall_mem_map, substNum_axesOf, List.mem_filter, bne_iff_ne, ne_eq, and_imp]
    exact fun t ht a ha hn => (hset2 a (mem_inputAxes.mpr ⟨t, ht, ha⟩) hn).symm
  refine ⟨num_sem_short_long_same inp n v hv hcn ρ _ hnv ((semSat_congr hagree).mp h), hset1, hset2, ?_⟩
  rw [← num_semShapes inp n v ρ _ hnv]
  exact (List.map_congr_left fun t ht => evalItems_congr ρ _ _ t.expr [] (hagree t ht)).symm

theorem numForm_axes (inp : Input) (n : String) (v : Nat) (ρ : Var → Nat) :
    (numForm inp n v).axes ρ = (inp.axes ρ).filter (fun a => a.1 != n) := by
  simp only [inputAxes_eq, numForm, List.flatMap_map, substNum_axesOf, List.filter_flatMap]

theorem numForm_axes_sub (inp : Input) (n : String) (v : Nat) (ρ : Var → Nat) :
    ∀ a, a ∈ (numForm inp n v).axes ρ ↔ a ∈ inp.axes ρ ∧ a.1 ≠ n := by
  simp only [numForm_axes, List.mem_filter, bne_iff_ne, ne_eq, implies_true]

end Einx.Solve
