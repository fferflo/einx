import EinxModel.Proofs.ExceptList
/-! General facts about `Except` computations (`foldlM`, `mapM` under a map) and one about lists, used by the
proofs about the code generator. -/
namespace Einx

theorem foldlM_ok_rel {ε σ α : Type} (f : σ → α → Except ε σ) (R : σ → σ → Prop)
    (refl : ∀ s, R s s) (trans : ∀ {s₁ s₂ s₃}, R s₁ s₂ → R s₂ s₃ → R s₁ s₃)
    (step : ∀ s a s', f s a = .ok s' → R s s') (l : List α) (s s' : σ) (h : l.foldlM f s = .ok s') : R s s' :=
  (ExceptP.foldlM (E := fun _ => True) (I := R s) (refl s) fun s₁ a _ h₁ =>
    ExceptP.of_ok (fun s₂ h₂ => trans h₁ (step s₁ a s₂ h₂)) fun _ _ => trivial).ok h

theorem mapM_map_except {α β : Type} (m : β → β) (f f' : α → Except String β) (h : ∀ a, f' a = (f a).map m) (l : List α) :
    l.mapM f' = (l.mapM f).map (List.map m) := by
  induction l with
  | nil => rfl
  | cons a rest ih =>
    simp only [List.mapM_cons, ih, h]
    cases f a <;> cases List.mapM f rest <;> rfl

theorem foldlM_map_except {α β : Type} (m : β → β) (f f' : β → α → Except String β)
    (h : ∀ b a, f' (m b) a = (f b a).map m) (l : List α) : ∀ b, l.foldlM f' (m b) = (l.foldlM f b).map m := by
  induction l with
  | nil => intro b; rfl
  | cons a rest ih =>
    intro b
    simp only [List.foldlM_cons, h]
    cases hb : f b a with
    | error e => rfl
    | ok b1 => exact ih b1

theorem eq_singleton_of_mem {α : Type} {l : List α} {a : α} (hle : l.length ≤ 1) (ha : a ∈ l) : l = [a] := by
  match l, hle, ha with
  | [b], _, ha => rw [List.mem_singleton.1 ha]

end Einx
