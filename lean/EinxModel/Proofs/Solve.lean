import EinxModel.Solve.Tree
import EinxModel.Proofs.UtilSolve
/-!
Helper lemmas for C02: polynomials only look at their variables; soundness of one propagation step,
the measure that bounds the fuel, and the loop invariant "the partial assignment is contained in every
solution".
-/
namespace Einx.Solve

/-- `τ` extends the partial assignment `a`. -/
def Agrees (τ : Var → Nat) (a : Assign) : Prop := ∀ x v, a.lookup x = some v → τ x = v

theorem agrees_nil (τ : Var → Nat) : Agrees τ [] := by
  intro x v h; simp [List.lookup] at h

theorem agrees_cons {τ : Var → Nat} {a : Assign} {x : Var} {v : Nat}
    (h : Agrees τ a) (hx : τ x = v) : Agrees τ ((x, v) :: a) := by
  intro y w hy
  by_cases hyx : y = x
  · subst hyx
    rw [List.lookup_cons_self] at hy
    injection hy with hy; rw [← hy]; exact hx
  · rw [lookup_cons_ne hyx] at hy
    exact h y w hy

theorem agrees_toFun (a : Assign) : Agrees (toFun a) a := by
  intro x v h; simp [toFun, h]

theorem Agrees.toFun_eq {τ : Var → Nat} {a : Assign} (h : Agrees τ a) {x : Var}
    (hx : (a.lookup x).isSome = true) : toFun a x = τ x := by
  obtain ⟨v, hv⟩ := Option.isSome_iff_exists.mp hx
  rw [h x v hv]; simp [toFun, hv]

theorem reduceVars_eval {τ : Var → Nat} {a : Assign} (h : Agrees τ a) (xs : List Var) :
    prodVars τ xs = (reduceVars a xs).1 * prodVars τ (reduceVars a xs).2 := by
  induction xs with
  | nil => simp [reduceVars, prodVars]
  | cons x xs ih =>
    simp only [reduceVars]
    cases hx : a.lookup x with
    | some v =>
      simp only [prodVars]
      rw [h x v hx, ih, Nat.mul_assoc]
    | none =>
      simp only [prodVars]
      rw [ih, Nat.mul_left_comm]

theorem linPoly_eval {τ : Var → Nat} {a : Assign} (h : Agrees τ a) (x : Var) :
    ∀ (p : Poly) (k c : Nat), linPoly a x p = some (k, c) → evalPoly τ p = k + c * τ x := by
  intro p
  induction p with
  | nil => intro k c hl; cases hl; simp [evalPoly]
  | cons m ms ih =>
    intro k c hl
    simp only [linPoly] at hl
    cases hms : linPoly a x ms with
    | none => simp [hms] at hl
    | some kc =>
      obtain ⟨k0, c0⟩ := kc
      simp only [hms] at hl
      have hm : evalMono τ m = m.coef * (reduceVars a m.vars).1 * prodVars τ (reduceVars a m.vars).2 := by
        unfold evalMono
        rw [reduceVars_eval h m.vars, Nat.mul_assoc]
      simp only [evalPoly]
      rw [ih k0 c0 hms, hm]
      -- the monomial vanishes, is a constant, or is a multiple of `x`
      split at hl
      · rename_i hc; cases hl; simp [hc]
      · split at hl
        · rename_i hus; cases hl; simp [hus, prodVars]; omega
        · rename_i y hus
          split at hl
          · rename_i hy; cases hl; subst hy
            simp only [hus, prodVars, Nat.mul_one]
            rw [Nat.add_mul]; omega
          · cases hl
        · cases hl

theorem evalPoly_append (σ : Var → Nat) (p q : Poly) :
    evalPoly σ (p ++ q) = evalPoly σ p + evalPoly σ q := by
  induction p with
  | nil => simp [evalPoly]
  | cons m ms ih => simp [evalPoly, ih, Nat.add_assoc]

theorem prodVars_congr {σ τ : Var → Nat} {xs : List Var} (h : ∀ x ∈ xs, σ x = τ x) :
    prodVars σ xs = prodVars τ xs := by
  induction xs with
  | nil => rfl
  | cons x xs ih =>
    simp only [prodVars]
    rw [h x List.mem_cons_self, ih (fun y hy => h y (List.mem_cons_of_mem _ hy))]

theorem evalPoly_congr {σ τ : Var → Nat} {p : Poly} (h : ∀ x ∈ polyVars p, σ x = τ x) :
    evalPoly σ p = evalPoly τ p := by
  induction p with
  | nil => rfl
  | cons m ms ih =>
    simp only [polyVars, List.mem_append] at h
    simp only [evalPoly, evalMono]
    rw [prodVars_congr (fun x hx => h x (Or.inl hx)), ih (fun x hx => h x (Or.inr hx))]

theorem solveLin_sound {sys : System} {τ : Var → Nat} (hb : ∀ p ∈ sys.vars, p.2 ≤ τ p.1)
    {c hi lo : Nat} {x : Var} (hc : 0 < c) (heq : lo + c * τ x = hi) :
    solveLin sys c hi lo x ≠ .contra ∧ ∀ y v, solveLin sys c hi lo x = .learn y v → τ y = v := by
  have hle : ¬ hi < lo := by omega
  have hsub : hi - lo = c * τ x := by omega
  have hmod : (hi - lo) % c = 0 := by rw [hsub]; exact Nat.mul_mod_right c (τ x)
  have hdiv : (hi - lo) / c = τ x := by rw [hsub]; exact Nat.mul_div_cancel_left (τ x) hc
  have hany : sys.vars.any (fun p => p.1 == x && decide ((hi - lo) / c < p.2)) = false := by
    rw [List.any_eq_false]
    intro p hp
    have := hb p hp
    simp only [Bool.and_eq_true, beq_iff_eq, decide_eq_true_eq, not_and]
    intro hpx
    rw [hdiv, ← hpx]; omega
  unfold solveLin
  simp only [hle, ↓reduceIte, hmod, ne_eq, not_true_eq_false, hany, Bool.false_eq_true]
  refine ⟨by simp, ?_⟩
  intro y v hyv
  injection hyv with h1 h2
  rw [← h1, ← h2, hdiv]

theorem sub_mul_of_eq {k k' c c' t : Nat} (hlt : c' < c) (h : k + c * t = k' + c' * t) :
    k + (c - c') * t = k' := by
  rw [Nat.sub_mul]
  have : c' * t ≤ c * t := Nat.mul_le_mul_right _ (Nat.le_of_lt hlt)
  omega

theorem stepEqn_sound {sys : System} {τ : Var → Nat} {a : Assign} {e : Eqn}
    (hb : ∀ p ∈ sys.vars, p.2 ≤ τ p.1) (hag : Agrees τ a)
    (he : evalPoly τ e.lhs = evalPoly τ e.rhs) :
    stepEqn sys a e ≠ .contra ∧ ∀ y v, stepEqn sys a e = .learn y v → τ y = v := by
  unfold stepEqn
  split
  · rename_i hnone
    -- every variable of the equation is known: τ and `toFun a` agree on them
    have hall : ∀ x ∈ eqnVars e, toFun a x = τ x := fun x hx =>
      hag.toFun_eq (by simpa using List.find?_eq_none.mp hnone x hx)
    rw [evalPoly_congr (fun x hx => hall x (List.mem_append_left _ hx)),
      evalPoly_congr (fun x hx => hall x (List.mem_append_right _ hx))]
    simp [he]
  · rename_i x hx
    split
    · rename_i k1 c1 k2 c2 hl1 hl2
      have e1 := linPoly_eval hag x e.lhs k1 c1 hl1
      have e2 := linPoly_eval hag x e.rhs k2 c2 hl2
      rw [e1, e2] at he
      by_cases hcc : c1 = c2
      · subst hcc
        have : k1 = k2 := by omega
        simp [this]
      · simp only [hcc, ↓reduceIte]
        by_cases hlt : c2 < c1
        · simp only [hlt, ↓reduceIte]
          exact solveLin_sound hb (Nat.sub_pos_of_lt hlt) (sub_mul_of_eq hlt he)
        · simp only [hlt, ↓reduceIte]
          have hlt' : c1 < c2 := by omega
          exact solveLin_sound hb (Nat.sub_pos_of_lt hlt') (sub_mul_of_eq hlt' he.symm)
    · simp

theorem scan_sound {sys : System} {τ : Var → Nat} {a : Assign} (hs : Sat sys τ) (hag : Agrees τ a) :
    ∀ (es : List Eqn), (∀ e ∈ es, e ∈ sys.eqns) →
      scan sys a es ≠ .contra ∧ ∀ y v, scan sys a es = .learn y v → τ y = v := by
  intro es
  induction es with
  | nil => intro _; simp [scan]
  | cons e es ih =>
    intro hsub
    have hstep := stepEqn_sound (sys := sys) (a := a) hs.1 hag (hs.2 e (hsub e List.mem_cons_self))
    have ih' := ih (fun e' he' => hsub e' (List.mem_cons_of_mem _ he'))
    unfold scan
    split
    · exact ih'
    · rename_i s hne
      exact hstep

/-! ### `unknownCount` drops with every learnt value: this is what bounds the fuel of `propagateLoop` -/

theorem find_unknown_mem {a : Assign} {l : List Var} {x : Var}
    (h : l.find? (fun x => (a.lookup x).isNone) = some x) : x ∈ l ∧ a.lookup x = none :=
  ⟨List.mem_of_find?_eq_some h, by simpa using List.find?_some h⟩

theorem solveLin_learn {sys : System} {c hi lo : Nat} {x y : Var} {v : Nat}
    (h : solveLin sys c hi lo x = .learn y v) : y = x ∧ v = (hi - lo) / c := by
  unfold solveLin at h
  split at h
  · cases h
  · split at h
    · cases h
    · split at h
      · cases h
      · injection h with h1 h2; exact ⟨h1.symm, h2.symm⟩

theorem stepEqn_learn_unknown {sys : System} {a : Assign} {e : Eqn} {x : Var} {v : Nat}
    (h : stepEqn sys a e = .learn x v) : x ∈ eqnVars e ∧ a.lookup x = none := by
  unfold stepEqn at h
  split at h
  · split at h <;> cases h
  · rename_i y hy
    have hm := find_unknown_mem hy
    split at h
    · split at h
      · split at h <;> cases h
      · split at h
        · rw [(solveLin_learn h).1]; exact hm
        · rw [(solveLin_learn h).1]; exact hm
    · cases h

theorem mem_eqnsVars {es : List Eqn} {e : Eqn} {x : Var} (he : e ∈ es) (hx : x ∈ eqnVars e) :
    x ∈ eqnsVars es := by
  induction es with
  | nil => cases he
  | cons e' es ih =>
    simp only [eqnsVars, List.mem_append]
    cases he with
    | head => exact Or.inl hx
    | tail _ h => exact Or.inr (ih h)

theorem mem_allVars_of_eqn {sys : System} {e : Eqn} (he : e ∈ sys.eqns) {x : Var} (hx : x ∈ eqnVars e) :
    x ∈ sys.allVars :=
  List.mem_append_right _ (mem_eqnsVars he hx)

theorem scan_learn {sys : System} {a : Assign} {es : List Eqn} {x : Var} {v : Nat}
    (h : scan sys a es = .learn x v) : ∃ e ∈ es, stepEqn sys a e = .learn x v := by
  induction es with
  | nil => cases h
  | cons e es ih =>
    unfold scan at h
    split at h
    · obtain ⟨e', he', hs⟩ := ih h
      exact ⟨e', List.mem_cons_of_mem _ he', hs⟩
    · rename_i s hs
      exact ⟨e, List.mem_cons_self, by rw [← h]⟩

theorem filter_length_lt {l : List Var} {p q : Var → Bool} (hpq : ∀ y, q y = true → p y = true)
    {x : Var} (hx : x ∈ l) (hp : p x = true) (hq : q x = false) :
    (l.filter q).length < (l.filter p).length := by
  have hqp : l.filter q = (l.filter p).filter q := by
    rw [List.filter_filter]
    exact List.filter_congr fun y _ => by cases h : q y <;> simp [hpq y, h]
  rw [hqp]
  exact List.length_filter_lt_length_iff_exists.mpr ⟨x, List.mem_filter.mpr ⟨hx, hp⟩, by simp [hq]⟩

theorem learn_decreases {sys : System} {a : Assign} {x : Var} {v : Nat}
    (h : scan sys a sys.eqns = .learn x v) :
    unknownCount sys ((x, v) :: a) < unknownCount sys a := by
  obtain ⟨e, he, hs⟩ := scan_learn h
  obtain ⟨hx, hun⟩ := stepEqn_learn_unknown hs
  unfold unknownCount
  apply filter_length_lt (x := x) _ (mem_allVars_of_eqn he hx)
  · simp [hun]
  · simp
  · intro y hy
    by_cases hyx : y = x
    · subst hyx; simp at hy
    · rwa [lookup_cons_ne hyx] at hy

/-- What the loop guarantees, as one statement over the three verdicts. -/
def Good (sys : System) : Verdict → Prop
  | .none => ∀ τ, ¬ Sat sys τ
  | .unique b => (∀ τ, Sat sys τ → Agrees τ b) ∧ checkSat sys b = true
  | .stuck b => (∀ τ, Sat sys τ → Agrees τ b) ∧ (∃ x ∈ sys.allVars, b.lookup x = none) ∧
      scan sys b sys.eqns = .skip

theorem checkSat_eq_true_iff (sys : System) (a : Assign) :
    checkSat sys a = true ↔ (∀ x ∈ sys.allVars, (a.lookup x).isSome = true) ∧ Sat sys (toFun a) := by
  unfold checkSat Sat
  simp only [Bool.and_eq_true, List.all_eq_true, decide_eq_true_eq, beq_iff_eq]

theorem sat_congr {sys : System} {σ τ : Var → Nat} (h : ∀ x ∈ sys.allVars, σ x = τ x)
    (hs : Sat sys σ) : Sat sys τ := by
  constructor
  · intro p hp
    have : σ p.1 = τ p.1 := h p.1 (List.mem_append_left _ (List.mem_map_of_mem hp))
    rw [← this]; exact hs.1 p hp
  · intro e he
    have hv : ∀ x ∈ eqnVars e, σ x = τ x := fun x hx => h x (mem_allVars_of_eqn he hx)
    rw [← evalPoly_congr (fun x hx => hv x (List.mem_append_left _ hx)),
        ← evalPoly_congr (fun x hx => hv x (List.mem_append_right _ hx))]
    exact hs.2 e he

theorem finish_good {sys : System} {a : Assign} (hinv : ∀ τ, Sat sys τ → Agrees τ a)
    (hfix : unknownCount sys a = 0 ∨ scan sys a sys.eqns = .skip) : Good sys (finish sys a) := by
  unfold finish
  split
  · rename_i hall
    split
    · rename_i hc; exact ⟨hinv, hc⟩
    · rename_i hc
      -- every variable is known, so any solution coincides with `toFun a` on the system
      intro τ hτ
      apply hc
      rw [checkSat_eq_true_iff]
      refine ⟨List.all_eq_true.mp hall, ?_⟩
      apply sat_congr (σ := τ) _ hτ
      exact fun x hx => ((hinv τ hτ).toFun_eq (List.all_eq_true.mp hall x hx)).symm
  · rename_i hall
    have : ∃ x ∈ sys.allVars, ¬ (a.lookup x).isSome = true := by
      simpa [List.all_eq_true] using hall
    obtain ⟨x, hx, hn⟩ := this
    refine ⟨hinv, ⟨x, hx, Option.not_isSome_iff_eq_none.mp hn⟩, hfix.resolve_left fun hz => ?_⟩
    -- an unknown variable is counted
    have := List.filter_eq_nil_iff.mp (List.eq_nil_of_length_eq_zero hz) x hx
    exact this (by rw [Option.not_isSome_iff_eq_none.mp hn]; rfl)

theorem loop_good (sys : System) : ∀ (fuel : Nat) (a : Assign), (∀ τ, Sat sys τ → Agrees τ a) →
    unknownCount sys a ≤ fuel → Good sys (propagateLoop sys fuel a) := by
  intro fuel
  induction fuel with
  | zero => intro a hinv hle; exact finish_good hinv (Or.inl (by omega))
  | succ n ih =>
    intro a hinv hle
    unfold propagateLoop
    split
    · rename_i hscan
      intro τ hτ
      exact (scan_sound hτ (hinv τ hτ) sys.eqns (fun _ h => h)).1 hscan
    · rename_i hscan; exact finish_good hinv (Or.inr hscan)
    · rename_i x v hscan
      have := learn_decreases hscan
      exact ih _ (fun τ hτ => agrees_cons (hinv τ hτ)
        ((scan_sound hτ (hinv τ hτ) sys.eqns (fun _ h => h)).2 x v hscan)) (by omega)

theorem propagate_good (sys : System) : Good sys (propagate sys) :=
  loop_good sys _ [] (fun τ _ => agrees_nil τ) (List.length_filter_le _ _)

/-- Induction over expressions with one motive: a list of children is the node `.list cs`.  Where the list function
is the expression function at a list node by unfolding (`widthL ρ cs` is `width ρ (.list cs)`), the statement about
lists is the instance at `.list cs`; in the cases `concat` and `cons`, `dsimp only` unfolds the definitions in the
induction hypothesis and in the goal alike. -/
theorem Expr.induct {P : Expr → Prop} (axis : ∀ n, P (.axis n)) (num : ∀ v, P (.num v))
    (brackets : ∀ e, P e → P (.brackets e)) (flat : ∀ e, P e → P (.flat e))
    (ellipsis : ∀ id e, P e → P (.ellipsis id e)) (concat : ∀ cs, P (.list cs) → P (.concat cs))
    (nil : P (.list [])) (cons : ∀ c cs, P c → P (.list cs) → P (.list (c :: cs))) (e : Expr) : P e :=
  Expr.rec (motive_2 := fun cs => P (.list cs)) axis num (fun _ ih => ih) flat concat brackets ellipsis nil cons e

end Einx.Solve
