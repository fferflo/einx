import EinxModel.Proofs.DenoteGen
/-! The loop forms (`Denote.denoteId`, `Denote.denoteElementwise`, written with `for` in `Except`) and the functional
forms (`Denote.denoteIdFun`, `Denote.denoteElementwiseFun`) agree on concatenation-free operations (up to the text of the
error message): a loop whose body always continues is a `mapOpt` (`okOpt_forIn_mapOpt`).  What a loop form computes is
stated as `okOpt (denoteX …) = (cells …).map …`; for elementwise operations, reductions and dot the tie to the functional
form is its corollary by `okOpt_ofCells`. -/
namespace Einx.Denote
open Einx Einx.IR
open Einx.Update (mapOpt mapOpt_congr mapOpt_length mapOpt_map mapOpt_zip_keys mapOpt_fuse)

theorem views_of_concatFree {e : Expr} (h : e.concatFree = true) : views e = [rootDims e] := by
  have := nconcatL_of_concatFree _ (rootDims_concatFree h)
  simp only [rootDims] at this
  simp [views, viewsFuel, this, rootDims]

theorem singleView_of_concatFree {e : Expr} (h : e.concatFree = true) : singleView e = pure (rootDims e) := by
  simp [singleView, views_of_concatFree h]

theorem concatFreeL_cons (c : Expr) (cs : List Expr) :
    Expr.concatFreeL (c :: cs) = (c.concatFree && Expr.concatFreeL cs) := by simp [Expr.concatFreeL]

theorem mapM_singleView : ∀ (l : List Expr), Expr.concatFreeL l = true →
    l.mapM singleView = (pure (l.map rootDims) : E _) := by
  intro l
  induction l with
  | nil => intro _; rfl
  | cons e l ih =>
    intro h
    rw [concatFreeL_cons, Bool.and_eq_true] at h
    rw [List.mapM_cons, singleView_of_concatFree h.1, ih h.2]
    rfl

theorem vin_of_concatFree {β : Type} (g : Expr → Nat → List Dim → β) : ∀ (l : List Expr) (n : Nat),
    Expr.concatFreeL l = true →
    (l.zipIdx n).flatMap (fun (x : Expr × Nat) => (views x.1).map (g x.1 x.2))
      = (l.zipIdx n).map (fun x => g x.1 x.2 (rootDims x.1)) := by
  intro l
  induction l with
  | nil => intro n _; rfl
  | cons e l ih =>
    intro n h
    rw [concatFreeL_cons, Bool.and_eq_true] at h
    simp only [List.zipIdx_cons, List.flatMap_cons, List.map_cons, views_of_concatFree h.1, List.map_nil,
      List.singleton_append, ih (n + 1) h.2]

def okOpt {α : Type} : E α → Option α
  | .ok a => some a
  | .error _ => none

theorem okOpt_bind {α β : Type} (x : E α) (f : α → E β) :
    okOpt (x >>= f) = (okOpt x).bind (fun a => okOpt (f a)) := by
  cases x <;> rfl

theorem okOpt_map {α β : Type} (g : α → β) (x : E α) : okOpt (x.map g) = (okOpt x).map g := by
  cases x <;> rfl

theorem okOpt_pure {α : Type} (a : α) : okOpt (pure a : E α) = some a := rfl

/-- The end of every functional form `denote…Fun`: a guard that holds, then the cells or an error. -/
theorem okOpt_ofCells {b : Bool} (hb : b = true) (m m' : String) (o : Option (List Cell)) (so : List Nat) :
    okOpt (if !b then throw m else
        match o with
        | some cs => pure ⟨so, cs⟩
        | none => throw m' : E (Tensor Cell))
      = o.map (fun cs => ⟨so, cs⟩) := by
  subst hb
  cases o <;> rfl

theorem ok_of_okOpt {α : Type} {x : E α} {a : α} (h : okOpt x = some a) : x = .ok a :=
  match x, h with
  | .ok _, h => congrArg Except.ok (Option.some.inj h)
  | .error _, h => nomatch h

theorem okOpt_optE {α : Type} (msg : String) (o : Option α) : okOpt (optE msg o) = o := by
  cases o <;> rfl

theorem okOpt_optE_bind {α β : Type} (msg : String) (o : Option α) (k : α → E β) :
    okOpt (optE msg o >>= k) = o.bind (fun a => okOpt (k a)) := by
  cases o <;> rfl

theorem okOpt_mapM {α β : Type} (f : α → E β) (l : List α) : okOpt (l.mapM f) = mapOpt (fun a => okOpt (f a)) l := by
  induction l with
  | nil => rfl
  | cons a l ih =>
    rw [List.mapM_cons, okOpt_bind]
    simp only [mapOpt]
    cases okOpt (f a) with
    | none => rfl
    | some b =>
      simp only [Option.bind_some, okOpt_bind, ih]
      cases mapOpt (fun a => okOpt (f a)) l <;> rfl

theorem okOpt_mapM_optE (msg : String) (cells : List (Option Cell)) :
    okOpt (cells.mapM (optE msg)) = mapOpt id cells := by
  rw [okOpt_mapM, funext (okOpt_optE msg)]; rfl

/-- If every step of the loop computes a value from the element alone (`f`) and folds it into the state (`upd`), the loop
succeeds iff `f` does on every element, with the fold of the values as final state. -/
theorem okOpt_forIn_mapOpt {α β σ : Type} {body : α → σ → E (ForInStep σ)} (f : α → Option β) (upd : σ → β → σ)
    (h : ∀ a s, okOpt (body a s) = (f a).map (fun b => ForInStep.yield (upd s b))) :
    ∀ (l : List α) (s : σ), okOpt (forIn l s body) = (mapOpt f l).map (fun bs => bs.foldl upd s)
  | [], _ => rfl
  | a :: l, s => by
    rw [List.forIn_cons, okOpt_bind, h, mapOpt]
    cases f a with
    | none => rfl
    | some b =>
      rw [Option.map_some, Option.bind_some, okOpt_forIn_mapOpt f upd h l]
      cases mapOpt f l <;> rfl

theorem okOpt_forIn_append {α β : Type} {body : α → List β → E (ForInStep (List β))} (f : α → Option β)
    (h : ∀ a s, okOpt (body a s) = (f a).map (fun b => ForInStep.yield (s ++ [b]))) (l : List α) (s : List β) :
    okOpt (forIn l s body) = (mapOpt f l).map (fun bs => s ++ bs) := by
  rw [okOpt_forIn_mapOpt f (fun s b => s ++ [b]) h]
  have : ∀ (bs s : List β), bs.foldl (fun s b => s ++ [b]) s = s ++ bs := by
    intro bs
    induction bs with
    | nil => intro s; simp
    | cons b bs ih => intro s; rw [List.foldl_cons, ih]; simp
  simp only [this]

/-! ### `id` -/

abbrev Outs := List (List (Option Cell))

def idInner (vi : List Dim) (si : List Nat) (i : Nat) (vo : List Dim) (so : List Nat) (k : Nat) :
    Assign → Outs → E (ForInStep Outs) := fun σ outs => do
  let σ' ← optE "input axis missing from output" (extend σ (Dim.leavesL vi))
  let po ← optE "unassigned output axis" (position vo σ)
  let pi ← optE "unassigned input axis" (position vi σ')
  pure (ForInStep.yield (outs.set k ((outs.getD k []).set (ravel so po) (some (Cell.src i (ravel si pi))))))

def idOuter (exprsOut : List Expr) : (List Dim × Nat × List Nat) × (List Dim × Nat) → Outs → E (ForInStep Outs) :=
  fun x outs =>
    match x with
    | ((vi, i, si), vo, k) => do
      let s ← forIn (assignments (axesOf (Dim.leavesL vo))) outs
        (idInner vi si i vo (shapeOf (exprsOut.getD k (Expr.list []))) k)
      pure (ForInStep.yield s)

def idFinal : Expr × List (Option Cell) → List (Tensor Cell) → E (ForInStep (List (Tensor Cell))) :=
  fun x res =>
    match x with
    | (e, cells) => do
      let cs ← List.mapM (optE "output not fully defined") cells
      pure (ForInStep.yield (res ++ [{ shape := shapeOf e, data := cs }]))

theorem denoteId_eq (exprsIn exprsOut : List Expr) :
    denoteId exprsIn exprsOut =
      (let vin := (exprsIn.zipIdx).flatMap (fun (e, i) => (views e).map (fun v => (v, i, shapeOf e)))
       let vout := (exprsOut.zipIdx).flatMap (fun (e, k) => (views e).map (fun v => (v, k)))
       if vin.length != vout.length then throw "number of virtual inputs and outputs differs"
       else do
         let s ← forIn (vin.zip vout) (exprsOut.map (fun e => List.replicate (prod (shapeOf e)) none)) (idOuter exprsOut)
         forIn (exprsOut.zip s) [] idFinal) := by
  unfold denoteId
  simp only []
  split
  · rfl
  · simp only [bind_pure]; rfl

def setter (acc : List (Option Cell)) (e : Nat × Cell) : List (Option Cell) := acc.set e.1 (some e.2)

def writeAt (k : Nat) (s : Outs) (e : Nat × Cell) : Outs := s.set k (setter (s.getD k []) e)

theorem foldl_writeAt (k : Nat) : ∀ (es : List (Nat × Cell)) (s : Outs),
    es.foldl (writeAt k) s = s.set k (es.foldl setter (s.getD k []))
  | [], s => by
    by_cases h : k < s.length
    · apply List.ext_getElem?
      intro j
      simp only [List.foldl_nil, List.getElem?_set, List.getD_eq_getElem?_getD]
      by_cases e : k = j
      · subst e; simp [h]
      · simp [e]
    · exact (List.set_eq_of_length_le (l := s) (by omega)).symm
  | e :: es, s => by
    rw [List.foldl_cons, foldl_writeAt k es, writeAt, List.set_set, List.foldl_cons]
    by_cases h : k < s.length
    · simp [List.getD_eq_getElem?_getD, h]
    · rw [List.set_eq_of_length_le (by omega), List.set_eq_of_length_le (by omega)]

theorem inner_loop_gen (vi : List Dim) (si : List Nat) (i : Nat) (vo : List Dim) (so : List Nat) (k : Nat)
    (asg : List Assign) (s : Outs) :
    okOpt (forIn asg s (idInner vi si i vo so k))
      = (mapOpt (idEntry vi si i vo so) asg).map (fun es => s.set k (es.foldl setter (s.getD k []))) := by
  rw [okOpt_forIn_mapOpt (idEntry vi si i vo so) (writeAt k) (fun σ s => ?_) asg s]
  · simp only [foldl_writeAt]
  · simp only [idInner, okOpt_optE_bind, okOpt_pure, idEntry, flatPos, cellAt]
    cases extend σ (Dim.leavesL vi) with
    | none => rfl
    | some σ' => simp only [Option.bind_some]; cases position vo σ <;> cases position vi σ' <;> rfl

/-- Apply the entries of every pair to the output slot of its key. -/
def applyEntries (s : Outs) (kes : List (Nat × List (Nat × Cell))) : Outs :=
  kes.foldl (fun s ke => s.set ke.1 (ke.2.foldl setter (s.getD ke.1 []))) s

theorem applyEntries_getElem? (s : Outs) (kes : List (Nat × List (Nat × Cell))) (k : Nat) :
    (applyEntries s kes)[k]? = s[k]?.map (fun o => (writesTo k kes).foldl (fun o es => es.foldl setter o) o) := by
  have : (fun (s : Outs) (ke : Nat × List (Nat × Cell)) => s.set ke.1 (ke.2.foldl setter (s.getD ke.1 [])))
      = fun s ke => s.modify ke.1 (fun o => (fun o es => es.foldl setter o) o ke.2) := by
    funext s ke; exact set_getD_eq_modify s ke.1 (fun o => ke.2.foldl setter o) []
  rw [applyEntries, this, getElem?_foldl_modify]

theorem outer_loop (exprsOut : List Expr) (ps : List ((List Dim × Nat × List Nat) × (List Dim × Nat))) (s : Outs) :
    okOpt (forIn ps s (idOuter exprsOut))
      = (mapOpt (idPairEntries exprsOut) ps).map (fun ess => applyEntries s (List.zip (ps.map (fun x => x.2.2)) ess)) := by
  rw [okOpt_forIn_mapOpt (fun x => (idPairEntries exprsOut x).map (fun es => (x.2.2, es)))
    (fun s ke => s.set ke.1 (ke.2.foldl setter (s.getD ke.1 []))) (fun x s => ?_) ps s, mapOpt_zip_keys]
  · cases mapOpt (idPairEntries exprsOut) ps <;> rfl
  · obtain ⟨⟨vi, i, si⟩, vo, k⟩ := x
    simp only [idOuter, okOpt_bind, inner_loop_gen, okOpt_pure, idPairEntries]
    cases mapOpt (idEntry vi si i vo (shapeOf (exprsOut.getD k (Expr.list [])))) (assignments (axesOf (Dim.leavesL vo)))
      <;> rfl

theorem final_loop (l : List (Expr × List (Option Cell))) (res : List (Tensor Cell)) :
    okOpt (forIn l res idFinal)
      = (mapOpt (fun (x : Expr × List (Option Cell)) => (mapOpt id x.2).map (fun cs => (⟨shapeOf x.1, cs⟩ : Tensor Cell))) l).map
          (fun ts => res ++ ts) := by
  refine okOpt_forIn_append _ (fun x s => ?_) l res
  obtain ⟨e, cells⟩ := x
  simp only [idFinal, okOpt_bind, okOpt_mapM_optE, okOpt_pure]
  cases mapOpt id cells <;> rfl

theorem applyEntries_range (ess : List (List (Nat × Cell))) (s : Outs) (h : ess.length = s.length) :
    applyEntries s (List.zip (List.range ess.length) ess) = List.zipWith (fun es o => es.foldl setter o) ess s := by
  apply List.ext_getElem?
  intro k
  rw [applyEntries_getElem?, List.getElem?_zipWith]
  by_cases hk : k < ess.length
  · have hw := writesTo_of_nodup (c := (k, ess[k])) (cs := List.zip (List.range ess.length) ess)
      (by rw [List.map_fst_zip (by simp)]; exact List.nodup_range)
      (by rw [List.mem_iff_getElem?]; exact ⟨k, by simp [hk]⟩)
    rw [hw, List.getElem?_eq_getElem hk, List.getElem?_eq_getElem (h ▸ hk)]
    rfl
  · rw [List.getElem?_eq_none (by omega : s.length ≤ k), List.getElem?_eq_none (by omega : ess.length ≤ k)]
    rfl

theorem zip_zipIdx_zipIdx {α β : Type} : ∀ (l1 : List α) (l2 : List β) (n : Nat),
    List.zip (l1.zipIdx n) (l2.zipIdx n)
      = (List.zip (l1.zipIdx n) l2).map (fun q => (q.1, (q.2, q.1.2))) := by
  intro l1
  induction l1 with
  | nil => intro l2 n; simp
  | cons a l1 ih =>
    intro l2 n
    cases l2 with
    | nil => simp
    | cons b l2 => simp [List.zipIdx_cons, ih l2 (n + 1)]

theorem getD_of_mem_zip {α β : Type} (d : β) : ∀ (l1 : List α) (l2 pre : List β),
    ∀ q ∈ List.zip (l1.zipIdx pre.length) l2, (pre ++ l2).getD q.1.2 d = q.2 := by
  intro l1
  induction l1 with
  | nil => intro l2 pre q hq; simp at hq
  | cons a l1 ih =>
    intro l2 pre q hq
    cases l2 with
    | nil => simp at hq
    | cons b l2 =>
      simp only [List.zipIdx_cons, List.zip_cons_cons, List.mem_cons] at hq
      rcases hq with rfl | hq
      · simp
      · have := ih l2 (pre ++ [b]) q (by simpa using hq)
        simpa using this

theorem zip_zipWith_aux {α β γ δ : Type} (p : α → γ) (r : α → δ) (F : β → δ → δ) : ∀ (Q : List α) (ess : List β),
    List.zip (Q.map p) (List.zipWith F ess (Q.map r)) = (List.zip Q ess).map (fun ab => (p ab.1, F ab.2 (r ab.1))) := by
  intro Q
  induction Q with
  | nil => intro ess; simp
  | cons q Q ih =>
    intro ess
    cases ess with
    | nil => simp
    | cons es ess => simp [ih ess]

theorem okOpt_denoteIdFun1 (vi : List Dim) (si : List Nat) (i : Nat) (vo : List Dim) (so : List Nat) :
    okOpt (denoteIdFun1 vi si i vo so) = (idCells vi si i vo so).map (fun cs => (⟨so, cs⟩ : Tensor Cell)) := by
  unfold denoteIdFun1
  cases idCells vi si i vo so <;> rfl

theorem denoteId_eq_denoteIdFun_multi (exprsIn exprsOut : List Expr)
    (hin : Expr.concatFreeL exprsIn = true) (hout : Expr.concatFreeL exprsOut = true) :
    okOpt (denoteId exprsIn exprsOut) = okOpt (denoteIdFun exprsIn exprsOut) := by
  rw [denoteId_eq]
  have hvin := vin_of_concatFree (fun e i v => (v, i, shapeOf e)) exprsIn 0 hin
  have hvout := vin_of_concatFree (fun _ k v => (v, k)) exprsOut 0 hout
  simp only [] at hvin hvout ⊢
  rw [hvin, hvout]
  unfold denoteIdFun
  simp only [hin, hout, Bool.and_self, Bool.not_true, Bool.false_eq_true, if_false, List.length_map,
    List.length_zipIdx]
  by_cases hlen' : exprsIn.length ≠ exprsOut.length
  · have : (exprsIn.length != exprsOut.length) = true := by simpa using hlen'
    simp only [this, if_true]
  have hlen : exprsIn.length = exprsOut.length := Decidable.of_not_not hlen'
  have hne : (exprsIn.length != exprsOut.length) = false := by simpa using hlen
  simp only [hne, Bool.false_eq_true, if_false]
  let Q := List.zip exprsIn.zipIdx exprsOut
  have hps : List.zip (exprsIn.zipIdx.map (fun x => (rootDims x.1, x.2, shapeOf x.1)))
        (exprsOut.zipIdx.map (fun x => (rootDims x.1, x.2)))
      = Q.map (fun q => ((rootDims q.1.1, q.1.2, shapeOf q.1.1), (rootDims q.2, q.1.2))) := by
    rw [List.zip_map, zip_zipIdx_zipIdx, List.map_map]
    rfl
  rw [hps, okOpt_bind, outer_loop, okOpt_mapM]
  have hQlen : Q.length = exprsOut.length := by simp [Q, hlen]
  have hQsnd : Q.map (fun q => q.2) = exprsOut := by
    have := List.map_snd_zip (l₁ := exprsIn.zipIdx) (l₂ := exprsOut) (by simp [hlen])
    simpa [Q] using this
  have hkeys : (Q.map (fun q => ((rootDims q.1.1, q.1.2, shapeOf q.1.1), (rootDims q.2, q.1.2)))).map (fun x => x.2.2)
      = List.range Q.length := by
    rw [List.map_map]
    have h1 : Q.map (fun q => q.1.2) = (exprsIn.zipIdx).map (fun x => x.2) := by
      have := List.map_fst_zip (l₁ := exprsIn.zipIdx) (l₂ := exprsOut) (by simp [hlen])
      have h2 := congrArg (List.map (fun (x : Expr × Nat) => x.2)) this
      rw [List.map_map] at h2
      exact h2
    have h3 : (exprsIn.zipIdx).map (fun x => x.2) = List.range Q.length := by
      rw [hQlen, ← hlen, List.range_eq_range', List.zipIdx_map_snd]
    exact h1.trans h3
  have hentries : mapOpt (idPairEntries exprsOut) (Q.map (fun q => ((rootDims q.1.1, q.1.2, shapeOf q.1.1), (rootDims q.2, q.1.2))))
      = mapOpt (fun q => idEntries (rootDims q.1.1) (shapeOf q.1.1) q.1.2 (rootDims q.2) (shapeOf q.2)) Q := by
    rw [mapOpt_map]
    apply mapOpt_congr
    intro q hq
    have := getD_of_mem_zip (Expr.list []) exprsIn exprsOut [] q (by simpa [Q] using hq)
    simp only [List.nil_append] at this
    simp only [idPairEntries, this, idEntries, outAssignments]
  rw [hkeys, hentries]
  have hstep : ∀ ess : List (List (Nat × Cell)), ess.length = Q.length →
      okOpt (forIn (exprsOut.zip (applyEntries (exprsOut.map (fun e => List.replicate (prod (shapeOf e)) none))
          (List.zip (List.range Q.length) ess))) [] idFinal)
        = mapOpt (fun (ab : ((Expr × Nat) × Expr) × List (Nat × Cell)) =>
            (gatherAll (prod (shapeOf ab.1.2)) ab.2).map (fun cs => (⟨shapeOf ab.1.2, cs⟩ : Tensor Cell))) (List.zip Q ess) := by
    intro ess hess
    rw [← hess, applyEntries_range ess _ (by simp [hess, hQlen]), final_loop]
    have hz := zip_zipWith_aux (fun (q : (Expr × Nat) × Expr) => q.2)
      (fun (q : (Expr × Nat) × Expr) => List.replicate (prod (shapeOf q.2)) (none : Option Cell))
      (fun (es : List (Nat × Cell)) o => es.foldl setter o) Q ess
    rw [hQsnd] at hz
    have hS : Q.map (fun q => List.replicate (prod (shapeOf q.2)) (none : Option Cell))
        = exprsOut.map (fun e => List.replicate (prod (shapeOf e)) none) := by
      rw [← hQsnd, List.map_map]; rfl
    rw [hS] at hz
    rw [hz, mapOpt_map]
    simp only [List.nil_append, Option.map_id', gatherAll, scatter]
    rfl
  have hbind : ((mapOpt (fun q => idEntries (rootDims q.1.1) (shapeOf q.1.1) q.1.2 (rootDims q.2) (shapeOf q.2)) Q).map
        (fun ess => applyEntries (exprsOut.map (fun e => List.replicate (prod (shapeOf e)) none))
          (List.zip (List.range Q.length) ess))).bind
        (fun s => okOpt (forIn (exprsOut.zip s) [] idFinal))
      = (mapOpt (fun q => idEntries (rootDims q.1.1) (shapeOf q.1.1) q.1.2 (rootDims q.2) (shapeOf q.2)) Q).bind
        (fun ess => mapOpt (fun (ab : ((Expr × Nat) × Expr) × List (Nat × Cell)) =>
            (gatherAll (prod (shapeOf ab.1.2)) ab.2).map (fun cs => (⟨shapeOf ab.1.2, cs⟩ : Tensor Cell))) (List.zip Q ess)) := by
    cases hm : mapOpt (fun q => idEntries (rootDims q.1.1) (shapeOf q.1.1) q.1.2 (rootDims q.2) (shapeOf q.2)) Q with
    | none => rfl
    | some ess =>
      simp only [Option.map_some, Option.bind_some]
      exact hstep ess (mapOpt_length hm)
  rw [hbind, mapOpt_fuse _ (fun (q : (Expr × Nat) × Expr) es =>
    (gatherAll (prod (shapeOf q.2)) es).map (fun cs => (⟨shapeOf q.2, cs⟩ : Tensor Cell)))]
  apply mapOpt_congr
  intro q _
  rw [okOpt_denoteIdFun1]
  simp only [idCells]
  cases idEntries (rootDims q.1.1) (shapeOf q.1.1) q.1.2 (rootDims q.2) (shapeOf q.2) <;> rfl

theorem denoteId_eq_denoteIdFun (e1 e2 : Expr) (h1 : e1.concatFree = true) (h2 : e2.concatFree = true) :
    okOpt (denoteId [e1] [e2]) = okOpt (denoteIdFun [e1] [e2]) :=
  denoteId_eq_denoteIdFun_multi [e1] [e2] (by simp [Expr.concatFreeL, h1]) (by simp [Expr.concatFreeL, h2])

theorem denoteId_cells (e1 e2 : Expr) (h1 : e1.concatFree = true) (h2 : e2.concatFree = true) :
    okOpt (denoteId [e1] [e2])
      = (idCells (rootDims e1) (shapeOf e1) 0 (rootDims e2) (shapeOf e2)).map (fun cs => [(⟨shapeOf e2, cs⟩ : Tensor Cell)]) := by
  rw [denoteId_eq_denoteIdFun e1 e2 h1 h2, denoteIdFun_single_eq e1 e2 h1 h2]
  cases idCells (rootDims e1) (shapeOf e1) 0 (rootDims e2) (shapeOf e2) <;> rfl

/-! ### elementwise -/

def ewInner (σ : Assign) : (List Dim × Expr) × Nat → List Cell → E (ForInStep (List Cell)) :=
  fun x args =>
    match x with
    | ((v, e), i) => do
      let σ' ← optE "input axis missing from output" (extend σ (Dim.leavesL v))
      let p ← optE "unassigned input axis" (position v σ')
      pure (ForInStep.yield (args ++ [Cell.src i (ravel (shapeOf e) p)]))

def ewOuter (f : String) (vis : List (List Dim)) (exprsIn : List Expr) (vo : List Dim) (so : List Nat) :
    Assign → List (Option Cell) → E (ForInStep (List (Option Cell))) :=
  fun σ out => do
    let args ← forIn (vis.zip exprsIn).zipIdx [] (ewInner σ)
    let po ← optE "unassigned output axis" (position vo σ)
    pure (ForInStep.yield (out.set (ravel so po) (some (Cell.app f args))))

theorem denoteElementwise_eq (f : String) (exprsIn : List Expr) (exprOut : Expr) :
    denoteElementwise f exprsIn exprOut = (do
      let vis ← exprsIn.mapM singleView
      let vo ← singleView exprOut
      let s ← forIn (assignments (axesOf (Dim.leavesL vo))) (List.replicate (prod (shapeOf exprOut)) none)
        (ewOuter f vis exprsIn vo (shapeOf exprOut))
      let cs ← s.mapM (optE "output not fully defined")
      pure ⟨shapeOf exprOut, cs⟩) := by
  unfold denoteElementwise
  rfl

/-- The views and shapes of the operands, as the functional forms take them. -/
def ewIns (ves : List (List Dim × Expr)) : List (List Dim × List Nat) := ves.map fun x => (x.1, shapeOf x.2)

theorem ewIns_rootDims : ∀ es : List Expr, ewIns ((es.map rootDims).zip es) = es.map fun e => (rootDims e, shapeOf e)
  | [] => rfl
  | e :: es => congrArg ((rootDims e, shapeOf e) :: ·) (ewIns_rootDims es)

theorem ew_inner_loop (σ : Assign) (ves : List (List Dim × Expr)) :
    okOpt (forIn ves.zipIdx [] (ewInner σ)) = ewArgs (ewIns ves) σ := by
  rw [okOpt_forIn_append (fun x => inCell σ ((x.1.1, shapeOf x.1.2), x.2)), ewArgs_eq, ewIns, List.zipIdx_map, mapOpt_map]
  · simp only [List.nil_append, Option.map_id']
    rfl
  · intro ⟨⟨v, e⟩, i⟩ s
    simp only [ewInner, okOpt_optE_bind, okOpt_pure, inCell, cellAt, flatPos]
    cases extend σ (Dim.leavesL v) with
    | none => rfl
    | some σ' => simp only [Option.bind_some]; cases position v σ' <;> rfl

theorem ew_outer_loop (f : String) (vis : List (List Dim)) (exprsIn : List Expr) (vo : List Dim) (so : List Nat)
    (asg : List Assign) (out : List (Option Cell)) :
    okOpt (forIn asg out (ewOuter f vis exprsIn vo so))
      = (mapOpt (ewEntry f (ewIns (vis.zip exprsIn)) vo so) asg).map (fun es => es.foldl setter out) := by
  refine okOpt_forIn_mapOpt _ setter (fun σ s => ?_) asg out
  simp only [ewOuter, okOpt_bind, ew_inner_loop, okOpt_pure, ewEntry, flatPos]
  cases ewArgs (ewIns (vis.zip exprsIn)) σ with
  | none => rfl
  | some args => simp only [Option.bind_some]; cases position vo σ <;> rfl

theorem denoteElementwise_cells (f : String) (exprsIn : List Expr) (exprOut : Expr)
    (hin : Expr.concatFreeL exprsIn = true) (hout : exprOut.concatFree = true) :
    okOpt (denoteElementwise f exprsIn exprOut)
      = (genCells (ewX f (exprsIn.map (fun e => (rootDims e, shapeOf e)))) (rootDims exprOut) (shapeOf exprOut)).map
          (fun cs => (⟨shapeOf exprOut, cs⟩ : Tensor Cell)) := by
  rw [denoteElementwise_eq, mapM_singleView exprsIn hin, singleView_of_concatFree hout]
  simp only [pure_bind]
  rw [okOpt_bind, ew_outer_loop, ewIns_rootDims, ← ewCells_eq_genCells]
  simp only [ewCells, outAssignments]
  cases mapOpt (ewEntry f (exprsIn.map (fun e => (rootDims e, shapeOf e))) (rootDims exprOut) (shapeOf exprOut))
      (assignments (axesOf (Dim.leavesL (rootDims exprOut)))) with
  | none => rfl
  | some es =>
    have hs : setter = fun acc e => acc.set e.1 (some e.2) := rfl
    simp only [Option.map_some, Option.bind_some, okOpt_bind, okOpt_mapM_optE, gatherAll, scatter, hs]
    cases mapOpt id (List.foldl (fun acc e => acc.set e.1 (some e.2)) (List.replicate (prod (shapeOf exprOut)) none) es) with
    | none => rfl
    | some cs => rfl

theorem denoteElementwise_eq_fun (f : String) (exprsIn : List Expr) (exprOut : Expr)
    (hin : Expr.concatFreeL exprsIn = true) (hout : exprOut.concatFree = true) :
    okOpt (denoteElementwise f exprsIn exprOut) = okOpt (denoteElementwiseFun f exprsIn exprOut) := by
  rw [denoteElementwise_cells f exprsIn exprOut hin hout, ← ewCells_eq_genCells]
  exact (okOpt_ofCells (by rw [hin, hout]; rfl) _ _ _ _).symm

/-! ### reductions -/

def rdInner (vi : List Dim) (si : List Nat) (li : List Leaf) (σ : Assign) :
    Assign → List Cell → E (ForInStep (List Cell)) := fun τ cells => do
  let a ← optE "un-bracketed input axis missing from output" (inputAssign σ τ li)
  let p ← optE "unassigned input axis" (position vi a)
  pure (ForInStep.yield (cells ++ [Cell.src 0 (ravel si p)]))

def rdOuter (f : String) (vi : List Dim) (si : List Nat) (li : List Leaf) (marked : List (String × Nat)) (vo : List Dim) :
    Assign → List (List Nat × Cell) → E (ForInStep (List (List Nat × Cell))) := fun σ entries => do
  let cells ← forIn (assignments marked) [] (rdInner vi si li σ)
  let po ← optE "unassigned output axis" (position vo σ)
  pure (ForInStep.yield (entries ++ [(po, mkRed f cells)]))

theorem denoteReduce_eq (f : String) (e eo : Expr) :
    denoteReduce f e eo = (do
      let vi ← singleView e
      let vo ← singleView eo
      let entries ← forIn (assignments (axesOf (Dim.leavesL vo))) []
        (rdOuter f vi (shapeOf e) (Dim.leavesL vi) (axesOf ((Dim.leavesL vi).filter (·.marked))) vo)
      fillOutput (shapeOf eo) entries) := by
  unfold denoteReduce
  rfl

end Einx.Denote
