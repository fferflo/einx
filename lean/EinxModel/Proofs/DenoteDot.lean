import EinxModel.Proofs.DenoteReduce
/-!
Dot (C08): the executable loop form `Denote.denoteDot` computes `genCells (dotX …)` (`denoteDot_cells`), hence it is the
functional form `Denote.denoteDotFun`.
-/
namespace Einx.Denote
open Einx Einx.IR
open Einx.Update (mapOpt mapOpt_eq_some_iff mapOpt_length mapOpt_congr mapOpt_map mapOpt_optmap)

def dtInner (σ τ : Assign) : (List Dim × Expr) × Nat → List Cell → E (ForInStep (List Cell)) :=
  fun x factors =>
    match x with
    | ((v, e), i) => do
      let a ← optE "axis neither contracted nor in output" (inputAssign (τ ++ σ) τ (Dim.leavesL v))
      let p ← optE "unassigned input axis" (position v a)
      pure (ForInStep.yield (factors ++ [Cell.src i (ravel (shapeOf e) p)]))

def dtMid (vis : List (List Dim)) (exprsIn : List Expr) (σ : Assign) : Assign → List Cell → E (ForInStep (List Cell)) :=
  fun τ terms => do
    let factors ← forIn (vis.zip exprsIn).zipIdx [] (dtInner σ τ)
    pure (ForInStep.yield (terms ++ [mkProd factors]))

def dtOuter (vis : List (List Dim)) (exprsIn : List Expr) (marked : List (String × Nat)) (vo : List Dim) :
    Assign → List (List Nat × Cell) → E (ForInStep (List (List Nat × Cell))) :=
  fun σ entries => do
    let terms ← forIn (assignments marked) [] (dtMid vis exprsIn σ)
    let po ← optE "unassigned output axis" (position vo σ)
    pure (ForInStep.yield (entries ++ [(po, mkRed "sum" terms)]))

theorem denoteDot_eq (exprsIn : List Expr) (exprOut : Expr) :
    denoteDot exprsIn exprOut = (do
      let vis ← exprsIn.mapM singleView
      let vo ← singleView exprOut
      let entries ← forIn (assignments (axesOf (Dim.leavesL vo))) []
        (dtOuter vis exprsIn (axesOf ((vis.flatMap Dim.leavesL).filter (·.marked))) vo)
      fillOutput (shapeOf exprOut) entries) := by
  unfold denoteDot
  rfl

theorem dt_inner_loop (σ τ : Assign) (ves : List (List Dim × Expr)) :
    okOpt (forIn ves.zipIdx [] (dtInner σ τ)) = mapOpt (dotFactor σ τ) (ewIns ves).zipIdx := by
  rw [okOpt_forIn_append (fun x => dotFactor σ τ ((x.1.1, shapeOf x.1.2), x.2)), ewIns, List.zipIdx_map, mapOpt_map]
  · simp only [List.nil_append, Option.map_id']
    rfl
  · intro ⟨⟨v, e⟩, i⟩ s
    simp only [dtInner, okOpt_optE_bind, okOpt_pure, dotFactor, cellAt, flatPos]
    cases inputAssign (τ ++ σ) τ (Dim.leavesL v) with
    | none => rfl
    | some a => simp only [Option.bind_some]; cases position v a <;> rfl

theorem dt_mid_loop (vis : List (List Dim)) (exprsIn : List Expr) (σ : Assign) (l : List Assign) (terms : List Cell) :
    okOpt (forIn l terms (dtMid vis exprsIn σ))
      = (mapOpt (dotTerm (ewIns (vis.zip exprsIn)) σ) l).map (fun cs => terms ++ cs) := by
  refine okOpt_forIn_append (dotTerm (ewIns (vis.zip exprsIn)) σ) (fun τ s => ?_) l terms
  simp only [dtMid, okOpt_bind, dt_inner_loop, okOpt_pure, dotTerm]
  cases mapOpt (dotFactor σ τ) (ewIns (vis.zip exprsIn)).zipIdx <;> rfl

/-- What the outer loop of `denoteDot` appends for `σ`. -/
def dotEntryL (ins : List (List Dim × List Nat)) (marked : List (String × Nat)) (vo : List Dim) (σ : Assign) :
    Option (List Nat × Cell) :=
  match mapOpt (dotTerm ins σ) (assignments marked), position vo σ with
  | some terms, some po => some (po, mkRed "sum" terms)
  | _, _ => none

theorem dt_outer_loop (vis : List (List Dim)) (exprsIn : List Expr) (marked : List (String × Nat)) (vo : List Dim)
    (asg : List Assign) (entries : List (List Nat × Cell)) :
    okOpt (forIn asg entries (dtOuter vis exprsIn marked vo))
      = (mapOpt (dotEntryL (ewIns (vis.zip exprsIn)) marked vo) asg).map (fun es => entries ++ es) := by
  refine okOpt_forIn_append (dotEntryL (ewIns (vis.zip exprsIn)) marked vo) (fun σ s => ?_) asg entries
  simp only [dtOuter, okOpt_bind, dt_mid_loop, okOpt_pure, dotEntryL, List.nil_append]
  cases mapOpt (dotTerm (ewIns (vis.zip exprsIn)) σ) (assignments marked) with
  | none => rfl
  | some terms => simp only [Option.map_some, Option.bind_some]; cases position vo σ <;> rfl

theorem dotMarked_eq (exprsIn : List Expr) :
    axesOf (((exprsIn.map rootDims).flatMap Dim.leavesL).filter (·.marked))
      = dotMarked (exprsIn.map (fun e => (rootDims e, shapeOf e))) := by
  simp only [dotMarked, List.flatMap_map]

theorem dotEntryL_gen (ins : List (List Dim × List Nat)) (vo : List Dim) (so : List Nat) (σ : Assign) :
    (dotEntryL ins (dotMarked ins) vo σ).map (fun e => (ravel so e.1, e.2)) = genEntry (dotX ins) vo so σ := by
  simp only [dotEntryL, genEntry, dotX, dotArgs, flatPos]
  cases mapOpt (dotTerm ins σ) (assignments (dotMarked ins)) <;> cases position vo σ <;> rfl

/-- The loop form of a dot on concatenation-free expressions computes `genCells (dotX …)`. -/
theorem denoteDot_cells (exprsIn : List Expr) (eo : Expr) (hin : Expr.concatFreeL exprsIn = true)
    (heo : eo.concatFree = true) :
    okOpt (denoteDot exprsIn eo)
      = (genCells (dotX (exprsIn.map (fun e => (rootDims e, shapeOf e)))) (rootDims eo) (shapeOf eo)).map
          (fun cs => (⟨shapeOf eo, cs⟩ : Tensor Cell)) := by
  rw [denoteDot_eq, mapM_singleView exprsIn hin, singleView_of_concatFree heo]
  simp only [pure_bind]
  rw [okOpt_bind, dotMarked_eq, dt_outer_loop, ewIns_rootDims, okOpt_fill_genCells (dotEntryL_gen _ _ _)]

theorem denoteDot_eq_fun (exprsIn : List Expr) (eo : Expr) (hin : Expr.concatFreeL exprsIn = true)
    (heo : eo.concatFree = true) : okOpt (denoteDot exprsIn eo) = okOpt (denoteDotFun exprsIn eo) :=
  (denoteDot_cells exprsIn eo hin heo).trans (okOpt_ofCells (by rw [hin, heo]; rfl) _ _ _ _).symm

end Einx.Denote
