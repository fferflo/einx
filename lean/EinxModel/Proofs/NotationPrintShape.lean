import EinxModel.Proofs.NotationGrammars
/-!
# M1 Notation — `shape` lemmas for the re-printing theorem

The normal-form predicates `Q`/`QArgs`/`QRoot` and `canonShape` only depend on the `shape` of a tree; a printable tree is
in normal form; `canonShape (preTree t) = t.shape`; `Expr.beq` is reflexive.
-/
namespace Einx.Notation

theorem shapeL_congr {f : Expr → Expr} {cs : List Expr} (h : ∀ c ∈ cs, (f c).shape = c.shape) :
    shapeL (cs.map f) = shapeL cs := by
  rw [shapeL_eq_map, shapeL_eq_map, List.map_map]
  exact List.map_congr_left h

theorem shape_shape (x : Expr) : x.shape.shape = x.shape := by
  induction x using Expr.memInduction with
  | axis n v => cases v <;> rfl
  | flat i _ _ ih | brackets i _ _ ih | ellipsis i _ _ _ ih => simp only [Expr.shape, ih]
  | concat cs _ _ ih | list cs _ _ ih | args cs _ _ ih | op cs _ _ ih =>
    simp only [Expr.shape, shapeL_eq_map cs, shapeL_congr ih]

theorem shapeL_shapeL (cs : List Expr) : shapeL (shapeL cs) = shapeL cs :=
  (congrArg shapeL (shapeL_eq_map cs)).trans (shapeL_congr fun c _ => shape_shape c)

theorem shapeL_length (cs : List Expr) : (shapeL cs).length = cs.length := by
  rw [shapeL_eq_map, List.length_map]

theorem isFlat_shape (x : Expr) : x.shape.isFlat = x.isFlat := by
  cases x with
  | axis n v b e => cases v <;> rfl
  | _ => rfl
theorem isBrackets_shape (x : Expr) : x.shape.isBrackets = x.isBrackets := by
  cases x with
  | axis n v b e => cases v <;> rfl
  | _ => rfl
theorem isConcat_shape (x : Expr) : x.shape.isConcat = x.isConcat := by
  cases x with
  | axis n v b e => cases v <;> rfl
  | _ => rfl
theorem isEllipsis_shape (x : Expr) : x.shape.isEllipsis = x.isEllipsis := by
  cases x <;> first | rfl | (rename_i n v b e; cases v <;> rfl)

theorem isAxis_shape (x : Expr) : x.shape.isAxis = x.isAxis := by
  cases x with
  | axis n v b e => cases v <;> rfl
  | _ => rfl
theorem isList_shape (x : Expr) : x.shape.isList = x.isList := by
  cases x with
  | axis n v b e => cases v <;> rfl
  | _ => rfl
theorem isAxisOrFlat_shape (x : Expr) : isAxisOrFlat x.shape = isAxisOrFlat x := by
  rw [isAxisOrFlat, isAxis_shape, isFlat_shape]
  rfl

theorem eq_of_shape {α : Type} {f : Expr → α} (hf : ∀ x, f x.shape = f x) {x y : Expr} (h : x.shape = y.shape) :
    f x = f y := by
  rw [← hf x, h, hf]

theorem map_shapeL {α : Type} {f : Expr → α} (hf : ∀ x, f x.shape = f x) (cs : List Expr) :
    (shapeL cs).map f = cs.map f := by
  rw [shapeL_eq_map, List.map_map]
  exact List.map_congr_left fun x _ => hf x

theorem all_shapeL {q : Expr → Bool} (hq : ∀ x, q x.shape = q x) (cs : List Expr) : (shapeL cs).all q = cs.all q := by
  rw [shapeL_eq_map, List.all_map]
  exact List.all_congr rfl hq

theorem ndim_shape (x : Expr) : x.shape.ndim = x.ndim := by
  induction x using Expr.memInduction with
  | axis n v => cases v <;> rfl
  | flat | concat | args | op => rfl
  | brackets i _ _ ih | ellipsis i _ _ _ ih => simp only [Expr.shape, Expr.ndim, ih]
  | list cs _ _ ih => simp only [Expr.shape, Expr.ndim, shapeL_eq_map, NF.ndimSum_map_congr ih]

theorem ndimSum_shapeL : ∀ cs : List Expr, ndimSum (shapeL cs) = ndimSum cs :=
  fun cs => by rw [shapeL_eq_map, NF.ndimSum_map_congr fun c _ => ndim_shape c]

theorem QL_congr {inBr : Bool} {f : Expr → Expr} {cs : List Expr} (h : ∀ c ∈ cs, Q inBr false (f c) = Q inBr false c) :
    QL inBr (cs.map f) = QL inBr cs := by
  rw [Bool.eq_iff_iff, QL_iff, QL_iff, List.forall_mem_map]
  exact forall₂_congr fun c hc => by rw [h c hc]

theorem Q_shape (inBr al : Bool) (x : Expr) : Q inBr al x.shape = Q inBr al x := by
  induction x using Expr.memInduction generalizing inBr al with
  | axis n v => cases v <;> rfl
  | flat i _ _ ih => simp only [Expr.shape, Q, isFlat_shape, ih]
  | brackets i _ _ ih => simp only [Expr.shape, Q, isBrackets_shape, ndim_shape, ih]
  | ellipsis i _ _ _ ih =>
    simp only [Expr.shape, Q, isAxis_shape, isFlat_shape, isBrackets_shape, isConcat_shape, isEllipsis_shape, ih]
  | concat cs _ _ ih | list cs _ _ ih =>
    simp only [Expr.shape, Q, shapeL_eq_map cs, List.length_map, QL_congr fun c hc => ih c hc inBr false]
  | args | op => rfl

theorem QL_shapeL (inBr : Bool) : ∀ cs : List Expr, QL inBr (shapeL cs) = QL inBr cs :=
  fun cs => by rw [shapeL_eq_map, QL_congr fun c _ => Q_shape inBr false c]

theorem isArgs_shape (x : Expr) : x.shape.isArgs = x.isArgs := by
  cases x with
  | axis n v b e => cases v <;> rfl
  | _ => rfl
theorem isOp_shape (x : Expr) : x.shape.isOp = x.isOp := by
  cases x with
  | axis n v b e => cases v <;> rfl
  | _ => rfl

/-! `QArgs`, `QRoot`, `wrapArgsS`, `canonShape` are defined with a catch-all arm: its equation. -/

theorem QArgs_of_not_args {a : Expr} (h : a.isArgs = false) : QArgs a = Q false true a := by
  cases a <;> first | rfl | cases h
theorem QRoot_of_not_op {a : Expr} (h : a.isOp = false) : QRoot a = QArgs a := by
  cases a <;> first | rfl | cases h
theorem wrapArgsS_of_not_args {a : Expr} (h : a.isArgs = false) : wrapArgsS a = .args [a.shape] 0 0 := by
  cases a <;> first | rfl | cases h
theorem canonShape_of_not_op {a : Expr} (h : a.isOp = false) : canonShape a = .op [wrapArgsS a] 0 0 := by
  cases a <;> first | rfl | cases h

theorem QArgs_shape (x : Expr) : QArgs x.shape = QArgs x := by
  cases h : x.isArgs with
  | false => rw [QArgs_of_not_args h, QArgs_of_not_args ((isArgs_shape x).trans h), Q_shape]
  | true =>
    cases x with
    | args as b e => simp only [Expr.shape, QArgs, all_shapeL (Q_shape false true)]
    | _ => cases h

theorem QRoot_shape (x : Expr) : QRoot x.shape = QRoot x := by
  cases h : x.isOp with
  | false => rw [QRoot_of_not_op h, QRoot_of_not_op ((isOp_shape x).trans h), QArgs_shape]
  | true =>
    cases x with
    | op cs b e => simp only [Expr.shape, QRoot, shapeL_length, all_shapeL QArgs_shape]
    | _ => cases h

theorem wrapArgsS_shape (x : Expr) : wrapArgsS x.shape = wrapArgsS x := by
  cases h : x.isArgs with
  | false => rw [wrapArgsS_of_not_args h, wrapArgsS_of_not_args ((isArgs_shape x).trans h), shape_shape]
  | true =>
    cases x with
    | args as b e => simp only [Expr.shape, wrapArgsS, shapeL_shapeL]
    | _ => cases h

theorem canonShape_shape (x : Expr) : canonShape x.shape = canonShape x := by
  cases h : x.isOp with
  | false => rw [canonShape_of_not_op h, canonShape_of_not_op ((isOp_shape x).trans h), wrapArgsS_shape]
  | true =>
    cases x with
    | op cs b e => simp only [Expr.shape, canonShape, map_shapeL wrapArgsS_shape]
    | _ => cases h

theorem ellOperand_operand {i : Expr} (h : ellOperand i = true) :
    (i.isAxis || i.isFlat || i.isBrackets || i.isConcat || i.isEllipsis) = true := by
  cases i <;> first | rfl | cases h

theorem Q_of_PT {inBr al : Bool} {a : Expr} (h : PT inBr al a = true) : Q inBr al a = true := by
  induction h using PT.rules with
  | named | valued | dots => rfl
  | flat hf _ _ ih => simp only [Q, hf, ih]; rfl
  | brackets hb hn _ ih => simp only [Q, hb, hn, ih]; rfl
  | ell _ hop _ ih => simp only [Q, ellOperand_operand hop, ih]; rfl
  | concat h2 _ _ ih => simp only [Q, QL_iff.mpr ih, decide_eq_true h2]; rfl
  | list h1 _ ih => simpa [Q, QL_iff.mpr ih] using h1

theorem ellOperand_ndim {i : Expr} {inBr : Bool} (h : ellOperand i = true) (hp : PT inBr false i = true) :
    (i.ndim != some 0) = true :=
  ndim_operand (ellOperand_operand h) (Q_of_PT hp)

theorem QL_of_PTL (inBr : Bool) : ∀ cs : List Expr, PTL inBr cs = true → QL inBr cs = true :=
  fun _ h => QL_iff.mpr fun c hc => Q_of_PT (PTL_iff.mp h c hc)

/-- A printable expression below `Args` is neither `Args` nor `Op`. -/
theorem PT_not_wrapper {inBr al : Bool} {a : Expr} (h : PT inBr al a = true) : a.isArgs = false ∧ a.isOp = false := by
  cases a <;> first | exact ⟨rfl, rfl⟩ | simp [PT] at h

/-- One printed side, as `parse` returns it: in normal form, not an `Op`, and wrapped again it has the shape of the side. -/
theorem QArgs_unwrap {a : Expr} (h : PArgs a = true) :
    QArgs (unwrapArgs a) = true ∧ wrapArgsS (unwrapArgs a) = a.shape ∧ (unwrapArgs a).isOp = false := by
  induction h using PArgs.rules with
  | @args as b e hne has =>
    have hq : ∀ c ∈ as, Q false true c = true := fun c hc => Q_of_PT (has c hc)
    match as, hne, has, hq with
    | [], hne, _, _ => exact (hne rfl).elim
    | [c], _, has, hq =>
      have hw := PT_not_wrapper (has c (by simp))
      simp only [unwrapArgs]
      exact ⟨by rw [QArgs_of_not_args hw.1]; exact hq c (by simp),
        by rw [wrapArgsS_of_not_args hw.1]; simp only [Expr.shape, shapeL], hw.2⟩
    | c :: d :: r, _, _, hq =>
      simp only [unwrapArgs]
      exact ⟨by simpa only [QArgs, List.all_eq_true] using hq, by simp only [wrapArgsS, Expr.shape], rfl⟩

theorem preTree_PRoot {t : Expr} (h : PRoot t = true) : QRoot (preTree t) = true ∧ canonShape (preTree t) = t.shape := by
  induction h using PRoot.rules with
  | one hs =>
    have hu := QArgs_unwrap hs
    simp only [preTree]
    exact ⟨by rw [QRoot_of_not_op hu.2.2]; exact hu.1,
      by rw [canonShape_of_not_op hu.2.2, hu.2.1]; simp only [Expr.shape, shapeL]⟩
  | two hs1 hs2 =>
    have h1 := QArgs_unwrap hs1
    have h2 := QArgs_unwrap hs2
    simp only [preTree, List.map_cons, List.map_nil]
    refine ⟨by simp only [QRoot, List.length_cons, List.length_nil, List.all_cons, List.all_nil, h1.1, h2.1]; rfl, ?_⟩
    simp only [canonShape, List.map_cons, List.map_nil, h1.2.1, h2.2.1, Expr.shape, shapeL]

theorem beqL_refl_of : ∀ {cs : List Expr}, (∀ c ∈ cs, c.beq c = true) → beqL cs cs = true
  | [], _ => rfl
  | c :: cs, h => by
    rw [beqL, h c List.mem_cons_self, beqL_refl_of fun c' hc' => h c' (List.mem_cons_of_mem _ hc')]
    rfl

theorem Expr.beq_refl (x : Expr) : x.beq x = true := by
  induction x using Expr.memInduction with
  | axis => unfold Expr.beq; simp only [beq_self_eq_true, Bool.and_self]
  | flat i _ _ ih | brackets i _ _ ih | ellipsis i _ _ _ ih =>
    unfold Expr.beq; simp only [ih, beq_self_eq_true, Bool.and_self]
  | concat cs _ _ ih | list cs _ _ ih | args cs _ _ ih | op cs _ _ ih =>
    unfold Expr.beq; simp only [beqL_refl_of ih, beq_self_eq_true, Bool.and_self]

theorem beqL_refl : ∀ cs : List Expr, beqL cs cs = true :=
  fun _ => beqL_refl_of fun c _ => Expr.beq_refl c

end Einx.Notation
