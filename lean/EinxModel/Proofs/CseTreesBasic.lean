import EinxModel.Solve.CseCheck
import EinxModel.Proofs.SolveCse
import EinxModel.Proofs.ExceptList
/-!
Stage-2 expressions as `cse` sees them: products and root-level entries, the smart constructors of stage2/tree.py, `expr.value`
(`_value_range(e) = (m, False)` only if `e.value = m`), the node at an identity; and what an event of the replacement walk says about values and about declared axes.  The walk is used
through two notions: its events account for the step (`Accounts`), and they arise only where a search hits (`HitsOK`).
-/
namespace Einx.Solve.CseT
open Einx.Solve

theorem natProd_append (a b : List Nat) : natProd (a ++ b) = natProd a * natProd b := by
  induction a with
  | nil => simp [natProd]
  | cons x xs ih => simp [natProd, ih, Nat.mul_assoc]

theorem evalVL_append (σ : Var → Nat) (a b : List VExpr) : evalVL σ (a ++ b) = evalVL σ a ++ evalVL σ b := by
  induction a with
  | nil => simp [evalVL]
  | cons x xs ih => simp [evalVL, ih]

theorem freeAxesL_append (a b : List VExpr) : freeAxesL (a ++ b) = freeAxesL a ++ freeAxesL b := by
  induction a with
  | nil => simp [freeAxesL]
  | cons x xs ih => simp [freeAxesL, ih]

theorem itemsL_append (a b : List VExpr) : itemsL (a ++ b) = itemsL a ++ itemsL b := by
  induction a with
  | nil => simp [itemsL]
  | cons x xs ih => simp [itemsL, ih]

theorem evalVL_length (σ : Var → Nat) (a : List VExpr) : (evalVL σ a).length = a.length := by
  induction a with
  | nil => simp [evalVL]
  | cons x xs ih => simp [evalVL, ih]

theorem prod_items (σ : Var → Nat) (e : VExpr) : natProd (evalVL σ (items e)) = evalV σ e := by
  induction e using VExpr.induct with
  | axis _ _ _ | flat _ _ | concat _ _ => simp [items, evalVL, natProd]
  | brackets _ ih => exact ih
  | nil => rfl
  | cons c cs ihc ihcs =>
    simp only [items, evalV] at ihcs ⊢
    simp only [itemsL, evalVL_append, natProd_append, evalVL, natProd]
    rw [ihc, ihcs]

theorem prod_itemsL (σ : Var → Nat) : ∀ cs : List VExpr, natProd (evalVL σ (itemsL cs)) = natProd (evalVL σ cs) :=
  fun cs => prod_items σ (.list cs)

theorem items_length (e : VExpr) : (items e).length = ndim e := by
  induction e using VExpr.induct with
  | axis _ _ _ | flat _ _ | concat _ _ => simp [items, ndim]
  | brackets _ ih => exact ih
  | nil => rfl
  | cons c cs ihc ihcs =>
    simp only [items, ndim] at ihcs ⊢
    simp only [itemsL, ndimL, List.length_append]; rw [ihc, ihcs]

theorem itemsL_length : ∀ cs : List VExpr, (itemsL cs).length = ndimL cs :=
  fun cs => items_length (.list cs)

theorem ndim_zero_free (e : VExpr) : ndim e = 0 → freeAxes e = [] := by
  induction e using VExpr.induct with
  | axis _ _ _ | flat _ _ | concat _ _ => simp [ndim]
  | brackets _ ih => exact ih
  | nil => exact fun _ => rfl
  | cons c cs ihc ihcs =>
    intro h
    simp only [ndim, ndimL] at h ihcs
    simp only [freeAxes, freeAxesL] at ihcs ⊢
    rw [ihc (by omega), ihcs (by omega)]; rfl

theorem ndimL_zero_free : ∀ cs : List VExpr, ndimL cs = 0 → freeAxesL cs = [] :=
  fun cs => ndim_zero_free (.list cs)

theorem ndim_zero_items (e : VExpr) (h : ndim e = 0) : items e = [] :=
  List.eq_nil_of_length_eq_zero (by rw [items_length, h])

theorem ndim_one_vals (σ : Var → Nat) (e : VExpr) (h : ndim e = 1) : evalVL σ (items e) = [evalV σ e] := by
  have hl : (evalVL σ (items e)).length = 1 := by rw [evalVL_length, items_length, h]
  have hp := prod_items σ e
  match hv : evalVL σ (items e), hl with
  | [x], _ => rw [hv] at hp; simp [natProd] at hp; rw [hp]

theorem addChild_spec (σ : Var → Nat) : ∀ e : VExpr,
    natProd (evalVL σ (addChild e)) = evalV σ e ∧ itemsL (addChild e) = items e ∧ freeAxesL (addChild e) = freeAxes e := by
  intro e
  induction e using VExpr.induct with
  | axis _ _ _ | flat _ _ | concat _ _ | brackets _ _ => simp [addChild, evalVL, natProd, itemsL, freeAxesL]
  | nil => exact ⟨rfl, rfl, rfl⟩
  | cons c cs ihc ihcs =>
    obtain ⟨h1, h2, h3⟩ := ihc
    obtain ⟨g1, g2, g3⟩ := ihcs
    simp only [addChild, evalV, items, freeAxes] at g1 g2 g3 ⊢
    simp only [addChildren, evalVL_append, natProd_append, itemsL_append, freeAxesL_append, evalVL, natProd, itemsL,
      freeAxesL, h1, h2, h3, g1, g2, g3, and_self]

theorem addChildren_spec (σ : Var → Nat) (cs : List VExpr) :
    natProd (evalVL σ (addChildren cs)) = natProd (evalVL σ cs) ∧ itemsL (addChildren cs) = itemsL cs ∧
      freeAxesL (addChildren cs) = freeAxesL cs :=
  addChild_spec σ (.list cs)

/-- `List.create`: value, entries and unknown axes are those of the Python list of nodes -/
theorem mkList_spec (σ : Var → Nat) (ts : List VExpr) :
    evalV σ (mkList ts) = natProd (evalVL σ ts) ∧ items (mkList ts) = itemsL ts ∧ freeAxes (mkList ts) = freeAxesL ts := by
  obtain ⟨g1, g2, g3⟩ := addChildren_spec σ ts
  unfold mkList
  split
  · rename_i c hc
    rw [hc] at g1 g2 g3
    simp only [evalVL, natProd, Nat.mul_one, itemsL, List.append_nil, freeAxesL] at g1 g2 g3
    exact ⟨g1, g2, g3⟩
  · simp only [evalV, items, freeAxes]; exact ⟨g1, g2, g3⟩

theorem mkFlat_spec (σ : Var → Nat) (e : VExpr) :
    evalV σ (mkFlat e) = evalV σ e ∧ items (mkFlat e) = [mkFlat e] ∧ freeAxes (mkFlat e) = freeAxes e := by
  cases e <;> simp [mkFlat, evalV, items, freeAxes]

theorem mkBrackets_spec (σ : Var → Nat) (e : VExpr) :
    evalV σ (mkBrackets e) = evalV σ e ∧ items (mkBrackets e) = items e ∧ freeAxes (mkBrackets e) = freeAxes e := by
  unfold mkBrackets
  split
  · simp [evalV, items, freeAxes]
  · split
    · -- `ndim e = 0`: no entries, no unknown axes, and the empty product of the entries is the value
      rename_i h
      have h0 : ndim e = 0 := by simpa using h
      have hp := prod_items σ e
      rw [ndim_zero_items e h0] at hp
      simpa [evalV, evalVL, natProd, items, itemsL, freeAxes, freeAxesL, ndim_zero_items e h0, ndim_zero_free e h0]
        using hp
    · simp [evalV, items, freeAxes]

theorem mkList_free (ts : List VExpr) : freeAxes (mkList ts) = freeAxesL ts := (mkList_spec (fun _ => 0) ts).2.2

theorem mkFlat_free (e : VExpr) : freeAxes (mkFlat e) = freeAxes e := (mkFlat_spec (fun _ => 0) e).2.2

theorem mkBrackets_free (e : VExpr) : freeAxes (mkBrackets e) = freeAxes e := (mkBrackets_spec (fun _ => 0) e).2.2

theorem freeAxes_concat (cs : List VExpr) : freeAxes (.concat cs) = freeAxesL cs := by simp [freeAxes]

/-- `ConcatenatedAxis.create` on at least two nodes -/
theorem mkConcat_spec (ts : List VExpr) (c : VExpr) (h : mkConcat ts = .ok c) (h2 : 2 ≤ ts.length) :
    c = .concat ts := by
  match ts, h2 with
  | a :: b :: rest, _ =>
    simp only [mkConcat] at h
    split at h
    · exact (pure_ok.mp h).symm
    · cases h

theorem Rep.range {e : VExpr} (h : Rep e) : ∃ m ub, valueRange e = some (m, ub) :=
  let ⟨(m, ub), hr⟩ := Option.isSome_iff_exists.mp h.1
  ⟨m, ub, hr⟩

theorem newAxis_ok {name : String} {v : Option Nat} {r : Option (Nat × Bool)} {a : VExpr} (h : newAxis name v r = .ok a) :
    ∃ m ub, r = some (m, ub) ∧ a = .axis name v m := by
  unfold newAxis at h
  split at h
  · rename_i m ub
    exact ⟨m, ub, rfl, (pure_ok.mp h).symm⟩
  · cases h

theorem prodOpt_some {l : List (Option Nat)} {v : Nat} (h : prodOpt l = some v) :
    ∃ vs : List Nat, l = vs.map some ∧ natProd vs = v := by
  induction l generalizing v with
  | nil => simp [prodOpt] at h; exact ⟨[], rfl, by simp [natProd, h]⟩
  | cons x xs ih =>
    cases x with
    | none => simp [prodOpt] at h
    | some a =>
      simp only [prodOpt, Option.map_eq_some_iff] at h
      obtain ⟨w, hw, rfl⟩ := h
      obtain ⟨vs, rfl, hv⟩ := ih hw
      exact ⟨a :: vs, rfl, by simp [natProd, hv]⟩

theorem sumOpt_some {l : List (Option Nat)} {v : Nat} (h : sumOpt l = some v) :
    ∃ vs : List Nat, l = vs.map some ∧ vs.sum = v := by
  induction l generalizing v with
  | nil => simp [sumOpt] at h; exact ⟨[], rfl, by simp [h]⟩
  | cons x xs ih =>
    cases x with
    | none => simp [sumOpt] at h
    | some a =>
      simp only [sumOpt, Option.map_eq_some_iff] at h
      obtain ⟨w, hw, rfl⟩ := h
      obtain ⟨vs, rfl, hv⟩ := ih hw
      exact ⟨a :: vs, rfl, by simp [hv]⟩

theorem prodOpt_map_some (vs : List Nat) : prodOpt (vs.map some) = some (natProd vs) := by
  induction vs with
  | nil => rfl
  | cons v vs ih => simp [prodOpt, ih, natProd]

theorem sumOpt_map_some (vs : List Nat) : sumOpt (vs.map some) = some vs.sum := by
  induction vs with
  | nil => rfl
  | cons v vs ih => simp [sumOpt, ih]

theorem valueOf_some_spec (σ : Var → Nat) :
    (∀ (e : VExpr) (v : Nat), valueOf e = some v → evalV σ e = v ∧ freeAxes e = []) ∧
    ∀ (cs : List VExpr) (vs : List Nat), valuesOf cs = vs.map some → evalVL σ cs = vs ∧ freeAxesL cs = [] := by
  apply VExpr.induct₂
  case node =>
    intro e ih v
    cases e with
    | axis _ w _ => cases w <;> simp [valueOf, evalV, freeAxes]
    | flat e | brackets e => simp only [valueOf, evalV, freeAxes]; exact ih v
    | list cs =>
      intro h
      simp only [valueOf] at h
      obtain ⟨vs, hvs, hv⟩ := prodOpt_some h
      obtain ⟨h1, h2⟩ := ih vs hvs
      simp only [evalV, freeAxes, h1, h2, hv, and_self]
    | concat cs =>
      intro h
      simp only [valueOf] at h
      obtain ⟨vs, hvs, hv⟩ := sumOpt_some h
      obtain ⟨h1, h2⟩ := ih vs hvs
      simp only [evalV, freeAxes, h1, h2, hv, and_self]
  case nil => intro vs h; simp [valuesOf] at h; simp [evalVL, freeAxesL, h]
  case cons =>
    intro c cs ihc ihcs vs h
    cases vs with
    | nil => simp [valuesOf] at h
    | cons v vs =>
      simp only [valuesOf, List.map_cons, List.cons.injEq] at h
      obtain ⟨h1, h2⟩ := ihc v h.1
      obtain ⟨g1, g2⟩ := ihcs vs h.2
      simp only [evalVL, freeAxesL, h1, h2, g1, g2, List.append_nil, and_self]

theorem valueOf_some_eval (σ : Var → Nat) (e : VExpr) (v : Nat) (h : valueOf e = some v) : evalV σ e = v :=
  ((valueOf_some_spec σ).1 e v h).1

theorem valuesOf_some_eval (σ : Var → Nat) : ∀ (cs : List VExpr) (vs : List Nat), valuesOf cs = vs.map some → evalVL σ cs = vs :=
  fun cs vs h => ((valueOf_some_spec σ).2 cs vs h).1

theorem valueOf_some_free (e : VExpr) (v : Nat) (h : valueOf e = some v) : freeAxes e = [] :=
  ((valueOf_some_spec (fun _ => 0)).1 e v h).2

theorem valuesOf_some_free : ∀ (cs : List VExpr) (vs : List Nat), valuesOf cs = vs.map some → freeAxesL cs = [] :=
  fun cs vs h => ((valueOf_some_spec (fun _ => 0)).2 cs vs h).2

theorem ranges_all_fixed (ranges : List (Option (Nat × Bool))) (h : ranges.any (fun r => r.isNone) = false)
    (h2 : (unboundedMins (ranges.filterMap id)).length = 0) :
    ranges = (fixedMins (ranges.filterMap id)).map (fun v => some (v, false)) := by
  induction ranges with
  | nil => rfl
  | cons r rs ih =>
    -- `any`, `filterMap id`, `unboundedMins` and `fixedMins` all compute on a given head
    rcases r with _ | ⟨v, _ | _⟩
    · cases h
    · exact congrArg (some (v, false) :: ·) (ih h h2)
    · cases h2

theorem combine_fixed {isConcat : Bool} {ranges : List (Option (Nat × Bool))} {m : Nat}
    (h : combineRanges isConcat ranges = some (m, false)) :
    ranges = (fixedMins (ranges.filterMap id)).map (fun v => some (v, false)) ∧
      m = if isConcat then (fixedMins (ranges.filterMap id)).sum else natProd (fixedMins (ranges.filterMap id)) := by
  unfold combineRanges at h
  split at h
  · cases h
  · rename_i hany
    -- a bounded result means that no child is unbounded: the sum rule reports `unbounded.length > 0`, the product
    -- rule answers `true` or `none` otherwise
    have hlen : (unboundedMins (ranges.filterMap id)).length = 0 := by
      cases isConcat with
      | true => simpa using (Prod.mk.inj (Option.some.inj h)).2
      | false =>
        refine Decidable.byContradiction fun hne => ?_
        simp only [Bool.false_eq_true, if_false, hne] at h
        split at h <;> simp at h
    refine ⟨ranges_all_fixed ranges (Bool.eq_false_iff.mpr hany) hlen, ?_⟩
    have hnil := List.eq_nil_of_length_eq_zero hlen
    cases isConcat <;> simp [hnil] at h ⊢ <;> exact h.symm

theorem valueRange_fixed :
    (∀ (e : VExpr) (m : Nat), valueRange e = some (m, false) → valueOf e = some m) ∧
    ∀ (cs : List VExpr) (vs : List Nat), valueRanges cs = vs.map (fun v => some (v, false)) → valuesOf cs = vs.map some := by
  apply VExpr.induct₂
  case node =>
    intro e ih m
    cases e with
    | axis _ v _ => cases v <;> simp [valueRange, valueOf]
    | flat e | brackets e => simp only [valueRange, valueOf]; exact ih m
    | list cs | concat cs =>
      intro h
      simp only [valueRange] at h
      obtain ⟨h1, rfl⟩ := combine_fixed h
      simp only [valueOf, ih _ h1, prodOpt_map_some, sumOpt_map_some]
      rfl
  case nil => intro vs h; cases vs <;> simp [valueRanges, valuesOf] at h ⊢
  case cons =>
    intro c cs ihc ihcs vs h
    cases vs with
    | nil => simp [valueRanges] at h
    | cons v vs =>
      simp only [valueRanges, List.map_cons, List.cons.injEq] at h
      simp only [valuesOf, List.map_cons]
      rw [ihc v h.1, ihcs vs h.2]

theorem valueRange_fixed_value : ∀ (e : VExpr) (m : Nat), valueRange e = some (m, false) → valueOf e = some m :=
  valueRange_fixed.1

theorem valueRanges_fixed_values : ∀ (cs : List VExpr) (vs : List Nat),
    valueRanges cs = vs.map (fun v => some (v, false)) → valuesOf cs = vs.map some :=
  valueRange_fixed.2

theorem unknown_value_unbounded {e : VExpr} {m : Nat} {ub : Bool} (hr : valueRange e = some (m, ub))
    (hv : valueOf e = none) : ub = true := by
  cases ub with
  | true => rfl
  | false => rw [valueRange_fixed_value e m hr] at hv; cases hv

theorem eraseValued_spec (σ : Var → Nat) :
    (∀ e : VExpr, evalV σ (eraseValued e) = evalV σ e ∧ freeAxes (eraseValued e) = freeAxes e) ∧
    ∀ cs : List VExpr, evalVL σ (eraseValuedL cs) = evalVL σ cs ∧ freeAxesL (eraseValuedL cs) = freeAxesL cs := by
  apply VExpr.induct₂
  case node =>
    intro e ih
    cases e with
    | axis n v m => cases v <;> simp [eraseValued, evalV, freeAxes]
    | flat e | brackets e => simpa [eraseValued, evalV, freeAxes] using ih
    | list cs | concat cs =>
      obtain ⟨h1, h2⟩ := ih
      simp [eraseValued, evalV, freeAxes, h1, h2]
  case nil => simp [eraseValuedL]
  case cons =>
    intro c cs ⟨h1, h2⟩ ⟨g1, g2⟩
    simp [eraseValuedL, evalVL, freeAxesL, h1, h2, g1, g2]

theorem eraseValuedL_spec (σ : Var → Nat) : ∀ cs : List VExpr,
    evalVL σ (eraseValuedL cs) = evalVL σ cs ∧ freeAxesL (eraseValuedL cs) = freeAxesL cs :=
  (eraseValued_spec σ).2

theorem beqV_eq (a : VExpr) : ∀ b : VExpr, beqV a b = true → a = b := by
  induction a using VExpr.induct with
  | axis n v m =>
    intro b
    cases b <;> simp only [beqV, Bool.and_eq_true, beq_iff_eq, Bool.false_eq_true, false_imp_iff]
    rintro ⟨⟨rfl, rfl⟩, rfl⟩; rfl
  | flat _ ih | brackets _ ih =>
    intro b
    cases b <;> simp only [beqV, Bool.false_eq_true, false_imp_iff]
    exact fun h => by rw [ih _ h]
  | concat cs ih =>
    intro b
    cases b <;> simp only [beqV, Bool.false_eq_true, false_imp_iff]
    exact fun h => by rw [VExpr.list.inj (ih (.list _) h)]
  | nil => exact fun b h => match b, h with | .list [], _ => rfl
  | cons c cs ihc ihcs =>
    intro b
    cases b with
    | list cs' =>
      cases cs' with
      | nil => simp [beqV, beqVL]
      | cons c' cs' =>
        intro h; simp only [beqV, beqVL, Bool.and_eq_true] at h
        rw [ihc c' h.1, VExpr.list.inj (ihcs (.list cs') h.2)]
    | _ => simp [beqV]

theorem beqVL_eq : ∀ a b : List VExpr, beqVL a b = true → a = b :=
  fun a b h => VExpr.list.inj (beqV_eq (.list a) (.list b) h)

theorem unwrap1_spec (σ : Var → Nat) (e : VExpr) :
    evalV σ (unwrap1 e) = evalV σ e ∧ freeAxes (unwrap1 e) = freeAxes e := by
  unfold unwrap1
  split
  · simp [evalV, evalVL, natProd, freeAxes, freeAxesL]
  · exact ⟨rfl, rfl⟩

theorem sameShape_spec {e e' : VExpr} (h : sameShape e e' = true) (σ : Var → Nat) :
    evalV σ e = evalV σ e' ∧ freeAxes e = freeAxes e' := by
  have := beqV_eq _ _ h
  obtain ⟨a1, a2⟩ := (eraseValued_spec σ).1 (unwrap1 e)
  obtain ⟨b1, b2⟩ := (eraseValued_spec σ).1 (unwrap1 e')
  obtain ⟨c1, c2⟩ := unwrap1_spec σ e
  obtain ⟨d1, d2⟩ := unwrap1_spec σ e'
  rw [← c1, ← c2, ← d1, ← d2, ← a1, ← a2, ← b1, ← b2, this]; exact ⟨rfl, rfl⟩

def childAt : VExpr → Nat → Option VExpr
  | .axis _ _ _, _ => none
  | .list cs, k => cs[k]?
  | .concat cs, k => cs[k]?
  | .flat e, k => if k = 0 then some e else none
  | .brackets e, k => if k = 0 then some e else none

/-- the node at a path below `e` -/
def subAt : VExpr → List Nat → Option VExpr
  | e, [] => some e
  | e, k :: p =>
    match childAt e k with
    | some c => subAt c p
    | none => none

theorem subAt_snoc (p : List Nat) (e : VExpr) (k : Nat) : subAt e (p ++ [k]) = (subAt e p).bind (childAt · k) := by
  induction p generalizing e with
  | nil =>
    simp only [List.nil_append, subAt, Option.bind_some]
    cases childAt e k <;> rfl
  | cons j p ih =>
    simp only [List.cons_append, subAt]
    cases childAt e j with
    | none => rfl
    | some c => exact ih c

theorem tail_from {β : Type} {f : Nat → Option β} {k : Nat} {a : β} {as : List β} (h : ∀ j, f (k + j) = (a :: as)[j]?) :
    ∀ j, f (k + 1 + j) = as[j]? := fun j => by
  have := h (j + 1)
  simpa [Nat.add_assoc, Nat.add_comm 1 j] using this

/-- the node with a given identity -/
def nodeAt (roots : List (Option VExpr)) : Id → Option VExpr
  | [] => none
  | r :: p =>
    match roots[r]? with
    | some (some root) => subAt root p
    | _ => none

theorem nodeAt_root (roots : List (Option VExpr)) (k : Nat) (r : VExpr) (h : roots[k]? = some (some r)) :
    nodeAt roots [k] = some r := by
  simp [nodeAt, h, subAt]

theorem nodeAt_snoc {roots : List (Option VExpr)} {id : Id} {t : VExpr} (h : nodeAt roots id = some t) (k : Nat) :
    nodeAt roots (id ++ [k]) = childAt t k := by
  cases id with
  | nil => simp [nodeAt] at h
  | cons r p =>
    simp only [nodeAt, List.cons_append] at h ⊢
    split at h
    · rename_i root hr
      simp only [subAt_snoc, h, Option.bind_some]
    · cases h

/-- A list collected root by root, as `allEntries` and `traceRoots` are: each member comes from one root, whose position
is the first step of the identities below it. -/
theorem of_mem_roots {α : Type} {F : Nat → List (Option VExpr) → List α} {f : Id → VExpr → List α}
    (hnil : ∀ k, F k [] = []) (hnone : ∀ k rs, F k (none :: rs) = F (k + 1) rs)
    (hsome : ∀ k r rs, F k (some r :: rs) = f [k] r ++ F (k + 1) rs) {x : α} (rs : List (Option VExpr)) (k : Nat)
    (hx : x ∈ F k rs) : ∃ j r, rs[j]? = some (some r) ∧ x ∈ f [k + j] r := by
  induction rs generalizing k with
  | nil => simp [hnil] at hx
  | cons r rs ih =>
    have tl : x ∈ F (k + 1) rs → ∃ j r', (r :: rs)[j]? = some (some r') ∧ x ∈ f [k + j] r' := fun h =>
      let ⟨j, r', hj, hx'⟩ := ih (k + 1) h
      ⟨j + 1, r', hj, by rwa [Nat.add_assoc, Nat.add_comm 1 j] at hx'⟩
    cases r with
    | none => exact tl (hnone k rs ▸ hx)
    | some r =>
      rw [hsome, List.mem_append] at hx
      exact hx.elim (fun h => ⟨0, r, rfl, h⟩) tl

/-! ### what the events of a replacement walk say, and where they arise -/

def GoodEv (σ σ' : Var → Nat) : Ev → Prop
  | .surv n _ => σ' n = σ n
  | .used k e len atRoot =>
    0 < len ∧ (valueOf e = none → σ' (cseName k) = evalV σ e) ∧ (atRoot = true → ndim e = 1)

/-- the unknown axes an event contributes to the output -/
def outDecls : Ev → List (Var × Nat)
  | .surv n m => [(n, m)]
  | .used k e _ _ =>
    match valueOf e, valueRange e with
    | none, some (m, _) => [(cseName k, m)]
    | _, _ => []

/-- the unknown axes of the input an event accounts for -/
def inDecls : Ev → List (Var × Nat)
  | .surv n m => [(n, m)]
  | .used _ e _ _ => freeAxes e

def EvPos : Ev → Prop
  | .surv _ _ => True
  | .used _ _ len _ => 0 < len

theorem evPos_of_filt {evs : List Ev} (h : ∀ ev ∈ evs, FiltOK ev) : ∀ ev ∈ evs, EvPos ev := by
  intro ev hev
  cases ev with
  | surv n m => trivial
  | used k e len r => exact (h _ hev).1

/-- the values of the root-level entries of an expression (`None` stays `None`) -/
def rootVals (σ : Var → Nat) : Option VExpr → Option (List Nat)
  | none => none
  | some r => some (evalVL σ (items r))

/-- `evs` accounts for the step from `rs` to `out`: values agree whenever every event is good, and the declarations of
both sides are those of the events. -/
structure Accounts (evs : List Ev) (rs out : List (Option VExpr)) : Prop where
  vals : ∀ σ σ', (∀ ev ∈ evs, GoodEv σ σ' ev) → out.map (rootVals σ') = rs.map (rootVals σ)
  declsOut : rootDecls out = evs.flatMap outDecls
  declsIn : rootDecls rs = evs.flatMap inDecls

/-- `P` holds wherever the walk over `roots` with the searches `mn`, `ma` can produce an event: of a copied axis, of the node
at an identity where `mn` hits, of the run of children that `ma` finds below an identity. -/
structure HitsOK (roots : List (Option VExpr)) (mn : Id → Option Nat) (ma : Id → Nat → Nat → Option (Nat × Nat))
    (P : Ev → Prop) : Prop where
  surv : ∀ n m, P (.surv n m)
  node : ∀ id k t lvl, mn id = some k → nodeAt roots id = some t → P (.used k t 1 lvl)
  run : ∀ pid i k len cs lvl, ma pid i cs.length = some (k, len) → nodeAt roots pid = some (.list cs) →
    P (.used k (.list ((cs.drop i).take len)) len lvl)

end Einx.Solve.CseT
