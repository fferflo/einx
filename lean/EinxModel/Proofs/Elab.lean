import EinxModel.Elab.ParseOp
import EinxModel.Proofs.NodeWise
/-!
# Facts about the `_parse_op` model behind C07 and the rule theorems of C03Elab

`stage1.map` never creates a concatenation: "no `ConcatenatedAxis` node" is a node-wise predicate.  What `implicitOut` returns
under the element-wise and the arg-operation signature.  Pairs of runs of `parseOpTree` that end alike: without `->` and with the
implicit output written out; before and after the automatic marking.
-/
namespace Einx.Elab
open Einx.Notation

theorem hasConcatL_eq_any (xs : List Expr) : hasConcatL xs = xs.any hasConcat := by
  induction xs with
  | nil => simp [hasConcatL]
  | cons x xs ih => simp [hasConcatL, ih]

theorem hasConcatL_append (xs ys : List Expr) : hasConcatL (xs ++ ys) = (hasConcatL xs || hasConcatL ys) := by
  simp only [hasConcatL_eq_any, List.any_append]

mutual
theorem hasConcatL_flattenOne : ∀ (x : Expr), hasConcatL (flattenOne x) = hasConcat x
  | .list cs _ _ => by simp only [flattenOne, hasConcat]; exact hasConcatL_flattenAll cs
  | .axis .. | .flat .. | .brackets .. | .ellipsis .. | .concat .. | .args .. | .op .. => by simp [flattenOne, hasConcatL]
theorem hasConcatL_flattenAll : ∀ (cs : List Expr), hasConcatL (flattenAll cs) = hasConcatL cs
  | [] => by simp [flattenAll]
  | x :: xs => by
    simp only [flattenAll, hasConcatL_append, hasConcatL]
    rw [hasConcatL_flattenOne x, hasConcatL_flattenAll xs]
end

theorem mapExprL_eq_map (f : Expr → Option Expr) : ∀ cs : List Expr, mapExprL f cs = cs.map (mapExpr f)
  | [] => rfl
  | c :: cs => by rw [mapExprL, List.map_cons, mapExprL_eq_map f cs]

/-- Errors/Indicator.lean and Elab/ParseOp.lean both model `stage1.map`; they are the same function. -/
theorem mapExpr_eq_errors (f : Expr → Option Expr) : ∀ x : Expr, mapExpr f x = Errors.mapExpr f x := by
  intro x
  induction x using Expr.memInduction with
  | axis n v b e => rw [mapExpr, Errors.mapExpr]; cases f (.axis n v b e) <;> rfl
  | flat i b e ih => rw [mapExpr, Errors.mapExpr, ih]; cases f (.flat i b e) <;> rfl
  | brackets i b e ih => rw [mapExpr, Errors.mapExpr, ih]; cases f (.brackets i b e) <;> rfl
  | ellipsis i id b e ih => rw [mapExpr, Errors.mapExpr, ih]; cases f (.ellipsis i id b e) <;> rfl
  | concat cs b e ih =>
    rw [mapExpr, Errors.mapExpr, mapExprL_eq_map, Notation.mapExprL_eq_map, List.map_congr_left ih]; cases f (.concat cs b e) <;> rfl
  | list cs b e ih =>
    rw [mapExpr, Errors.mapExpr, mapExprL_eq_map, Notation.mapExprL_eq_map, List.map_congr_left ih]; cases f (.list cs b e) <;> rfl
  | args cs b e ih =>
    rw [mapExpr, Errors.mapExpr, mapExprL_eq_map, Notation.mapExprL_eq_map, List.map_congr_left ih]; cases f (.args cs b e) <;> rfl
  | op cs b e ih =>
    rw [mapExpr, Errors.mapExpr, mapExprL_eq_map, Notation.mapExprL_eq_map, List.map_congr_left ih]; cases f (.op cs b e) <;> rfl

theorem noConcat_nodeWise : NodeWise (fun x => x.isConcat = false) (fun x => hasConcat x = false) :=
  have t : ∀ {p : Prop}, p ↔ false = false ∧ p := ⟨fun h => ⟨rfl, h⟩, And.right⟩
  have l : ∀ cs, hasConcatL cs = false ↔ false = false ∧ ∀ c ∈ cs, hasConcat c = false := fun cs => by
    rw [hasConcatL_eq_any, List.any_eq_false]
    simp
  .of_cases (fun _ _ _ _ => Iff.rfl) (fun _ _ _ => t) (fun _ _ _ => t) (fun _ _ _ _ => t)
    (fun _ _ _ => ⟨nofun, fun h => nomatch h.1⟩) (fun cs _ _ => l cs) (fun cs _ _ => l cs) (fun cs _ _ => l cs) rfl

theorem isConcat_headOnly : HeadOnly (fun x => x.isConcat = false) :=
  ⟨fun _ h => h, fun _ h => h, fun _ h => h, fun _ h => h, fun _ h => h, fun _ h => h, fun _ h => h⟩

theorem mapExpr_noConcat (f : Expr → Option Expr) (hf : ∀ x y, f x = some y → hasConcat y = false) (x : Expr)
    (h : hasConcat x = false) : hasConcat (mapExpr f x) = false := by
  rw [mapExpr_eq_errors]
  exact noConcat_nodeWise.mapExpr isConcat_headOnly f (fun y z _ => hf y z) x h

theorem removeBr_noConcat {x : Expr} (h : hasConcat x = false) : hasConcat (removeBr x) = false := by
  apply mapExpr_noConcat _ _ x h
  intro x y hxy
  cases x <;> simp [removeBrF] at hxy
  subst hxy; exact noConcat_nodeWise.emptyList

theorem keepdimsBr_noConcat {x : Expr} (h : hasConcat x = false) : hasConcat (keepdimsBr x) = false := by
  apply mapExpr_noConcat _ _ x h
  intro x y hxy
  cases x <;> simp [keepdimsBrF] at hxy
  subst hxy; exact noConcat_nodeWise.emptyList

theorem markAxes_noConcat (names : List Str) {x : Expr} (h : hasConcat x = false) : hasConcat (markAxes names x) = false := by
  apply mapExpr_noConcat _ _ x h
  intro x y hxy
  cases x <;> simp [markF] at hxy
  obtain ⟨_, rfl⟩ := hxy
  simp [hasConcat]

theorem any_map_markAxes_noConcat (names : List Str) (ins : List Expr) (h : ins.any hasConcat = false) :
    (ins.map (markAxes names)).any hasConcat = false := by
  rw [List.any_map, List.any_eq_false]
  intro x hx
  simpa using markAxes_noConcat names (by simpa using List.any_eq_false.mp h x hx)

mutual
theorem noConcat_noTouch (inBr : Bool) : ∀ (x : Expr), hasConcat x = false → concatTouchesBrackets inBr x = false
  | .axis .., _ => rfl
  | .flat i _ _, h | .ellipsis i _ _ _, h => noConcat_noTouch inBr i h
  | .brackets i _ _, h => noConcat_noTouch true i h
  | .concat .., h => by simp [hasConcat] at h
  | .list cs _ _, h | .args cs _ _, h | .op cs _ _, h => noConcat_noTouchL inBr cs h
theorem noConcat_noTouchL (inBr : Bool) : ∀ (cs : List Expr), hasConcatL cs = false → concatTouchesBracketsL inBr cs = false
  | [], _ => rfl
  | c :: cs, h => by
    simp only [hasConcatL, Bool.or_eq_false_iff] at h
    simp only [concatTouchesBracketsL, Bool.or_eq_false_iff]
    exact ⟨noConcat_noTouch inBr c h.1, noConcat_noTouchL inBr cs h.2⟩
end

theorem pyEq_emptyList_scalar : ∀ {y : Expr}, pyEq y emptyList = true → isScalar y = true
  | .list [] _ _, _ => rfl
  | .list (_ :: _) _ _, h | .axis .., h | .flat .., h | .brackets .., h | .ellipsis .., h | .concat .., h | .args .., h
  | .op .., h => Bool.noConfusion h

theorem pyEq_emptyList : pyEq emptyList emptyList = true := rfl

/-- The signature consists of scalars and is not one-to-one, so the implicit output is the unique valid parent. -/
theorem implicitOut_elementwise {fl : Flags} (kd : Bool) (hi : fl.implicit = .bijective) {ins : List Expr} (hlen : ins.length ≠ 1)
    (eo : Option (List Expr)) :
    implicitOut fl kd (elOpTree .elementwise (ins.map toEl) eo) ins =
      match validParents ins with
      | [p] => .ok [p]
      | _ => .error .noUniqueParent := by
  have h1 : (ins.length == 1) = false := by simpa using hlen
  have hsc : ∀ xs : List Expr, (xs.map (fun _ => emptyList) ++ [emptyList]).all isScalar = true := fun xs => by
    induction xs with
    | nil => rfl
    | cons _ _ ih => exact ih
  simp only [implicitOut, hi, elOpTree, List.length_map, h1, Bool.false_and, Bool.false_eq_true, if_false, hsc, if_true]
  match ins, hlen with
  | [], _ => rfl
  | [x], hlen => exact absurd rfl hlen
  | x :: y :: r, _ => rfl

theorem dedupPyAux_mem (y : Expr) : ∀ (xs acc : List Expr), y ∈ dedupPyAux acc xs → y ∈ acc ∨ y ∈ xs
  | [], acc, h => by simp [dedupPyAux] at h; exact Or.inl h
  | x :: xs, acc, h => by
    simp only [dedupPyAux] at h
    split at h
    · rcases dedupPyAux_mem y xs acc h with h | h
      · exact Or.inl h
      · exact Or.inr (List.mem_cons_of_mem _ h)
    · rcases dedupPyAux_mem y xs (x :: acc) h with h | h
      · rcases List.mem_cons.mp h with h | h
        · subst h; exact Or.inr (by simp)
        · exact Or.inl h
      · exact Or.inr (List.mem_cons_of_mem _ h)

theorem validParents_mem {ins : List Expr} {p : Expr} (h : p ∈ validParents ins) : p ∈ ins := by
  unfold validParents dedupPy at h
  rcases dedupPyAux_mem p _ _ h with h | h
  · simp at h
  · simp only [List.mem_map, List.mem_filter] at h
    obtain ⟨q, ⟨hq, _⟩, rfl⟩ := h
    exact (List.mem_zipIdx' hq).2 ▸ List.getElem_mem _

/-- The signature `x -> a<uuid>` is not one-to-one and its output is not scalar, so the implicit output is `_to_output` of the input. -/
theorem implicitOut_argfind {fl : Flags} (kd : Bool) (hi : fl.implicit = .bijective) {x : Expr}
    (hx : pyEq (toEl x) freshOutAxis = false) :
    implicitOut fl kd (elOpTree .argfind [toEl x] none) [x] = toOutputL [x] := by
  have hf : isScalar freshOutAxis = false := rfl
  simp only [implicitOut, hi, elOpTree, argfindVectorOut, List.headD_cons, if_true, List.length_cons, List.length_nil, pyEqL, hx,
    Bool.and_true, Bool.and_false, Bool.false_eq_true, if_false, hf, List.all_append, List.all_cons, List.all_nil, Nat.zero_add,
    beq_self_eq_true]

/-- The written-output branch of `parseOpTree` repeats the first check of `finish`. -/
theorem finish_count (fl : Flags) (el : ElOp) (ins o : List Expr) :
    (if el.outs.length != o.length then .error (.outputCount el.outs.length o.length) else finish fl el ins o) = finish fl el ins o := by
  split
  · rename_i h
    rw [finish, if_pos h]
  · rfl

theorem parseOpTree_noConcat (fam : Family) (fl : Flags) (kd : Bool) {ins o : List Expr} (h : (ins ++ o).any hasConcat = false) :
    parseOpTree .tree fam fl kd ins (some o) =
      if (elOpTree fam (ins.map toEl) (some (o.map toEl))).ins.length != ins.length then
        .error (.inputCount (elOpTree fam (ins.map toEl) (some (o.map toEl))).ins.length ins.length)
      else finish fl (elOpTree fam (ins.map toEl) (some (o.map toEl))) ins o := by
  have ht : (ins ++ o).any (concatTouchesBrackets false) = false :=
    List.any_eq_false.mpr fun x hx => by simpa using noConcat_noTouch false x (by simpa using List.any_eq_false.mp h x hx)
  unfold parseOpTree
  simp only [Option.getD_some, h, ht, Bool.and_false, Bool.false_eq_true, if_false, elOp, Option.map_some, List.length_map, finish_count]

/-- A description without output elaborates like the description with the implicitly determined output written out, provided
    the elementary signature does not depend on the written output and that output passes the two concatenation checks
    whenever the inputs do. -/
theorem implicit_eq_explicit (fam : Family) (fl : Flags) (kd : Bool) (ins outs : List Expr)
    (hel : elOpTree fam (ins.map toEl) (some (outs.map toEl)) = elOpTree fam (ins.map toEl) none)
    (himp : implicitOut fl kd (elOpTree fam (ins.map toEl) none) ins = .ok outs)
    (hc : ins.any hasConcat = false → outs.any hasConcat = false)
    (ht : (!fl.allowConcat && ins.any hasConcat) = false → ins.any (concatTouchesBrackets false) = false →
      outs.any (concatTouchesBrackets false) = false) :
    parseOpTree .tree fam fl kd ins none = parseOpTree .tree fam fl kd ins (some outs) := by
  unfold parseOpTree
  simp only [Option.getD_none, Option.getD_some, List.append_nil, List.any_append, elOp, Option.map_none, Option.map_some, hel, himp,
    finish_count]
  have hc' : (ins.any hasConcat || outs.any hasConcat) = ins.any hasConcat := by
    cases h1 : ins.any hasConcat
    · rw [hc h1]; rfl
    · rfl
  rw [hc']
  cases h0 : (!fl.allowConcat && ins.any hasConcat)
  · have ht' : (ins.any (concatTouchesBrackets false) || outs.any (concatTouchesBrackets false)) =
        ins.any (concatTouchesBrackets false) := by
      cases h1 : ins.any (concatTouchesBrackets false)
      · rw [ht h0 h1]; rfl
      · rfl
    rw [ht']
  · rfl

theorem implicit_eq_input (fam : Family) (fl : Flags) (kd : Bool) (ins : List Expr) (p : Expr) (hp : p ∈ ins)
    (hel : elOpTree fam (ins.map toEl) (some [toEl p]) = elOpTree fam (ins.map toEl) none)
    (himp : implicitOut fl kd (elOpTree fam (ins.map toEl) none) ins = .ok [p]) :
    parseOpTree .tree fam fl kd ins none = parseOpTree .tree fam fl kd ins (some [p]) :=
  implicit_eq_explicit fam fl kd ins [p] hel himp
    (fun h => by simpa using List.any_eq_false.mp h p hp)
    (fun _ h => by simpa using List.any_eq_false.mp h p hp)

theorem bracketCheck_self (output : Bool) : ∀ (i : Nat) (xs : List Expr), bracketCheck output i xs xs = none
  | _, [] => by simp [bracketCheck]
  | i, x :: xs => by
    simp only [bracketCheck]
    cases isScalar x <;> simp [bracketCheck_self output (i + 1) xs]

theorem bracketCheck_head (output : Bool) (i : Nat) (x : Expr) (xs : List Expr) : bracketCheck output i [x] (x :: xs) = none := by
  simp only [bracketCheck]
  cases isScalar x <;> simp

theorem markInputs_noDup {ins : List Expr} (hnd : ∀ x ∈ ins, hasDup (axisNames x) = false) (out : Expr) :
    markInputs ins [out] = .ok (ins.map (markAxes (axisNames out))) := by
  rw [markInputs, List.find?_eq_none.mpr fun x hx => by simp [hnd x hx]]

/-- The first run marks the inputs itself; the second finds them marked and skips the marking; from there on both check the same
    trees.  The bracket checks of the inputs (`h1`, `h2`) are left to the caller: they depend on the signature. -/
theorem finish_auto (fl : Flags) (el el' : ElOp) (ins : List Expr) (out : Expr)
    (hmark : fl.markReduced = true) (hnb : ins.any hasBrackets = false) (hnd : ∀ x ∈ ins, hasDup (axisNames x) = false)
    (hsome : (ins.map (markAxes (axisNames out))).any hasBrackets = true)
    (houts : el.outs = el'.outs)
    (h1 : bracketCheck false 0 el.ins (ins.map toEl) = none)
    (h2 : bracketCheck false 0 el'.ins ((ins.map (markAxes (axisNames out))).map toEl) = none) :
    finish fl el ins [out] = finish fl el' (ins.map (markAxes (axisNames out))) [out] := by
  have hl : (if fl.markReduced && !ins.any hasBrackets then markInputs ins [out] else .ok ins) =
      .ok (ins.map (markAxes (axisNames out))) := by
    rw [hmark, hnb, ← markInputs_noDup hnd out]; rfl
  have hr : (if fl.markReduced && !(ins.map (markAxes (axisNames out))).any hasBrackets
      then markInputs (ins.map (markAxes (axisNames out))) [out] else .ok (ins.map (markAxes (axisNames out)))) =
      .ok (ins.map (markAxes (axisNames out))) := by
    rw [hsome, Bool.not_true, Bool.and_false]; rfl
  unfold finish
  rw [h1, h2, houts, hl, hr]

/- The tree of a description in which every bracket is wrapped in parentheses: `[x]` ↦ `([x])` (raw constructors: the parser
   builds exactly these nodes for `([x])` unless the bracket already stands alone inside parentheses). -/
mutual
def wrapBr : Expr → Expr
  | .axis n v b e => .axis n v b e
  | .flat i b e => .flat (wrapBr i) b e
  | .brackets i b e => .flat (.brackets i b e) (-1) (-1)
  | .ellipsis i id b e => .ellipsis (wrapBr i) id b e
  | .concat cs b e => .concat (wrapBrL cs) b e
  | .list cs b e => .list (wrapBrL cs) b e
  | .args cs b e => .args (wrapBrL cs) b e
  | .op cs b e => .op (wrapBrL cs) b e
def wrapBrL : List Expr → List Expr
  | [] => []
  | c :: cs => wrapBr c :: wrapBrL cs
end

mutual
theorem removeBr_wrapBr : ∀ (x : Expr), removeBr (wrapBr x) = keepdimsBr x
  | .axis .. | .brackets .. => rfl
  | .flat i b e => congrArg (mkFlat · b e) (removeBr_wrapBr i)
  | .ellipsis i id b e => congrArg (mkEllipsis · b e id) (removeBr_wrapBr i)
  | .concat cs b e => congrArg (mkConcat · b e) (removeBrL_wrapBrL cs)
  | .list cs b e => congrArg (mkList · b e) (removeBrL_wrapBrL cs)
  | .args cs b e => congrArg (Expr.args · b e) (removeBrL_wrapBrL cs)
  | .op cs b e => congrArg (Expr.op · b e) (removeBrL_wrapBrL cs)
theorem removeBrL_wrapBrL : ∀ (cs : List Expr), mapExprL removeBrF (wrapBrL cs) = mapExprL keepdimsBrF cs
  | [] => rfl
  | c :: cs => by
    show removeBr (wrapBr c) :: mapExprL removeBrF (wrapBrL cs) = keepdimsBr c :: mapExprL keepdimsBrF cs
    rw [removeBr_wrapBr c, removeBrL_wrapBrL cs]
end

theorem flattenAll_append (xs ys : List Expr) : flattenAll (xs ++ ys) = flattenAll xs ++ flattenAll ys := by
  rw [flattenAll_eq_flatMap, flattenAll_eq_flatMap, flattenAll_eq_flatMap, List.flatMap_append]

theorem toElKeep_append (xs ys : List Expr) : toElKeep (xs ++ ys) = toElKeep xs ++ toElKeep ys := by
  induction xs with
  | nil => simp [toElKeep]
  | cons x xs ih =>
    simp only [List.cons_append, toElKeep]
    split <;> simp [ih]

theorem mapExprL_append (f : Expr → Option Expr) (xs ys : List Expr) : mapExprL f (xs ++ ys) = mapExprL f xs ++ mapExprL f ys := by
  rw [mapExprL_eq_map, mapExprL_eq_map, mapExprL_eq_map, List.map_append]

theorem axisOccsL_append (inBr : Bool) (xs ys : List Expr) : axisOccsL inBr (xs ++ ys) = axisOccsL inBr xs ++ axisOccsL inBr ys := by
  induction xs with
  | nil => simp [axisOccsL]
  | cons x xs ih => simp [axisOccsL, ih]

end Einx.Elab
