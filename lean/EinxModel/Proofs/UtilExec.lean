/-! General facts about lists: a filter that keeps one element, sums and their entries. -/
namespace Einx

theorem mem_split_nodup {α : Type} (l : List α) (a : α) (hnd : l.Nodup) (ha : a ∈ l) :
    ∃ pre post, l = pre ++ a :: post ∧ a ∉ pre ∧ a ∉ post := by
  obtain ⟨pre, post, rfl⟩ := List.append_of_mem ha
  rw [List.nodup_append] at hnd
  exact ⟨pre, post, rfl, fun hp => hnd.2.2 a hp a (List.mem_cons_self ..) rfl, (List.nodup_cons.1 hnd.2.1).1⟩

theorem filter_eq_singleton {α : Type} (P : α → Bool) (i : α) (l : List α) (hnd : l.Nodup) (hi : i ∈ l) (hP : P i = true)
    (huniq : ∀ j ∈ l, P j = true → j = i) : l.filter P = [i] := by
  obtain ⟨s, t, rfl, his, hit⟩ := mem_split_nodup l i hnd hi
  have hs : s.filter P = [] := List.filter_eq_nil_iff.2 fun j hj hPj =>
    his (huniq j (List.mem_append_left _ hj) hPj ▸ hj)
  have ht : t.filter P = [] := List.filter_eq_nil_iff.2 fun j hj hPj =>
    hit (huniq j (List.mem_append_right _ (List.mem_cons_of_mem _ hj)) hPj ▸ hj)
  rw [List.filter_append, List.filter_cons_of_pos hP, hs, ht, List.nil_append]

theorem filter_singleton_index {α : Type} (p : α → Bool) (x : α) : ∀ (l : List α), l.filter p = [x] →
    ∃ i : Nat, l[i]? = some x ∧ p x = true ∧ ∀ (j : Nat) (y : α), l[j]? = some y → p y = true → j = i
  | [], h => by simp at h
  | a :: rest, h => by
    rw [List.filter_cons] at h
    split at h
    · rename_i hpa
      obtain ⟨rfl, hrest⟩ := List.cons.inj h
      refine ⟨0, rfl, hpa, fun j y hj hy => ?_⟩
      cases j with
      | zero => rfl
      | succ j =>
        have : y ∈ rest.filter p := List.mem_filter.2 ⟨List.mem_of_getElem? hj, hy⟩
        rw [hrest] at this
        cases this
    · rename_i hpa
      obtain ⟨i, h1, h2, h3⟩ := filter_singleton_index p x rest h
      refine ⟨i + 1, h1, h2, fun j y hj hy => ?_⟩
      cases j with
      | zero => cases hj; exact absurd hy hpa
      | succ j => rw [h3 j y hj hy]

theorem le_sum_of_getElem? : ∀ (l : List Nat) (i a : Nat), l[i]? = some a → a ≤ l.sum
  | [], _, _, h => by simp at h
  | x :: rest, 0, a, h => by cases h; simp
  | x :: rest, i + 1, a, h => by
    have := le_sum_of_getElem? rest i a h
    rw [List.sum_cons]
    omega

theorem add_le_sum_of_ne (l : List Nat) (i j a b : Nat) (hij : i ≠ j) (hi : l[i]? = some a) (hj : l[j]? = some b) :
    a + b ≤ l.sum := by
  induction l generalizing i j with
  | nil => simp at hi
  | cons x rest ih =>
    rw [List.sum_cons]
    match i, j with
    | 0, 0 => exact absurd rfl hij
    | 0, j + 1 => cases hi; have := le_sum_of_getElem? rest j b hj; omega
    | i + 1, 0 => cases hj; have := le_sum_of_getElem? rest i a hi; omega
    | i + 1, j + 1 => have := ih i j (by omega) hi hj; omega

end Einx
