import EinxModel.Basic.PyPrelude
/-! Lemmas about the reading of Python's builtins (`Basic/PyPrelude.lean`) that the `extracted_*_eq`
theorems need: sets as duplicate-free lists, `index`, dicts as association lists, `enumerate` and item assignment at
the end of a list, and integers, slices and `insert` at non-negative values. -/
namespace Einx.Py

theorem mem_setOf {α : Type} [BEq α] [LawfulBEq α] (x : α) : ∀ l : List α, x ∈ setOf l ↔ x ∈ l
  | [] => by simp [setOf]
  | y :: ys => by
    have ih := mem_setOf x ys
    unfold setOf
    split
    · rename_i h
      rw [ih]
      simp only [List.mem_cons]
      constructor
      · exact Or.inr
      · rintro (rfl | h2)
        · simpa using h
        · exact h2
    · simp only [List.mem_cons, ih]

theorem contains_setOf {α : Type} [BEq α] [LawfulBEq α] (l : List α) (x : α) :
    (setOf l).contains x = l.contains x := by
  rw [Bool.eq_iff_iff, List.contains_iff_mem, List.contains_iff_mem]
  exact mem_setOf x l

theorem mem_setDiff {α : Type} [BEq α] [LawfulBEq α] (a b : List α) (x : α) :
    x ∈ setDiff a b ↔ x ∈ a ∧ x ∉ b := by
  simp [setDiff]

theorem contains_setDiff {α : Type} [BEq α] [LawfulBEq α] (a b : List α) (x : α) :
    (setDiff a b).contains x = (a.contains x && !b.contains x) := by
  rw [Bool.eq_iff_iff, Bool.and_eq_true, Bool.not_eq_true', ← Bool.not_eq_true, List.contains_iff_mem,
    List.contains_iff_mem, List.contains_iff_mem]
  exact mem_setDiff a b x

theorem decide_length_pos_congr {α : Type} (l m : List α) (h : ∀ x, x ∈ l ↔ x ∈ m) :
    decide (l.length > 0) = decide (m.length > 0) := by
  have : (0 < l.length) ↔ (0 < m.length) := by
    rw [List.length_pos_iff_exists_mem, List.length_pos_iff_exists_mem]
    exact exists_congr h
  simp only [gt_iff_lt, this]

/-- `set(a) == set(b)` is mutual inclusion of the lists. -/
theorem setEq_setOf {α : Type} [BEq α] [LawfulBEq α] (a b : List α) :
    setEq (setOf a) (setOf b) = (a.all (fun x => b.contains x) && b.all (fun x => a.contains x)) := by
  unfold setEq
  have h1 : ∀ a b : List α, (setOf a).all (fun x => (setOf b).contains x) = a.all (fun x => b.contains x) := by
    intro a b
    rw [Bool.eq_iff_iff]
    simp only [List.all_eq_true, contains_setOf, mem_setOf]
  rw [h1 a b, h1 b a]

theorem index_of_mem {α : Type} [BEq α] [LawfulBEq α] (l : List α) (x : α) (h : x ∈ l) :
    index l x = .ok (l.idxOf x) := by
  unfold index
  simp [h]

/-- `[l.index(x) for x in xs]` succeeds when every `x` occurs in `l`. -/
theorem mapM_index_of_subset {α : Type} [BEq α] [LawfulBEq α] (l : List α) : ∀ (xs : List α), (∀ x ∈ xs, x ∈ l) →
    xs.mapM (fun x => index l x) = .ok (xs.map (fun x => l.idxOf x))
  | [], _ => rfl
  | x :: xs, h => by
    have ih := mapM_index_of_subset l xs (fun y hy => h y (List.mem_cons_of_mem _ hy))
    rw [List.mapM_cons, index_of_mem l x (h x (List.mem_cons_self ..)), ih]
    rfl

theorem lookup_dictSet {κ ν : Type} [BEq κ] [LawfulBEq κ] (k : κ) (v : ν) (k' : κ) : ∀ d : List (κ × ν),
    (dictSet d k v).lookup k' = if k' == k then some v else d.lookup k'
  | [] => by
    rw [dictSet, List.lookup_cons]
    cases k' == k <;> rfl
  | (k0, v0) :: d => by
    rw [dictSet]
    split
    · rename_i hk
      obtain rfl : k = k0 := eq_of_beq hk
      rw [List.lookup_cons, List.lookup_cons]
      cases k' == k <;> rfl
    · -- another key: it shadows `k` exactly when it is `k'`
      rename_i hk
      rw [List.lookup_cons, List.lookup_cons, lookup_dictSet k v k' d]
      cases h : k' == k0
      · rfl
      · obtain rfl : k' = k0 := eq_of_beq h
        have hne : (k' == k) = false := Bool.eq_false_iff.mpr fun h' => hk (eq_of_beq h' ▸ BEq.rfl)
        rw [hne]
        rfl

theorem dictGetD_dictSet {κ ν : Type} [BEq κ] [LawfulBEq κ] (d : List (κ × ν)) (k : κ) (v : ν) (k' : κ) (dflt : ν) :
    dictGetD (dictSet d k v) k' dflt = if k' == k then v else dictGetD d k' dflt := by
  unfold dictGetD
  rw [lookup_dictSet]
  cases h : k' == k <;> simp

theorem dictGetD_nil {κ ν : Type} [BEq κ] (k : κ) (dflt : ν) : dictGetD ([] : List (κ × ν)) k dflt = dflt := rfl

end Einx.Py

namespace Einx.Denote
open Einx.Py

theorem enumFrom_append {α : Type} : ∀ (l : List α) (i : Nat) (s : α),
    enumFrom i (l ++ [s]) = enumFrom i l ++ [(i + l.length, s)]
  | [], i, s => by simp [enumFrom]
  | a :: l, i, s => by
    simp only [List.cons_append, enumFrom, enumFrom_append l (i + 1) s, List.length_cons]
    have : i + 1 + l.length = i + (l.length + 1) := by omega
    rw [this]

theorem enumerate_append {α : Type} (l : List α) (s : α) : enumerate (l ++ [s]) = enumerate l ++ [(l.length, s)] := by
  simp [enumerate, enumFrom_append]

theorem listSet_at_length {α : Type} (pre post : List α) (x v : α) :
    listSet (pre ++ x :: post) (Int.ofNat pre.length) v = .ok (pre ++ v :: post) := by
  unfold listSet
  have h0 : ¬ (Int.ofNat pre.length < 0) := by simp
  have e : (Int.ofNat pre.length).toNat = pre.length := rfl
  simp only [h0, if_false, e]
  have : pre.length < (pre ++ x :: post).length := by simp
  simp only [this, if_true]
  congr 1
  simp

theorem allSome_map_some {α : Type} : ∀ l : List α, allSome (l.map some) = .ok l
  | [] => rfl
  | a :: l => by simp [allSome, allSome_map_some l, Except.map]

end Einx.Denote

namespace Einx.Generic
open Einx.Py

theorem natOfInt_ofNat (n : Nat) : natOfInt (Int.ofNat n) = .ok n := by
  unfold natOfInt
  have : ¬ (Int.ofNat n < 0) := by simp
  rw [if_neg this]
  rfl

theorem mapM_natOfInt_ofNat : ∀ l : List Nat, (l.map Int.ofNat).mapM natOfInt = .ok l
  | [] => rfl
  | a :: l => by
    rw [List.map_cons, List.mapM_cons, natOfInt_ofNat, mapM_natOfInt_ofNat l]
    rfl

theorem insertSorted_ofNat (x : Nat) : ∀ m : List Nat,
    insertSorted (Int.ofNat x) (m.map Int.ofNat) = (insertSortedNat x m).map Int.ofNat
  | [] => rfl
  | y :: ys => by
    have ih := insertSorted_ofNat x ys
    by_cases h : x < y
    · have hh : Int.ofNat x < Int.ofNat y := Int.ofNat_lt.mpr h
      simp only [List.map_cons, insertSorted, insertSortedNat, if_pos h, if_pos hh]
    · have hh : ¬ (Int.ofNat x < Int.ofNat y) := fun h2 => h (Int.ofNat_lt.mp h2)
      simp only [List.map_cons, insertSorted, insertSortedNat, if_neg h, if_neg hh, ih]

theorem sortedInt_fold (l : List Nat) : ∀ acc : List Nat,
    (l.map Int.ofNat).foldl (fun acc x => insertSorted x acc) (acc.map Int.ofNat)
      = (l.foldl (fun acc x => insertSortedNat x acc) acc).map Int.ofNat := by
  induction l with
  | nil => intro acc; rfl
  | cons a l ih =>
    intro acc
    simp only [List.map_cons, List.foldl_cons]
    rw [insertSorted_ofNat, ih]

theorem sortedInt_map_ofNat (l : List Nat) : sortedInt (l.map Int.ofNat) = (sortedNat l).map Int.ofNat := by
  have := sortedInt_fold l []
  simpa [sortedInt, sortedNat] using this

theorem clampBound_neg2 (len : Nat) : clampBound len (-2 : Int) = len - 2 := by
  unfold clampBound
  have h1 : ((-2 : Int) < 0) := by decide
  have h2 : (-(-2 : Int)).toNat = 2 := by decide
  simp only [h1, if_true, h2]
  by_cases h : 2 ≤ len
  · simp [h]
  · simp [h]; omega

theorem slice_suffix2 {α : Type} (l : List α) : slice l (some (-2 : Int)) none = l.drop (l.length - 2) := by
  simp [slice, clampBound_neg2]

theorem slice_prefix2 {α : Type} (l : List α) : slice l none (some (-2 : Int)) = l.take (l.length - 2) := by
  simp [slice, clampBound_neg2]

theorem clampBound_ofNat (len k : Nat) : clampBound len (Int.ofNat k) = min k len := by
  unfold clampBound
  have : ¬ (Int.ofNat k < 0) := by simp
  have e : (Int.ofNat k).toNat = k := rfl
  simp only [this, if_false, e]
  by_cases h : k ≤ len
  · simp [h, Nat.min_eq_left h]
  · simp [h]; omega

theorem listInsert_ofNat (l : List Nat) (k a : Nat) :
    listInsert (l.map Int.ofNat) (Int.ofNat k) (Int.ofNat a) = (l.take k ++ a :: l.drop k).map Int.ofNat := by
  unfold listInsert
  simp only [List.length_map, clampBound_ofNat]
  by_cases h : k ≤ l.length
  · rw [Nat.min_eq_left h]
    simp [List.map_take, List.map_drop]
  · have h' : l.length ≤ k := by omega
    rw [Nat.min_eq_right h']
    have e1 : List.take l.length (l.map Int.ofNat) = l.map Int.ofNat := List.take_of_length_le (by simp)
    have e2 : List.drop l.length (l.map Int.ofNat) = [] := List.drop_of_length_le (by simp)
    rw [e1, e2, List.take_of_length_le h', List.drop_of_length_le h']
    simp

end Einx.Generic
