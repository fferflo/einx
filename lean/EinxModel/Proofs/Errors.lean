import EinxModel.Errors.Indicator
import EinxModel.Proofs.NotationCarets
/-!
# Helper lemmas for C03: caret positions computed by the `ExpressionIndicator` model lie inside the string
-/
namespace Einx.Errors
open Einx.Notation

/-! ### The position invariant of every tree the indicator is applied to

`ExprOK` (C12) is the invariant of *parser output*: every `Brackets` node has both carets inside the string.  `_parse_op`
also builds `Brackets` nodes at the default position `-1` (`mark_reduced_axes`, the implicit `[output.axis]`), so the
invariant the indicator needs is weaker for brackets: carets inside the string *if* the node has a source position. -/

mutual
def PosOK (n : Nat) : Expr → Prop
  | .axis _ _ b e => RangeOK n b e
  | .flat i b e => RangeOK n b e ∧ PosOK n i
  | .brackets i b e => (RangeOK n b e ∧ (0 ≤ b → BrOK n b e)) ∧ PosOK n i
  | .ellipsis i _ b e => RangeOK n b e ∧ PosOK n i
  | .concat cs b e => RangeOK n b e ∧ PosOKL n cs
  | .list cs b e => RangeOK n b e ∧ PosOKL n cs
  | .args cs b e => RangeOK n b e ∧ PosOKL n cs
  | .op cs b e => RangeOK n b e ∧ PosOKL n cs
def PosOKL (n : Nat) : List Expr → Prop
  | [] => True
  | c :: cs => PosOK n c ∧ PosOKL n cs
end

theorem posOKL_iff {n : Nat} {cs : List Expr} : PosOKL n cs ↔ ∀ c ∈ cs, PosOK n c := by
  induction cs with
  | nil => simp [PosOKL]
  | cons c cs ih => simp [PosOKL, ih]

/-- What `PosOK` asks of one node. -/
def PosNode (n : Nat) : Expr → Prop
  | .brackets _ b e => RangeOK n b e ∧ (0 ≤ b → BrOK n b e)
  | x => RangeOK n x.b x.e

theorem posOK_nodeWise (n : Nat) : NodeWise (PosNode n) (PosOK n) :=
  have l : ∀ {A : Prop} cs, (A ∧ PosOKL n cs) ↔ A ∧ ∀ c ∈ cs, PosOK n c := fun _ => and_congr_right fun _ => posOKL_iff
  .of_cases (fun _ _ _ _ => Iff.rfl) (fun _ _ _ => Iff.rfl) (fun _ _ _ => Iff.rfl) (fun _ _ _ _ => Iff.rfl)
    (fun cs _ _ => l cs) (fun cs _ _ => l cs) (fun cs _ _ => l cs) (fun cs _ _ => l cs) (rangeOK_neg1 n)

theorem posNode_headOnly (n : Nat) : HeadOnly (PosNode n) :=
  ⟨fun _ h => h, fun _ h => h, fun _ h => h, fun _ h => h, fun _ h => h, fun _ h => h, fun _ h => h⟩

theorem posOK_of_exprOK {n : Nat} (x : Expr) (h : ExprOK n x) : PosOK n x :=
  (exprOK_nodeWise n).imp (posOK_nodeWise n) (x := x) (fun y hy => by
    cases y <;> first | exact hy | exact ⟨BrOK.range hy, fun _ => hy⟩) h

theorem posOKL_of_exprOKL {n : Nat} : ∀ (cs : List Expr), ExprOKL n cs → PosOKL n cs :=
  fun _ h => posOKL_iff.mpr fun c hc => posOK_of_exprOK c (exprOKL_iff.mp h c hc)

theorem PosOK.range {n : Nat} {x : Expr} (h : PosOK n x) : RangeOK n x.b x.e := by
  have := (posOK_nodeWise n).node h
  cases x <;> first | exact this | exact this.1

theorem nodesL_ok {n : Nat} : ∀ (cs : List Expr), PosOKL n cs → ∀ y ∈ nodesL cs, PosOK n y :=
  fun _ h => (posOK_nodeWise n).nodesL (posOKL_iff.mp h)

theorem mapExprL_ok {n : Nat} (f : Expr → Option Expr) (hf : ∀ y z, PosOK n y → f y = some z → PosOK n z) :
    ∀ (cs : List Expr), PosOKL n cs → ∀ c ∈ mapExprL f cs, PosOK n c :=
  fun _ h => (posOK_nodeWise n).mapExprL (posNode_headOnly n) f hf (posOKL_iff.mp h)

def RootsOK (n : Nat) (roots : List (Option Expr)) : Prop := ∀ x, some x ∈ roots → PosOK n x

theorem forall_mem_rootNodes {P : Expr → Prop} {roots : List (Option Expr)} (h : ∀ x, some x ∈ roots → ∀ y ∈ nodes x, P y) :
    ∀ y ∈ rootNodes roots, P y := by
  intro y hy
  simp only [rootNodes, List.mem_flatMap] at hy
  obtain ⟨r, hr, hy⟩ := hy
  cases r with
  | none => simp at hy
  | some x => exact h x hr y hy

theorem rootNodes_ok {n : Nat} {roots : List (Option Expr)} (h : RootsOK n roots) : ∀ y ∈ rootNodes roots, PosOK n y :=
  forall_mem_rootNodes fun x hx => (posOK_nodeWise n).nodes x (h x hx)

/-! ### The carets of one node -/

theorem axisnamePos_inR {n : Nat} (names : List Str) {y : Expr} (h : PosOK n y) : ∀ p ∈ axisnamePos names y, InR n p := by
  cases y <;> simp only [axisnamePos, List.not_mem_nil, false_imp_iff, implies_true]
  split
  · exact posRange_inR h.range
  · simp

theorem concatPos_inR {n : Nat} {y : Expr} (h : PosOK n y) : ∀ p ∈ concatPos y, InR n p := by
  cases y <;> simp only [concatPos, List.not_mem_nil, false_imp_iff, implies_true]
  split
  · exact posRange_inR h.range
  · simp

theorem bracketsPos_inR {n : Nat} {y : Expr} (h : PosOK n y) : ∀ p ∈ bracketsPos y, InR n p := by
  cases y <;> simp only [bracketsPos, List.not_mem_nil, false_imp_iff, implies_true]
  split
  · rename_i hb0
    have hb := ((posOK_nodeWise n).node h).2 hb0
    unfold BrOK at hb
    intro p hp
    simp only [List.mem_cons, List.not_mem_nil, or_false] at hp
    unfold InR
    rcases hp with hp | hp <;> subst hp <;> omega
  · simp

theorem ellipsisPos_inR {n : Nat} {y : Expr} (h : ellNodeOK n y = true) : ∀ p ∈ ellipsisPos y, InR n p := by
  cases y <;> simp only [ellipsisPos, List.not_mem_nil, false_imp_iff, implies_true]
  rename_i i id b e
  split
  · rename_i hb
    simp only [ellNodeOK, Bool.or_eq_true, Bool.and_eq_true, decide_eq_true_eq] at h
    intro p hp
    have := mem_posRange.mp hp
    unfold InR
    rcases h with h | h <;> omega
  · simp

theorem posAssert_iff {n : Nat} {pos : List Int} : posAssert n pos = true ↔ ∀ p ∈ pos, InR n p := by
  simp [posAssert, InR, List.all_eq_true]

end Einx.Errors
