import EinxModel.Proofs.NotationGrammars
import EinxModel.Proofs.NotationDerives
/-!
# M1 Notation — normal form, layer 0: the result of `parse` satisfies `G true true true`

`parse_G`: every tree returned by `parse` is in the grammar `G` (with `Op`/`Args` nodes allowed wherever a `List` is).  The
induction (`derives_G`, over `Derives`) carries along that the result is an item or the empty list when the stripped token list
contains no operator at its top level.
-/
namespace Einx.Notation

namespace NF

theorem isItem_of_axisOrFlat {x : Expr} (h : isAxisOrFlat x = true) : isItem x = true := by
  cases x <;> first | rfl | (simp [isAxisOrFlat, Expr.isAxis, Expr.isFlat] at h)

theorem G_of_isEmptyList {ao aa : Bool} {x : Expr} (h : isEmptyList x = true) : G ao aa true x = true := by
  cases x with
  | list cs b e =>
    cases cs with
    | nil => simp [G, GL]
    | cons _ _ => simp [isEmptyList] at h
  | _ => simp [isEmptyList] at h

theorem G_emptyList (ao aa : Bool) : G ao aa true emptyList = true :=
  G_of_isEmptyList rfl

theorem G_mkFlat {ao aa : Bool} {a : Expr} (b e : Int) (h : G ao aa true a = true) :
    G ao aa true (mkFlat a b e) = true :=
  mkFlat_elim (motive := fun r => G ao aa true r = true) (fun _ => h) fun hf => by simp only [G, hf, h]; rfl

theorem isAxisOrFlat_mkFlat (a : Expr) (b e : Int) : isAxisOrFlat (mkFlat a b e) = true := by
  simp [isAxisOrFlat, mkFlat_isFlat]

theorem isItem_of_isBrackets {a : Expr} (h : a.isBrackets = true) : isItem a = true := by
  cases a <;> first | rfl | cases h

theorem G_mkBrackets {ao aa : Bool} {a : Expr} (b e : Int) (h : G ao aa true a = true) :
    G ao aa true (mkBrackets a b e) = true ∧ (isItem (mkBrackets a b e) || isEmptyList (mkBrackets a b e)) = true ∧
      (mkBrackets a b e).ndim = a.ndim :=
  mkBrackets_elim (motive := fun r => G ao aa true r = true ∧ (isItem r || isEmptyList r) = true ∧ r.ndim = a.ndim)
    (fun hb => ⟨h, by rw [isItem_of_isBrackets hb]; rfl, rfl⟩)
    (fun hn => ⟨G_emptyList ao aa, rfl, hn.symm⟩)
    fun hb hn => ⟨by simp only [G, hb, hn, h]; rfl, rfl, rfl⟩

theorem G_mkEllipsis {ao aa : Bool} {a : Expr} (b e : Int) (d : Nat) (h : G ao aa true a = true)
    (hi : (isItem a || isEmptyList a) = true) :
    G ao aa true (mkEllipsis a b e d) = true ∧ (isItem (mkEllipsis a b e d) || isEmptyList (mkEllipsis a b e d)) = true := by
  refine mkEllipsis_elim (motive := fun r => G ao aa true r = true ∧ (isItem r || isEmptyList r) = true)
    (fun _ => ⟨G_emptyList ao aa, rfl⟩) fun hn => ⟨?_, rfl⟩
  have hne : isEmptyList a = false := by
    cases he : isEmptyList a with
    | false => rfl
    | true => rw [isEmptyList_ndim he] at hn; cases hn
  have hit : isItem a = true := by simpa [hne] using hi
  simp [G, hn, G_item h hit]

theorem G_mkConcat {ao aa : Bool} {cs : List Expr} (b e : Int) (h2 : 2 ≤ cs.length)
    (hax : ∀ c ∈ cs, isAxisOrFlat c = true) (hg : ∀ c ∈ cs, G ao aa true c = true) :
    G ao aa true (mkConcat cs b e) = true := by
  rw [mkConcat_two b e h2]
  simp only [G, Bool.and_eq_true, decide_eq_true_eq, List.all_eq_true]
  refine ⟨⟨h2, hax⟩, GL_iff.mpr ?_⟩
  intro c hc
  exact G_item (hg c hc) (isItem_of_axisOrFlat (hax c hc))

theorem mem_flattenAll_items {xs : List Expr} (h : ∀ x ∈ xs, (isItem x || isEmptyList x) = true) :
    ∀ y ∈ flattenAll xs, y ∈ xs ∧ isItem y = true := by
  rw [flattenAll_filter h]
  intro y hy
  obtain ⟨hy, hne⟩ := List.mem_filter.mp hy
  exact ⟨hy, by simpa [show isEmptyList y = false by simpa using hne] using h y hy⟩

theorem G_mkList {ao aa : Bool} {xs : List Expr} (b e : Int) (hg : ∀ x ∈ xs, G ao aa true x = true)
    (hi : ∀ x ∈ xs, (isItem x || isEmptyList x) = true) : G ao aa true (mkList xs b e) = true := by
  have hm := mem_flattenAll_items hi
  refine mkList_elim (motive := fun r => G ao aa true r = true)
    (fun c hc => hg c (hm c (hc ▸ List.mem_singleton_self c)).1) fun hne => ?_
  simp only [G, Bool.true_and, Bool.and_eq_true, bne_iff_ne, ne_eq]
  exact ⟨hne, GL_iff.mpr fun c hc => G_item (hg c (hm c hc).1) (hm c hc).2⟩

theorem naryOps_eq : naryOps = [lit "->", lit ",", lit "+", lit " "] := Notation.naryOps_eq

theorem operands_length_pos (op : Str) (ts : List Tok) : 1 ≤ (operands op ts).length := by
  rw [operands_length]
  omega

theorem operands_length_two {op : Str} {ts : List Tok} (h : ts.any (Tok.isText op) = true) :
    2 ≤ (operands op ts).length := by
  have := List.countP_pos_iff.mpr (List.any_eq_true.mp h)
  rw [operands_length]
  omega

theorem any_false_of_sub {p : Tok → Bool} {ts ts' : List Tok} (hsub : ∀ t ∈ ts', t ∈ ts) (h : ts.any p = false) :
    ts'.any p = false := by
  rw [List.any_eq_false] at h ⊢
  intro t ht
  exact h t (hsub t ht)

theorem findOp_naryOps_none {ts : List Tok} (h3 : ts.any Tok.isOp3 = false) (hs : ts.any Tok.isSpace = false) :
    findOp naryOps ts = none := by
  rw [any_isOp3, Bool.or_eq_false_iff, Bool.or_eq_false_iff] at h3
  have hs' : ts.any (Tok.isText spaceLit) = false := hs
  rw [Notation.naryOps_eq]
  simp only [findOp, h3.1.1, h3.1.2, h3.2, hs', Bool.false_eq_true, if_false]

theorem space_operand_noOps {ts : List Tok} {o : TL} (hf : findOp naryOps ts = some (lit " "))
    (ho : o ∈ operands (lit " ") ts) : findOp naryOps (strip o.ts) = none := by
  have hm : ∀ t ∈ strip o.ts, t ∈ ts ∧ t.isText (lit " ") = false := fun _ ht => operands_mem ho (mem_strip ht)
  refine findOp_naryOps_none (any_false_of_sub (fun t ht => (hm t ht).1) (findOp_space hf)) ?_
  rw [List.any_eq_false]
  intro t ht h
  exact Bool.false_ne_true ((hm t ht).2.symm.trans h)

theorem G_args {ao : Bool} {cs : List Expr} (b e : Int) (hne : cs ≠ []) (h : ∀ c ∈ cs, G ao true true c = true) :
    G ao true true (.args cs b e) = true := by
  simp only [G, Bool.true_and, Bool.and_eq_true, Bool.not_eq_true', List.isEmpty_eq_false_iff]
  exact ⟨hne, GL_iff.mpr h⟩

theorem G_op {aa : Bool} {cs : List Expr} (b e : Int) (hne : cs ≠ []) (h : ∀ c ∈ cs, G true aa true c = true) :
    G true aa true (.op cs b e) = true := by
  simp only [G, Bool.true_and, Bool.and_eq_true, Bool.not_eq_true', List.isEmpty_eq_false_iff]
  exact ⟨hne, GL_iff.mpr h⟩

theorem combine_G {op : Str} {xs : List Expr} {b e : Nat} {ipc : Bool} {ts : List Tok}
    (hg : ∀ x ∈ xs, G true true true x = true)
    (hsp : op = lit " " → ∀ x ∈ xs, (isItem x || isEmptyList x) = true)
    (hne : op ≠ lit " " → xs ≠ []) (h2 : op = lit "+" → 2 ≤ xs.length) :
    OkP (fun y => G true true true y = true) (combine op xs b e ipc ts) :=
  combine_elim op xs b e ipc ts (fun h => G_mkList _ _ hg (hsp h))
    (fun h => G_op _ _ (hne (by subst h; decide +kernel)) hg) (fun h => G_args _ _ (hne (by subst h; decide +kernel)) hg)
    (fun _ _ => trivial) (fun _ _ _ => trivial) (fun h hax _ => G_mkConcat _ _ (h2 h) hax hg) fun _ => trivial

theorem parseAxis_G (t : Token) : OkP (fun y => G true true true y = true ∧ isItem y = true) (parseAxis t) :=
  parseAxis_elim t (fun _ _ => by simp [ExceptP, G, axisOK, isItem]) (fun _ _ => trivial)
    (fun _ hn => by simpa only [ExceptP, G, axisOK, isItem, and_true] using hn) fun _ _ => trivial

theorem G_anon_ellipsis (t : Token) :
    G true true true (mkEllipsis (.axis anonName none t.b t.b) t.b t.e t.b) = true ∧
      isItem (mkEllipsis (.axis anonName none t.b t.b) t.b t.e t.b) = true := by
  rw [mkEllipsis_nf (i := .axis anonName none t.b t.b) t.b t.e t.b rfl]
  simp [G, isAnonAxisNone, isItem]

/-- The side conditions of `combine` on the trees `xs` of the operands of an operator found by `findOp`,
given that the tree of an operand without operator is an item or the empty list. -/
theorem operands_side {ts1 : List Tok} {op : Str} {xs : TL → Expr} (hop : findOp naryOps ts1 = some op)
    (hx : ∀ o ∈ keepOperands op (operands op ts1), findOp naryOps (strip o.ts) = none → (isItem (xs o) || isEmptyList (xs o)) = true) :
    (op = lit " " → ∀ x ∈ (keepOperands op (operands op ts1)).map xs, (isItem x || isEmptyList x) = true) ∧
      (op = lit "+" → 2 ≤ ((keepOperands op (operands op ts1)).map xs).length) := by
  constructor
  · rintro rfl
    exact List.forall_mem_map.mpr fun o ho => hx o ho (space_operand_noOps hop (mem_keepOperands ho))
  · rintro rfl
    rw [List.length_map, keepOperands_ne (by decide)]
    exact operands_length_two (findOp_any hop)

theorem derives_G {ts : List Tok} {b e : Nat} {ipc : Bool} {r : Expr} (h : Derives ts b e ipc r) :
    G true true true r = true ∧ (findOp naryOps (strip ts) = none → (isItem r || isEmptyList r) = true) := by
  induction h with
  | nil => exact ⟨by simp [mkList, flattenAll, G, GL], fun _ => by simp [mkList, flattenAll, isEmptyList]⟩
  | @parenConcat _ _ _ _ _ _ _ x _ _ _ hc ih =>
    refine ⟨ih.1, fun _ => ?_⟩
    cases x <;> simp [Expr.isConcat] at hc
    simp [isItem]
  | parenFlat _ _ _ _ ih =>
    exact ⟨G_mkFlat _ _ ih.1, fun _ => by rw [isItem_of_axisOrFlat (isAxisOrFlat_mkFlat ..)]; rfl⟩
  | @bracket _ _ _ _ o c _ _ _ _ _ ih =>
    have := G_mkBrackets (ao := true) (aa := true) (Int.ofNat o.b) (Int.ofNat c.e) ih.1
    exact ⟨this.1, fun _ => this.2.1⟩
  | @nary ts b e ipc t0 rest op r xs hs hop _ hc ih =>
    have hside := operands_side hop fun o ho => (ih o ho).2
    have hcomb : OkP (fun y => G true true true y = true)
        (combine op ((keepOperands op (operands op (t0 :: rest))).map xs) t0.b (lastEnd (t0 :: rest) 0) ipc (t0 :: rest)) := by
      refine combine_G (List.forall_mem_map.mpr fun o ho => (ih o ho).1) hside.1 (fun hsp h0 => ?_) hside.2
      rw [keepOperands_ne hsp] at h0
      have := operands_length_pos op (t0 :: rest)
      rw [List.map_eq_nil_iff.mp h0] at this
      exact absurd this (by decide)
    refine ⟨hcomb.ok hc, fun hnone => ?_⟩
    rw [hs, hop] at hnone
    cases hnone
  | @axis _ _ _ _ t _ _ _ _ hr => exact ⟨((parseAxis_G t).ok hr).1, fun _ => by simp [((parseAxis_G t).ok hr).2]⟩
  | @dots _ _ _ _ t _ _ => exact ⟨(G_anon_ellipsis t).1, fun _ => by simp [(G_anon_ellipsis t).2]⟩
  | @ell _ _ _ _ x t _ hs hop _ _ ih =>
    have hx : findOp naryOps (strip [x]) = none := by
      obtain ⟨h3, hsp⟩ := findOp_none hop
      have hsub : ∀ t' ∈ strip [x], t' ∈ [x, Tok.atom t] := fun t' ht' => by
        rw [List.mem_singleton.mp (mem_strip ht')]
        exact List.mem_cons_self
      exact findOp_naryOps_none (any_false_of_sub hsub h3) (any_false_of_sub hsub hsp)
    have := G_mkEllipsis (ao := true) (aa := true) (Int.ofNat x.b) (Int.ofNat t.e) t.b ih.1 (ih.2 hx)
    exact ⟨this.1, fun _ => this.2⟩

theorem parse_G (ts : List Tok) (b e : Nat) (ipc : Bool) : OkP (fun x => G true true true x = true) (parse ts b e ipc) := by
  cases h : parse ts b e ipc with
  | error _ => trivial
  | ok x => exact (derives_G (parse_derives ts b e ipc x h)).1

end NF

end Einx.Notation
