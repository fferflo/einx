import EinxModel.Registry.Spec
/-!
The registry's state: Python dicts as association lists, states that differ only in bookkeeping (`Same`, `SameM`),
the candidates and the priority filter (`maxPriority_spec`; `keepMax` commutes with re-enumeration),
and the *effective* state `s.flush cfg mods` – what `_check_new_imports` makes of `s` – described field by field.
-/
namespace Einx.Registry

/-- Outcomes of lookups on closed states are compared by evaluation. -/
instance decEqOutcome : DecidableEq (Except Err Backend)
  | .ok a, .ok b => if h : a = b then isTrue (h ▸ rfl) else isFalse fun e => h (Except.ok.inj e)
  | .error a, .error b => if h : a = b then isTrue (h ▸ rfl) else isFalse fun e => h (Except.error.inj e)
  | .ok _, .error _ => isFalse fun e => nomatch e
  | .error _, .ok _ => isFalse fun e => nomatch e

theorem dictGet_nil {β} (k : String) : dictGet ([] : List (String × β)) k = none := rfl

theorem dictGet_cons {β} (kv : String × β) (d : List (String × β)) (k : String) :
    dictGet (kv :: d) k = if kv.1 = k then some kv.2 else dictGet d k := by
  by_cases h : kv.1 = k <;> simp [dictGet, h]

theorem dictGet_append {β} (d e : List (String × β)) (k : String) :
    dictGet (d ++ e) k = (dictGet d k).or (dictGet e k) := by
  simp only [dictGet, List.find?_append, Option.map_or]

theorem dictGet_isSome {β} (d : List (String × β)) (k : String) : (dictGet d k).isSome = d.any (·.1 == k) := by
  rw [dictGet, Option.isSome_map, List.isSome_find?]

theorem mem_of_dictGet {β} {d : List (String × β)} {k : String} {v : β} (h : dictGet d k = some v) : (k, v) ∈ d := by
  obtain ⟨kv, hf, rfl⟩ := Option.map_eq_some_iff.1 h
  have hk : kv.1 = k := by simpa using List.find?_some hf
  exact hk ▸ List.mem_of_find?_eq_some hf

theorem dictGet_map_set {β} (k k' : String) (v : β) (d : List (String × β)) :
    dictGet (d.map (fun kv => if kv.1 == k then (k, v) else kv)) k' =
      if k' = k then (dictGet d k').map (fun _ => v) else dictGet d k' := by
  induction d with
  | nil => simp [dictGet_nil]
  | cons kv d ih =>
    rw [List.map_cons, dictGet_cons, dictGet_cons, ih]
    by_cases h1 : kv.1 = k
    · by_cases h2 : k' = k
      · subst h2; simp [h1]
      · have : ¬ k = k' := fun e => h2 e.symm
        simp [h1, h2, this]
    · by_cases h3 : kv.1 = k'
      · have h2 : ¬ k' = k := fun e => h1 (h3.trans e)
        simp [h3, h2]
      · simp [h1, h3]

theorem dictGet_dictSet {β} (d : List (String × β)) (k k' : String) (v : β) :
    dictGet (dictSet d k v) k' = if k' = k then some v else dictGet d k' := by
  unfold dictSet
  rw [← dictGet_isSome]
  cases h : dictGet d k with
  | some w =>
    rw [Option.isSome_some, if_pos rfl, dictGet_map_set]
    split
    · next e => rw [e, h]; rfl
    · rfl
  | none =>
    rw [Option.isSome_none, if_neg Bool.false_ne_true, dictGet_append, dictGet_cons, dictGet_nil]
    by_cases e : k' = k
    · rw [e, h, if_pos rfl]; rfl
    · rw [if_neg e, if_neg fun e' : k = k' => e e'.symm]; cases dictGet d k' <;> rfl

theorem mem_dictSet {β} {d : List (String × β)} {k : String} {v : β} {kv : String × β}
    (h : kv ∈ dictSet d k v) : kv = (k, v) ∨ kv ∈ d := by
  unfold dictSet at h
  split at h
  · obtain ⟨x, hx, rfl⟩ := List.mem_map.1 h
    split
    · exact Or.inl rfl
    · exact Or.inr hx
  · rcases List.mem_append.1 h with h | h
    · exact Or.inr h
    · exact Or.inl (List.mem_singleton.1 h)

/-- `del d[m]` followed by `d.get(k)`. -/
theorem dictGet_filter_ne {β} (m k : String) (d : List (String × β)) :
    dictGet (d.filter (·.1 != m)) k = if k = m then none else dictGet d k := by
  unfold dictGet
  rw [List.find?_filter]
  split
  · next e => subst e; simp
  · next e =>
    congr 2; funext kv
    by_cases h : kv.1 = k
    · simp [h, e]
    · simp [h]

theorem filter_ne_of_dictGet_none {β} (m : String) (d : List (String × β)) (h : dictGet d m = none) :
    d.filter (·.1 != m) = d := by
  rw [List.filter_eq_self]
  intro kv hkv
  have : d.any (·.1 == m) = false := by rw [← dictGet_isSome, h]; rfl
  simpa using List.any_eq_false.1 this kv hkv

/-- Equal up to the memo. -/
structure SameM (s t : State) : Prop where
  seen : s.seen = t.seen
  uninit : s.uninit = t.uninit
  backends : s.backends = t.backends
  names : s.names = t.names
  stack : s.stack = t.stack

theorem SameM.refl (s : State) : SameM s s := ⟨rfl, rfl, rfl, rfl, rfl⟩

theorem SameM.same {s t : State} (h : SameM s t) : Same s t := ⟨h.uninit, h.backends, h.names, h.stack⟩

theorem Same.refl (s : State) : Same s s := ⟨rfl, rfl, rfl, rfl⟩
theorem Same.symm {a b : State} (h : Same a b) : Same b a :=
  ⟨h.uninit.symm, h.backends.symm, h.names.symm, h.stack.symm⟩
theorem Same.trans {a b c : State} (h1 : Same a b) (h2 : Same b c) : Same a c :=
  ⟨h1.uninit.trans h2.uninit, h1.backends.trans h2.backends, h1.names.trans h2.names, h1.stack.trans h2.stack⟩

theorem select_congr {s t : State} (h : Same s t) (tys : List Nat) : select s tys = select t tys := by
  unfold select candidates; rw [h.backends, h.names]

theorem specGet_congr {s t : State} (h : Same s t) (arg : BackendArg) (tys : List Nat) :
    specGet s arg tys = specGet t arg tys := by
  unfold specGet; rw [h.names, h.stack, select_congr h]

theorem quiet_congr {s t : State} {mods} (h : Same s t) (q : Quiet s mods) : Quiet t mods := by
  intro m hm; rw [← h.uninit]; exact q m hm

theorem mem_supporting {bs : List Backend} {ty : Nat} {x : Backend} :
    x ∈ supporting bs ty ↔ x ∈ bs ∧ x.invalid = false ∧ ty ∈ x.accepts := by
  simp [supporting, List.mem_filter]

theorem supporting_append (a b : List Backend) (ty : Nat) :
    supporting (a ++ b) ty = supporting a ty ++ supporting b ty := List.filter_append ..

theorem supporting_eq_nil {bs : List Backend} {ty : Nat} (h : ∀ x ∈ bs, accepts x ty = false) :
    supporting bs ty = [] :=
  List.filter_eq_nil_iff.2 fun x hx => Bool.eq_false_iff.1 (h x hx)

theorem exists_accepts_of_supporting {bs : List Backend} {ty : Nat} (h : supporting bs ty ≠ []) :
    ∃ x ∈ bs, accepts x ty = true := by
  obtain ⟨x, hx⟩ := List.exists_mem_of_ne_nil _ h
  exact ⟨x, (List.mem_filter.1 hx).1, (List.mem_filter.1 hx).2⟩

theorem foldl_max_spec (bs : List Backend) (m : Int) :
    m ≤ bs.foldl (fun m x => max m x.priority) m ∧
    (∀ b ∈ bs, b.priority ≤ bs.foldl (fun m x => max m x.priority) m) ∧
    (bs.foldl (fun m x => max m x.priority) m = m ∨ ∃ b ∈ bs, b.priority = bs.foldl (fun m x => max m x.priority) m) := by
  induction bs generalizing m with
  | nil => simp
  | cons b bs ih =>
    obtain ⟨h1, h2, h3⟩ := ih (max m b.priority)
    simp only [List.foldl_cons, List.mem_cons, forall_eq_or_imp, exists_eq_or_imp]
    refine ⟨by omega, ⟨by omega, h2⟩, ?_⟩
    rcases h3 with h3 | ⟨c, hc, h3⟩
    · by_cases hm : m ≤ b.priority
      · right; left; rw [h3]; omega
      · left; rw [h3]; omega
    · right; right; exact ⟨c, hc, h3⟩

/-- `max(backend.priority for backend in backends)` is an upper bound that is attained. -/
theorem maxPriority_spec (l : List Backend) (h : l ≠ []) :
    (∀ b ∈ l, b.priority ≤ maxPriority l) ∧ ∃ b ∈ l, b.priority = maxPriority l := by
  cases l with
  | nil => exact absurd rfl h
  | cons b bs =>
    obtain ⟨h1, h2, h3⟩ := foldl_max_spec bs b.priority
    simp only [maxPriority, List.mem_cons, forall_eq_or_imp, exists_eq_or_imp]
    refine ⟨⟨h1, h2⟩, ?_⟩
    rcases h3 with h3 | ⟨c, hc, h3⟩
    · left; exact h3.symm
    · right; exact ⟨c, hc, h3⟩

theorem maxPriority_perm {l₁ l₂ : List Backend} (h : l₁.Perm l₂) : maxPriority l₁ = maxPriority l₂ := by
  by_cases h1 : l₁ = []
  · subst h1; rw [h.nil_eq]
  · have h2 : l₂ ≠ [] := fun e => h1 (by subst e; exact h.eq_nil)
    obtain ⟨u1, b1, hb1, e1⟩ := maxPriority_spec l₁ h1
    obtain ⟨u2, b2, hb2, e2⟩ := maxPriority_spec l₂ h2
    have := u2 b1 (h.mem_iff.1 hb1)
    have := u1 b2 (h.mem_iff.2 hb2)
    omega

theorem keepMax_perm_of_perm {l₁ l₂ : List Backend} (h : l₁.Perm l₂) : (keepMax l₁).Perm (keepMax l₂) := by
  simp only [keepMax, h.length_eq, maxPriority_perm h]
  split
  · exact h.filter _
  · exact h

theorem select_scalars {s : State} {tys : List Nat} (hs : tys.all isScalarTy = true) :
    select s tys = (dictGet s.names "numpy").toList := by
  unfold select candidates; rw [if_pos hs]
  cases dictGet s.names "numpy" <;> rfl

theorem select_tensors {s : State} {tys : List Nat} (hs : ¬ tys.all isScalarTy = true) :
    select s tys = keepMax (tys.foldl (fun acc ty => unionByUid acc (supporting s.backends ty)) []) := by
  unfold select candidates; rw [if_neg hs]

/-- The answer of a lookup by argument types, from the selected candidates. -/
def answer : List Backend → Except Err Backend
  | [b] => .ok b
  | [] => .error .nomatch
  | bs => .error (.multiple (bs.map (·.uid)))

/-- `specGet` without explicit backend and outside `with` blocks, unless the arguments are all scalars and no
"numpy" backend is registered. -/
theorem specGet_none {t : State} {tys : List Nat} (hs : t.stack.getLast? = none)
    (hc : (tys.all isScalarTy && (dictGet t.names "numpy").isNone) = false) :
    specGet t .none tys = answer (select t tys) := by
  simp only [specGet, hs, bne_self_eq_false, Bool.false_eq_true, ↓reduceIte, hc]
  match select t tys with
  | [] => rfl
  | [_] => rfl
  | _ :: _ :: _ => rfl

theorem candFold_congr {bs bs' : List Backend} : ∀ (tys : List Nat) (acc : List Backend),
    (∀ ty ∈ tys, supporting bs ty = supporting bs' ty) →
    tys.foldl (fun acc ty => unionByUid acc (supporting bs ty)) acc =
      tys.foldl (fun acc ty => unionByUid acc (supporting bs' ty)) acc
  | [], _, _ => rfl
  | ty :: tys, acc, h => by
    rw [List.foldl_cons, List.foldl_cons, h ty (List.mem_cons_self ..)]
    exact candFold_congr tys _ (fun t ht => h t (List.mem_cons_of_mem _ ht))

theorem find_memo {s : State} {tys : List Nat} {e : List Nat × Backend}
    (h : s.memo.find? (·.1 == tys) = some e) : e ∈ s.memo ∧ e.1 = tys :=
  ⟨List.mem_of_find?_eq_some h, by simpa using List.find?_some h⟩

/-! ### registrations: the name map, running factories, one round of the import check -/

def namesAfter (names : List (String × Backend)) (bs : List Backend) : List (String × Backend) :=
  bs.foldl (fun d b => dictSet d b.name b) names

theorem namesAfter_append (names : List (String × Backend)) (a b : List Backend) :
    namesAfter names (a ++ b) = namesAfter (namesAfter names a) b := List.foldl_append ..

theorem dictGet_namesAfter_other (n : String) : ∀ (bs : List Backend) (names : List (String × Backend)),
    (∀ b ∈ bs, b.name ≠ n) → dictGet (namesAfter names bs) n = dictGet names n
  | [], _, _ => rfl
  | b :: bs, names, h => by
    show dictGet (namesAfter (dictSet names b.name b) bs) n = _
    rw [dictGet_namesAfter_other n bs _ (fun c hc => h c (List.mem_cons_of_mem _ hc)), dictGet_dictSet,
      if_neg fun e => h b (List.mem_cons_self ..) e.symm]

theorem dictGet_namesAfter_mem (x : Backend) : ∀ (bs : List Backend) (names : List (String × Backend)),
    (x ∈ bs ∨ dictGet names x.name = some x) → (∀ y ∈ bs, y.name = x.name → y = x) →
    dictGet (namesAfter names bs) x.name = some x
  | [], _, h, _ => h.resolve_left (fun h => nomatch h)
  | y :: bs, names, h, hinj => by
    show dictGet (namesAfter (dictSet names y.name y) bs) x.name = _
    apply dictGet_namesAfter_mem x bs _ _ (fun z hz => hinj z (List.mem_cons_of_mem _ hz))
    rw [dictGet_dictSet]
    by_cases hn : x.name = y.name
    · rw [if_pos hn, hinj y (List.mem_cons_self ..) hn.symm]; exact Or.inr rfl
    · rw [if_neg hn]
      exact h.imp (fun h => (List.mem_cons.1 h).resolve_left fun e => hn (e ▸ rfl)) id

theorem mem_namesAfter {kv : String × Backend} : ∀ (bs : List Backend) (names : List (String × Backend)),
    kv ∈ namesAfter names bs → kv ∈ names ∨ ∃ b ∈ bs, kv = (b.name, b)
  | [], _, h => Or.inl h
  | b :: bs, names, h => by
    rcases mem_namesAfter bs _ (show kv ∈ namesAfter (dictSet names b.name b) bs from h) with h | ⟨c, hc, e⟩
    · rcases mem_dictSet h with h | h
      · exact Or.inr ⟨b, List.mem_cons_self .., h⟩
      · exact Or.inl h
    · exact Or.inr ⟨c, List.mem_cons_of_mem _ hc, e⟩

theorem register_memo {cfg : Cfg} (hc : cfg.registerClearsMemo = true) (s : State) (b : Backend) :
    (s.register cfg b).memo = [] := if_pos hc

theorem registerAll_nil (cfg : Cfg) (s : State) : registerAll cfg s [] = s := rfl
theorem registerAll_cons (cfg : Cfg) (s : State) (b : Backend) (bs : List Backend) :
    registerAll cfg s (b :: bs) = registerAll cfg (s.register cfg b) bs := rfl

theorem registerAll_eq (cfg : Cfg) : ∀ (bs : List Backend) (s : State),
    registerAll cfg s bs =
      { s with backends := s.backends ++ bs, names := namesAfter s.names bs,
               memo := if cfg.registerClearsMemo && !bs.isEmpty then [] else s.memo }
  | [], s => by simp [registerAll_nil, namesAfter]
  | b :: bs, s => by
    rw [registerAll_cons, registerAll_eq cfg bs]
    cases hc : cfg.registerClearsMemo <;> simp [State.register, namesAfter, hc]

theorem foldl_runFactory (cfg : Cfg) (fs : List Factory) (s : State) :
    fs.foldl (fun s f => s.runFactory cfg f) s = registerAll cfg s (fs.map (·.produces)) := by
  rw [registerAll, List.foldl_map]
  rfl

/-- The factories `_check_new_imports` runs when it sees the modules `ms` in this order. -/
def pendingOf (uninit : List (String × List Factory)) : List String → List Factory
  | [] => []
  | m :: ms => (dictGet uninit m).getD [] ++ pendingOf (uninit.filter (·.1 != m)) ms

theorem mem_pendingOf {f : Factory} : ∀ (ms : List String) (d : List (String × List Factory)),
    f ∈ pendingOf d ms ↔ ∃ m ∈ ms, ∃ fs, dictGet d m = some fs ∧ f ∈ fs
  | [], _ => by simp [pendingOf]
  | m :: ms, d => by
    rw [pendingOf, List.mem_append, mem_pendingOf ms]
    constructor
    · rintro (h | ⟨m', hm', fs, hfs, hf⟩)
      · cases hd : dictGet d m with
        | none => rw [hd] at h; cases h
        | some fs => rw [hd] at h; exact ⟨m, List.mem_cons_self .., fs, hd, h⟩
      · rw [dictGet_filter_ne] at hfs
        split at hfs
        · cases hfs
        · exact ⟨m', List.mem_cons_of_mem _ hm', fs, hfs, hf⟩
    · rintro ⟨m', hm', fs, hfs, hf⟩
      by_cases e : m' = m
      · rw [← e, hfs]; exact Or.inl hf
      · refine Or.inr ⟨m', (List.mem_cons.1 hm').resolve_left e, fs, ?_, hf⟩
        rw [dictGet_filter_ne, if_neg e]; exact hfs

theorem seeModule_eq (cfg : Cfg) (s : State) (m : String) :
    ∃ memo, s.seeModule cfg m =
      { seen := s.seen ++ [m], uninit := s.uninit.filter (·.1 != m), stack := s.stack, memo := memo,
        backends := s.backends ++ ((dictGet s.uninit m).getD []).map (·.produces),
        names := namesAfter s.names (((dictGet s.uninit m).getD []).map (·.produces)) } ∧
      ∀ en ∈ memo, en ∈ s.memo := by
  unfold State.seeModule
  dsimp only
  cases hd : dictGet s.uninit m with
  | none => exact ⟨s.memo, by simp [namesAfter, filter_ne_of_dictGet_none m s.uninit hd], fun _ h => h⟩
  | some fs =>
    dsimp only
    rw [foldl_runFactory, registerAll_eq]
    refine ⟨_, rfl, fun en hen => ?_⟩
    split at hen
    · cases hen
    · exact hen

theorem foldl_seeModule (cfg : Cfg) : ∀ (ms : List String) (s : State),
    ∃ memo uninit, ms.foldl (fun s m => s.seeModule cfg m) s =
      { seen := s.seen ++ ms, uninit := uninit, stack := s.stack, memo := memo,
        backends := s.backends ++ (pendingOf s.uninit ms).map (·.produces),
        names := namesAfter s.names ((pendingOf s.uninit ms).map (·.produces)) } ∧
      (∀ en ∈ memo, en ∈ s.memo) ∧ (∀ k, dictGet uninit k = if k ∈ ms then none else dictGet s.uninit k) ∧
      ((∀ m ∈ ms, dictGet s.uninit m = none) → uninit = s.uninit)
  | [], s => ⟨s.memo, s.uninit, by simp [pendingOf, namesAfter], fun _ h => h, fun _ => by simp, fun _ => rfl⟩
  | m :: ms, s => by
    obtain ⟨memo1, e1, hm1⟩ := seeModule_eq cfg s m
    obtain ⟨memo, uninit, e, hm, hu, hq⟩ := foldl_seeModule cfg ms (s.seeModule cfg m)
    refine ⟨memo, uninit, ?_, fun en hen => hm1 en ?_, fun k => ?_, fun h => ?_⟩
    · rw [List.foldl_cons, e, e1]
      simp [pendingOf, namesAfter_append]
    · have := hm en hen
      rwa [e1] at this
    · rw [hu k, e1]
      dsimp only
      rw [dictGet_filter_ne]
      by_cases hk : k = m
      · simp [hk]
      · by_cases hk' : k ∈ ms <;> simp [hk, hk']
    · have h0 := filter_ne_of_dictGet_none m s.uninit (h m (List.mem_cons_self ..))
      have h1 : (s.seeModule cfg m).uninit = s.uninit := by rw [e1]; exact h0
      rw [hq fun m' hm' => h1 ▸ h m' (List.mem_cons_of_mem _ hm'), h1]

/-! ### `_check_new_imports` and the effective state -/

theorem checkNewImports_true (cfg : Cfg) (s : State) (mods : List String) :
    s.checkNewImports cfg mods true = (s, false, true) := rfl

/-- The modules the import check sees, in the order in which it sees them. -/
def newMods (s : State) (mods : List String) : List String := (mods.filter (fun m => !s.seen.contains m)).eraseDups

theorem mem_newMods {s : State} {mods : List String} {m : String} : m ∈ newMods s mods ↔ m ∈ mods ∧ m ∉ s.seen := by
  simp [newMods, List.mem_eraseDups, List.mem_filter]

theorem flush_eq_foldl (cfg : Cfg) (s : State) (mods : List String) :
    s.flush cfg mods = (newMods s mods).foldl (fun s m => s.seeModule cfg m) s := by
  unfold State.flush State.checkNewImports newMods
  simp only [Bool.false_eq_true, ↓reduceIte]
  split
  · next h => rw [List.isEmpty_iff.1 h]; rfl
  · rfl

theorem checkNewImports_false (cfg : Cfg) (s : State) (mods : List String) :
    ∃ changed, s.checkNewImports cfg mods false = (s.flush cfg mods, changed, true) ∧
      (changed = false → s.flush cfg mods = s) := by
  unfold State.flush State.checkNewImports
  simp only [Bool.false_eq_true, ↓reduceIte]
  split
  · exact ⟨false, rfl, fun _ => rfl⟩
  · exact ⟨true, rfl, fun h => nomatch h⟩

/-- The factories the import check runs. -/
def due (s : State) (mods : List String) : List Factory := pendingOf s.uninit (newMods s mods)

theorem mem_due {s : State} {mods : List String} {f : Factory} :
    f ∈ due s mods ↔ ∃ m ∈ mods, m ∉ s.seen ∧ ∃ fs, dictGet s.uninit m = some fs ∧ f ∈ fs := by
  simp only [due, mem_pendingOf, mem_newMods, and_assoc]

section
variable (cfg : Cfg) (s : State) (mods : List String)

theorem flush_stack : (s.flush cfg mods).stack = s.stack := by
  obtain ⟨_, _, e, _⟩ := foldl_seeModule cfg (newMods s mods) s
  rw [flush_eq_foldl, e]

theorem flush_backends : (s.flush cfg mods).backends = s.backends ++ (due s mods).map (·.produces) := by
  obtain ⟨_, _, e, _⟩ := foldl_seeModule cfg (newMods s mods) s
  rw [flush_eq_foldl, e]; rfl

theorem flush_names : (s.flush cfg mods).names = namesAfter s.names ((due s mods).map (·.produces)) := by
  obtain ⟨_, _, e, _⟩ := foldl_seeModule cfg (newMods s mods) s
  rw [flush_eq_foldl, e]; rfl

theorem flush_memo : ∀ en ∈ (s.flush cfg mods).memo, en ∈ s.memo := by
  obtain ⟨_, _, e, h, _⟩ := foldl_seeModule cfg (newMods s mods) s
  rw [flush_eq_foldl, e]; exact h

theorem flush_uninit (k : String) :
    dictGet (s.flush cfg mods).uninit k = if k ∈ mods ∧ k ∉ s.seen then none else dictGet s.uninit k := by
  obtain ⟨_, _, e, _, h, _⟩ := foldl_seeModule cfg (newMods s mods) s
  rw [flush_eq_foldl, e]; dsimp only
  rw [h k]; simp only [mem_newMods]

theorem mem_flush_seen {k : String} : k ∈ (s.flush cfg mods).seen ↔ k ∈ s.seen ∨ k ∈ mods := by
  obtain ⟨_, _, e, _⟩ := foldl_seeModule cfg (newMods s mods) s
  rw [flush_eq_foldl, e]; dsimp only
  rw [List.mem_append, mem_newMods]
  by_cases hs : k ∈ s.seen <;> simp [hs]

theorem flush_flush : (s.flush cfg mods).flush cfg mods = s.flush cfg mods := by
  have : newMods (s.flush cfg mods) mods = [] :=
    List.eq_nil_iff_forall_not_mem.2 fun m hm =>
      (mem_newMods.1 hm).2 ((mem_flush_seen cfg s mods).2 (Or.inr (mem_newMods.1 hm).1))
  rw [flush_eq_foldl cfg (s.flush cfg mods), this]; rfl

theorem flush_of_quiet (q : Quiet s mods) : Same s (s.flush cfg mods) := by
  obtain ⟨_, _, e, _, _, hq⟩ := foldl_seeModule cfg (newMods s mods) s
  have hd : due s mods = [] :=
    List.eq_nil_iff_forall_not_mem.2 fun f hf => by
      obtain ⟨m, hm, _, fs, hfs, _⟩ := mem_due.1 hf
      rw [q m hm] at hfs; cases hfs
  have hu := hq fun m hm => q m (mem_newMods.1 hm).1
  rw [flush_eq_foldl, e]
  refine ⟨hu.symm, ?_, ?_, rfl⟩
  · show s.backends = s.backends ++ (due s mods).map (·.produces)
    rw [hd]; simp
  · show s.names = namesAfter s.names ((due s mods).map (·.produces))
    rw [hd]; rfl

theorem flush_quiet (wf : ∀ m ∈ s.seen, dictGet s.uninit m = none) : Quiet (s.flush cfg mods) mods := by
  intro m hm
  rw [flush_uninit]
  split
  · rfl
  · next h => exact wf m (Decidable.not_not.1 fun hs => h ⟨hm, hs⟩)

end

end Einx.Registry
