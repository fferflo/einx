import EinxModel.Proofs.CseTreesBasic
/-!
Equality of stage-2 trees, of events and of results of `cseTrees` is decidable, so that a statement about one concrete
run (`cseTrees {} forest = .ok out`, `cseEvents {} forest = evs`) is checked by evaluation in the kernel alone.
`VExpr` is a nested inductive type, for which `deriving DecidableEq` is not available; the comparison `beqV` of the model
(`Solve/CseCheck.lean`) is used instead.
-/
namespace Einx.Solve.CseT
open Einx.Solve

theorem beqV_refl (a : VExpr) : beqV a a = true := by
  induction a using VExpr.induct with
  | axis _ _ _ => simp [beqV]
  | flat _ ih | brackets _ ih => simp only [beqV]; exact ih
  | concat cs ih => exact ih
  | nil => rfl
  | cons c cs ihc ihcs =>
    simp only [beqV] at ihcs ⊢
    simp only [beqVL, ihc, ihcs, Bool.and_self]

instance : DecidableEq VExpr := fun a b =>
  if h : beqV a b = true then isTrue (beqV_eq a b h) else isFalse fun e => h (e ▸ beqV_refl a)

deriving instance DecidableEq for Ev
deriving instance DecidableEq for Except

end Einx.Solve.CseT
