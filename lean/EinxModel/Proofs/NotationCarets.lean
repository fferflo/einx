import EinxModel.Proofs.NotationInternal
import EinxModel.Proofs.NodeWise
import EinxModel.Proofs.NotationTokAll
/-!
# M1 Notation — caret positions (C12)

Every position of a returned tree and of a `SyntaxError` lies inside the caller's string (`parseOp_ok`).  `parse` makes the
positions from tokens that lie inside the string (`parse_ok`); the stages after it keep them because `ExprOK` is a node-wise
predicate (`exprOK_nodeWise`).

Proofs/NotationInternal.lean is imported as the first walker of `parse` (see its head comment).
-/
namespace Einx.Notation

/-- A caret position inside a string of length `n`. -/
def InR (n : Nat) (p : Int) : Prop := 0 ≤ p ∧ p < n

/-- `range(b, e)` is empty or inside `[0, n)`. -/
def RangeOK (n : Nat) (b e : Int) : Prop := e ≤ b ∨ (0 ≤ b ∧ e ≤ n)

/-- Both carets `[b, e-1]` of a bracket pair are inside the string. -/
def BrOK (n : Nat) (b e : Int) : Prop := 0 ≤ b ∧ b < n ∧ 1 ≤ e ∧ e ≤ n

theorem mem_posRange {b e p : Int} : p ∈ posRange b e ↔ b ≤ p ∧ p < e := by
  simp only [posRange, List.mem_map, List.mem_range]
  constructor
  · rintro ⟨i, hi, rfl⟩
    simp only [Int.ofNat_eq_natCast]
    omega
  · intro ⟨h1, h2⟩
    refine ⟨(p - b).toNat, by omega, ?_⟩
    simp only [Int.ofNat_eq_natCast]
    omega

theorem posRange_inR {n : Nat} {b e : Int} (h : RangeOK n b e) : ∀ p ∈ posRange b e, InR n p := by
  intro p hp
  have := mem_posRange.mp hp
  unfold InR
  rcases h with h | h <;> omega

theorem BrOK.range {n : Nat} {b e : Int} (h : BrOK n b e) : RangeOK n b e := by
  unfold BrOK at h; unfold RangeOK; omega

mutual
def ExprOK (n : Nat) : Expr → Prop
  | .axis _ _ b e => RangeOK n b e
  | .flat i b e => RangeOK n b e ∧ ExprOK n i
  | .brackets i b e => BrOK n b e ∧ ExprOK n i
  | .ellipsis i _ b e => RangeOK n b e ∧ ExprOK n i
  | .concat cs b e => RangeOK n b e ∧ ExprOKL n cs
  | .list cs b e => RangeOK n b e ∧ ExprOKL n cs
  | .args cs b e => RangeOK n b e ∧ ExprOKL n cs
  | .op cs b e => RangeOK n b e ∧ ExprOKL n cs
def ExprOKL (n : Nat) : List Expr → Prop
  | [] => True
  | c :: cs => ExprOK n c ∧ ExprOKL n cs
end

theorem exprOKL_iff {n : Nat} {cs : List Expr} : ExprOKL n cs ↔ ∀ c ∈ cs, ExprOK n c := by
  induction cs with
  | nil => simp [ExprOKL]
  | cons c cs ih => simp [ExprOKL, ih]

theorem rangeOK_neg1 (n : Nat) : RangeOK n (-1) (-1) := Or.inl (Int.le_refl _)

/-- What `ExprOK` asks of one node. -/
def OkNode (n : Nat) : Expr → Prop
  | .brackets _ b e => BrOK n b e
  | x => RangeOK n x.b x.e

theorem exprOK_nodeWise (n : Nat) : NodeWise (OkNode n) (ExprOK n) :=
  have l : ∀ {A : Prop} cs, (A ∧ ExprOKL n cs) ↔ A ∧ ∀ c ∈ cs, ExprOK n c := fun _ => and_congr_right fun _ => exprOKL_iff
  .of_cases (fun _ _ _ _ => Iff.rfl) (fun _ _ _ => Iff.rfl) (fun _ _ _ => Iff.rfl) (fun _ _ _ _ => Iff.rfl)
    (fun cs _ _ => l cs) (fun cs _ _ => l cs) (fun cs _ _ => l cs) (fun cs _ _ => l cs) (rangeOK_neg1 n)

theorem okNode_headOnly (n : Nat) : HeadOnly (OkNode n) :=
  ⟨fun _ h => h, fun _ h => h, fun _ h => h, fun _ h => h, fun _ h => h, fun _ h => h, fun _ h => h⟩

theorem OkNode.range {n : Nat} {x : Expr} (h : OkNode n x) : RangeOK n x.b x.e := by
  cases x <;> first | exact h | exact BrOK.range h

theorem okNode_wrapClosed (n : Nat) : WrapClosed (OkNode n) :=
  ⟨fun k _ => by cases k <;> exact rangeOK_neg1 n, fun k _ _ hx => by cases k <;> exact hx.range⟩

theorem ExprOK.range {n : Nat} {x : Expr} (h : ExprOK n x) : RangeOK n x.b x.e :=
  ((exprOK_nodeWise n).node h).range

theorem ExprOK.children {n : Nat} {x : Expr} (h : ExprOK n x) : ∀ c ∈ x.children, ExprOK n c :=
  (exprOK_nodeWise n).children h

def TokenOK (n : Nat) (t : Token) : Prop := t.b < t.e ∧ t.e ≤ n

/-- What C12 needs of an error: every caret (also of the alternatives) is inside the string. -/
def ErrOK (n : Nat) : Err → Prop
  | .syntax _ pos alts => (∀ p ∈ pos, InR n p) ∧ ∀ a ∈ alts, ∀ p ∈ a, InR n p
  | .internal _ => True

/-- Result predicate: `P` on success, carets in range on a syntax error. -/
abbrev ResP {α : Type} (P : α → Prop) (n : Nat) : Res α → Prop := ExceptP (ErrOK n) P

theorem natRange_ok {n b e : Nat} (he : e ≤ n) : RangeOK n (Int.ofNat b) (Int.ofNat e) := by
  right; simp only [Int.ofNat_eq_natCast]; omega

theorem tokenRange_ok {n : Nat} {t : Token} (h : TokenOK n t) : ∀ p ∈ posRange (Int.ofNat t.b) (Int.ofNat t.e), InR n p :=
  posRange_inR (natRange_ok h.2)

theorem segment_ok (lits : List Str) (cs : Str) (pos start : Nat) (cur : Str) (n : Nat)
    (h : start + cur.length = pos) (hn : pos + cs.length ≤ n) :
    ∀ t ∈ segment lits cs pos start cur, TokenOK n t := fun t ht =>
  have := (segment_tiles lits cs pos start cur h).1 t ht
  ⟨this.2.1, Nat.le_trans this.2.2 hn⟩

theorem lex_ok (text : Str) : ResP (fun ts => ∀ t ∈ ts, TokenOK text.length t) text.length (lex text) :=
  have hseg := segment_ok literals text 0 0 [] text.length (by simp) (by simp)
  lex_elim text (fun t ht _ => ⟨tokenRange_ok (hseg t ht), by simp⟩) fun _ => hseg

/-- Every token of a token tree lies inside the string. -/
abbrev TokOK (n : Nat) : Tok → Prop := TokAll (TokenOK n) fun o c => TokenOK n o ∧ TokenOK n c

theorem buildTree_ok (n : Nat) {ts : List Token} (hts : ∀ t ∈ ts, TokenOK n t) :
    ResP (TokAllL (TokenOK n) fun o c => TokenOK n o ∧ TokenOK n c) n (buildTree ts [] []) :=
  buildTree_all (T := TokenOK n) (O := TokenOK n) (fun _ h _ => h) (fun _ h _ _ => h) (fun _ _ ho hc _ _ => ⟨ho, hc⟩)
    (fun _ h => ⟨tokenRange_ok h, by simp⟩) (fun _ h => ⟨tokenRange_ok h, by simp⟩) hts

theorem TokOK.b_lt {n : Nat} {t : Tok} (h : TokOK n t) : t.b < n := by
  cases t <;> simp only [tokAll_atom, tokAll_group, TokenOK] at h <;> simp only [Tok.b] <;> omega

theorem TokOK.e_le {n : Nat} {t : Tok} (h : TokOK n t) : 1 ≤ t.e ∧ t.e ≤ n := by
  cases t <;> simp only [tokAll_atom, tokAll_group, TokenOK] at h <;> simp only [Tok.e] <;> omega

theorem lastEnd_le {n : Nat} : ∀ (ts : List Tok) (d : Nat), (∀ t ∈ ts, TokOK n t) → d ≤ n → lastEnd ts d ≤ n
  | [], d, _, hd => by simpa [lastEnd] using hd
  | [t], d, h, _ => by simp only [lastEnd]; exact (h t (by simp)).e_le.2
  | t :: t2 :: ts, d, h, hd => by
    simp only [lastEnd]
    exact lastEnd_le (t2 :: ts) d (fun x hx => h x (List.mem_cons_of_mem _ hx)) hd

theorem mkTL_ok {n : Nat} {ts : List Tok} {d : Nat} (h : ∀ t ∈ ts, TokOK n t) (hd : d ≤ n) :
    (∀ t ∈ (mkTL ts d).ts, TokOK n t) ∧ RangeOK n (Int.ofNat (mkTL ts d).b) (Int.ofNat (mkTL ts d).e) := by
  rw [mkTL_ts]
  refine ⟨h, ?_⟩
  cases ts with
  | nil => simp only [mkTL, RangeOK, Int.ofNat_eq_natCast]; omega
  | cons t ts =>
    have := lastEnd_le (t :: ts) d h hd
    simp only [mkTL, RangeOK, Int.ofNat_eq_natCast]
    omega

theorem splitOn_ok {n : Nat} (op : Str) (d : Nat) (hd : d ≤ n) : ∀ (ts : List Tok), (∀ t ∈ ts, TokOK n t) →
    ∀ o ∈ (splitOn op d ts).1 :: (splitOn op d ts).2, (∀ t ∈ o.1, TokOK n t) ∧ o.2 ≤ n
  | [], _ => by
    simp only [splitOn, List.mem_singleton]
    intro o ho; subst ho; simp [hd]
  | t :: ts, h => by
    obtain ⟨ht, hts⟩ := List.forall_mem_cons.mp h
    obtain ⟨ih1, ih2⟩ := List.forall_mem_cons.mp (splitOn_ok op d hd ts hts)
    simp only [splitOn]
    split
    · exact List.forall_mem_cons.mpr
        ⟨⟨fun _ h => (nomatch h), Nat.le_of_lt ht.b_lt⟩, List.forall_mem_cons.mpr ⟨ih1, ih2⟩⟩
    · exact List.forall_mem_cons.mpr ⟨⟨List.forall_mem_cons.mpr ⟨ht, ih1.1⟩, ih1.2⟩, ih2⟩

theorem operands_ok {n : Nat} (op : Str) (ts : List Tok) (h : ∀ t ∈ ts, TokOK n t) :
    ∀ o ∈ operands op ts, (∀ t ∈ o.ts, TokOK n t) ∧ RangeOK n (Int.ofNat o.b) (Int.ofNat o.e) := by
  intro o ho
  simp only [operands, List.mem_map] at ho
  obtain ⟨p, hp, rfl⟩ := ho
  have := splitOn_ok (n := n) op (lastEnd ts 0) (lastEnd_le ts 0 h (Nat.zero_le _)) ts h p (by simpa using hp)
  exact mkTL_ok this.1 this.2

theorem combine_ok {n : Nat} {op : Str} {xs : List Expr} {b e : Nat} {ipc : Bool} {ts : List Tok}
    (hxs : ∀ x ∈ xs, ExprOK n x) (hr : RangeOK n (Int.ofNat b) (Int.ofNat e)) (hts : ∀ t ∈ ts, TokOK n t) :
    ResP (ExprOK n) n (combine op xs b e ipc ts) := by
  refine combine_elim op xs b e ipc ts (fun _ => (exprOK_nodeWise n).mkList (fun _ => hr) hxs) (fun _ => ⟨hr, exprOKL_iff.mpr hxs⟩)
    (fun _ => ⟨hr, exprOKL_iff.mpr hxs⟩) (fun _ _ => ⟨fun p hp => ?_, by simp⟩) (fun _ _ _ => ⟨posRange_inR hr, by simp⟩)
    (fun _ _ _ => (exprOK_nodeWise n).mkConcat hr hxs) fun _ => trivial
  simp only [List.mem_append, List.mem_flatMap, List.mem_filter] at hp
  rcases hp with ⟨o, ho, hp⟩ | ⟨t, ht, hp⟩
  · exact posRange_inR (hxs o ho.1).range p hp
  · exact posRange_inR (natRange_ok (hts t ht.1).e_le.2) p hp

theorem parseAxis_ok {n : Nat} {t : Token} (h : TokenOK n t) : ResP (ExprOK n) n (parseAxis t) :=
  have hr : RangeOK n (Int.ofNat t.b) (Int.ofNat t.e) := natRange_ok h.2
  parseAxis_elim t (fun _ _ => hr) (fun _ _ => trivial) (fun _ _ => hr) fun _ _ => trivial

theorem group_inner_ok {n : Nat} {o c : Token} {inner : List Tok} (h : TokOK n (Tok.group o c inner)) :
    (∀ t ∈ inner, TokOK n t) ∧
      RangeOK n (Int.ofNat (firstInnerPos inner c)) (Int.ofNat (lastEnd inner (firstInnerPos inner c))) ∧
      BrOK n (Int.ofNat o.b) (Int.ofNat c.e) := by
  obtain ⟨⟨ho, hc⟩, hi'⟩ := tokAll_group.mp h
  have hib : firstInnerPos inner c ≤ n := by
    unfold firstInnerPos
    cases inner with
    | nil => simp only; unfold TokenOK at hc; omega
    | cons t ts => simp only; exact Nat.le_of_lt (TokOK.b_lt (hi' t (by simp)))
  refine ⟨hi', natRange_ok (lastEnd_le inner _ hi' hib), ?_⟩
  unfold TokenOK at ho hc
  unfold BrOK
  simp only [Int.ofNat_eq_natCast]
  omega

theorem parse_ok (n : Nat) (ts : List Tok) (b e : Nat) (ipc : Bool) :
    (∀ t ∈ ts, TokOK n t) → RangeOK n (Int.ofNat b) (Int.ofNat e) → ResP (ExprOK n) n (parse ts b e ipc) := by
  have hstrip : ∀ {ts X : List Tok}, strip ts = X → (∀ t ∈ ts, TokOK n t) → ∀ t ∈ X, TokOK n t :=
    fun hs hts t ht => hts t (mem_strip (hs ▸ ht))
  have hend : ∀ {X : List Tok}, (∀ t ∈ X, TokOK n t) → ∀ b, RangeOK n (Int.ofNat b) (Int.ofNat (lastEnd X 0)) :=
    fun hX _ => natRange_ok (lastEnd_le _ 0 hX (Nat.zero_le _))
  have hw := exprOK_nodeWise n
  fun_induction parse ts b e ipc with
  | case1 ts b e ipc hs =>
    intro _ hr
    exact hw.mkList (fun _ => hr) fun _ h => nomatch h
  | case2 ts b e ipc o c inner hs ib err heq ih =>
    intro hts _
    have hg := group_inner_ok (hstrip hs hts _ List.mem_cons_self)
    exact heq ▸ ih hg.1 hg.2.1
  | case3 ts b e ipc o c inner hs ib x heq _ _ ih =>
    intro hts _
    have hg := group_inner_ok (hstrip hs hts _ List.mem_cons_self)
    exact (ih hg.1 hg.2.1).ok heq
  | case4 ts b e ipc o c inner hs ib x heq _ _ ih =>
    intro hts _
    have hg := group_inner_ok (hstrip hs hts _ List.mem_cons_self)
    exact hw.mkFlat hg.2.2.range ((ih hg.1 hg.2.1).ok heq)
  | case5 ts b e ipc o c inner hs ib x heq _ _ ih =>
    intro hts _
    have hg := group_inner_ok (hstrip hs hts _ List.mem_cons_self)
    exact hw.mkBrackets hg.2.2 ((ih hg.1 hg.2.1).ok heq)
  | case6 => intro _ _; trivial
  | case7 ts b e ipc t0 rest _ hs ts1 op hop err heq ih =>
    intro hts _
    obtain ⟨a, _, ha⟩ := mapM_err_mem _ _ _ heq
    have hok := operands_ok op ts1 (hstrip hs hts) a.1 (mem_keepOperands a.2)
    exact ha ▸ ih a hok.1 hok.2
  | case8 ts b e ipc t0 rest _ hs ts1 b1 e1 op hop xs heq ih =>
    intro hts _
    have hts1 := hstrip hs hts
    refine combine_ok (fun x hx => ?_) (hend hts1 _) hts1
    obtain ⟨a, _, ha⟩ := mapM_ok_mem _ _ _ heq x hx
    have hok := operands_ok op ts1 hts1 a.1 (mem_keepOperands a.2)
    exact (ih a hok.1 hok.2).ok ha
  | case9 ts b e ipc t hs _ _ _ _ =>
    intro hts _
    have ht : TokenOK n t := hstrip hs hts (.atom t) List.mem_cons_self
    exact hw.mkEllipsis (i := .axis anonName none t.b t.b) (id := t.b) (natRange_ok ht.2) (Or.inl (Int.le_refl _))
  | case10 ts b e ipc t hs _ _ _ _ =>
    intro hts _
    exact parseAxis_ok (hstrip hs hts (.atom t) List.mem_cons_self)
  | case11 ts b e ipc x t hs _ err heq _ _ _ _ ih =>
    intro hts _
    have hx : TokOK n x := hstrip hs hts x List.mem_cons_self
    exact heq ▸ ih (List.forall_mem_singleton.mpr hx) (natRange_ok hx.e_le.2)
  | case12 ts b e ipc x t hs _ operand heq _ _ _ _ ih =>
    intro hts _
    have hx : TokOK n x := hstrip hs hts x List.mem_cons_self
    have ht : TokenOK n t := hstrip hs hts (.atom t) (by simp)
    exact hw.mkEllipsis (natRange_ok ht.2) ((ih (List.forall_mem_singleton.mpr hx) (natRange_ok hx.e_le.2)).ok heq)
  | case13 ts b e ipc x t hs _ _ _ _ _ =>
    intro hts _
    exact ⟨posRange_inR (hend (hstrip hs hts) _), by simp⟩
  | case14 ts b e ipc t0 rest _ hs ts1 b1 e1 _ _ _ _ =>
    intro hts _
    exact ⟨posRange_inR (hend (hstrip hs hts) _), by simp⟩

/-! ### The bracket check, the arrow carets, `finish` -/

/-- Every occurrence record carries carets inside the string. -/
def OccOK (n : Nat) (o : Occ) : Prop := (∀ p ∈ o.own, InR n p) ∧ ∀ p ∈ o.br, InR n p

theorem occs_ok {n : Nat} : ∀ (x : Expr) (br : List Int) (marked : Bool), ExprOK n x → (∀ p ∈ br, InR n p) →
    ∀ o ∈ occs br marked x, OccOK n o := by
  intro x
  induction x using Expr.memInduction with
  | axis nm v b e =>
    intro br marked h hbr o ho
    rw [occs, List.mem_singleton] at ho
    subst ho
    exact ⟨posRange_inR h, hbr⟩
  | flat i _ _ ih | ellipsis i _ _ _ ih =>
    intro br marked h hbr
    rw [occs]
    exact ih br marked h.2 hbr
  | brackets i b e ih =>
    intro br marked h hbr
    rw [occs]
    refine ih _ true h.2 fun p hp => ?_
    have hb : BrOK n b e := h.1
    unfold BrOK at hb
    simp only [List.cons_append, List.nil_append, List.mem_cons] at hp
    rcases hp with hp | hp | hp
    · subst hp; unfold InR; omega
    · subst hp; unfold InR; omega
    · exact hbr p hp
  | concat cs _ _ ih | list cs _ _ ih | args cs _ _ ih | op cs _ _ ih =>
    intro br marked h hbr
    rw [occs, occsL_eq_flatMap]
    exact List.forall_mem_flatMap.mpr fun c hc => ih c hc br marked (exprOKL_iff.mp h.2 c hc) hbr

theorem occsL_ok {n : Nat} : ∀ (cs : List Expr) (br : List Int) (marked : Bool), ExprOKL n cs → (∀ p ∈ br, InR n p) →
    ∀ o ∈ occsL br marked cs, OccOK n o := fun cs br marked h hbr => by
  rw [occsL_eq_flatMap]
  exact List.forall_mem_flatMap.mpr fun c hc => occs_ok c br marked (exprOKL_iff.mp h c hc) hbr

theorem conflictPos_ok {n : Nat} {os : List Occ} (h : ∀ o ∈ os, OccOK n o) (nm : Str) : ∀ p ∈ conflictPos os nm, InR n p := by
  intro p hp
  simp only [conflictPos, List.mem_flatMap, List.mem_filter, List.mem_append] at hp
  obtain ⟨o, ⟨ho, _⟩, hp⟩ := hp
  rcases hp with hp | hp
  · exact (h o ho).1 p hp
  · exact (h o ho).2 p hp

theorem checkBrackets_ok {n : Nat} {x : Expr} (h : ExprOK n x) : ResP (ExprOK n) n (checkBrackets x) :=
  have hos := occs_ok x [] false h (by simp)
  checkBrackets_elim x (fun _ => h) fun nm _ _ =>
    ⟨conflictPos_ok hos nm, fun _ ha => let ⟨nm', _, he⟩ := List.mem_map.mp ha; he ▸ conflictPos_ok hos nm'⟩

theorem posForLiteral_ok (l : Str) : ∀ (cs : Str) (i : Nat), ∀ p ∈ posForLiteral l cs i, InR (i + cs.length) p
  | [], _ => by simp [posForLiteral]
  | c :: cs, i => by
    intro p hp
    simp only [posForLiteral, List.mem_append] at hp
    rcases hp with hp | hp
    · split at hp
      · rename_i hpre
        simp only [Bool.and_eq_true] at hpre
        have hlen := (List.isPrefixOf_iff_prefix.mp hpre.2).length_le
        have := mem_posRange.mp hp
        simp only [Int.ofNat_eq_natCast] at this
        unfold InR
        omega
      · simp at hp
    · have := posForLiteral_ok l cs (i + 1) p hp
      unfold InR at this ⊢
      simp only [List.length_cons]
      omega

theorem arrows_ok (l : Str) (text : Str) : ∀ p ∈ posForLiteral l text 0, InR text.length p := by
  have := posForLiteral_ok l text 0
  simpa using this

theorem finish_ok {n : Nat} {arrows : List Int} (ha : ∀ p ∈ arrows, InR n p) {x : Expr} (h : ExprOK n x) :
    ResP (ExprOK n) n (finish arrows x) :=
  (exprOK_nodeWise n).finish (okNode_headOnly n) (okNode_wrapClosed n) arrows (fun _ => ⟨ha, fun _ h => nomatch h⟩)
    (fun _ => trivial) (fun _ => checkBrackets_ok) h

/-- Main invariant of `parse_op`: a returned tree has every node range inside the text (or empty), and every caret
    of a `SyntaxError` is inside the text. -/
theorem parseOp_ok (text : Str) : ResP (ExprOK text.length) text.length (parseOp text) := by
  rw [parseOp_bind]
  refine (lex_ok text).bind fun toks _ htoks => ?_
  refine (buildTree_ok text.length fun t ht => htoks t (mem_dedupSpaces ht)).bind fun tree _ htree => ?_
  have htree := tokAllL_iff.mp htree
  exact (parse_ok text.length tree 0 _ false htree (natRange_ok (lastEnd_le tree 0 htree (Nat.zero_le _)))).bind
    fun x _ hx => finish_ok (arrows_ok _ text) hx

theorem parseArgs_ok (text : Str) : ResP (ExprOK text.length) text.length (parseArgs text) := by
  unfold parseArgs
  refine (parseOp_ok text).elim (fun _ he => he) fun x _ h => ?_
  dsimp only
  split
  · rename_i cs b e hc
    exact h.children (.args cs b e) (by rw [hc]; exact List.mem_cons_self)
  · trivial
  · exact ⟨arrows_ok _ text, by simp⟩

theorem parseArg_ok (text : Str) : ResP (ExprOK text.length) text.length (parseArg text) := by
  unfold parseArg
  refine (parseArgs_ok text).elim (fun _ he => he) fun x _ h => ?_
  dsimp only
  split
  · rename_i c hc
    exact h.children c (by rw [hc]; exact List.mem_cons_self)
  · exact ⟨arrows_ok _ text, by simp⟩

end Einx.Notation
