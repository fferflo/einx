import EinxModel.IR.PrimX
/-!
Straight-line programs over any instruction set (`evalProgG planOf`; the basic set is the instance `planOf = planInstr`).
Execution commutes with homomorphisms of element algebras, and `evalCell` is one from the symbolic algebra into every element
algebra: hence one symbolic run speaks for every element algebra and every content of the inputs.  Also permutations as lists
(`PermOK`), the index arithmetic of `transpose`; and the plans of `reshape`, `transpose`, `broadcast_to` and one-operand
`concatenate`, each as one `if` on the check numpy makes.
-/
namespace Einx.IR
open Einx

theorem set_getD_self (s : List Nat) (a : Nat) : s.set a (s.getD a 0) = s := by
  by_cases h : a < s.length
  · rw [← List.getElem_eq_getD (h := h), List.set_getElem_self]
  · rw [List.set_eq_of_length_le (Nat.not_lt.1 h)]

theorem getD_map_range {α : Type} (f : Nat → α) (d : α) {n a : Nat} (h : a < n) :
    ((List.range n).map f).getD a d = f a := by
  rw [List.getD_eq_getElem?_getD, List.getElem?_map, List.getElem?_range h]; rfl

theorem getD_map {α β : Type} (f : α → β) (d : α) (e : β) {l : List α} {i : Nat} (h : i < l.length) :
    (l.map f).getD i e = f (l.getD i d) := by
  rw [List.getD_eq_getElem?_getD, List.getD_eq_getElem?_getD, List.getElem?_map, List.getElem?_eq_getElem h]; rfl

theorem map_getD_range {α : Type} (l : List α) (d : α) : (List.range l.length).map (fun a => l.getD a d) = l :=
  List.ext_getElem (by rw [List.length_map, List.length_range]) fun k _ h => by
    rw [List.getElem_map, List.getElem_range, ← List.getElem_eq_getD (h := h)]

theorem getD_of_lt {l : List Nat} {j : Nat} (h : j < l.length) : l.getD j 0 = l[j] :=
  (List.getElem_eq_getD 0).symm

/-- `p` lists the numbers below `n` once each, so `p.getD · 0` and `p.idxOf` are inverse bijections of them. -/
structure PermOK (p : List Nat) (n : Nat) : Prop where
  len : p.length = n
  nodup : p.Nodup
  mem : ∀ a, a ∈ p ↔ a < n

theorem perm_of_nodup_subset {l₁ l₂ : List Nat} (hd : l₁.Nodup) (hs : l₁ ⊆ l₂) (hl : l₂.length ≤ l₁.length) :
    l₁.Perm l₂ := by
  induction l₁ generalizing l₂ with
  | nil => rw [List.eq_nil_of_length_eq_zero (Nat.le_zero.1 hl)]
  | cons a t ih =>
    have ha : a ∈ l₂ := hs List.mem_cons_self
    obtain ⟨hat, hdt⟩ := List.nodup_cons.1 hd
    have hl' : (l₂.erase a).length ≤ t.length := by rw [List.length_erase_of_mem ha]; exact Nat.sub_le_of_le_add hl
    exact ((ih hdt (fun x hx => (List.mem_erase_of_ne fun (e : x = a) => hat (e ▸ hx)).2 (hs (List.mem_cons_of_mem _ hx))) hl').cons
      a).trans (List.perm_cons_erase ha).symm

theorem permOK_of_mem {p : List Nat} {n : Nat} (hl : p.length = n) (hc : ∀ a, a < n → a ∈ p) : PermOK p n := by
  have hperm : (List.range n).Perm p :=
    perm_of_nodup_subset List.nodup_range (fun a ha => hc a (List.mem_range.1 ha)) (by rw [hl, List.length_range]; exact Nat.le_refl n)
  exact ⟨hl, hperm.nodup_iff.1 List.nodup_range, fun a => by rw [← hperm.mem_iff, List.mem_range]⟩

theorem isPerm_iff {p : List Nat} {n : Nat} : isPerm p n = true ↔ PermOK p n := by
  simp only [isPerm, Bool.and_eq_true, beq_iff_eq, List.all_eq_true, List.mem_range, List.contains_iff_mem]
  exact ⟨fun h => permOK_of_mem h.1 h.2, fun h => ⟨h.len, fun a ha => (h.mem a).2 ha⟩⟩

theorem PermOK.idxOf_lt {p : List Nat} {n a : Nat} (h : PermOK p n) (ha : a < n) : p.idxOf a < n :=
  h.len ▸ List.idxOf_lt_length_iff.2 ((h.mem a).2 ha)

theorem PermOK.getD_idxOf {p : List Nat} {n a : Nat} (h : PermOK p n) (ha : a < n) : p.getD (p.idxOf a) 0 = a := by
  have hlt := List.idxOf_lt_length_iff.2 ((h.mem a).2 ha)
  rw [getD_of_lt hlt, List.getElem_idxOf hlt]

theorem PermOK.idxOf_getD {p : List Nat} {n j : Nat} (h : PermOK p n) (hj : j < n) : p.idxOf (p.getD j 0) = j := by
  have hj' : j < p.length := h.len ▸ hj
  rw [getD_of_lt hj']
  exact h.nodup.idxOf_getElem j hj'

/-- Source multi-index read by the transpose plan at output multi-index `o`. -/
def gatherIdx (p : List Nat) (n : Nat) (o : List Nat) : List Nat :=
  (List.range n).map (fun a => o.getD (p.idxOf a) 0)

/-- Shape of `transpose x p` for an operand of shape `sx`. -/
def permShape (p sx : List Nat) : List Nat := p.map (fun a => sx.getD a 0)

theorem permShape_length (p sx : List Nat) : (permShape p sx).length = p.length := List.length_map _

theorem gatherIdx_getD {p : List Nat} {n a : Nat} (o : List Nat) (ha : a < n) :
    (gatherIdx p n o).getD a 0 = o.getD (p.idxOf a) 0 :=
  getD_map_range _ 0 ha

theorem valid_gather {p sx o : List Nat} {n : Nat} (hp : PermOK p n) (hs : sx.length = n)
    (ho : Valid (permShape p sx) o) : Valid sx (gatherIdx p n o) := by
  rw [valid_iff_getD] at ho ⊢
  refine ⟨by rw [gatherIdx, List.length_map, List.length_range, hs], fun a ha => ?_⟩
  rw [hs] at ha
  have hj := hp.idxOf_lt ha
  have := ho.2 (p.idxOf a) (by rwa [permShape_length, hp.len])
  rwa [permShape, getD_map _ 0 0 (by rwa [hp.len]), hp.getD_idxOf ha, ← gatherIdx_getD o ha] at this

theorem valid_getD {s p : List Nat} (hv : Valid s p) : ∀ a, a < s.length → p.getD a 0 < s.getD a 0 :=
  (valid_iff_getD.1 hv).2

theorem valid_permute {s p : List Nat} (hv : Valid s p) (perm : List Nat) (h : ∀ a ∈ perm, a < s.length) :
    Valid (permShape perm s) (perm.map (fun a => p.getD a 0)) := by
  induction perm with
  | nil => exact Valid.nil
  | cons a perm ih =>
    exact Valid.cons (valid_getD hv a (h a (List.mem_cons_self ..)))
      (ih (fun b hb => h b (List.mem_cons_of_mem _ hb)))

theorem unpermute (perm p : List Nat) (n : Nat) (hlen : p.length = n) (hall : ∀ a, a < n → a ∈ perm) :
    gatherIdx perm n (perm.map (fun b => p.getD b 0)) = p := by
  rw [gatherIdx]
  apply List.ext_getElem
  · simp [hlen]
  · intro a h1 h2
    simp only [List.length_map, List.length_range] at h1
    have hmem := hall a h1
    have hlt : perm.idxOf a < perm.length := List.idxOf_lt_length_of_mem hmem
    simp only [List.getElem_map, List.getElem_range, List.getD_eq_getElem?_getD, List.getElem?_map,
      List.getElem?_eq_getElem hlt, Option.map_some, Option.getD_some, List.getElem_idxOf hlt,
      List.getElem?_eq_getElem h2]

theorem evalCells_eq_map {α : Type} (A : Alg α) (regs : List (Tensor α)) :
    ∀ cs : List Cell, evalCells A regs cs = cs.map (evalCell A regs)
  | [] => rfl
  | c :: cs => by rw [evalCells, evalCells_eq_map A regs cs, List.map_cons]

theorem shapes_map {α β : Type} (h : α → β) (regs : List (Tensor α)) :
    (regs.map (Tensor.map h)).map (·.shape) = regs.map (·.shape) := by
  rw [List.map_map]; rfl

theorem evalProgG_map {ι α β : Type} (planOf : List (List Nat) → ι → E Plan)
    {A : Alg α} {B : Alg β} {h : α → β} (hh : Hom A B h) :
    ∀ (prog : List ι) (regs : List (Tensor α)),
      evalProgG planOf B prog (regs.map (Tensor.map h)) = (evalProgG planOf A prog regs).map (·.map (Tensor.map h))
  | [], regs => rfl
  | i :: is, regs => by
    simp only [evalProgG, shapes_map]
    cases planOf (regs.map (·.shape)) i with
    | error e => rfl
    | ok p =>
      have := evalProgG_map planOf hh is (regs ++ [runPlan A regs p])
      rwa [List.map_append, List.map_singleton, ← runPlan_map hh] at this

theorem evalProg_eq_evalProgG {α : Type} (A : Alg α) :
    ∀ (prog : List Instr) (regs : List (Tensor α)), evalProg A prog regs = evalProgG planInstr A prog regs
  | [], _ => rfl
  | i :: is, regs => by
    simp only [evalProg, evalProgG, evalProg_eq_evalProgG A is]

theorem evalProgG_append {ι α : Type} (planOf : List (List Nat) → ι → E Plan) (A : Alg α) :
    ∀ (p q : List ι) (regs : List (Tensor α)),
      evalProgG planOf A (p ++ q) regs = (evalProgG planOf A p regs) >>= (evalProgG planOf A q)
  | [], _, _ => rfl
  | i :: is, q, regs => by
    simp only [List.cons_append, evalProgG]
    cases planOf (regs.map (·.shape)) i with
    | error e => rfl
    | ok pl => exact evalProgG_append planOf A is q _

theorem evalProgG_comap {ι κ α : Type} (planOf : List (List Nat) → κ → E Plan) (g : ι → κ) (A : Alg α) :
    ∀ (p : List ι) (regs : List (Tensor α)),
      evalProgG planOf A (p.map g) regs = evalProgG (fun s i => planOf s (g i)) A p regs
  | [], _ => rfl
  | i :: is, regs => by
    simp only [List.map_cons, evalProgG, evalProgG_comap planOf g A is]

theorem evalProg_append {α : Type} (A : Alg α) (p q : List Instr) (regs : List (Tensor α)) :
    evalProg A (p ++ q) regs = (evalProg A p regs) >>= (evalProg A q) := by
  rw [evalProg_eq_evalProgG, evalProgG_append, evalProg_eq_evalProgG, funext (evalProg_eq_evalProgG A q)]

theorem evalProgG_base {α : Type} (A : Alg α) (p : List Instr) (regs : List (Tensor α)) :
    evalProgG planInstrX A (p.map .base) regs = evalProg A p regs := by
  rw [evalProgG_comap, evalProg_eq_evalProgG]
  rfl

theorem symRun_eq_symRunG (prog : List Instr) (inShapes : List (List Nat)) (outs : List Nat) :
    symRun prog inShapes outs = symRunG planInstr prog inShapes outs := by
  rw [symRun, symRunG, evalProg_eq_evalProgG]
  rfl

theorem symRunG_one {ι : Type} {planOf : List (List Nat) → ι → E Plan} {prog : List ι} {shapes : List (List Nat)}
    {regs : List (Tensor Cell)} {r : Nat} {T : Tensor Cell}
    (hev : evalProgG planOf symAlg prog (symInputs shapes) = .ok regs) (hr : regs[r]? = some T) :
    symRunG planOf prog shapes [r] = .ok [T] := by
  simp [symRunG, hev, bind, Except.bind, selectRegs, hr, pure, Except.pure]

theorem symRun_one {prog : List Instr} {shapes : List (List Nat)} {regs : List (Tensor Cell)} {r : Nat} {T : Tensor Cell}
    (hev : evalProg symAlg prog (symInputs shapes) = .ok regs) (hr : regs[r]? = some T) :
    symRun prog shapes [r] = .ok [T] := by
  rw [symRun_eq_symRunG]
  exact symRunG_one (by rw [← evalProg_eq_evalProgG]; exact hev) hr

theorem validate_eq_validateG (prog : List Instr) (inShapes : List (List Nat)) (outs : List Nat)
    (expected : List (Tensor Cell)) :
    validate prog inShapes outs expected = validateG planInstr prog inShapes outs expected := by
  rw [validate, validateG, symRun_eq_symRunG]
  rfl

/-- The algebra of integers under an interpretation `I` of the elementary function symbols. -/
def intAlgOf (I : String → List Int → Int) (bad : Int) : Alg Int := { lit := id, app := I, bad := bad }

theorem intAlgOf_lit (I : String → List Int → Int) (bad i : Int) : (intAlgOf I bad).lit i = i := rfl

theorem intAlgOf_app (I : String → List Int → Int) (bad : Int) (f : String) (args : List Int) :
    (intAlgOf I bad).app f args = I f args := rfl

theorem evalCell_hom {α : Type} (A : Alg α) (xs : List (Tensor α)) : Hom symAlg A (evalCell A xs) where
  lit := fun _ => rfl
  app := fun f args => by simp only [symAlg, evalCell, evalCells_eq_map]
  bad := rfl

theorem interp_hom (I : String → List Int → Int) (bad : Int) (xs : List (Tensor Int)) :
    Hom symAlg (intAlgOf I bad) (evalCell (intAlgOf I bad) xs) :=
  evalCell_hom _ xs

theorem symInputs_eval {α : Type} (A : Alg α) (xs : List (Tensor α))
    (hlen : ∀ x ∈ xs, x.data.length = prod x.shape) :
    (symInputs (xs.map (·.shape))).map (Tensor.map (evalCell A xs)) = xs := by
  apply List.ext_getElem?
  intro k
  simp only [symInputs, List.getElem?_map, List.getElem?_zipIdx, Nat.zero_add]
  cases hk : xs[k]? with
  | none => rfl
  | some x =>
    obtain ⟨shape, data⟩ := x
    have hl : data.length = prod shape := hlen _ (List.mem_of_getElem? hk)
    simp only [Option.map_some, symInput, Tensor.map, List.map_map, Option.some.injEq, Tensor.mk.injEq, true_and]
    apply List.ext_getElem
    · simp [hl]
    · intro j _ h2
      simp [evalCell, readReg, hk, List.getElem?_eq_getElem h2]

theorem symInputs_interp (A : Alg Int) (xs : List (Tensor Int))
    (hlen : ∀ x ∈ xs, x.data.length = prod x.shape) :
    (symInputs (xs.map (·.shape))).map (Tensor.map (evalCell A xs)) = xs :=
  symInputs_eval A xs hlen

theorem selectRegs_eq_some {α : Type} (regs : List (Tensor α)) :
    ∀ (outs : List Nat) (ts : List (Tensor α)), selectRegs regs outs = some ts →
      outs.map (fun r => regs[r]?) = ts.map some
  | [], ts, hs => by cases hs; rfl
  | r :: rs, ts, hs => by
    simp only [selectRegs] at hs
    split at hs
    · rename_i t ts' hr hrest
      cases hs
      rw [List.map_cons, hr, selectRegs_eq_some regs rs ts' hrest, List.map_cons]
    · cases hs

theorem selectRegs_map {α β : Type} (h : α → β) (regs : List (Tensor α)) (outs : List Nat) (ts : List (Tensor α))
    (hs : selectRegs regs outs = some ts) :
    outs.map (fun r => (regs.map (Tensor.map h))[r]?) = ts.map (fun t => some (t.map h)) := by
  have := congrArg (List.map (Option.map (Tensor.map h))) (selectRegs_eq_some regs outs ts hs)
  simpa only [List.map_map, List.getElem?_map, Function.comp_def, Option.map_some] using this

theorem tensorsBeq_eq : ∀ (as bs : List (Tensor Cell)), tensorsBeq as bs = true → as = bs
  | [], [], _ => rfl
  | ⟨sa, da⟩ :: as, ⟨sb, db⟩ :: bs, h => by
    simp only [tensorsBeq, Bool.and_eq_true, Tensor.beq, beq_iff_eq] at h
    rw [h.1.1, Cell.beqL_eq _ _ h.1.2, tensorsBeq_eq as bs h.2]
  | [], _ :: _, h | _ :: _, [], h => by simp [tensorsBeq] at h

/-- One symbolic run speaks for every element algebra and every content of the inputs. -/
theorem symRunG_sound {ι α : Type} (planOf : List (List Nat) → ι → E Plan) (A : Alg α)
    (prog : List ι) (outs : List Nat) (res : List (Tensor Cell)) (xs : List (Tensor α))
    (hlen : ∀ x ∈ xs, x.data.length = prod x.shape)
    (hs : symRunG planOf prog (xs.map (·.shape)) outs = .ok res) :
    ∃ regs, evalProgG planOf A prog xs = .ok regs ∧
      outs.map (fun r => regs[r]?) = res.map (fun t => some (t.map (evalCell A xs))) := by
  unfold symRunG at hs
  have hnat := evalProgG_map planOf (evalCell_hom A xs) prog (symInputs (xs.map (·.shape)))
  rw [symInputs_eval _ xs hlen] at hnat
  cases hr : evalProgG planOf symAlg prog (symInputs (xs.map (·.shape))) with
  | error e => simp [hr, bind, Except.bind] at hs
  | ok sregs =>
    simp only [hr, bind, Except.bind] at hs
    refine ⟨_, hnat.trans (by rw [hr]; rfl), ?_⟩
    cases hsel : selectRegs sregs outs with
    | none => simp [hsel] at hs
    | some ts =>
      simp only [hsel, pure, Except.pure, Except.ok.injEq] at hs
      exact hs ▸ selectRegs_map _ sregs outs ts hsel

theorem validateG_sound {ι α : Type} (planOf : List (List Nat) → ι → E Plan) (A : Alg α)
    (prog : List ι) (outs : List Nat) (expected : List (Tensor Cell)) (xs : List (Tensor α))
    (hlen : ∀ x ∈ xs, x.data.length = prod x.shape)
    (hv : validateG planOf prog (xs.map (·.shape)) outs expected = true) :
    ∃ regs, evalProgG planOf A prog xs = .ok regs ∧
      outs.map (fun r => regs[r]?) = expected.map (fun t => some (t.map (evalCell A xs))) := by
  unfold validateG at hv
  cases hs : symRunG planOf prog (xs.map (·.shape)) outs with
  | error e => simp [hs] at hv
  | ok res =>
    rw [hs] at hv
    exact tensorsBeq_eq _ _ hv ▸ symRunG_sound planOf A prog outs res xs hlen hs

theorem equivG_sound {ι : Type} (planOf : List (List Nat) → ι → E Plan)
    (p1 p2 : List ι) (outs1 outs2 : List Nat)
    (I : String → List Int → Int) (bad : Int) (xs : List (Tensor Int))
    (hlen : ∀ x ∈ xs, x.data.length = prod x.shape)
    (hv : equivG planOf p1 p2 (xs.map (·.shape)) outs1 outs2 = true) :
    ∃ r1 r2, evalProgG planOf (intAlgOf I bad) p1 xs = .ok r1 ∧ evalProgG planOf (intAlgOf I bad) p2 xs = .ok r2 ∧
      outs1.map (fun r => r1[r]?) = outs2.map (fun r => r2[r]?) := by
  unfold equivG at hv
  cases h1 : symRunG planOf p1 (xs.map (·.shape)) outs1 with
  | error e => simp [h1] at hv
  | ok res1 =>
    cases h2 : symRunG planOf p2 (xs.map (·.shape)) outs2 with
    | error e => simp [h1, h2] at hv
    | ok res2 =>
      simp only [h1, h2] at hv
      obtain ⟨r1, e1, o1⟩ := symRunG_sound planOf (intAlgOf I bad) p1 outs1 res1 xs hlen h1
      obtain ⟨r2, e2, o2⟩ := symRunG_sound planOf (intAlgOf I bad) p2 outs2 res2 xs hlen h2
      exact ⟨r1, r2, e1, e2, by rw [o1, o2, tensorsBeq_eq _ _ hv]⟩

theorem getShape_of {shapes : List (List Nat)} {x : Nat} {sx : List Nat} (hx : shapes[x]? = some sx) :
    getShape shapes x = .ok sx := by
  rw [getShape, hx]; rfl

theorem shapes_getElem? {α : Type} {regs : List (Tensor α)} {x : Nat} {t : Tensor α} (hx : regs[x]? = some t) :
    (regs.map (·.shape))[x]? = some t.shape := by
  rw [List.getElem?_map, hx]; rfl

theorem planInstr_reshape_eq {shapes : List (List Nat)} {x : Nat} {sx : List Nat} (hx : shapes[x]? = some sx)
    (s : List Nat) :
    planInstr shapes (.reshape x s) =
      if prod sx = prod s then .ok ⟨s, (List.range (prod s)).map (Cell.src x)⟩
      else .error s!"reshape: {sx} -> {s} changes the number of elements" := by
  simp only [planInstr, getShape_of hx, bind, Except.bind]
  by_cases h : prod sx = prod s
  · simp only [h, bne_self_eq_false, Bool.false_eq_true, if_false, if_true]; rfl
  · simp only [bne_iff_ne, ne_eq, h, not_false_eq_true, if_true, if_false]; rfl

theorem planInstr_transpose_eq {shapes : List (List Nat)} {x : Nat} {sx : List Nat} (hx : shapes[x]? = some sx)
    (perm : List Nat) :
    planInstr shapes (.transpose x perm) =
      if isPerm perm sx.length = true then
        .ok (tabulate (permShape perm sx) (fun o => .src x (ravel sx (gatherIdx perm sx.length o))))
      else .error s!"transpose: {perm} is not a permutation of rank {sx.length}" := by
  simp only [planInstr, getShape_of hx, bind, Except.bind]
  cases isPerm perm sx.length <;> rfl

theorem planInstr_broadcastTo_eq {shapes : List (List Nat)} {x : Nat} {sx : List Nat} (hx : shapes[x]? = some sx)
    (s : List Nat) :
    planInstr shapes (.broadcastTo x s) =
      if broadcastable sx s = true then .ok (tabulate s (fun o => .src x (ravel sx (broadcastIndex sx s o))))
      else .error s!"broadcast_to: {sx} -> {s}" := by
  simp only [planInstr, getShape_of hx, bind, Except.bind]
  cases broadcastable sx s <;> rfl

theorem planInstr_concat1_eq {shapes : List (List Nat)} {x : Nat} {sx : List Nat} (hx : shapes[x]? = some sx)
    (axis : Nat) :
    planInstr shapes (.concat [x] axis) =
      if axis < sx.length then .ok ⟨sx, (List.range (prod sx)).map (Cell.src x)⟩
      else .error "concatenate: invalid axis" := by
  simp only [planInstr, List.mapM_cons, List.mapM_nil, getShape_of hx, bind, Except.bind, pure, Except.pure, ge_iff_le]
  by_cases hax : axis < sx.length
  · simp only [Nat.not_le.2 hax, Bool.false_eq_true, if_false, List.all_cons, List.all_nil,
      beq_self_eq_true, Bool.and_self, Bool.not_true, List.map_cons, List.map_nil, List.foldl_cons, List.foldl_nil,
      Nat.zero_add, set_getD_self, List.zip_cons_cons, List.zip_nil_right, hax, if_true, tabulate]
    -- at a valid multi-index the search finds the only operand, at the same position
    refine congrArg (fun cs => Except.ok (Plan.mk sx cs)) (List.map_congr_left fun k hk => ?_)
    have hk := List.mem_range.1 hk
    have hlt := (valid_iff_getD.1 (unravel_valid sx k hk)).2 axis hax
    simp only [planInstr.find, hlt, if_true, set_getD_self, ravel_unravel _ _ hk]
  · simp only [Nat.not_lt.1 hax, if_true, hax, if_false]
    rfl

theorem runPlan_data {α : Type} (A : Alg α) (regs : List (Tensor α)) (pl : Plan) :
    (runPlan A regs pl).data = pl.cells.map (evalCell A regs) :=
  evalCells_eq_map A regs pl.cells

theorem evalCell_src {α : Type} (A : Alg α) {regs : List (Tensor α)} {x : Nat} {t : Tensor α} (hx : regs[x]? = some t)
    (k : Nat) : evalCell A regs (.src x k) = (t.data[k]?).getD A.bad := by
  rw [evalCell, readReg, hx]

theorem runPlan_gather {α : Type} (A : Alg α) {regs : List (Tensor α)} {x : Nat} {t : Tensor α} (hx : regs[x]? = some t)
    (s : List Nat) (g : Nat → Nat) :
    runPlan A regs ⟨s, (List.range (prod s)).map fun k => .src x (g k)⟩
      = ⟨s, (List.range (prod s)).map fun k => (t.data[g k]?).getD A.bad⟩ := by
  rw [runPlan, evalCells_eq_map, List.map_map]
  exact congrArg (Tensor.mk s) (List.map_congr_left fun k _ => evalCell_src A hx (g k))

theorem tabulate_getElem? (s : List Nat) (f : List Nat → Cell) {o : List Nat} (hv : Valid s o) :
    (tabulate s f).cells[ravel s o]? = some (f o) := by
  simp only [tabulate, List.getElem?_map, List.getElem?_range (ravel_lt hv), Option.map_some, unravel_ravel hv]

theorem broadcastIndex_self {s o : List Nat} (hv : Valid s o) : broadcastIndex s s o = o := by
  simp only [broadcastIndex, Nat.sub_self, List.drop_zero]
  induction hv with
  | nil => rfl
  | @cons s0 i ss is hi _ ih =>
    simp only [List.zip_cons_cons, List.map_cons, ih, List.cons.injEq, and_true]
    by_cases h1 : s0 = 1
    · subst h1; simp; omega
    · simp [h1]

end Einx.IR

namespace Einx.Lower
open Einx.IR

mutual
theorem Cell.beq_refl : ∀ c : Cell, Cell.beq c c = true
  | .src r k => by simp [Cell.beq]
  | .lit i => by simp [Cell.beq]
  | .app f as => by simp [Cell.beq, Cell.beqL_refl as]
  | .bad => rfl
theorem Cell.beqL_refl : ∀ cs : List Cell, Cell.beqL cs cs = true
  | [] => rfl
  | c :: cs => by simp [Cell.beqL, Cell.beq_refl c, Cell.beqL_refl cs]
end

theorem tensorsBeq_refl : ∀ ts : List (Tensor Cell), tensorsBeq ts ts = true
  | [] => rfl
  | t :: ts => by simp [tensorsBeq, Tensor.beq, Cell.beqL_refl, tensorsBeq_refl ts]

end Einx.Lower
