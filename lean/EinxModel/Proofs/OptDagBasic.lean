import EinxModel.Optimize.DagSem
import EinxModel.Proofs.ExceptList
import EinxModel.Proofs.OptionList
/-!
Helper lemmas for `Props/C05Dag.lean`: the DAG evaluator (`evalToks`, `evalApp`, `evalNodes`) -- inversion,
monotonicity under extension of the environment, and the predicate form `EnvOK` of "this environment is the
evaluation of these nodes".
-/
namespace Einx.OptDag
variable {V : Type}

theorem map_ok {ε α β : Type} {m : Except ε α} {f : α → β} {b : β} :
    (f <$> m) = .ok b ↔ ∃ a, m = .ok a ∧ f a = b := by
  cases m with
  | error e => simp [Functor.map, Except.map]
  | ok a => simp [Functor.map, Except.map]

theorem evalTok_ref_inv (env : List V) (i : Nat) (r : RTok V) (h : evalTok env (.ref i) = .ok r) : ∃ vo, env[i]? = some vo ∧ r = .val vo := by
  simp only [evalTok] at h
  cases hj : env[i]? with
  | none => rw [hj] at h; cases h
  | some m =>
    rw [hj] at h
    exact ⟨m, rfl, (Except.ok.inj h).symm⟩

theorem evalTok_mono (env ext : List V) (t : Tok) (r : RTok V) (h : evalTok env t = .ok r) :
    evalTok (env ++ ext) t = .ok r := by
  cases t with
  | ref i =>
    obtain ⟨vo, hi, rfl⟩ := evalTok_ref_inv env i r h
    rw [evalTok, List.getElem?_append_left (List.getElem?_eq_some_iff.1 hi).1, hi]
    rfl
  | gref k | atom a | open_ c n => exact h

theorem evalToks_nil (env : List V) : evalToks env [] = .ok [] := rfl

theorem evalToks_cons (env : List V) (t : Tok) (ts : List Tok) (rs : List (RTok V)) :
    evalToks env (t :: ts) = .ok rs ↔ ∃ r rs', evalTok env t = .ok r ∧ evalToks env ts = .ok rs' ∧ rs = r :: rs' :=
  mapM_cons_ok (f := evalTok env)

theorem evalToks_single (env : List V) (t : Tok) (r : RTok V) : evalToks env [t] = .ok [r] ↔ evalTok env t = .ok r := by
  rw [evalToks_cons]
  constructor
  · rintro ⟨r', rs', h1, h2, h3⟩
    rw [evalToks_nil] at h2
    cases h2
    cases h3
    exact h1
  · intro h
    exact ⟨r, [], h, evalToks_nil env, rfl⟩

theorem evalToks_ref (env : List V) (i : Nat) (x : V) (h : env[i]? = some x) : evalToks env [.ref i] = .ok [.val x] := by
  rw [evalToks_single]
  simp only [evalTok, h]
  rfl

theorem evalToks_ref_inv (env : List V) (i : Nat) (rs : List (RTok V)) (h : evalToks env [.ref i] = .ok rs) :
    ∃ x, env[i]? = some x ∧ rs = [.val x] := by
  obtain ⟨r, rs', e3, e4, rfl⟩ := (evalToks_cons env _ _ _).1 h
  rw [evalToks_nil] at e4; cases e4
  obtain ⟨m, hm, rfl⟩ := evalTok_ref_inv env i r e3
  exact ⟨m, hm, rfl⟩

theorem evalToks_mono (env ext : List V) (v : List Tok) (rs : List (RTok V)) (h : evalToks env v = .ok rs) :
    evalToks (env ++ ext) v = .ok rs :=
  mapM_ok_imp (evalTok_mono env ext) v rs h

theorem evalToks_append (env : List V) : ∀ (a b : List Tok) (ra rb : List (RTok V)), evalToks env a = .ok ra → evalToks env b = .ok rb →
    evalToks env (a ++ b) = .ok (ra ++ rb)
  | [], b, ra, rb, ha, hb => by rw [evalToks_nil] at ha; cases ha; simpa using hb
  | t :: ts, b, ra, rb, ha, hb => by
    obtain ⟨r, rs', h1, h2, rfl⟩ := (evalToks_cons env t ts ra).1 ha
    exact (evalToks_cons _ t (ts ++ b) _).2 ⟨r, rs' ++ rb, h1, evalToks_append env ts b rs' rb h2 hb, rfl⟩

theorem refFree_iff (v : List Tok) : refFree v = true ↔ ∀ t ∈ v, (∀ i, t ≠ .ref i) ∧ ∀ k, t ≠ .gref k := by
  simp only [refFree, Bool.not_eq_true', List.any_eq_false]
  refine forall_congr' fun t => imp_congr_right fun _ => ?_
  cases t with
  | ref i => exact ⟨fun h => (h rfl).elim, fun h => (h.1 i rfl).elim⟩
  | gref k => exact ⟨fun h => (h rfl).elim, fun h => (h.2 k rfl).elim⟩
  | atom a | open_ c n => exact ⟨fun _ => ⟨fun _ => nofun, fun _ => nofun⟩, fun _ => nofun⟩

theorem evalToks_lits (env : List V) (v : List Tok) (h : refFree v = true) : evalToks env v = .ok (lits v) := by
  refine mapM_ok_map (evalTok env) RTok.lit v fun t ht => ?_
  obtain ⟨h1, h2⟩ := (refFree_iff v).1 h t ht
  cases t with
  | ref i => exact (h1 i rfl).elim
  | gref k => exact (h2 k rfl).elim
  | atom a | open_ c n => rfl

theorem seqNats_refFree (v : List Tok) (s : List Nat) (h : seqNats v = some s) : refFree v = true := by
  have key : ∀ (c : CKind) (n : Nat) (rest : List Tok),
      rest.mapM (fun t => match t with | Tok.atom (.int v) => if 0 ≤ v then some v.toNat else none | _ => none) = some s →
      refFree (.open_ c n :: rest) = true := by
    intro c n rest hm
    refine (refFree_iff _).2 fun t ht => ?_
    rcases List.mem_cons.1 ht with rfl | ht
    · exact ⟨fun _ => nofun, fun _ => nofun⟩
    · obtain ⟨_, _, hb⟩ := Update.mapOpt_forall_of_some ((Update.mapM_eq_mapOpt _ _).symm.trans hm) t ht
      cases t with
      | ref i => cases hb
      | gref k => cases hb
      | atom a | open_ c n => exact ⟨fun _ => nofun, fun _ => nofun⟩
  unfold seqNats at h
  split at h
  · split at h
    · exact key _ _ _ h
    · cases h
  · split at h
    · exact key _ _ _ h
    · cases h
  · cases h

theorem natsToks_refFree (p : List Nat) : refFree (natsToks p) = true := by
  refine (refFree_iff _).2 fun t ht => ?_
  rcases List.mem_cons.1 ht with rfl | ht
  · exact ⟨fun _ => nofun, fun _ => nofun⟩
  · obtain ⟨n, _, rfl⟩ := List.mem_map.1 ht
    exact ⟨fun _ => nofun, fun _ => nofun⟩

theorem evalOperands_nil (env : List V) : evalOperands env [] = .ok [] := rfl

theorem evalOperands_cons (env : List V) (v : List Tok) (vs : List (List Tok)) (rss : List (List (RTok V))) :
    evalOperands env (v :: vs) = .ok rss ↔ ∃ rs rss', evalToks env v = .ok rs ∧ evalOperands env vs = .ok rss' ∧ rss = rs :: rss' :=
  mapM_cons_ok (f := evalToks env)

theorem evalOperands_mono (env ext : List V) (vs : List (List Tok)) (rss : List (List (RTok V))) (h : evalOperands env vs = .ok rss) :
    evalOperands (env ++ ext) vs = .ok rss :=
  mapM_ok_imp (evalToks_mono env ext) vs rss h

theorem evalOperands_getElem (env : List V) : ∀ (vs : List (List Tok)) (rss : List (List (RTok V))) (k : Nat) (v : List Tok),
    evalOperands env vs = .ok rss → vs[k]? = some v → ∃ rs, rss[k]? = some rs ∧ evalToks env v = .ok rs
  | [], _, k, v, _, hk => by simp at hk
  | w :: ws, rss, k, v, h, hk => by
    obtain ⟨r, rs', h1, h2, rfl⟩ := (evalOperands_cons env w ws rss).1 h
    cases k with
    | zero => simp at hk; subst hk; exact ⟨r, rfl, h1⟩
    | succ k =>
      simp at hk
      obtain ⟨rs, e1, e2⟩ := evalOperands_getElem env ws rs' k v h2 hk
      exact ⟨rs, by simpa using e1, e2⟩

theorem evalKwargs_cons (env : List V) (k : String) (v : List Tok) (rest : List (String × List Tok)) (r : List (String × List (RTok V))) :
    evalKwargs env ((k, v) :: rest) = .ok r ↔ ∃ v' rest', evalToks env v = .ok v' ∧ evalKwargs env rest = .ok rest' ∧ r = (k, v') :: rest' := by
  rw [evalKwargs]
  constructor
  · intro h
    obtain ⟨v', hv, h⟩ := bind_ok.1 h
    obtain ⟨rest', hrest, h⟩ := bind_ok.1 h
    exact ⟨v', rest', hv, hrest, (Except.ok.inj h).symm⟩
  · rintro ⟨v', rest', hv, hrest, rfl⟩
    rw [hv, hrest]
    rfl

theorem evalKwargs_ok (env : List V) : ∀ (kws : List (String × List Tok)) (r : List (String × List (RTok V))),
    evalKwargs env kws = .ok r ↔ ∃ vs, evalOperands env (kws.map (·.2)) = .ok vs ∧ r = (kws.map (·.1)).zip vs
  | [], r => ⟨fun h => ⟨[], rfl, (Except.ok.inj h).symm⟩, fun ⟨vs, hv, hr⟩ => by cases hv; rw [hr]; rfl⟩
  | (k, v) :: rest, r => by
    rw [evalKwargs_cons]
    constructor
    · rintro ⟨v', rest', h1, h2, rfl⟩
      obtain ⟨vs, hv, rfl⟩ := (evalKwargs_ok env rest rest').1 h2
      exact ⟨v' :: vs, (evalOperands_cons env v _ _).2 ⟨v', vs, h1, hv, rfl⟩, rfl⟩
    · rintro ⟨vs, hv, rfl⟩
      obtain ⟨v', vs', h1, h2, rfl⟩ := (evalOperands_cons env v _ vs).1 hv
      exact ⟨v', _, h1, (evalKwargs_ok env rest _).2 ⟨vs', h2, rfl⟩, rfl⟩

theorem evalKwargs_mono (env ext : List V) (kws : List (String × List Tok)) (r : List (String × List (RTok V)))
    (h : evalKwargs env kws = .ok r) : evalKwargs (env ++ ext) kws = .ok r := by
  obtain ⟨vs, hv, rfl⟩ := (evalKwargs_ok env kws r).1 h
  exact (evalKwargs_ok _ kws _).2 ⟨vs, evalOperands_mono env ext _ vs hv, rfl⟩

theorem evalKwargs_isEmpty (env : List V) (kws : List (String × List Tok)) (r : List (String × List (RTok V)))
    (h : evalKwargs env kws = .ok r) (he : kws = []) : r = [] := by
  subst he
  simpa [evalKwargs, pure, Except.pure] using h.symm

theorem evalApp_ok (env : List V) (a : App) (ea : EApp V) :
    evalApp env a = .ok ea ↔ ∃ pre args kwargs deps, evalOperands env a.pre = .ok pre ∧ evalOperands env a.args = .ok args ∧
      evalKwargs env a.kwargs = .ok kwargs ∧ evalOperands env a.deps = .ok deps ∧ ea = ⟨a.head, pre, args, kwargs, a.out⟩ := by
  simp only [evalApp]
  constructor
  · intro h
    obtain ⟨pre, h1, h⟩ := bind_ok.1 h
    obtain ⟨args, h2, h⟩ := bind_ok.1 h
    obtain ⟨kwargs, h3, h⟩ := bind_ok.1 h
    obtain ⟨deps, h4, h⟩ := bind_ok.1 h
    exact ⟨pre, args, kwargs, deps, h1, h2, h3, h4, by simpa [pure, Except.pure] using h.symm⟩
  · rintro ⟨pre, args, kwargs, deps, h1, h2, h3, h4, rfl⟩
    simp [h1, h2, h3, h4, bind, Except.bind, pure, Except.pure]

theorem evalApp_mono (env ext : List V) (a : App) (ea : EApp V) (h : evalApp env a = .ok ea) : evalApp (env ++ ext) a = .ok ea := by
  obtain ⟨pre, args, kwargs, deps, h1, h2, h3, h4, rfl⟩ := (evalApp_ok env a ea).1 h
  exact (evalApp_ok _ a _).2 ⟨pre, args, kwargs, deps, evalOperands_mono env ext _ _ h1, evalOperands_mono env ext _ _ h2,
    evalKwargs_mono env ext _ _ h3, evalOperands_mono env ext _ _ h4, rfl⟩

theorem evalNode_none {Sm : Sem V} {bnd : List (Nat × V)} {env : List V} {ty : Ty} {v : V} :
    evalNode Sm bnd env ⟨ty, .none⟩ = .ok v ↔ bnd.lookup env.length = some v ∧ tyOK Sm ty v = true := by
  simp only [evalNode]
  split
  · rename_i w hw
    rw [hw, Option.some.injEq]
    split
    · rename_i ht
      rw [pure_ok]
      exact ⟨fun h => ⟨h, h ▸ ht⟩, fun h => h.1⟩
    · rename_i ht
      exact ⟨fun h => (nomatch h), fun h => (ht (h.1 ▸ h.2)).elim⟩
  · rename_i hw
    rw [hw]
    exact ⟨fun h => (nomatch h), fun h => (nomatch h.1)⟩

theorem evalNode_app {Sm : Sem V} {bnd : List (Nat × V)} {env : List V} {ty : Ty} {a : App} {v : V} :
    evalNode Sm bnd env ⟨ty, .app a⟩ = .ok v ↔ a.out = [.ref 0] ∧ a.head.evaluable = true ∧
      ∃ ea, evalApp env a = .ok ea ∧ Sm.app ea = .ok v ∧ tyOK Sm ty v = true ∧ inplaceOK Sm ea v = true := by
  simp only [evalNode]
  split
  · rename_i hc
    simp only [Bool.and_eq_true, beq_iff_eq] at hc
    constructor
    · intro h
      obtain ⟨ea, h1, h⟩ := bind_ok.1 h
      obtain ⟨w, h2, h⟩ := bind_ok.1 h
      split at h
      · rename_i ht
        cases pure_ok.1 h
        simp only [Bool.and_eq_true] at ht
        exact ⟨hc.1, hc.2, ea, h1, h2, ht.1, ht.2⟩
      · cases h
    · rintro ⟨_, _, ea, h1, h2, h3, h4⟩
      simp only [h1, h2, h3, h4, bind, Except.bind, Bool.and_self, if_true]
      rfl
  · rename_i hc
    simp only [Bool.and_eq_true, beq_iff_eq] at hc
    exact ⟨fun h => (nomatch h), fun h => (hc ⟨h.1, h.2.1⟩).elim⟩

theorem evalNode_proj {Sm : Sem V} {bnd : List (Nat × V)} {env : List V} {ty : Ty} {s k : Nat} {v : V} :
    evalNode Sm bnd env ⟨ty, .proj s k⟩ ≠ .ok v :=
  fun h => nomatch h

/-- `env` is the evaluation of `nodes`: node `i` evaluates to `env[i]` on the values before it. -/
def EnvOK (Sm : Sem V) (nodes : List Node) (bnd : List (Nat × V)) (env : List V) : Prop :=
  env.length = nodes.length ∧ ∀ i n, nodes[i]? = some n → ∃ v, env[i]? = some v ∧ evalNode Sm bnd (env.take i) n = .ok v

theorem evalNodes_spec (Sm : Sem V) (bnd : List (Nat × V)) : ∀ (ns : List Node) (pre env : List V), evalNodes Sm bnd ns pre = .ok env →
    ∃ suf, env = pre ++ suf ∧ suf.length = ns.length ∧
      ∀ i n, ns[i]? = some n → ∃ v, suf[i]? = some v ∧ evalNode Sm bnd (pre ++ suf.take i) n = .ok v
  | [], pre, env, h => by
    simp only [evalNodes, pure, Except.pure, Except.ok.injEq] at h
    exact ⟨[], by simp [h], rfl, by intro i n hn; simp at hn⟩
  | n :: ns, pre, env, h => by
    simp only [evalNodes] at h
    obtain ⟨v, hv, h⟩ := bind_ok.1 h
    obtain ⟨suf, e1, e2, e3⟩ := evalNodes_spec Sm bnd ns (pre ++ [v]) env h
    refine ⟨v :: suf, by simp [e1], by simp [e2], ?_⟩
    intro i m hm
    cases i with
    | zero =>
      simp at hm; subst hm
      exact ⟨v, rfl, by simpa using hv⟩
    | succ i =>
      simp at hm
      obtain ⟨w, hw1, hw2⟩ := e3 i m hm
      exact ⟨w, by simpa using hw1, by simpa [List.append_assoc] using hw2⟩

theorem evalNodes_complete (Sm : Sem V) (bnd : List (Nat × V)) : ∀ (ns : List Node) (pre suf : List V), suf.length = ns.length →
    (∀ i n, ns[i]? = some n → ∃ v, suf[i]? = some v ∧ evalNode Sm bnd (pre ++ suf.take i) n = .ok v) →
    evalNodes Sm bnd ns pre = .ok (pre ++ suf)
  | [], pre, suf, hl, _ => by
    have : suf = [] := List.length_eq_zero_iff.1 (by simpa using hl)
    subst this
    simp [evalNodes, pure, Except.pure]
  | n :: ns, pre, suf, hl, h => by
    cases suf with
    | nil => simp at hl
    | cons v suf =>
      obtain ⟨w, hw1, hw2⟩ := h 0 n rfl
      simp at hw1; subst hw1
      simp only [evalNodes]
      have hw2' : evalNode Sm bnd pre n = .ok v := by simpa using hw2
      rw [hw2']
      simp only [Bind.bind, Except.bind]
      have := evalNodes_complete Sm bnd ns (pre ++ [v]) suf (by simpa using hl) (by
        intro i m hm
        obtain ⟨u, hu1, hu2⟩ := h (i + 1) m (by simpa using hm)
        exact ⟨u, by simpa using hu1, by simpa [List.append_assoc] using hu2⟩)
      simpa [List.append_assoc] using this

theorem envOK_of_evalNodes (Sm : Sem V) (bnd : List (Nat × V)) (nodes : List Node) (env : List V)
    (h : evalNodes Sm bnd nodes [] = .ok env) : EnvOK Sm nodes bnd env := by
  obtain ⟨suf, e1, e2, e3⟩ := evalNodes_spec Sm bnd nodes [] env h
  simp at e1; subst e1
  exact ⟨e2, by intro i n hn; simpa using e3 i n hn⟩

theorem evalNodes_of_envOK (Sm : Sem V) (bnd : List (Nat × V)) (nodes : List Node) (env : List V)
    (h : EnvOK Sm nodes bnd env) : evalNodes Sm bnd nodes [] = .ok env := by
  have := evalNodes_complete Sm bnd nodes [] env h.1 (by intro i n hn; simpa using h.2 i n hn)
  simpa using this

theorem EnvOK.snoc {Sm : Sem V} {nodes : List Node} {bnd : List (Nat × V)} {env : List V} (h : EnvOK Sm nodes bnd env)
    (n : Node) (v : V) (hv : evalNode Sm bnd env n = .ok v) : EnvOK Sm (nodes ++ [n]) bnd (env ++ [v]) := by
  refine ⟨by simp [h.1], ?_⟩
  intro i m hm
  by_cases hi : i < nodes.length
  · rw [List.getElem?_append_left hi] at hm
    obtain ⟨w, hw1, hw2⟩ := h.2 i m hm
    refine ⟨w, ?_, ?_⟩
    · rw [List.getElem?_append_left (by rw [h.1]; exact hi)]; exact hw1
    · rw [List.take_append_of_le_length (by rw [h.1]; omega)]; exact hw2
  · have hi' : i = nodes.length := by
      have := (List.getElem?_eq_some_iff.1 hm).1
      simp at this; omega
    subst hi'
    simp at hm; subst hm
    refine ⟨v, ?_, ?_⟩
    · rw [← h.1]; simp
    · rw [← h.1]; simpa using hv

end Einx.OptDag
