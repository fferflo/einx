import EinxModel.Update.Model
/-! `mapOpt f l` (`l.mapM f` in `Option`: `mapM_eq_mapOpt`) is defined exactly when every `f a` is, and then lists the
values: `mapOpt_eq_some_iff`.  What is said about a defined result follows from that equation of lists; the statements that
also say when the result is defined are inductions of their own.  No library beyond core Lean. -/
namespace Einx.Update

theorem mapOpt_eq_some_iff {α β : Type} (f : α → Option β) (l : List α) (r : List β) :
    mapOpt f l = some r ↔ l.map f = r.map some := by
  induction l generalizing r with
  | nil => cases r <;> simp [mapOpt]
  | cons a as ih =>
    cases r with
    | nil => simp only [mapOpt]; split <;> simp
    | cons x xs =>
      simp only [mapOpt, List.map_cons, List.cons.injEq, ← ih xs]
      cases f a <;> cases mapOpt f as <;> simp

theorem mapOpt_length {α β : Type} {f : α → Option β} {l : List α} {r : List β} (h : mapOpt f l = some r) :
    r.length = l.length := by
  have := congrArg List.length ((mapOpt_eq_some_iff f l r).mp h)
  simpa using this.symm

theorem mapOpt_getElem? {α β : Type} {f : α → Option β} {l : List α} {r : List β} (h : mapOpt f l = some r)
    (k : Nat) (a : α) (ha : l[k]? = some a) : f a = r[k]? := by
  have := congrArg (fun x => x[k]?) ((mapOpt_eq_some_iff f l r).mp h)
  simp only [List.getElem?_map, ha, Option.map_some] at this
  cases hr : r[k]? with
  | none => simp [hr] at this
  | some b => simpa [hr] using this

theorem mapOpt_forall_of_some {α β : Type} {f : α → Option β} {l : List α} {r : List β} (h : mapOpt f l = some r) :
    ∀ a ∈ l, ∃ b ∈ r, f a = some b := by
  intro a ha
  have hm : f a ∈ r.map some := (mapOpt_eq_some_iff f l r).mp h ▸ List.mem_map_of_mem ha
  obtain ⟨b, hb, e⟩ := List.mem_map.mp hm
  exact ⟨b, hb, e.symm⟩

theorem mapOpt_mem {α β : Type} {f : α → Option β} {l : List α} {r : List β} (h : mapOpt f l = some r) {b : β}
    (hb : b ∈ r) : ∃ a ∈ l, f a = some b := by
  have hm : some b ∈ l.map f := (mapOpt_eq_some_iff f l r).mp h ▸ List.mem_map_of_mem hb
  exact List.mem_map.mp hm

theorem mapOpt_some_of_forall {α β : Type} {f : α → Option β} {l : List α}
    (h : ∀ a ∈ l, ∃ b, f a = some b) : ∃ r, mapOpt f l = some r := by
  induction l with
  | nil => exact ⟨[], rfl⟩
  | cons a as ih =>
    obtain ⟨b, hb⟩ := h a (List.mem_cons_self ..)
    obtain ⟨bs, hbs⟩ := ih (fun x hx => h x (List.mem_cons_of_mem _ hx))
    exact ⟨b :: bs, by simp [mapOpt, hb, hbs]⟩

theorem mapOpt_some_of_subset {α β : Type} {f : α → Option β} {l l' : List α} {r : List β}
    (h : mapOpt f l = some r) (hs : ∀ a ∈ l', a ∈ l) : ∃ r', mapOpt f l' = some r' :=
  mapOpt_some_of_forall fun a ha =>
    let ⟨b, _, hb⟩ := mapOpt_forall_of_some h a (hs a ha)
    ⟨b, hb⟩

theorem mapOpt_congr {α β : Type} {f g : α → Option β} {l : List α} (h : ∀ a ∈ l, f a = g a) :
    mapOpt f l = mapOpt g l := by
  induction l with
  | nil => rfl
  | cons a as ih =>
    simp only [mapOpt, h a (List.mem_cons_self ..), ih (fun x hx => h x (List.mem_cons_of_mem _ hx))]

theorem mapOpt_map_of {α β γ : Type} {g : α → Option β} {f : α → Option γ} {h : β → γ} {l : List α}
    {cs : List β} (hg : mapOpt g l = some cs) (H : ∀ a ∈ l, ∀ c, g a = some c → f a = some (h c)) :
    mapOpt f l = some (cs.map h) := by
  have hf : l.map f = (l.map g).map (Option.map h) := by
    rw [List.map_map]
    refine List.map_congr_left fun a ha => ?_
    obtain ⟨c, -, hc⟩ := mapOpt_forall_of_some hg a ha
    rw [H a ha c hc, Function.comp_apply, hc, Option.map_some]
  rw [mapOpt_eq_some_iff] at hg ⊢
  rw [hf, hg, List.map_map, List.map_map]
  rfl

theorem mapM_eq_mapOpt {α β : Type} (f : α → Option β) (l : List α) : l.mapM f = mapOpt f l := by
  induction l with
  | nil => simp [mapOpt]
  | cons a as ih =>
    simp only [List.mapM_cons, mapOpt, ih]
    cases f a <;> cases mapOpt f as <;> rfl

theorem mapOpt_append {α β : Type} (f : α → Option β) (l1 l2 : List α) :
    mapOpt f (l1 ++ l2) = match mapOpt f l1, mapOpt f l2 with
      | some a, some b => some (a ++ b)
      | _, _ => none := by
  induction l1 with
  | nil => rw [List.nil_append]; cases mapOpt f l2 <;> rfl
  | cons x xs ih =>
    rw [List.cons_append, mapOpt, mapOpt, ih]
    cases f x with
    | none => rfl
    | some y => cases mapOpt f xs <;> cases mapOpt f l2 <;> rfl

theorem mapOpt_map {α β γ : Type} (f : β → Option γ) (g : α → β) (l : List α) :
    mapOpt f (l.map g) = mapOpt (fun a => f (g a)) l := by
  induction l with
  | nil => rfl
  | cons a as ih => simp only [List.map_cons, mapOpt, ih]

theorem mapOpt_optmap {α β γ : Type} (f : α → Option β) (g : β → γ) (l : List α) :
    mapOpt (fun a => (f a).map g) l = (mapOpt f l).map (List.map g) := by
  induction l with
  | nil => rfl
  | cons a as ih =>
    simp only [mapOpt, ih]
    cases f a <;> cases mapOpt f as <;> rfl

theorem mapOpt_pointwise {α α' β β' : Type} (f : α → Option β) (g : α' → Option β') (h : β → β') :
    ∀ (l : List α) (l' : List α'), l.length = l'.length →
      (∀ (k : Nat) a a', l[k]? = some a → l'[k]? = some a' → (f a).map h = g a') →
      (mapOpt f l).map (List.map h) = mapOpt g l' := by
  intro l
  induction l with
  | nil => intro l' hl _; cases l' with
    | nil => rfl
    | cons _ _ => simp at hl
  | cons a l ih =>
    intro l' hl hp
    cases l' with
    | nil => simp at hl
    | cons a' l' =>
      have h0 := hp 0 a a' rfl rfl
      have ih' := ih l' (by simpa using hl) (fun k b b' hb hb' => hp (k + 1) b b' (by simpa using hb) (by simpa using hb'))
      simp only [mapOpt, ← h0, ← ih']
      cases f a <;> cases mapOpt f l <;> rfl

theorem mapOpt_eq_id_map {α β : Type} (f : α → Option β) (l : List α) : mapOpt f l = mapOpt id (l.map f) := by
  rw [mapOpt_map]; rfl

theorem mapOpt_zip_keys {α β κ : Type} (g : α → Option β) (key : α → κ) : ∀ l : List α,
    mapOpt (fun x => (g x).map (fun b => (key x, b))) l = (mapOpt g l).map (fun bs => List.zip (l.map key) bs)
  | [] => rfl
  | x :: l => by
    simp only [mapOpt, mapOpt_zip_keys g key l]
    cases g x <;> cases mapOpt g l <;> rfl

theorem mapOpt_fuse {α β γ : Type} (f : α → Option β) (g : α → β → Option γ) : ∀ Q : List α,
    (mapOpt f Q).bind (fun bs => mapOpt (fun ab => g ab.1 ab.2) (List.zip Q bs)) = mapOpt (fun a => (f a).bind (g a)) Q := by
  intro Q
  induction Q with
  | nil => rfl
  | cons a Q ih =>
    simp only [mapOpt]
    cases hf : f a with
    | none => rfl
    | some b =>
      rw [← ih]
      cases hm : mapOpt f Q with
      | none => simp only [Option.bind_some, Option.bind_none]; cases g a b <;> rfl
      | some bs =>
        simp only [Option.bind_some, List.zip_cons_cons, mapOpt]

theorem mapOpt_zipIdx_set_congr {α β : Type} (f : α × Nat → Option β) (l : List α) (j : Nat) (a b : α)
    (h : f (a, j) = f (b, j)) : mapOpt f (l.set j a).zipIdx = mapOpt f (l.set j b).zipIdx := by
  have : (l.set j a).zipIdx.map f = (l.set j b).zipIdx.map f := by
    apply List.ext_getElem?
    intro k
    simp only [List.getElem?_map, List.getElem?_zipIdx, List.getElem?_set, Nat.zero_add]
    by_cases hjk : j = k
    · subst hjk
      by_cases hl : j < l.length
      · simp [hl, h]
      · simp [hl]
    · simp [hjk]
  rw [mapOpt_eq_id_map f (l.set j a).zipIdx, mapOpt_eq_id_map f (l.set j b).zipIdx, this]

theorem mapOpt_perm {α β : Type} (f : α → Option β) {l₁ l₂ : List α} (h : l₁.Perm l₂) :
    (mapOpt f l₁ = none ∧ mapOpt f l₂ = none) ∨
      ∃ r₁ r₂, mapOpt f l₁ = some r₁ ∧ mapOpt f l₂ = some r₂ ∧ r₁.Perm r₂ := by
  induction h with
  | nil => exact Or.inr ⟨[], [], rfl, rfl, .nil⟩
  | cons x _ ih =>
    cases hx : f x with
    | none => left; simp [mapOpt, hx]
    | some b =>
      rcases ih with ⟨h1, h2⟩ | ⟨r1, r2, h1, h2, hp⟩
      · left; simp [mapOpt, hx, h1, h2]
      · right; exact ⟨b :: r1, b :: r2, by simp [mapOpt, hx, h1], by simp [mapOpt, hx, h2], hp.cons b⟩
  | swap x y l =>
    cases hx : f x <;> cases hy : f y <;> cases hl : mapOpt f l <;> simp [mapOpt, hx, hy, hl]
    exact List.Perm.swap ..
  | trans _ _ ih1 ih2 =>
    rcases ih1 with ⟨a1, a2⟩ | ⟨r1, r2, a1, a2, ap⟩ <;> rcases ih2 with ⟨b1, b2⟩ | ⟨s1, s2, b1, b2, bp⟩
    · exact Or.inl ⟨a1, b2⟩
    · rw [a2] at b1; cases b1
    · rw [a2] at b1; cases b1
    · rw [a2] at b1; cases b1
      exact Or.inr ⟨r1, s2, a1, b2, ap.trans bp⟩

end Einx.Update
