import EinxModel.Notation.Parse
/-!
# M1 Notation — definitions for the re-printing theorem (`print_parse_partial`)

The proofs about them are in `NotationDigits`, `NotationPieces`, `NotationStack`, the `NotationPrint*` modules and
`NotationFinishNF` (over `NotationNFDefs`).
-/
namespace Einx.Notation

/-! ### Position-free token trees -/

inductive PTok where
  | atom (s : Str)
  | group (o c : Str) (inner : List PTok)
deriving Repr, Inhabited

mutual
/-- Forget positions. -/
def Tok.erase : Tok → PTok
  | .atom t => .atom t.text
  | .group o c inner => .group o.text c.text (eraseL inner)
def eraseL : List Tok → List PTok
  | [] => []
  | t :: ts => t.erase :: eraseL ts
end

mutual
/-- The token texts of a token tree, in source order. -/
def PTok.texts : PTok → List Str
  | .atom s => [s]
  | .group o c inner => o :: (textsL inner ++ [c])
def textsL : List PTok → List Str
  | [] => []
  | p :: ps => p.texts ++ textsL ps
end

mutual
/-- Atoms are not delimiters; groups carry a matching pair of delimiters. -/
def PTok.wf : PTok → Bool
  | .atom s => !delimsFront.contains s && !delimsBack.contains s
  | .group o c inner => delimsFront.contains o && closingOf o == some c && wfL inner
def wfL : List PTok → Bool
  | [] => true
  | p :: ps => p.wf && wfL ps
end

/-- A token text without any character that starts a literal: letters, digits, underscore. -/
def isWord (w : Str) : Bool := !w.isEmpty && w.all isNameCont

/-- Every text is a literal or a word, and a word is always followed by a literal (or the end). -/
def wellSep : List Str → Bool
  | [] => true
  | [p] => literals.contains p || isWord p
  | p :: q :: r => (literals.contains p || (isWord p && literals.contains q)) && wellSep (q :: r)

def hasAdjSpaces : List Str → Bool
  | a :: b :: r => (a == spaceLit && b == spaceLit) || hasAdjSpaces (b :: r)
  | _ => false

/-! ### The token tree of a printed expression -/

def sepList : List PTok := [.atom (lit " ")]
def sepArgs : List PTok := [.atom (lit ","), .atom (lit " ")]
def sepOp : List PTok := [.atom (lit " "), .atom (lit "->"), .atom (lit " ")]
def sepPlus : List PTok := [.atom (lit " "), .atom (lit "+"), .atom (lit " ")]

/-- `sep.join(xs)` on token lists. -/
def joinP (sep : List PTok) : List (List PTok) → List PTok
  | [] => []
  | [x] => x
  | x :: y :: xs => x ++ sep ++ joinP sep (y :: xs)

mutual
/-- The (position-free) token tree that the delimiter stack builds from `str(expr)`, for printable expressions. -/
def Expr.ptree : Expr → List PTok
  | .axis n v _ _ => match v with | none => [.atom n] | some k => [.atom (natStr k)]
  | .flat i _ _ => [.group (lit "(") (lit ")") i.ptree]
  | .brackets i _ _ => [.group (lit "[") (lit "]") i.ptree]
  | .ellipsis i _ _ _ => if isAnonAxis i then [.atom (lit "...")] else i.ptree ++ [.atom (lit "...")]
  | .concat cs _ _ => [.group (lit "(") (lit ")") (joinP sepPlus (ptreeL cs))]
  | .list cs _ _ => joinP sepList (ptreeL cs)
  | .args cs _ _ => joinP sepArgs (ptreeL cs)
  | .op cs _ _ => joinP sepOp (ptreeL cs)
def ptreeL : List Expr → List (List PTok)
  | [] => []
  | c :: cs => c.ptree :: ptreeL cs
end

/-! ### Printable expressions -/

/-- The anonymous ellipsis axis as `parse` creates it (no value). -/
def isAnonAxisNone : Expr → Bool
  | .axis n none _ _ => n == anonName
  | _ => false

/-- The ellipsis over the anonymous axis, `...`. -/
def isEllAnon : Expr → Bool
  | .ellipsis i _ _ _ => isAnonAxisNone i
  | _ => false

def Expr.isEllipsis : Expr → Bool | .ellipsis .. => true | _ => false

/-- What may stand directly under an ellipsis besides the anonymous axis: an expression that prints as ONE token or
    ONE delimiter group (not a list — printed with braces —, not an ellipsis other than `...` itself: `a......` is three
    tokens in a row, while `......` re-parses as an ellipsis over `...`). -/
def ellOperand (i : Expr) : Bool := i.isAxis || i.isFlat || i.isBrackets || i.isConcat || isEllAnon i

mutual
/-- Printable expression below `Args`, in normal form.  `inBr`: inside brackets; `allowList`: a `List` is allowed here
    (it is not directly inside another `List`, under an ellipsis or in a concatenation).
    * named axes have a valid name; numeric axes may stand anywhere (also inside brackets: the fresh names of a re-parsed
      tree are pairwise distinct, Proofs/NotationFresh.lean);
    * `FlattenedAxis` not directly over a `FlattenedAxis` (constructor invariant) or a `ConcatenatedAxis` (prints `((a + b))`,
      which re-parses without the outer parentheses);
    * `Brackets` not inside `Brackets` (removed by the parser), not empty;
    * `Ellipsis` over the anonymous axis or over an `ellOperand` (one axis / flattened axis / brackets / concatenation, or `...`);
    * `ConcatenatedAxis` of at least two axes / flattened axes;
    * `List` with 0 or ≥ 2 children, none of them a `List`. -/
def PT (inBr allowList : Bool) : Expr → Bool
  | .axis n v _ _ => match v with | none => isAxisName n | some _ => true
  | .flat i _ _ => !i.isFlat && !i.isConcat && PT inBr true i
  | .brackets i _ _ => !inBr && !i.isBrackets && i.ndim != some 0 && PT true true i
  | .ellipsis i _ _ _ => isAnonAxisNone i || (!isAnonAxis i && ellOperand i && PT inBr false i)
  | .concat cs _ _ => decide (2 ≤ cs.length) && cs.all isAxisOrFlat && PTL inBr cs
  | .list cs _ _ => allowList && cs.length != 1 && PTL inBr cs
  | .args .. => false
  | .op .. => false
def PTL (inBr : Bool) : List Expr → Bool
  | [] => true
  | c :: cs => PT inBr false c && PTL inBr cs
end

/-- `Args` of printable expressions. -/
def PArgs : Expr → Bool
  | .args as _ _ => !as.isEmpty && as.all (PT false true)
  | _ => false

/-- The structural part of `Printable`: `Op` of one or two `Args` of printable expressions. -/
def PRoot : Expr → Bool
  | .op cs _ _ => (cs.length == 1 || cs.length == 2) && cs.all PArgs
  | _ => false

/-- `Printable t`: `t` has the normal form of `parse_op`'s results without the three patterns whose printed text is not
    (faithfully) in the notation (`PRoot`), and `t` passes the inconsistent-brackets check of the parser. -/
def Printable (t : Expr) : Bool :=
  PRoot t && (conflictNames (occs [] false t)).isEmpty

/-! ### Normal form without the conditions on names (what the passes after `parse` need) -/

mutual
def Q (inBr allowList : Bool) : Expr → Bool
  | .axis .. => true
  | .flat i _ _ => !i.isFlat && Q inBr true i
  | .brackets i _ _ => !inBr && !i.isBrackets && i.ndim != some 0 && Q true true i
  | .ellipsis i _ _ _ => (i.isAxis || i.isFlat || i.isBrackets || i.isConcat || i.isEllipsis) && Q inBr false i
  | .concat cs _ _ => decide (2 ≤ cs.length) && QL inBr cs
  | .list cs _ _ => allowList && cs.length != 1 && QL inBr cs
  | .args .. => false
  | .op .. => false
def QL (inBr : Bool) : List Expr → Bool
  | [] => true
  | c :: cs => Q inBr false c && QL inBr cs
end

/-- One side of `->` as `parse` returns it: `Args` of normal forms, or a single normal form (no comma). -/
def QArgs : Expr → Bool
  | .args as _ _ => as.all (Q false true)
  | a => Q false true a

/-- The result of `parse`: `Op` of two sides, or one side (no `->`). -/
def QRoot : Expr → Bool
  | .op cs _ _ => cs.length == 2 && cs.all QArgs
  | a => QArgs a

/-- `Args(...)` around one side, positions erased. -/
def wrapArgsS : Expr → Expr
  | .args as _ _ => .args (shapeL as) 0 0
  | a => .args [a.shape] 0 0

/-- The `shape` of what the passes after `parse` return for a `QRoot` tree. -/
def canonShape : Expr → Expr
  | .op cs _ _ => .op (cs.map wrapArgsS) 0 0
  | a => .op [wrapArgsS a] 0 0

/-- What `parse` returns for the printed text of `t`: sides with a single argument are not wrapped in `Args`, a single
    side is not wrapped in `Op`. -/
def unwrapArgs : Expr → Expr
  | .args [a] _ _ => a
  | x => x

def preTree : Expr → Expr
  | .op [a] _ _ => unwrapArgs a
  | .op cs b e => .op (cs.map unwrapArgs) b e
  | x => x

mutual
/-- Every numeric axis carries a fresh name `unnamed.<id>`. -/
def ValuedFresh : Expr → Prop
  | .axis n v _ _ => v ≠ none → ∃ p, n = unnamedName p
  | .flat i _ _ | .brackets i _ _ | .ellipsis i _ _ _ => ValuedFresh i
  | .concat cs _ _ | .list cs _ _ | .args cs _ _ | .op cs _ _ => ValuedFreshL cs
def ValuedFreshL : List Expr → Prop
  | [] => True
  | c :: cs => ValuedFresh c ∧ ValuedFreshL cs
end

end Einx.Notation
