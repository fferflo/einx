import EinxModel.Compile.Sem
/-!
Name sharing (C04), the semantic side: a renaming `ρ` that is `fuseSafe` on a block preserves its behaviour: the two executions
stay related on the variables that are live.  Before that, facts about the statement semantics of `Compile/Sem.lean` that the
simulation (`Proofs/CompileCorrect.lean`) and the invariant of the `fuse` loop use as well.
-/
namespace Einx.Compile

theorem E.subst_congr (σ τ : Nat → E) (e : E) (h : ∀ v ∈ e.vars, σ v = τ v) : e.subst σ = e.subst τ := by
  induction e with
  | var v => exact h v (by simp [E.vars])
  | lit c => rfl
  | gref g => rfl
  | nil => rfl
  | cons a b iha ihb =>
    simp only [E.subst]
    rw [iha (fun v hv => h v (by simp [E.vars, hv])), ihb (fun v hv => h v (by simp [E.vars, hv]))]
  | node t a ih =>
    simp only [E.subst]
    rw [ih (fun v hv => h v (by simpa [E.vars] using hv))]

theorem E.subst_subst (σ₁ σ₂ : Nat → E) (e : E) :
    (e.subst σ₁).subst σ₂ = e.subst (fun v => (σ₁ v).subst σ₂) := by
  induction e with
  | var v => rfl
  | lit c => rfl
  | gref g => rfl
  | nil => rfl
  | cons a b iha ihb => simp only [E.subst, iha, ihb]
  | node t a ih => simp only [E.subst, ih]

theorem E.subst_rename (ρ : Nat → Nat) (σ : Nat → E) (e : E) :
    (e.rename ρ).subst σ = e.subst (fun v => σ (ρ v)) := by
  unfold E.rename
  rw [E.subst_subst]
  rfl

theorem Env.set_same (env : Env) (v : Nat) (t : E) : env.set v t v = t := by simp [Env.set]

theorem Env.set_other (env : Env) (v w : Nat) (t : E) (h : w ≠ v) : env.set v t w = env w := by simp [Env.set, h]

theorem execBlock_append (x : XState) (l1 l2 : List Stmt) : execBlock x (l1 ++ l2) = execBlock (execBlock x l1) l2 := by
  simp [execBlock, List.foldl_append]

/-- Variables bound by a list of statements. -/
def outsOf (l : List Stmt) : List Nat := l.flatMap Stmt.outputVars

theorem outsOf_append (l1 l2 : List Stmt) : outsOf (l1 ++ l2) = outsOf l1 ++ outsOf l2 := by
  simp [outsOf]

theorem mem_outsOf (l : List Stmt) (o : Nat) : o ∈ outsOf l ↔ ∃ s ∈ l, o ∈ s.outputVars := by
  simp [outsOf, List.mem_flatMap]

theorem outsOf_cons (s : Stmt) (l : List Stmt) : outsOf (s :: l) = s.outputVars ++ outsOf l := by
  simp [outsOf]

theorem mem_liveIn_cons (s : Stmt) (rest : List Stmt) (v : Nat) :
    v ∈ liveIn (s :: rest) ↔ v ∈ s.reads ∨ (v ∈ liveIn rest ∧ v ∉ s.outputVars) := by
  simp [liveIn, List.mem_filter]

theorem mem_liveIn_reads (l : List Stmt) (w : Nat) (h : w ∈ liveIn l) : ∃ r ∈ l, w ∈ r.reads := by
  induction l with
  | nil => simp [liveIn] at h
  | cons s rest ih =>
    rcases (mem_liveIn_cons s rest w).1 h with h | ⟨h, _⟩
    · exact ⟨s, by simp, h⟩
    · obtain ⟨r, hr, hw⟩ := ih h
      exact ⟨r, List.mem_cons_of_mem _ hr, hw⟩

theorem mem_liveIn_append (l1 l2 : List Stmt) (v : Nat) :
    v ∈ liveIn (l1 ++ l2) ↔ v ∈ liveIn l1 ∨ (v ∈ liveIn l2 ∧ v ∉ outsOf l1) := by
  induction l1 with
  | nil => simp [liveIn, outsOf]
  | cons s rest ih =>
    rw [List.cons_append, mem_liveIn_cons, mem_liveIn_cons, ih]
    simp only [outsOf, List.flatMap_cons, List.mem_append, not_or]
    constructor
    · rintro (h | ⟨h | ⟨h1, h2⟩, hs⟩)
      · exact Or.inl (Or.inl h)
      · exact Or.inl (Or.inr ⟨h, hs⟩)
      · exact Or.inr ⟨h1, hs, h2⟩
    · rintro ((h | ⟨h, hs⟩) | ⟨h1, hs, h2⟩)
      · exact Or.inl h
      · exact Or.inr ⟨Or.inl h, hs⟩
      · exact Or.inr ⟨Or.inr ⟨h1, h2⟩, hs⟩

theorem live_defined (l1 l2 : List Stmt) (hcl : liveIn (l1 ++ l2) = []) (w : Nat) (h : w ∈ liveIn l2) : w ∈ outsOf l1 := by
  by_cases h1 : w ∈ outsOf l1
  · exact h1
  · have := (mem_liveIn_append l1 l2 w).2 (Or.inr ⟨h, h1⟩)
    rw [hcl] at this
    cases this

theorem outs_disj (pre rest : List Stmt) (s : Stmt) (hnd : (outsOf (pre ++ s :: rest)).Nodup) :
    (∀ o ∈ outsOf pre, o ∉ s.outputVars) ∧ (∀ o ∈ outsOf pre, o ∉ outsOf rest) ∧ (∀ o ∈ s.outputVars, o ∉ outsOf rest) := by
  rw [outsOf_append, outsOf_cons, List.nodup_append] at hnd
  obtain ⟨_, h2, h3⟩ := hnd
  rw [List.nodup_append] at h2
  obtain ⟨_, _, h4⟩ := h2
  refine ⟨fun o ho hs => h3 o ho o (List.mem_append_left _ hs) rfl,
          fun o ho hr => h3 o ho o (List.mem_append_right _ hr) rfl,
          fun o ho hr => h4 o ho o hr rfl⟩

theorem no_read_before_def (P : List Stmt) (hnd : (outsOf P).Nodup) (hcl : liveIn P = []) (B1 B2 : List Stmt) (d : Stmt)
    (hP : P = B1 ++ d :: B2) (w : Nat) (hw : w ∈ d.outputVars) : (∀ r ∈ B1, w ∉ r.reads) ∧ w ∉ d.reads := by
  constructor
  · intro r hr hwr
    obtain ⟨C1, C2, hB1⟩ := List.append_of_mem hr
    have hP' : P = C1 ++ r :: (C2 ++ d :: B2) := by rw [hP, hB1]; simp
    have hdef : w ∈ outsOf C1 := by
      apply live_defined C1 (r :: (C2 ++ d :: B2)) (by rw [← hP']; exact hcl) w
      exact (mem_liveIn_cons _ _ _).2 (Or.inl hwr)
    rw [hP'] at hnd
    refine (outs_disj C1 _ r hnd).2.1 w hdef ?_
    exact (mem_outsOf _ _).2 ⟨d, by simp, hw⟩
  · intro hwr
    have hdef : w ∈ outsOf B1 := by
      apply live_defined B1 (d :: B2) (by rw [← hP]; exact hcl) w
      exact (mem_liveIn_cons _ _ _).2 (Or.inl hwr)
    rw [hP] at hnd
    exact (outs_disj B1 B2 d hnd).1 w hdef hw

theorem not_live_of_defined_first (l1 l2 : List Stmt) (d : Stmt) (w : Nat) (hw : w ∈ d.outputVars)
    (h1 : ∀ r ∈ l1, w ∉ r.reads) (hd : w ∉ d.reads) : w ∉ liveIn (l1 ++ d :: l2) := by
  intro h
  rcases (mem_liveIn_append l1 (d :: l2) w).1 h with h | ⟨h, _⟩
  · obtain ⟨r, hr, hwr⟩ := mem_liveIn_reads l1 w h
    exact h1 r hr hwr
  · rcases (mem_liveIn_cons d l2 w).1 h with h | ⟨_, h⟩
    · exact hd h
    · exact h hw

/-- The two executions are related on a set of live variables. -/
structure Rel (ρ : Nat → Nat) (live : List Nat) (x x' : XState) : Prop where
  env : ∀ v ∈ live, x'.env (ρ v) = x.env v
  trace : x'.trace = x.trace
  ret : x'.ret = x.ret

theorem rel_set (ρ : Nat → Nat) (live live' : List Nat) (x x' : XState) (o : Nat) (t : E)
    (hrel : ∀ v ∈ live, x'.env (ρ v) = x.env v)
    (hsub : ∀ v ∈ live', v ≠ o → v ∈ live)
    (hsafe : ∀ w ∈ live', w ≠ o → ρ w ≠ ρ o) :
    ∀ v ∈ live', (x'.env.set (ρ o) t) (ρ v) = (x.env.set o t) v := by
  intro v hv
  by_cases hvo : v = o
  · subst hvo; simp [Env.set]
  · rw [Env.set_other _ _ _ _ (hsafe v hv hvo), Env.set_other _ _ _ _ hvo]
    exact hrel v (hsub v hv hvo)

theorem step_rel (ρ : Nat → Nat) (s : Stmt) (rest : List Stmt) (x x' : XState)
    (hsafe : s.outputVars.all (fun o => (liveIn rest).all (fun w => w == o || ρ w != ρ o)) = true)
    (h : Rel ρ (liveIn (s :: rest)) x x') :
    Rel ρ (liveIn rest) (execStmt x s) (execStmt x' (s.rename ρ)) := by
  have hread : ∀ e : E, (∀ v ∈ e.vars, v ∈ s.reads) → (e.rename ρ).subst x'.env = e.subst x.env := by
    intro e he
    rw [E.subst_rename]
    exact E.subst_congr _ _ e (fun v hv => h.env v ((mem_liveIn_cons s rest v).2 (Or.inl (he v hv))))
  have hkeep : s.outputVars = [] → ∀ v ∈ liveIn rest, x'.env (ρ v) = x.env v := by
    intro hno v hv
    exact h.env v ((mem_liveIn_cons s rest v).2 (Or.inr ⟨hv, by simp [hno]⟩))
  have hset : ∀ o t, s.outputVars = [o] →
      ∀ v ∈ liveIn rest, (x'.env.set (ρ o) t) (ρ v) = (x.env.set o t) v := by
    intro o t ho
    apply rel_set ρ (liveIn (s :: rest)) (liveIn rest) x x' o t h.env
    · intro v hv hvo
      exact (mem_liveIn_cons s rest v).2 (Or.inr ⟨hv, by simp [ho, hvo]⟩)
    · intro w hw hwo
      simp only [ho, List.all_cons, List.all_nil, Bool.and_true, List.all_eq_true] at hsafe
      have := hsafe w hw
      simp only [Bool.or_eq_true, beq_iff_eq, bne_iff_ne] at this
      rcases this with h1 | h1
      · exact absurd h1 hwo
      · exact h1
  cases s with
  | comment t => exact ⟨hkeep rfl, h.trace, h.ret⟩
  | import_ v f i => exact ⟨hset v _ rfl, h.trace, h.ret⟩
  | assign v rhs eff =>
    have hr := hread rhs (fun w hw => by simpa [Stmt.reads] using hw)
    cases eff with
    | true =>
      refine ⟨?_, ?_, h.ret⟩
      · simp only [execStmt, Stmt.rename, if_true, h.trace]
        exact hset v _ rfl
      · simp only [execStmt, Stmt.rename, if_true, h.trace, hr]
    | false =>
      refine ⟨?_, h.trace, h.ret⟩
      simp only [execStmt, Stmt.rename, Bool.false_eq_true, if_false, hr]
      exact hset v _ rfl
  | exprStmt e extra =>
    have hr := hread e (fun w hw => by simpa [Stmt.reads] using hw)
    exact ⟨hkeep rfl, by simp only [execStmt, Stmt.rename, h.trace, hr], h.ret⟩
  | update t op v extra =>
    have hr1 := hread t (fun w hw => by simp [Stmt.reads, hw])
    have hr2 := hread v (fun w hw => by simp [Stmt.reads, hw])
    exact ⟨hkeep rfl, by simp only [execStmt, Stmt.rename, h.trace, hr1, hr2], h.ret⟩
  | assert_ c msg extra =>
    have hr := hread c (fun w hw => by simpa [Stmt.reads] using hw)
    exact ⟨hkeep rfl, by simp only [execStmt, Stmt.rename, h.trace, hr], h.ret⟩
  | def_ v ps b gi => exact ⟨hset v _ rfl, h.trace, h.ret⟩
  | param v t => exact ⟨hset v _ rfl, h.trace, h.ret⟩
  | constBind v n => exact ⟨hset v _ rfl, h.trace, h.ret⟩
  | return_ e =>
    have hr := hread e (fun w hw => by simpa [Stmt.reads] using hw)
    have hret := h.ret
    cases hx : x.ret <;> rw [hx] at hret <;> simp only [execStmt, Stmt.rename, hx, hret, hr]
    · exact ⟨hkeep rfl, h.trace, rfl⟩
    · exact ⟨hkeep rfl, h.trace, h.ret⟩

theorem block_rel (ρ : Nat → Nat) (l : List Stmt) : ∀ (x x' : XState),
    fuseSafe ρ l = true → Rel ρ (liveIn l) x x' →
    Rel ρ [] (execBlock x l) (execBlock x' (l.map (Stmt.rename ρ))) := by
  induction l with
  | nil => intro x x' _ h; exact h
  | cons s rest ih =>
    intro x x' hs h
    simp only [fuseSafe, Bool.and_eq_true] at hs
    simp only [execBlock, List.map_cons, List.foldl_cons]
    exact ih _ _ hs.2 (step_rel ρ s rest x x' hs.1 h)

end Einx.Compile
