import EinxModel.Proofs.OptDagTerm
/-!
A pass of the traversal `optTok` preserves the well-formedness conditions of the theorems of `Props/C05Dag.lean`:
the new store is topologically ordered again (`Prog.topoOK`) and the new top-level graph has distinct fresh inputs
(`Prog.wfTop`).  Structural invariant of a pass (`SInv`): the new nodes created so far are topologically ordered and every
memo entry refers to new nodes that exist (no nested graph objects).  New nodes are only appended (`Ext`).
-/
namespace Einx.OptDag

def nodeOK (m : Nat) (n : Node) : Bool :=
  match n.origin with
  | .app a => a.operandsLt m
  | .proj s _ => decide (s < m)
  | .none => true

/-- `Store.topo` as a proposition about a node list. -/
def TopoL (nodes : List Node) : Prop := ∀ m n, nodes[m]? = some n → nodeOK m n = true

theorem topoL_of_topo (S : Store) (h : S.topo = true) : TopoL S.nodes := by
  intro m n hn
  obtain ⟨ty, o⟩ := n
  cases o with
  | none => rfl
  | app a => exact topo_app h hn
  | proj s k => simpa [nodeOK] using topo_proj h hn

theorem topo_of_topoL (S : Store) (h : TopoL S.nodes) : S.topo = true := by
  simp only [Store.topo, List.all_eq_true, List.mem_range]
  intro i _
  cases hn : S.nodes[i]? with
  | none => rfl
  | some n =>
    have := h i n hn
    obtain ⟨ty, o⟩ := n
    cases o <;> simp_all [nodeOK]

theorem TopoL.append {nodes ext : List Node} (h : TopoL nodes) (he : ∀ m n, ext[m]? = some n → nodeOK (nodes.length + m) n = true) :
    TopoL (nodes ++ ext) := by
  intro m n hm
  by_cases hlt : m < nodes.length
  · rw [List.getElem?_append_left hlt] at hm
    exact h m n hm
  · rw [List.getElem?_append_right (by omega)] at hm
    have := he _ n hm
    rwa [Nat.add_sub_cancel' (by omega)] at this

structure SInv (st : St) : Prop where
  topo : TopoL st.nodes
  memo : ∀ o v, st.memoT.lookup o = some v → toksLt st.nodes.length v = true

def Ext (st st' : St) : Prop := ∃ ext, st'.nodes = st.nodes ++ ext

theorem Ext.refl (st : St) : Ext st st := ⟨[], by simp⟩

theorem Ext.trans {a b c : St} (h1 : Ext a b) (h2 : Ext b c) : Ext a c := by
  obtain ⟨e1, h1⟩ := h1
  obtain ⟨e2, h2⟩ := h2
  exact ⟨e1 ++ e2, by rw [h2, h1, List.append_assoc]⟩

theorem Ext.le {a b : St} (h : Ext a b) : a.nodes.length ≤ b.nodes.length := by
  obtain ⟨e, h⟩ := h
  rw [h, List.length_append]; omega

theorem Ext.get {a b : St} (h : Ext a b) (i : Nat) (n : Node) (hn : a.nodes[i]? = some n) : b.nodes[i]? = some n := by
  obtain ⟨e, h⟩ := h
  have hi : i < a.nodes.length := (List.getElem?_eq_some_iff.1 hn).1
  rw [h, List.getElem?_append_left hi]; exact hn

theorem Ext.push (st : St) (n : Node) : Ext st (st.pushNode n) := ⟨[n], rfl⟩

theorem SInv.extend {st st' : St} (h : SInv st) (ext : List Node) (entries : List (Nat × List Tok)) (hn : st'.nodes = st.nodes ++ ext)
    (hm : st'.memoT = entries ++ st.memoT) (he : ∀ m n, ext[m]? = some n → nodeOK (st.nodes.length + m) n = true)
    (hl : ∀ o v, entries.lookup o = some v → toksLt st'.nodes.length v = true) : SInv st' where
  topo := hn ▸ h.topo.append he
  memo := by
    intro o v hv
    rw [hm, List.lookup_append, Option.or_eq_some_iff] at hv
    rcases hv with hv | ⟨_, hv⟩
    · exact hl o v hv
    · refine toksLt_mono ?_ v (h.memo o v hv)
      rw [hn, List.length_append]
      omega

theorem SInv.push {st : St} (h : SInv st) (n : Node) (hn : nodeOK st.nodes.length n = true) : SInv (st.pushNode n) :=
  h.extend [n] [] rfl rfl (by
    intro m n' hm
    cases m with
    | zero => cases hm; exact hn
    | succ m => cases hm) (by intro o v hv; cases hv)

theorem lookup_single {o o' : Nat} {w v : List Tok} (h : [(o', w)].lookup o = some v) : o = o' ∧ v = w := by
  rw [List.lookup_cons] at h
  split at h
  · rename_i he
    exact ⟨beq_iff_eq.1 he, (Option.some.inj h).symm⟩
  · cases h

theorem SInv.setMemo {st : St} (h : SInv st) (o : Nat) (w : List Tok) (hw : toksLt st.nodes.length w = true) (c : Bool) :
    SInv { st with memoT := (o, w) :: st.memoT, changed := c } :=
  h.extend [] [(o, w)] (List.append_nil _).symm rfl (by intro m n hm; cases hm) (by intro o' v hv; exact (lookup_single hv).2 ▸ hw)

/-- What a step of the traversal guarantees about the state. -/
structure Res (st st' : St) : Prop where
  inv : SInv st'
  ext : Ext st st'
  graphs : st'.graphs = st.graphs

theorem Res.refl {st : St} (h : SInv st) : Res st st := ⟨h, Ext.refl _, rfl⟩

theorem Res.trans {a b c : St} (h1 : Res a b) (h2 : Res b c) : Res a c :=
  ⟨h2.inv, h1.ext.trans h2.ext, h2.graphs.trans h1.graphs⟩

def GOK (g : Tok → St → R (List Tok × St)) : Prop :=
  ∀ ⦃t : Tok⦄ ⦃st : St⦄ ⦃v : List Tok⦄ ⦃st' : St⦄ ⦃n : Nat⦄, g t st = .ok (v, st') → toksLt n [t] = true → SInv st →
    Res st st' ∧ toksLt st'.nodes.length v = true

def VOK (h : List Tok → St → R (List Tok × St)) : Prop :=
  ∀ ⦃toks : List Tok⦄ ⦃st : St⦄ ⦃v : List Tok⦄ ⦃st' : St⦄ ⦃n : Nat⦄, h toks st = .ok (v, st') → toksLt n toks = true → SInv st →
    Res st st' ∧ toksLt st'.nodes.length v = true

theorem Thread.ok {α : Type} {P : α → St → List Tok → St → Prop} {pre : α → Prop}
    (hP : ∀ x st y st', P x st y st' → pre x → SInv st → Res st st' ∧ toksLt st'.nodes.length y = true)
    {xs : List α} {st : St} {ys : List (List Tok)} {st' : St} (h : Thread P xs st ys st') :
    (∀ x ∈ xs, pre x) → SInv st → Res st st' ∧ ∀ y ∈ ys, toksLt st'.nodes.length y = true := by
  induction h with
  | nil st => exact fun _ hI => ⟨Res.refl hI, fun _ hy => nomatch hy⟩
  | cons hp _ ih =>
    intro hpre hI
    obtain ⟨r1, l1⟩ := hP _ _ _ _ hp (hpre _ List.mem_cons_self) hI
    obtain ⟨r2, l2⟩ := ih (fun x hx => hpre x (List.mem_cons_of_mem _ hx)) r1.inv
    refine ⟨r1.trans r2, fun y hy => ?_⟩
    rcases List.mem_cons.1 hy with rfl | hy
    · exact toksLt_mono r2.ext.le _ l1
    · exact l2 y hy

theorem mapToks_ok (g : Tok → St → R (List Tok × St)) (hg : GOK g) : VOK (mapToks g) := by
  intro toks st v st' n h hlt hI
  obtain ⟨vs, ht, rfl⟩ := mapToks_thread h
  obtain ⟨r, l⟩ := ht.ok (pre := fun t => toksLt n [t] = true) (fun _ _ _ _ hp => hg hp) (toksLt_mem hlt) hI
  exact ⟨r, toksLt_flatten _ vs l⟩

theorem lookup_map {α : Type} (f : α → Nat) (g : α → List Tok) (o : Nat) (v : List Tok) : ∀ (l : List α),
    (l.map (fun k => (f k, g k))).lookup o = some v → ∃ k ∈ l, o = f k ∧ v = g k
  | [], h => by cases h
  | a :: l, h => by
    rw [List.map_cons, List.lookup_cons] at h
    split at h
    · rename_i he
      exact ⟨a, List.mem_cons_self, beq_iff_eq.1 he, (Option.some.inj h).symm⟩
    · obtain ⟨k, hk, e⟩ := lookup_map f g o v l h
      exact ⟨k, List.mem_cons_of_mem _ hk, e⟩

theorem rebuild_ok (S : Store) (h : List Tok → St → R (List Tok × St)) (hh : VOK h) (a : App) (base : Nat) (st st' : St) (n : Nat)
    (ha : a.operandsLt n = true) (hr : rebuild S h a base st = .ok st') (hI : SInv st) : Res st st' := by
  obtain ⟨pre, st1, args, st2, kwargs, st3, deps, st4, ty, tys, h1, h2, h3, h4, _, hlen, hn, hm, hg, _⟩ := (rebuild_spec _ _ _ _ _).ok hr
  obtain ⟨r, l⟩ := (operands_thread h1 h2 h3 h4).ok (pre := fun v => toksLt n v = true) (fun _ _ _ _ hp => hh hp)
    (fun v hv => operand_lt ha v hv) hI
  refine ⟨r.inv.extend _ _ hn hm ?_ ?_, r.ext.trans ⟨_, hn⟩, hg.trans r.graphs⟩
  · intro m nd hnd
    cases m with
    | zero =>
      cases hnd
      simpa only [nodeOK, App.operandsLt, List.all_eq_true, Nat.add_zero] using l
    | succ m =>
      obtain ⟨ty', k', rfl⟩ := mem_projNodes (List.mem_of_getElem? hnd)
      simp only [nodeOK, decide_eq_true_eq]
      omega
  · intro o v hv
    obtain ⟨k, hk, _, rfl⟩ := lookup_map _ _ o v _ hv
    have := List.mem_range.1 hk
    simp only [toksLt, List.all_cons, List.all_nil, Bool.and_true, decide_eq_true_eq, hn, List.length_append, List.length_cons,
      projNodes_length]
    omega

theorem nodeOK_merged {n : Nat} {fn x lit : List Tok} (hf : toksLt n fn = true) (hx : toksLt n x = true) (hl : refFree lit = true) :
    nodeOK n ⟨.value, .app (mergedApp fn x lit)⟩ = true := by
  simp only [nodeOK, mergedApp, App.operandsLt, App.operands, List.map_nil, List.append_nil, List.cons_append, List.nil_append,
    List.all_cons, List.all_nil, Bool.and_true, Bool.and_eq_true]
  exact ⟨hf, hx, toksLt_of_refFree _ _ hl⟩

/-- **The traversal keeps the structural invariant** on a topologically ordered old store. -/
theorem optTok_ok (pats : List Pattern) (S : Store) (hT : S.topo = true) : ∀ fuel, GOK (optTok pats S fuel)
  | 0 => fun _ _ _ _ _ h => nomatch h
  | fuel + 1 => by
    have ihV := mapToks_ok _ (optTok_ok pats S hT fuel)
    intro t st v st' n h hlt hI
    cases t with
    | gref k => simp [toksLt] at hlt
    | atom a | open_ c m =>
      obtain ⟨rfl, rfl⟩ := optTok_lit h (fun _ => nofun) (fun _ => nofun)
      exact ⟨Res.refl hI, rfl⟩
    | ref i =>
      refine (optTok_ref_spec (motive := fun v st' => Res st st' ∧ toksLt st'.nodes.length v = true) ?hit ?fwd ?merge ?input ?app).ok h
      case hit => exact fun w hw => ⟨Res.refl hI, hI.memo i w hw⟩
      case fwd =>
        intro v1 new st1 _ hm h1
        obtain ⟨r1, l1⟩ := ihV h1 (firstMatch_lt hT hm) hI
        exact ⟨⟨r1.inv.setMemo i new l1 true, r1.ext, r1.graphs⟩, l1⟩
      case merge =>
        intro fn x lit fn' st1 x' st2 _ hm h1 h2 hfree
        obtain ⟨a1, a2⟩ := firstMatch_lt hT hm
        obtain ⟨r1, l1⟩ := ihV h1 a1 hI
        obtain ⟨r2, l2⟩ := ihV h2 a2 r1.inv
        have hnode := nodeOK_merged (toksLt_mono r2.ext.le _ l1) l2 hfree
        have hl3 := toksLt_pushed st2 ⟨.value, .app (mergedApp fn' x' lit)⟩
        exact ⟨⟨(r2.inv.push _ hnode).setMemo i _ hl3 true, (r1.ext.trans r2.ext).trans (Ext.push _ _), r2.graphs.trans r1.graphs⟩, hl3⟩
      case input =>
        intro ty _ _
        exact ⟨⟨hI.push _ rfl, Ext.push _ _, rfl⟩, toksLt_pushed _ _⟩
      case app =>
        intro a base k st1 w _ ha h1 hw
        obtain ⟨hlt, _⟩ := appOf_lt hT ha
        have r1 := rebuild_ok S _ ihV a base st st1 i hlt h1 hI
        exact ⟨r1, r1.inv.memo i _ hw⟩

theorem newInputs_ok (S : Store) (is : List Nat) (st : St) (js : List Nat) (st1 : St) (h : Thread (InputStep S) is st js st1) :
    SInv st → SInv st1 ∧ Ext st st1 ∧ st1.graphs = st.graphs ∧ st1.changed = st.changed ∧ js.Nodup ∧
      ∀ j ∈ js, st.nodes.length ≤ j ∧ ∃ ty, st1.nodes[j]? = some ⟨ty, .none⟩ := by
  induction h with
  | nil st => exact fun hI => ⟨hI, Ext.refl _, rfl, rfl, List.nodup_nil, fun _ hj => nomatch hj⟩
  | @cons i is st j st' js st2 hp _ ih =>
    obtain ⟨nd, _, rfl, rfl⟩ := hp
    intro hI
    obtain ⟨a1, a2, a3, a4, a5, a6⟩ := ih
      ((hI.push ⟨nd.ty, .none⟩ rfl).setMemo i [Tok.ref st.nodes.length] (toksLt_pushed _ _) st.changed)
    have hlen : (st.pushNode ⟨nd.ty, .none⟩).nodes.length = st.nodes.length + 1 := by simp [St.pushNode]
    refine ⟨a1, (Ext.push st _).trans a2, a3, a4, List.nodup_cons.2 ⟨fun hmem => ?_, a5⟩, ?_⟩
    · have := (a6 _ hmem).1
      simp only [hlen] at this
      omega
    · intro j hj
      rcases List.mem_cons.1 hj with rfl | hj
      · exact ⟨Nat.le_refl _, nd.ty, a2.get _ _ (by simp [St.pushNode])⟩
      · obtain ⟨b1, b2⟩ := a6 j hj
        simp only [hlen] at b1
        exact ⟨by omega, b2⟩

theorem SInv.empty : SInv {} := ⟨fun _ _ h => (nomatch h), fun _ _ h => (nomatch h)⟩

/-- **A pass preserves well-formedness**: from a graph over a topologically ordered store on which `InlineGraph` does not
fire at the top, a pass returns a graph over a topologically ordered store whose inputs are distinct fresh tracers. -/
theorem pass_preserves (pats : List Pattern) (fuel : Nat) (p p' : Prog) (ch : Bool) (ht : p.topoOK = true)
    (hni : noTopInline pats p = true) (hp : pass pats fuel p = .ok (p', ch)) : p'.topoOK = true ∧ p'.wfTop = true := by
  obtain ⟨hT, k, g, htop, hg, ht⟩ := topoOK_cases ht
  obtain ⟨fuel', ins, sta, out, stb, rfl, h3, h4, rfl, _⟩ := (pass_spec pats fuel p k g htop hg).ok hp hni
  obtain ⟨a1, a2, a3, _, a5, a6⟩ := newInputs_ok p.store g.inputs {} ins sta ((newInputs_spec _ _ _).ok h3) SInv.empty
  obtain ⟨r, l⟩ := mapToks_ok _ (optTok_ok pats p.store hT fuel') h4 ht a1
  constructor
  · simp only [Prog.topoOK, Bool.and_eq_true, List.getElem?_concat_length]
    exact ⟨topo_of_topoL ⟨stb.nodes, _⟩ r.inv.topo, l⟩
  · simp only [Prog.wfTop, List.getElem?_concat_length, Bool.and_eq_true, decide_eq_true_eq, List.all_eq_true]
    refine ⟨a5, ?_⟩
    intro j hj
    obtain ⟨_, ty, hn⟩ := a6 j hj
    rw [r.ext.get j _ hn]

end Einx.OptDag
