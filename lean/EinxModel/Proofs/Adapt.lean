import EinxModel.Adapt.Model
import EinxModel.Extracted.Adapt
import EinxModel.Proofs.IndexSpace
import EinxModel.Proofs.OptionList
import EinxModel.Proofs.DenotePos
/-! Helper lemmas for `Props/C15.lean`: `kwargNames` / `iskwarg` and `_expr_to_axis` as filters and positions, the index lemmas
`reduce_axis_semantics` rests on, and the conditions of the checker `adaptOK` read as propositions. -/
namespace Einx.Adapt
open Einx Einx.Denote

theorem splitKwargs_eq {α : Type} (isk : String → Bool) : ∀ (kw : List (String × α)),
    splitKwargs isk kw = (kw.filter (fun kv => isk kv.1), kw.filter (fun kv => !isk kv.1))
  | [] => rfl
  | (k, v) :: rest => by
    rw [splitKwargs, splitKwargs_eq isk rest, List.filter_cons, List.filter_cons]
    cases isk k <;> rfl

theorem kwargNames_ok (cfg : Cfg) (ps : List Param) (names : List String) (h : kwargNames cfg ps = .ok names) :
    names = (ps.filter (fun p => cfg.optionKinds.contains p.kind)).map (·.name) := by
  induction ps generalizing names with
  | nil => cases h; rfl
  | cons p ps ih =>
    rw [kwargNames] at h
    rw [List.filter_cons]
    split at h
    · rename_i h1
      rw [if_pos h1]
      cases hr : kwargNames cfg ps with
      | error e => rw [hr] at h; cases h
      | ok ns => rw [hr] at h; cases h; rw [List.map_cons, ← ih ns hr]
    · rename_i h1
      rw [if_neg h1]
      split at h
      · cases h
      · exact ih names h

/-- `iskwarg` is the predicate handed to `op.inner`. -/
theorem iskwarg_iff (cfg : Cfg) (ps : List Param) (names : List String) (h : kwargNames cfg ps = .ok names) (n : String) :
    iskwarg cfg names n = true ↔ (n ∉ cfg.excluded ∧ ∃ p ∈ ps, p.kind ∈ cfg.optionKinds ∧ p.name = n) := by
  rw [kwargNames_ok _ _ _ h]
  simp only [iskwarg, Bool.and_eq_true, Bool.not_eq_true', List.contains_eq_mem, List.mem_map, List.mem_filter,
    decide_eq_true_eq, decide_eq_false_iff_not, and_assoc]

theorem mem_exprToAxisFrom (i : Nat) (ms : List Bool) (k : Nat) :
    k ∈ exprToAxisFrom i ms ↔ ∃ j, ms[j]? = some true ∧ k = i + j := by
  induction ms generalizing i with
  | nil => simp [exprToAxisFrom]
  | cons m ms ih =>
    have hsplit : (∃ j, (m :: ms)[j]? = some true ∧ k = i + j) ↔
        (m = true ∧ k = i) ∨ ∃ j, ms[j]? = some true ∧ k = i + 1 + j := by
      constructor
      · rintro ⟨j, hj, hk⟩
        cases j with
        | zero => exact Or.inl ⟨Option.some.inj hj, hk⟩
        | succ j => exact Or.inr ⟨j, hj, by omega⟩
      · rintro (⟨rfl, rfl⟩ | ⟨j, hj, hk⟩)
        · exact ⟨0, rfl, rfl⟩
        · exact ⟨j + 1, hj, by omega⟩
    rw [hsplit, ← ih (i + 1), exprToAxisFrom]
    cases m <;> simp

theorem exprToAxisFrom_ge (i : Nat) (ms : List Bool) : ∀ k ∈ exprToAxisFrom i ms, i ≤ k := by
  intro k hk
  obtain ⟨j, _, h⟩ := (mem_exprToAxisFrom i ms k).1 hk
  omega

theorem exprToAxisFrom_sorted (i : Nat) (ms : List Bool) : (exprToAxisFrom i ms).Pairwise (· < ·) := by
  induction ms generalizing i with
  | nil => simp [exprToAxisFrom]
  | cons m ms ih =>
    simp only [exprToAxisFrom]
    cases m with
    | true =>
      simp only [if_true, List.pairwise_cons]
      refine ⟨fun k hk => ?_, ih (i + 1)⟩
      have := exprToAxisFrom_ge (i + 1) ms k hk
      omega
    | false => simpa using ih (i + 1)

theorem extracted_exprToAxis_from (ms : List Bool) (i : Nat) (acc : List Nat) :
    (ms.zipIdx i).foldl (fun (idxs : List Nat) (it : Bool × Nat) => if it.1 then idxs ++ [it.2] else idxs) acc
      = acc ++ exprToAxisFrom i ms := by
  induction ms generalizing i acc with
  | nil => simp [exprToAxisFrom]
  | cons m ms ih =>
    simp only [List.zipIdx_cons, List.foldl_cons, exprToAxisFrom]
    rw [ih]
    cases m <;> simp

/-! ### Index lemmas for `reduce_axis_semantics` -/

theorem mem_exprToAxis (marks : List Bool) (i : Nat) : i ∈ exprToAxis marks ↔ marks[i]? = some true := by
  simp only [exprToAxis, mem_exprToAxisFrom]
  constructor
  · rintro ⟨j, hj, rfl⟩; simpa using hj
  · intro h; exact ⟨i, h, by omega⟩

theorem marksAt_exprToAxis (ms : List Bool) : marksAt (exprToAxis ms) ms.length = ms := by
  apply List.ext_getElem
  · simp [marksAt]
  · intro i h1 h2
    rw [Bool.eq_iff_iff]
    simp only [marksAt, List.getElem_map, List.getElem_range, List.contains_iff_mem, mem_exprToAxis, List.getElem?_eq_getElem h2,
      Option.some.injEq]

theorem select_marks (b : Bool) : ∀ (ls : List Leaf),
    select b (marksOf ls) (ls.map (·.size)) = (ls.filter (fun l => l.marked == b)).map (·.size)
  | [] => rfl
  | l :: ls => by
    have ih := select_marks b ls
    simp only [marksOf] at ih
    simp only [marksOf, List.map_cons, select, List.filter_cons, ih]
    cases l.marked == b <;> rfl

theorem mapM_eq_some_map {α β : Type} (f : α → Option β) (g : α → β) (l : List α) (h : ∀ a ∈ l, f a = some (g a)) :
    l.mapM f = some (l.map g) := by
  rw [Update.mapM_eq_mapOpt, Update.mapOpt_eq_some_iff, List.map_map]
  exact List.map_congr_left h

theorem position_axes (ls : List Leaf) (ρ : List Nat) (σ : Assign) (hl : ρ.length = ls.length)
    (h : ∀ p ∈ (ls.map (·.name)).zip ρ, σ.get p.1 = some p.2) :
    position (ls.map Dim.axis) σ = some ρ := by
  induction ls generalizing ρ with
  | nil =>
    cases ρ with
    | nil => rfl
    | cons _ _ => simp at hl
  | cons l ls ih =>
    cases ρ with
    | nil => simp at hl
    | cons r ρ =>
      simp only [List.map_cons, List.zip_cons_cons, List.mem_cons, forall_eq_or_imp] at h
      rw [List.map_cons, position_cons]
      simp only [Dim.pos, h.1]
      rw [ih ρ (by simpa using hl) h.2]

/-- The index lemma: under an assignment that gives the `k`-th un-bracketed axis `ρ[k]` and the `k`-th bracketed axis
`τ[k]`, the position in the flat input expression is the interleaving of `ρ` and `τ` along the marks. -/
theorem position_interleave_of_get : ∀ (ls : List Leaf) (ρ τ : List Nat) (σ : Assign),
    ρ.length = (ls.filter (fun l => l.marked == false)).length →
    τ.length = (ls.filter (fun l => l.marked == true)).length →
    (∀ p ∈ ((ls.filter (fun l => l.marked == false)).map (·.name)).zip ρ, σ.get p.1 = some p.2) →
    (∀ p ∈ ((ls.filter (fun l => l.marked == true)).map (·.name)).zip τ, σ.get p.1 = some p.2) →
    position (ls.map Dim.axis) σ = some (interleave (marksOf ls) ρ τ)
  | [], _, _, _, _, _, _, _ => rfl
  | l :: ls, ρ, τ, σ, hρ, hτ, hu, hm => by
    rw [List.map_cons, position_cons]
    cases hk : l.marked with
    | false =>
      rw [List.filter_cons_of_pos (by rw [hk]; rfl)] at hρ hu
      rw [List.filter_cons_of_neg (by rw [hk]; exact Bool.false_ne_true)] at hτ hm
      cases ρ with
      | nil => cases hρ
      | cons r ρ =>
        have ih := position_interleave_of_get ls ρ τ σ (Nat.succ.inj hρ) hτ
          (fun p hp => hu p (List.mem_cons_of_mem _ hp)) hm
        have h0 : σ.get l.name = some r := hu (l.name, r) (List.mem_cons_self ..)
        simp only [Dim.pos, h0, ih, marksOf, List.map_cons, hk, interleave]
    | true =>
      rw [List.filter_cons_of_neg (by rw [hk]; exact Bool.false_ne_true)] at hρ hu
      rw [List.filter_cons_of_pos (by rw [hk]; rfl)] at hτ hm
      cases τ with
      | nil => cases hτ
      | cons t τ =>
        have ih := position_interleave_of_get ls ρ τ σ hρ (Nat.succ.inj hτ) hu
          (fun p hp => hm p (List.mem_cons_of_mem _ hp))
        have h0 : σ.get l.name = some t := hm (l.name, t) (List.mem_cons_self ..)
        simp only [Dim.pos, h0, ih, marksOf, List.map_cons, hk, interleave]

theorem get_zip_of_nodup (keys : List String) (vals : List Nat) (hnd : keys.Nodup) :
    ∀ p ∈ keys.zip vals, Assign.get (keys.zip vals) p.1 = some p.2 := by
  induction keys generalizing vals with
  | nil => intro p hp; simp at hp
  | cons k ks ih =>
    cases vals with
    | nil => intro p hp; simp at hp
    | cons v vs =>
      intro p hp
      simp only [List.zip_cons_cons, List.mem_cons] at hp
      rcases hp with rfl | hp
      · simp [Assign.get]
      · have hk : p.1 ∈ ks := (List.of_mem_zip (a := p.1) (b := p.2) (by simpa using hp)).1
        have hne : ¬ k = p.1 := fun e => (List.nodup_cons.1 hnd).1 (e ▸ hk)
        have hb : (k == p.1) = false := by simpa using hne
        have := ih vs (List.nodup_cons.1 hnd).2 p hp
        simp only [Assign.get, List.zip_cons_cons, List.find?_cons, hb] at this ⊢
        exact this

theorem filter_marked_perm (ls : List Leaf) :
    (ls.filter (fun l => l.marked == false) ++ ls.filter (fun l => l.marked == true)).Perm ls := by
  have e : (fun l : Leaf => !(l.marked == false)) = (fun l : Leaf => l.marked == true) := by
    funext l; cases l.marked <;> rfl
  exact e ▸ List.filter_append_perm (fun l : Leaf => l.marked == false) ls

theorem assignments_eq_allIdx (axes : List (String × Nat)) :
    assignments axes = (allIdx (axes.map (·.2))).map (fun idx => (axes.map (·.1)).zip idx) := by
  induction axes with
  | nil => rfl
  | cons a axes ih =>
    obtain ⟨n, s⟩ := a
    simp only [assignments, List.map_cons, allIdx, ih, List.map_flatMap, List.map_map]
    congr 1

theorem allIdx_valid (s : List Nat) : ∀ τ ∈ allIdx s, Valid s τ :=
  fun _ h => Update.mem_assignments_iff_valid.mp (allIdx_eq_assignments s ▸ h)

theorem get_zip_append (k1 k2 : List String) (v1 v2 : List Nat) (hnd : (k1 ++ k2).Nodup) (hl : k1.length = v1.length) :
    ∀ p ∈ k1.zip v1 ++ k2.zip v2, Assign.get (k1.zip v1 ++ k2.zip v2) p.1 = some p.2 := by
  rw [← List.zip_append hl]
  exact get_zip_of_nodup _ _ hnd

theorem axesOfMarked_names (b : Bool) (ls : List Leaf) :
    (axesOfMarked b ls).map (·.1) = (ls.filter (fun l => l.marked == b)).map (·.name) := by
  simp [axesOfMarked, List.map_map, Function.comp_def]

theorem axesOfMarked_sizes (b : Bool) (ls : List Leaf) :
    (axesOfMarked b ls).map (·.2) = (ls.filter (fun l => l.marked == b)).map (·.size) := by
  simp [axesOfMarked, List.map_map, Function.comp_def]

/-! ### The graph checker -/

-- `Val.beq` on two constructors is unfolded by reduction (`cases h`, `exact`): its equation lemmas (one per pair of
-- constructors) are dear to generate.
mutual
theorem Val.beq_eq : ∀ (a b : Val), Val.beq a b = true → a = b
  | .ref x, b, h => by
    cases b with
    | ref y => exact congrArg _ (eq_of_beq h)
    | _ => cases h
  | .int x, b, h => by
    cases b with
    | int y => exact congrArg _ (eq_of_beq h)
    | _ => cases h
  | .float x, b, h => by
    cases b with
    | float y => exact congrArg _ (eq_of_beq h)
    | _ => cases h
  | .bool x, b, h => by
    cases b with
    | bool y => exact congrArg _ (eq_of_beq h)
    | _ => cases h
  | .str x, b, h => by
    cases b with
    | str y => exact congrArg _ (eq_of_beq h)
    | _ => cases h
  | .none, b, h => by
    cases b with
    | none => rfl
    | _ => cases h
  | .obj x, b, h => by
    cases b with
    | obj y => exact congrArg _ (eq_of_beq h)
    | _ => cases h
  | .other x, b, h => by
    cases b with
    | other y => exact congrArg _ (eq_of_beq h)
    | _ => cases h
  | .tuple l, b, h => by
    cases b with
    | tuple l' => exact congrArg _ (Val.beqL_eq l l' h)
    | _ => cases h
  | .list l, b, h => by
    cases b with
    | list l' => exact congrArg _ (Val.beqL_eq l l' h)
    | _ => cases h
  | .dict k v, b, h => by
    cases b with
    | dict k' v' =>
      have h' : (Val.beqL k k' && Val.beqL v v') = true := h
      rw [Bool.and_eq_true] at h'
      rw [Val.beqL_eq k k' h'.1, Val.beqL_eq v v' h'.2]
    | _ => cases h
theorem Val.beqL_eq : ∀ (as bs : List Val), Val.beqL as bs = true → as = bs
  | [], [], _ => rfl
  | a :: as, b :: bs, h => by
    have h' : (Val.beq a b && Val.beqL as bs) = true := h
    rw [Bool.and_eq_true] at h'
    rw [Val.beq_eq a b h'.1, Val.beqL_eq as bs h'.2]
  | [], _ :: _, h | _ :: _, [], h => by cases h
end

theorem kwBeq_eq : ∀ (a b : List (String × Val)), kwBeq a b = true → a = b
  | [], [], _ => rfl
  | (k, v) :: r, (k', v') :: r', h => by
    simp only [kwBeq, Bool.and_eq_true, beq_iff_eq] at h
    rw [h.1.1, Val.beq_eq v v' h.1.2, kwBeq_eq r r' h.2]
  | [], _ :: _, h | _ :: _, [], h => by simp [kwBeq] at h

/-- `cnd` is the tracer of `isinstance(r, numpy.ndarray)`: the nodes exist in the graph. -/
def IsinstanceCond (g : Graph) (cnd r : Nat) : Prop :=
  ∃ b nd m, App.call (.ref b) [.ref r, .ref nd] [] (.ref cnd) ∈ g.apps ∧ App.builtin "isinstance" b ∈ g.apps
    ∧ App.getattr (.ref m) "ndarray" nd ∈ g.apps ∧ App.import_ "numpy" m ∈ g.apps

/-- `cnd` is the tracer of `tuple(r.shape) == shape`. -/
def ShapeCond (g : Graph) (cnd r : Nat) (shape : List Nat) : Prop :=
  ∃ ts tp sh, App.operator "==" [.ref ts, intsVal shape] cnd ∈ g.apps ∧ App.call (.ref tp) [.ref sh] [] (.ref ts) ∈ g.apps
    ∧ App.builtin "tuple" tp ∈ g.apps ∧ App.getattr (.ref r) "shape" sh ∈ g.apps

/-- The positional arguments are tracers with the given traced shapes. -/
def ArgsAre (g : Graph) : List Val → List (List Nat) → Prop
  | [], [] => True
  | .ref t :: as, s :: ss => g.shapeOf t = some s ∧ ArgsAre g as ss
  | _, _ => False

theorem argsAre_length (g : Graph) : ∀ (args : List Val) (shapes : List (List Nat)),
    ArgsAre g args shapes → args.length = shapes.length
  | [], [], _ => rfl
  | .ref t :: as, s :: ss, h => congrArg (· + 1) (argsAre_length g as ss h.2)
  | [], _ :: _, h | .ref _ :: _, [], h
  | .int _ :: _, _, h | .float _ :: _, _, h | .bool _ :: _, _, h | .str _ :: _, _, h | .none :: _, _, h
  | .tuple _ :: _, _, h | .list _ :: _, _, h | .dict _ _ :: _, _, h | .obj _ :: _, _, h | .other _ :: _, _, h => by
    cases h

theorem isCallOf_iff (c : Nat) (a : App) : isCallOf c a = true ↔ ∃ args kwargs out, a = .call (.ref c) args kwargs out := by
  unfold isCallOf
  split
  · rename_i f args kwargs out
    rw [beq_iff_eq]
    exact ⟨fun h => ⟨args, kwargs, out, h ▸ rfl⟩, fun ⟨_, _, _, h⟩ => by cases h; rfl⟩
  · rename_i hne
    exact ⟨fun h => (nomatch h), fun ⟨args, kwargs, out, h⟩ => (hne c args kwargs out h).elim⟩

theorem any_isBuiltin {apps : List App} {n : String} {o : Nat} (h : apps.any (App.isBuiltin n o) = true) :
    App.builtin n o ∈ apps := by
  obtain ⟨a, ha, hb⟩ := List.any_eq_true.1 h
  cases a <;> simp [App.isBuiltin] at hb
  obtain ⟨rfl, rfl⟩ := hb
  exact ha

theorem any_isImport {apps : List App} {n : String} {o : Nat} (h : apps.any (App.isImport n o) = true) :
    App.import_ n o ∈ apps := by
  obtain ⟨a, ha, hb⟩ := List.any_eq_true.1 h
  cases a <;> simp [App.isImport] at hb
  obtain ⟨rfl, rfl⟩ := hb
  exact ha

theorem isinstanceCond_sound (g : Graph) (cnd r : Nat) (h : isinstanceCond g cnd r = true) : IsinstanceCond g cnd r := by
  simp only [isinstanceCond] at h
  obtain ⟨a, ha, hb⟩ := List.any_eq_true.1 h
  split at hb
  · rename_i b x nd o
    simp only [Bool.and_eq_true, beq_iff_eq] at hb
    obtain ⟨⟨⟨rfl, rfl⟩, h1⟩, h2⟩ := hb
    obtain ⟨a', ha', hb'⟩ := List.any_eq_true.1 h2
    split at hb'
    · rename_i m k nd'
      simp only [Bool.and_eq_true, beq_iff_eq] at hb'
      obtain ⟨⟨rfl, rfl⟩, h3⟩ := hb'
      exact ⟨b, nd', m, ha, any_isBuiltin h1, ha', any_isImport h3⟩
    · cases hb'
  · cases hb

theorem shapeCond_sound (g : Graph) (cnd r : Nat) (shape : List Nat) (h : shapeCond g cnd r shape = true) :
    ShapeCond g cnd r shape := by
  simp only [shapeCond] at h
  obtain ⟨a, ha, hb⟩ := List.any_eq_true.1 h
  split at hb
  · rename_i op ts lit o
    simp only [Bool.and_eq_true, beq_iff_eq] at hb
    obtain ⟨⟨⟨rfl, rfl⟩, hl⟩, h2⟩ := hb
    have := Val.beq_eq _ _ hl
    subst this
    obtain ⟨a', ha', hb'⟩ := List.any_eq_true.1 h2
    split at hb'
    · rename_i tp sh ts'
      simp only [Bool.and_eq_true, beq_iff_eq] at hb'
      obtain ⟨⟨rfl, h3⟩, h4⟩ := hb'
      obtain ⟨a'', ha'', hb''⟩ := List.any_eq_true.1 h4
      split at hb''
      · rename_i x k sh'
        simp only [Bool.and_eq_true, beq_iff_eq] at hb''
        obtain ⟨⟨rfl, rfl⟩, rfl⟩ := hb''
        exact ⟨ts', tp, sh', ha, ha', any_isBuiltin h3, ha''⟩
      · cases hb''
    · cases hb'
  · cases hb

theorem argsOK_sound (g : Graph) : ∀ (args : List Val) (shapes : List (List Nat)), argsOK g args shapes = true → ArgsAre g args shapes
  | [], [], _ => trivial
  | .ref t :: as, s :: ss, h => by
    simp only [argsOK, Bool.and_eq_true, beq_iff_eq] at h
    exact ⟨h.1, argsOK_sound g as ss h.2⟩
  | [], _ :: _, h | .ref _ :: _, [], h
  | .int _ :: _, _, h | .float _ :: _, _, h | .bool _ :: _, _, h | .str _ :: _, _, h | .none :: _, _, h
  | .tuple _ :: _, _, h | .list _ :: _, _, h | .dict _ _ :: _, _, h | .obj _ :: _, _, h | .other _ :: _, _, h => by
    cases h

/-! ### The expected shape of the elementwise adapter -/

theorem getD_zipWith_max : ∀ (a b : List Nat), a.length = b.length → ∀ i,
    (List.zipWith max a b).getD i 0 = max (a.getD i 0) (b.getD i 0)
  | [], [], _, _ => rfl
  | _ :: _, [], h, _ | [], _ :: _, h, _ => by cases h
  | x :: xs, y :: ys, _, 0 => rfl
  | x :: xs, y :: ys, h, i + 1 => getD_zipWith_max xs ys (Nat.succ.inj h) i

theorem foldl_zipWith_max (n : Nat) : ∀ (ss : List (List Nat)) (acc : List Nat), acc.length = n → (∀ t ∈ ss, t.length = n) →
    ∀ res, ss.foldl (fun acc t => List.zipWith max acc t) acc = res →
    res.length = n ∧ ∀ i, acc.getD i 0 ≤ res.getD i 0 ∧ (∀ t ∈ ss, t.getD i 0 ≤ res.getD i 0)
      ∧ (res.getD i 0 = acc.getD i 0 ∨ ∃ t ∈ ss, res.getD i 0 = t.getD i 0)
  | [], acc, ha, _, _, rfl => ⟨ha, fun i => ⟨Nat.le_refl _, fun _ ht => (nomatch ht), Or.inl rfl⟩⟩
  | t :: ss, acc, ha, ht, res, hres => by
    have htl : t.length = n := ht t (List.mem_cons_self ..)
    obtain ⟨h1, h2⟩ := foldl_zipWith_max n ss (List.zipWith max acc t) (by rw [List.length_zipWith, ha, htl, Nat.min_self])
      (fun u hu => ht u (List.mem_cons_of_mem _ hu)) res hres
    refine ⟨h1, fun i => ?_⟩
    obtain ⟨ha', hs', ho'⟩ := h2 i
    rw [getD_zipWith_max acc t (ha.trans htl.symm) i] at ha' ho'
    refine ⟨by omega, fun u hu => ?_, ?_⟩
    · rcases List.mem_cons.1 hu with rfl | hu
      · omega
      · exact hs' u hu
    · rcases ho' with h | ⟨u, hu, h⟩
      · rcases Nat.le_total (acc.getD i 0) (t.getD i 0) with hle | hle
        · exact Or.inr ⟨t, List.mem_cons_self .., by rw [h, Nat.max_eq_right hle]⟩
        · exact Or.inl (by rw [h, Nat.max_eq_left hle])
      · exact Or.inr ⟨u, List.mem_cons_of_mem _ hu, h⟩

end Einx.Adapt
