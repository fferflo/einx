import EinxModel.Proofs.LowerGenericA
import EinxModel.Proofs.LowerEwDenote
import EinxModel.Proofs.LowerRedDenote
/-! Size-genericity of the decomposer's lowering (C17), part B: the elementwise inner function and the common tail of
the pipelines on two related assignments, and the two whole pipelines.  Which expression reaches
`_squeeze_transpose_broadcast` and what the traced shapes are there is known from the correctness walks
(`lowerElementwise_cells`, `lowerReduce_cells`). -/
namespace Einx.Lower
open Einx Einx.IR Einx.Generic Einx.Denote

theorem ewiseCall_rel {f : String} {s s' : St} {ops ops' : List Opnd} (hs : Rel s s')
    (hr : ops.map (·.reg) = ops'.map (·.reg)) : OkRel Rel (ewiseCall f s ops) (ewiseCall f s' ops') := by
  unfold ewiseCall
  refine OkRel.guard ?_
  refine OkRel.bind (R := fun _ _ => True) (fun _ _ _ _ => trivial) fun so so' _ _ _ => OkRel.pure ?_
  have e1 : ∀ l : List Opnd, l.map (fun o => Arg.reg o.reg) = (l.map (·.reg)).map Arg.reg := by
    intro l; simp [List.map_map]
  exact hs.emit _ _ (by simp only [instrSkeleton]; rw [e1 ops, e1 ops', hr]) _ _

theorem alignAll_rel {W W' : List Ax} (hW : Sim W W') : ∀ (es es' : List (List G)), gsimLL es es' = true →
    ∀ (i : Nat) {s s' : St}, Rel s s' →
    OkRel (fun r r' => Rel r.2.2 r'.2.2 ∧ r.2.1.map (·.reg) = r'.2.1.map (·.reg)) (alignAll W i s es) (alignAll W' i s' es')
  | [], [], _, _, _, _, hs => OkRel.pure ⟨hs, rfl⟩
  | [], _ :: _, hg, _, _, _, _ => by simp [gsimLL] at hg
  | _ :: _, [], hg, _, _, _, _ => by simp [gsimLL] at hg
  | e :: es, e' :: es', hg, i, s, s', hs => by
    simp only [gsimLL, Bool.and_eq_true] at hg
    unfold alignAll
    refine (chainInput_rel i hs hW hg.1).bind fun _ _ _ _ ⟨_, hr1⟩ => ?_
    refine (alignAll_rel hW es es' hg.2 (i + 1) hr1).bind fun _ _ _ _ ⟨ih1, ih2⟩ => OkRel.pure ⟨ih1, ?_⟩
    simp only [List.map_cons, hr1.reg, ih2]

theorem alignFold_rel {f : String} {W W' : List Ax} (hW : Sim W W') : ∀ (es es' : List (List G)), gsimLL es es' = true →
    ∀ (i : Nat) {s s' : St}, Rel s s' →
    OkRel (fun r r' => Rel r.2 r'.2) (alignFold f W i s es) (alignFold f W' i s' es')
  | [], [], _, _, _, _, hs => OkRel.pure hs
  | [], _ :: _, hg, _, _, _, _ => by simp [gsimLL] at hg
  | _ :: _, [], hg, _, _, _, _ => by simp [gsimLL] at hg
  | e :: es, e' :: es', hg, i, s, s', hs => by
    simp only [gsimLL, Bool.and_eq_true] at hg
    unfold alignFold
    refine (chainInput_rel i hs hW hg.1).bind fun _ _ _ _ ⟨_, hr1⟩ => ?_
    refine (ewiseCall_rel hr1 (by simp [hs.reg, hr1.reg])).bind fun _ _ _ _ hr2 => ?_
    exact (alignFold_rel hW es es' hg.2 (i + 1) hr2).bind fun _ _ _ _ ih => OkRel.pure ih

/-- `elementwise(op, classical).inner` on two related assignments: the states differ only in shapes. -/
theorem ewInner_rel {f : String} {W W' : List Ax} (hW : Sim W W') {ins ins' : List (List G)}
    (hg : gsimLL ins ins' = true) {s s' : St} (hs : Rel s s') :
    OkRel (fun r r' => Rel r.2 r'.2) (Generic.ewInner f s ins W) (Generic.ewInner f s' ins' W') := by
  unfold Generic.ewInner
  cases ewKindOf f with
  | none => exact OkRel.error_left
  | some kind =>
    simp only [pure_bind]
    match kind, ins, ins', hg with
    | _, [], _, _ => cases kind <;> exact OkRel.error_left
    | _, _ :: _, [], hg => simp [gsimLL] at hg
    | .fixed n, e :: es, e' :: es', hg =>
      refine (alignAll_rel hW _ _ hg 0 hs).bind fun _ _ _ _ ⟨hr1, hregs⟩ => OkRel.guard ?_
      exact (ewiseCall_rel hr1 hregs).bind fun _ _ _ _ hr2 => OkRel.guard (OkRel.pure hr2)
    | .nary, e :: es, e' :: es', hg =>
      simp only [gsimLL, Bool.and_eq_true] at hg
      refine (chainInput_rel 0 hs hW hg.1).bind fun _ _ _ _ ⟨_, hr0⟩ => ?_
      exact (alignFold_rel hW es es' hg.2 1 hr0).bind fun _ _ _ _ hr1 => OkRel.guard (OkRel.pure hr1)

/-- `_squeeze_transpose_broadcast` to the flat output and `_compose_next`'s reshape, on two related assignments. -/
theorem compose_rel {s2 s2' s3 s3' : St} {sq sq' : List Ax} {go go' : List G} (hr : Rel s2 s2')
    (hsh : s2.shape = lens sq) (hsh' : s2'.shape = lens sq') (hsq : Sim sq sq') (ho : gsimL go go' = true)
    (hstb : stb s2 sq (G.leavesL go) = .ok s3) (hstb' : stb s2' sq' (G.leavesL go') = .ok s3')
    (h3 : s3.shape = lens (G.leavesL go)) (h3' : s3'.shape = lens (G.leavesL go')) :
    Rel (reshapeW s3 (gShape go)) (reshapeW s3' (gShape go')) := by
  apply reshapeW_rel ((stb_generic hr hsh hsh' hsq (gsimL_leaves go go' ho)).okRel _ _ hstb hstb')
  · rw [h3, h3']; exact compose_test ho
  · simp only [gShape, List.length_map]; exact gsimL_length _ _ ho

theorem gsimLL_length : ∀ (a b : List (List G)), gsimLL a b = true → a.length = b.length
  | [], [], _ => rfl
  | _ :: es, _ :: es', h => by
    simp only [gsimLL, Bool.and_eq_true] at h
    simp [gsimLL_length es es' h.2]
  | [], _ :: _, h => by simp [gsimLL] at h
  | _ :: _, [], h => by simp [gsimLL] at h

theorem gsimL_squeezed_names {m : List String} {e e' : List G} (h : gsimL e e' = true) :
    names (squeezedExpr m e) = names (squeezedExpr m e') :=
  ((gsimL_leaves e e' h).filter _ _ (fun a b hn ho => by rw [hn, ho])).names_eq

theorem gsimLL_inNames : ∀ (a b : List (List G)), gsimLL a b = true →
    a.flatMap (fun e => names (squeezedExpr [] e)) = b.flatMap (fun e => names (squeezedExpr [] e))
  | [], [], _ => rfl
  | e :: es, e' :: es', h => by
    simp only [gsimLL, Bool.and_eq_true] at h
    simp only [List.flatMap_cons, gsimL_squeezed_names h.1, gsimLL_inNames es es' h.2]
  | [], _ :: _, h => by simp [gsimLL] at h
  | _ :: _, [], h => by simp [gsimLL] at h

theorem ewW_sim {ins ins' : List (List G)} {go go' : List G} (hi : gsimLL ins ins' = true) (ho : gsimL go go' = true) :
    Sim (ewW ins go) (ewW ins' go') := by
  unfold ewW withoutBroadcast
  rw [gsimLL_inNames ins ins' hi]
  exact (gsimL_leaves go go' ho).filter _ _ (fun a b hn _ => by rw [hn])

/-- **Size-genericity of the elementwise lowering** (both lowerings succeed). -/
theorem lowerElementwise_generic {f : String} {ins ins' : List (List G)} {go go' : List G} {s s' : St}
    (hd : ewDomain ins go = true) (hd' : ewDomain ins' go' = true)
    (hi : gsimLL ins ins' = true) (ho : gsimL go go' = true)
    (h : lowerElementwise f ins go = .ok s) (h' : lowerElementwise f ins' go' = .ok s') : Rel s s' := by
  obtain ⟨_, s2, s3, _, hin, hsh2, hstb, hsh3, hs, _⟩ := lowerElementwise_cells hd h
  obtain ⟨_, s2', s3', _, hin', hsh2', hstb', hsh3', hs', _⟩ := lowerElementwise_cells hd' h'
  have hr0 : Rel { reg := 0, shape := [], prog := [], next := ins.length }
      { reg := 0, shape := [], prog := [], next := ins'.length } := ⟨rfl, gsimLL_length _ _ hi, rfl⟩
  have hr2 := ewInner_rel (ewW_sim hi ho) hi hr0 _ _ hin hin'
  rw [hs, hs']
  exact compose_rel hr2 hsh2 hsh2' (ewW_sim hi ho) ho hstb hstb' hsh3 hsh3'

theorem progSkeletonX_append (p q : List InstrX) : progSkeletonX (p ++ q) = progSkeletonX p ++ progSkeletonX q :=
  List.map_append

theorem progSkeletonX_base (p : List Instr) : progSkeletonX (p.map .base) = (progSkeleton p).map .base := by
  simp [progSkeletonX, progSkeleton, List.map_map, Function.comp_def, instrSkeletonX]

/-- **Size-genericity of the lowering of reductions** (both lowerings succeed). -/
theorem lowerReduce_generic {f : String} {m : List String} {gi gi' go go' : List G} {l l' : LX}
    (hd : redDomain m gi go = true) (hd' : redDomain m gi' go' = true)
    (hi : gsimL gi gi' = true) (ho : gsimL go go' = true)
    (h : lowerReduce f m gi go = .ok l) (h' : lowerReduce f m gi' go' = .ok l') :
    progSkeletonX l.prog = progSkeletonX l'.prog ∧ l.reg = l'.reg := by
  obtain ⟨sq, s1, s3, hp, hstb, hsh3, hl, _⟩ := lowerReduce_cells hd h
  obtain ⟨sq', s1', s3', hp', hstb', hsh3', hl', _⟩ := lowerReduce_cells hd' h'
  have hr0 : Rel { reg := 0, shape := gShape gi, prog := [], next := 1 } { reg := 0, shape := gShape gi', prog := [], next := 1 } :=
    ⟨rfl, rfl, rfl⟩
  obtain ⟨hsim, hr1, _⟩ : Sim sq sq' ∧ Rel s1 s1' ∧ _ := prepInput_rel 0 hr0 hi _ _ hp hp'
  have hsimE : Sim (sq.filter (fun a => !m.contains a.name)) (sq'.filter (fun a => !m.contains a.name)) :=
    hsim.filter _ _ (fun a b hn _ => by rw [hn])
  have hr2 : Rel { reg := s1.next, shape := lens (sq.filter (fun a => !m.contains a.name)), prog := [], next := s1.next + 1 }
      { reg := s1'.next, shape := lens (sq'.filter (fun a => !m.contains a.name)), prog := [], next := s1'.next + 1 } :=
    ⟨hr1.next, by simp [hr1.next], rfl⟩
  have hr4 := compose_rel hr2 rfl rfl hsimE ho hstb hstb' hsh3 hsh3'
  rw [hl, hl']
  refine ⟨?_, hr4.reg⟩
  simp only [progSkeletonX_append, progSkeletonX_base, hr1.prog, hr4.prog, hr1.reg, exprToAxis_sim m hsim]

end Einx.Lower
