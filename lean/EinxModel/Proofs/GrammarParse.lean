import EinxModel.Proofs.GrammarDepth0
import EinxModel.Proofs.NotationNFParse
/-!
# `parse` succeeds exactly on the token trees of the attribute grammar `Gram` (helper lemmas for Props/C03Grammar.lean)

`Gram` is the projection of the runs `Derives` to kinds: `derives_gram` and `gram_derives` go rule by rule, the kind of each smart
constructor's result computed from the kinds of its arguments (`exprKind_mk*`, `combine_kind`).
-/
namespace Einx.Notation

open NF

theorem exprKind_empty_iff (x : Expr) : exprKind x = .empty ↔ isEmptyList x = true := by
  cases x with
  | list cs b e => cases cs <;> simp [exprKind, isEmptyList]
  | _ => simp [exprKind, isEmptyList]

theorem exprKind_ne_empty (x : Expr) : (exprKind x != .empty) = !isEmptyList x := by
  cases x with
  | list cs b e => cases cs <;> rfl
  | _ => rfl

theorem exprKind_concat_iff (x : Expr) : exprKind x = .concat ↔ x.isConcat = true := by
  cases x with
  | list cs b e => cases cs <;> simp [exprKind, Expr.isConcat]
  | _ => simp [exprKind, Expr.isConcat]

theorem isAxisOrFlat_kind (x : Expr) : isAxisOrFlat x = (exprKind x).isAxisLike := by
  cases x with
  | list cs b e => cases cs <;> rfl
  | _ => rfl

theorem exprKind_mkFlat (x : Expr) (b e : Int) : exprKind (mkFlat x b e) = .flat :=
  mkFlat_elim (motive := fun r => exprKind r = .flat) (fun h => by cases x <;> first | rfl | cases h) fun _ => rfl

theorem ofParen_of_concat {x : Expr} (h : x.isConcat = true) : (exprKind x).ofParen = exprKind x := by
  rw [(exprKind_concat_iff x).mpr h]; rfl

theorem ofParen_of_not_concat {x : Expr} (h : ¬ x.isConcat = true) : (exprKind x).ofParen = .flat :=
  if_neg fun hk => h ((exprKind_concat_iff x).mp hk)

theorem G_item_ndim {ao aa al : Bool} {x : Expr} (h : G ao aa al x = true) (hi : isItem x = true) : x.ndim ≠ some 0 := by
  cases x with
  | axis | flat | concat => exact fun h0 => nomatch h0
  | brackets i b e =>
    simp only [G, Bool.and_eq_true, bne_iff_ne, ne_eq] at h
    exact h.1.2
  | ellipsis i d b e =>
    have hi0 : (i.ndim == some 0) = false := by
      simp only [G, Bool.or_eq_true, Bool.and_eq_true, bne_iff_ne, ne_eq] at h
      rcases h with h | h
      · cases i <;> first | cases h | rfl
      · exact beq_eq_false_iff_ne.mpr h.1
    rw [Expr.ndim, hi0]
    exact fun h0 => nomatch h0
  | list | args | op => cases hi

theorem ndimSum_cons_zero {c : Expr} {cs : List Expr} (h : ndimSum (c :: cs) = some 0) : c.ndim = some 0 := by
  rw [ndimSum] at h
  match c.ndim, ndimSum cs, h with
  | some a, some b, h => exact congrArg some (Nat.add_eq_zero_iff.mp (Option.some.inj h)).1

theorem G_ndim0 {ao aa al : Bool} {x : Expr} (h : G ao aa al x = true) (hn : x.ndim = some 0) : isEmptyList x = true := by
  cases x with
  | list cs b e =>
    cases cs with
    | nil => rfl
    | cons c cs =>
      simp only [G, Bool.and_eq_true] at h
      have hc : G ao aa false c = true := (GL_iff.mp h.2) c List.mem_cons_self
      rw [Expr.ndim] at hn
      exact absurd (ndimSum_cons_zero hn) (G_item_ndim hc (G_false_item hc))
  | args | op => simp [Expr.ndim] at hn
  | axis | flat | concat | brackets | ellipsis => exact absurd hn (G_item_ndim h rfl)

theorem exprKind_emptyList : exprKind emptyList = .empty := rfl

/-- `Kind.ofBracket` by the test that `Brackets.create` and `Ellipsis.create` make. -/
theorem ofBracket_eq {ao aa al : Bool} {x : Expr} (h : G ao aa al x = true) :
    (exprKind x).ofBracket = if x.ndim == some 0 then .empty else .other := by
  unfold Kind.ofBracket
  split
  · rename_i he
    rw [isEmptyList_ndim ((exprKind_empty_iff x).mp he)]
    rfl
  · rename_i hne
    rw [if_neg fun hn => hne ((exprKind_empty_iff x).mpr (G_ndim0 h (beq_iff_eq.mp hn)))]

theorem exprKind_mkBrackets {ao aa al : Bool} {x : Expr} (b e : Int) (h : G ao aa al x = true) :
    exprKind (mkBrackets x b e) = (exprKind x).ofBracket := by
  unfold mkBrackets
  split
  · rename_i hb
    cases x <;> first | rfl | cases hb
  · rw [ofBracket_eq h]
    split <;> rfl

theorem exprKind_mkEllipsis {ao aa al : Bool} {x : Expr} (b e : Int) (d : Nat) (h : G ao aa al x = true) :
    exprKind (mkEllipsis x b e d) = (exprKind x).ofBracket := by
  unfold mkEllipsis
  rw [ofBracket_eq h]
  split <;> rfl

theorem exprKind_mkList {xs : List Expr} (b e : Int) (hi : ∀ x ∈ xs, (isItem x || isEmptyList x) = true) :
    exprKind (mkList xs b e) = Kind.ofList (xs.map exprKind) := by
  have hf : (xs.map exprKind).filter (fun k => k != .empty) = (xs.filter (fun x => !isEmptyList x)).map exprKind := by
    rw [List.filter_map]
    exact congrArg (List.map exprKind) (List.filter_congr fun x _ => exprKind_ne_empty x)
  unfold mkList Kind.ofList
  rw [hf, flattenAll_filter hi]
  match xs.filter (fun x => !isEmptyList x) with
  | [] => simp [exprKind]
  | [c] => simp
  | c1 :: c2 :: r => simp [exprKind]

def kindOf : Res Expr → Option Kind
  | .ok y => some (exprKind y)
  | .error _ => none

theorem kindOf_eq_some {r : Res Expr} {k : Kind} : kindOf r = some k ↔ ∃ y, r = .ok y ∧ exprKind y = k := by
  cases r with
  | ok y => exact ⟨fun h => ⟨y, rfl, Option.some.inj h⟩, fun ⟨_, hy, hk⟩ => by cases hy; exact congrArg some hk⟩
  | error err =>
    constructor
    · intro h; cases h
    · rintro ⟨_, hy, _⟩; cases hy

theorem all_axisLike (xs : List Expr) : (xs.map exprKind).all Kind.isAxisLike = xs.all isAxisOrFlat := by
  rw [List.all_map]
  congr 1
  funext x
  simp [isAxisOrFlat_kind]

theorem isEmpty_filter_not {α : Type} (p : α → Bool) : ∀ l : List α, (l.filter (fun a => !p a)).isEmpty = l.all p
  | [] => rfl
  | a :: l => by cases h : p a <;> simp [h, isEmpty_filter_not p l]

theorem combineKind_space (ipc : Bool) (ks : List Kind) : combineKind (lit " ") ipc ks = some (Kind.ofList ks) := by
  rw [combineKind, if_pos (by decide +kernel)]

theorem combineKind_arrow (ipc : Bool) (ks : List Kind) : combineKind (lit "->") ipc ks = some .other := by
  rw [combineKind, if_neg (by decide +kernel), if_pos (by decide +kernel)]

theorem combineKind_comma (ipc : Bool) (ks : List Kind) : combineKind (lit ",") ipc ks = some .other := by
  rw [combineKind, if_neg (by decide +kernel), if_neg (by decide +kernel), if_pos (by decide +kernel)]

theorem combineKind_plus (ipc : Bool) (ks : List Kind) :
    combineKind (lit "+") ipc ks = if ks.all Kind.isAxisLike && ipc then some .concat else none := by
  rw [combineKind, if_neg (by decide +kernel), if_neg (by decide +kernel), if_neg (by decide +kernel), if_pos (by decide +kernel)]

theorem combineKind_other {op : Str} (h : op ∉ modelHandled) (ipc : Bool) (ks : List Kind) : combineKind op ipc ks = none := by
  simp only [modelHandled, List.mem_cons, List.not_mem_nil, or_false, not_or, ← beq_eq_false_iff_ne] at h
  rw [combineKind, h.1, h.2.1, h.2.2.1, h.2.2.2]
  rfl

theorem combine_kind {op : Str} {xs : List Expr} {b e : Nat} {ipc : Bool} {ts : List Tok}
    (hsp : op = lit " " → ∀ x ∈ xs, (isItem x || isEmptyList x) = true) (h2 : op = lit "+" → 2 ≤ xs.length) :
    kindOf (combine op xs b e ipc ts) = combineKind op ipc (xs.map exprKind) := by
  cases op using opCases with
  | space =>
    rw [combine_space, combineKind_space]
    exact congrArg some (exprKind_mkList _ _ (hsp rfl))
  | arrow => rw [combine_arrow, combineKind_arrow]; rfl
  | comma => rw [combine_comma, combineKind_comma]; rfl
  | plus =>
    have hk : exprKind (mkConcat xs b e) = .concat := by rw [mkConcat_two _ _ (h2 rfl)]; rfl
    rw [combine_plus, combineKind_plus, isEmpty_filter_not, all_axisLike]
    cases xs.all isAxisOrFlat <;> cases ipc <;> simp [kindOf, hk]
  | other h => rw [combine_other h, combineKind_other h]; rfl

theorem parseAxis_ok_inv {t : Token} {r : Expr} (h : parseAxis t = .ok r) :
    (∃ n v, r = .axis n v t.b t.e) ∧ (isDigitStr t.text = true ∨ isAxisName t.text = true) := by
  revert h
  refine parseAxis_elim (motive := fun res => res = .ok r → _) t ?_ ?_ ?_ ?_
  · rintro hd _ ⟨⟩; exact ⟨⟨_, _, rfl⟩, Or.inl hd⟩
  · rintro _ _ ⟨⟩
  · rintro _ hn ⟨⟩; exact ⟨⟨_, _, rfl⟩, Or.inr hn⟩
  · rintro _ _ ⟨⟩

theorem parseAxis_ok_kind {t : Token} (h : isDigitStr t.text = true ∨ isAxisName t.text = true) :
    ∃ x, parseAxis t = .ok x ∧ exprKind x = .axis :=
  parseAxis_elim (motive := fun res => ∃ x, res = .ok x ∧ exprKind x = .axis) t (fun _ _ => ⟨_, rfl, rfl⟩)
    (fun hd ha => absurd (isDigitStr_all_decimal hd) (by simp [ha])) (fun _ _ => ⟨_, rfl, rfl⟩)
    fun hd hn => (h.elim (fun h => absurd h (by simp [hd])) fun h => absurd h (by simp [hn]))

theorem derives_gram {ts : List Tok} {b e : Nat} {ipc : Bool} {r : Expr} (h : Derives ts b e ipc r) : Gram ipc ts (exprKind r) := by
  induction h with
  | nil hs => exact .nil hs
  | parenConcat hs ho _ hc ih => exact ofParen_of_concat hc ▸ .paren hs ho ih
  | parenFlat hs ho _ hc ih => exact exprKind_mkFlat _ _ _ ▸ ofParen_of_not_concat hc ▸ .paren hs ho ih
  | bracket hs ho hx ih => exact exprKind_mkBrackets _ _ (derives_G hx).1 ▸ .bracket hs ho ih
  | @nary ts b e ipc t0 rest op r xs hs hop hx hc ih =>
    have hside := operands_side hop fun o ho => (derives_G (hx o ho)).2
    have hk := combine_kind (b := t0.b) (e := lastEnd (t0 :: rest) 0) (ipc := ipc) (ts := t0 :: rest) hside.1 hside.2
    rw [hc, List.map_map] at hk
    exact .nary (exprKind ∘ xs) hs hop ih hk.symm
  | axis hs hop hne hr =>
    obtain ⟨⟨n, v, rfl⟩, hda⟩ := parseAxis_ok_inv hr
    exact .axis hs hop hne hda
  | dots hs ht => exact .dots hs ht
  | ell hs hop ht hx ih => exact exprKind_mkEllipsis _ _ _ (derives_G hx).1 ▸ .ell hs hop ht ih

theorem parse_gram {ts : List Tok} {b e : Nat} {ipc : Bool} {r : Expr} (h : parse ts b e ipc = .ok r) : Gram ipc ts (exprKind r) :=
  derives_gram (parse_derives ts b e ipc r h)

theorem gram_derives {ipc : Bool} {ts : List Tok} {k : Kind} (h : Gram ipc ts k) :
    ∀ b e, ∃ x, Derives ts b e ipc x ∧ exprKind x = k := by
  induction h with
  | nil hs => exact fun b e => ⟨_, .nil hs, rfl⟩
  | @paren ipc ts o c inner k hs ho _ ih =>
    intro b e
    obtain ⟨x, hx, rfl⟩ := ih (firstInnerPos inner c) (lastEnd inner (firstInnerPos inner c))
    by_cases hc : x.isConcat = true
    · exact ⟨x, .parenConcat hs ho hx hc, (ofParen_of_concat hc).symm⟩
    · exact ⟨_, .parenFlat hs ho hx hc, (exprKind_mkFlat _ _ _).trans (ofParen_of_not_concat hc).symm⟩
  | @bracket ipc ts o c inner k hs ho _ ih =>
    intro b e
    obtain ⟨x, hx, rfl⟩ := ih (firstInnerPos inner c) (lastEnd inner (firstInnerPos inner c))
    exact ⟨_, .bracket hs ho hx, exprKind_mkBrackets _ _ (derives_G hx).1⟩
  | @nary ipc ts t0 rest op k ks hs hop _ hk ih =>
    intro b e
    have hx : ∀ o ∈ keepOperands op (operands op (t0 :: rest)),
        Derives o.ts o.b o.e false (treeOfTL o) ∧ exprKind (treeOfTL o) = ks o := by
      intro o ho
      obtain ⟨x, hx, hk⟩ := ih o ho o.b o.e
      rw [treeOfTL_eq hx]
      exact ⟨hx, hk⟩
    have hside := operands_side hop fun o ho => (derives_G (hx o ho).1).2
    have hmap : ((keepOperands op (operands op (t0 :: rest))).map treeOfTL).map exprKind = _ :=
      List.map_map.trans (List.map_congr_left fun o ho => (hx o ho).2)
    obtain ⟨y, hy, hyk⟩ := kindOf_eq_some.mp
      ((combine_kind (b := t0.b) (e := lastEnd (t0 :: rest) 0) (ipc := ipc) (ts := t0 :: rest) hside.1 hside.2).trans (hmap ▸ hk))
    exact ⟨y, .nary treeOfTL hs hop (fun o ho => (hx o ho).1) hy, hyk⟩
  | @axis ipc ts t hs hop hne hda =>
    intro b e
    obtain ⟨x, hx, hk⟩ := parseAxis_ok_kind hda
    exact ⟨x, .axis hs hop hne hx, hk⟩
  | @dots ipc ts t hs ht => exact fun b e => ⟨_, .dots hs ht, rfl⟩
  | @ell ipc ts x t k hs hop ht _ ih =>
    intro b e
    obtain ⟨y, hy, rfl⟩ := ih x.b x.e
    exact ⟨_, .ell hs hop ht hy, exprKind_mkEllipsis _ _ _ (derives_G hy).1⟩

theorem gram_parse {ipc : Bool} {ts : List Tok} {k : Kind} (h : Gram ipc ts k) (b e : Nat) :
    ∃ x, parse ts b e ipc = .ok x ∧ exprKind x = k :=
  (gram_derives h b e).imp fun _ hx => ⟨derives_parse hx.1, hx.2⟩

theorem tokTree_eq_some {s : Str} {tree : List Tok} :
    tokTree s = some tree ↔ ∃ toks, lex s = .ok toks ∧ buildTree (dedupSpaces toks false) [] [] = .ok tree := by
  unfold tokTree
  constructor
  · intro h
    split at h
    · cases h
    · rename_i toks hl
      split at h
      · cases h
      · rename_i tree' hb
        cases h
        exact ⟨toks, hl, hb⟩
  · rintro ⟨toks, hl, hb⟩
    rw [hl]
    dsimp only
    rw [hb]

theorem parseStage_eq_ok {s : Str} {x : Expr} :
    parseStage s = .ok x ↔ ∃ tree, tokTree s = some tree ∧ parse tree 0 (lastEnd tree 0) false = .ok x := by
  constructor
  · intro h
    unfold parseStage at h
    split at h
    · cases h
    · rename_i toks hl
      split at h
      · cases h
      · rename_i tree hb
        exact ⟨tree, tokTree_eq_some.mpr ⟨toks, hl, hb⟩, h⟩
  · rintro ⟨tree, ht, hp⟩
    obtain ⟨toks, hl, hb⟩ := tokTree_eq_some.mp ht
    unfold parseStage
    rw [hl]
    dsimp only
    rw [hb]
    exact hp

end Einx.Notation
