import EinxModel.Proofs.LowerEw
import EinxModel.Proofs.LowerDenote
/-! Helper lemmas for `lower_elementwise_correct` (Props/C01LowerOps.lean), denotation side: the cells of an
elementwise operation on converted expressions (an instance of `Denote.genCells`), for any number of inputs, the
tie between the loop form of `denoteElementwiseFold` and that functional form, and the elementwise instance `Inner.forEw` of
the pipeline theorem. -/
namespace Einx.Lower
open Einx Einx.IR Einx.Generic Einx.Denote
open Einx.Update (mapOpt mapOpt_eq_some_iff mapOpt_map)

theorem ewArgs_lower {ins : List (List G)} {eout : List G}
    (hsub : ∀ e ∈ ins, ∀ a ∈ G.leavesL e, a.len ≠ 1 → a.name ∈ names (G.leavesL eout))
    {k : Nat} (hk : k < prod (lens (G.leavesL eout))) :
    ewArgs (ins.map (fun e => (toDimL e, gShape e))) (sigmaOf (G.leavesL eout) k)
      = some ((ins.zipIdx 0).map (fun x => cOf x.2 x.1 (valOf (G.leavesL eout) k))) := by
  rw [ewArgs_eq, List.zipIdx_map, mapOpt_map, mapOpt_eq_some_iff, List.map_map]
  apply List.map_congr_left
  intro x hx
  have hxe := List.fst_mem_of_mem_zipIdx hx
  exact inCell_lower x.2 (hsub x.1 hxe) hk

/-- The body of the outer loop of an elementwise denotation that combines the argument cells by `g` and collects entries. -/
def foldOuter (g : List Cell → Cell) (vis : List (List Dim)) (exprsIn : List Expr) (vo : List Dim) :
    Assign → List (List Nat × Cell) → Denote.E (ForInStep (List (List Nat × Cell))) :=
  fun σ entries => do
    let args ← forIn (vis.zip exprsIn).zipIdx [] (Denote.ewInner σ)
    let po ← optE "unassigned output axis" (position vo σ)
    pure (ForInStep.yield (entries ++ [(po, g args)]))

theorem denoteElementwiseFold_eq (f : String) (exprsIn : List Expr) (exprOut : Expr) :
    denoteElementwiseFold f exprsIn exprOut = (do
      let vis ← exprsIn.mapM singleView
      let vo ← singleView exprOut
      let entries ← forIn (assignments (axesOf (Dim.leavesL vo))) [] (foldOuter (foldCells f) vis exprsIn vo)
      fillOutput (shapeOf exprOut) entries) := by
  unfold denoteElementwiseFold
  rfl

/-- What that loop appends for `σ`. -/
def foldEntryP (g : List Cell → Cell) (ins : List (List Dim × List Nat)) (vo : List Dim) (σ : Assign) : Option (List Nat × Cell) :=
  match ewArgs ins σ, position vo σ with
  | some args, some po => some (po, g args)
  | _, _ => none

theorem fold_outer_loop (g : List Cell → Cell) (vis : List (List Dim)) (exprsIn : List Expr) (vo : List Dim) (asg : List Assign)
    (entries : List (List Nat × Cell)) :
    okOpt (forIn asg entries (foldOuter g vis exprsIn vo))
      = (mapOpt (foldEntryP g (ewIns (vis.zip exprsIn)) vo) asg).map (fun es => entries ++ es) := by
  refine okOpt_forIn_append _ (fun σ s => ?_) asg entries
  simp only [foldOuter, okOpt_bind, ew_inner_loop, okOpt_pure, foldEntryP]
  cases ewArgs (ewIns (vis.zip exprsIn)) σ with
  | none => rfl
  | some args => simp only [Option.bind_some]; cases position vo σ <;> rfl

theorem foldEntryP_gen (g : List Cell → Cell) (ins : List (List Dim × List Nat)) (vo : List Dim) (so : List Nat) (σ : Assign) :
    (foldEntryP g ins vo σ).map (fun e => (ravel so e.1, e.2)) = genEntry (ewXG g ins) vo so σ := by
  simp only [foldEntryP, genEntry, ewXG, flatPos]
  cases ewArgs ins σ <;> cases position vo σ <;> rfl

/-- **Tie between the loop form and the functional form of the n-ary elementwise denotation.** -/
theorem denoteElementwiseFold_eq_fun (f : String) (exprsIn : List Expr) (exprOut : Expr)
    (hin : Expr.concatFreeL exprsIn = true) (hout : exprOut.concatFree = true) :
    okOpt (denoteElementwiseFold f exprsIn exprOut)
      = (genCells (ewXG (foldCells f) (exprsIn.map (fun e => (rootDims e, shapeOf e)))) (rootDims exprOut)
          (shapeOf exprOut)).map (fun cs => (⟨shapeOf exprOut, cs⟩ : Tensor Cell)) := by
  rw [denoteElementwiseFold_eq, mapM_singleView exprsIn hin, singleView_of_concatFree hout]
  simp only [pure_bind]
  rw [okOpt_bind, fold_outer_loop, ewIns_rootDims, okOpt_fill_genCells (foldEntryP_gen _ _ _ _)]

theorem concatFreeL_map_rootExpr : ∀ ins : List (List G), Expr.concatFreeL (ins.map rootExpr) = true
  | [] => rfl
  | e :: es => by
    simp only [List.map_cons, Expr.concatFreeL, concatFree_rootExpr e, concatFreeL_map_rootExpr es, Bool.and_self]

theorem map_rootExpr_dims (ins : List (List G)) :
    (ins.map rootExpr).map (fun e => (rootDims e, shapeOf e)) = ins.map (fun e => (toDimL e, gShape e)) := by
  rw [List.map_map]
  apply List.map_congr_left
  intro e _
  simp only [Function.comp, rootDims_rootExpr, shapeOf_rootExpr]

theorem ewExpected_of_cells {f : String} {kind : EwKind} {ins : List (List G)} {go : List G} {cs : List Cell}
    (hk : ewKindOf f = some kind)
    (h : genCells (ewXG (ewCell f kind) (ins.map (fun e => (toDimL e, gShape e)))) (toDimL go) (gShape go) = some cs) :
    ewExpected f ins go = .ok ⟨gShape go, cs⟩ := by
  unfold ewExpected
  rw [hk]
  cases kind with
  | nary =>
    simp only []
    apply ok_of_okOpt
    rw [denoteElementwiseFold_eq_fun f _ _ (concatFreeL_map_rootExpr ins) (concatFree_rootExpr go), map_rootExpr_dims,
      rootDims_rootExpr, shapeOf_rootExpr]
    have : ewCell f EwKind.nary = foldCells f := rfl
    rw [this] at h
    rw [h]; rfl
  | fixed n =>
    simp only []
    apply ok_of_okOpt
    rw [denoteElementwise_cells f _ _ (concatFreeL_map_rootExpr ins) (concatFree_rootExpr go), map_rootExpr_dims,
      rootDims_rootExpr, shapeOf_rootExpr]
    have h' : genCells (ewX f (ins.map (fun e => (toDimL e, gShape e)))) (toDimL go) (gShape go) = some cs := h
    rw [h']; rfl

/-- The inner function of an elementwise operation: the operands aligned with `ewW`, combined by numpy calls. -/
def Inner.forEw (f : String) (kind : EwKind) {ins : List (List G)} {eout : List G} (hout : (names (G.leavesL eout)).Nodup)
    (hcons : ∀ e ∈ ins, ∀ a ∈ G.leavesL e, ∀ b ∈ G.leavesL eout, a.name = b.name → a.len = b.len)
    (hsub : ∀ e ∈ ins, ∀ n ∈ names (squeezedExpr [] e), n ∈ names (ewW ins eout)) : Inner eout where
  sq := ewW ins eout
  P := fun val => (∀ e ∈ ins, Bnd val (G.leavesL e)) ∧ Bnd val (G.leavesL eout)
  c := fun val => ewCell f kind ((ins.zipIdx 0).map (fun x => cOf x.2 x.1 val))
  X := ewXG (ewCell f kind) (ins.map (fun e => (toDimL e, gShape e)))
  over :=
    { nodup := (ewW_ok hout hcons).1.nodup
      ne1 := (ewW_ok hout hcons).1.ne1
      bndSq := (ewW_ok hout hcons).1.bnd
      bndOut := fun _ hP => hP.2
      cons := fun a ha b hb hn => by rw [eq_of_name_eq hout (mem_ewW.mp ha).1 hb hn] }
  den := fun _ k hk =>
    have hsub' : ∀ e ∈ ins, ∀ a ∈ G.leavesL e, a.len ≠ 1 → a.name ∈ names (G.leavesL eout) := fun e he a ha hne => by
      obtain ⟨b, hb, hbn⟩ := List.mem_map.mp
        (hsub e he a.name (List.mem_map.mpr ⟨a, mem_squeezedExpr_nil.mpr ⟨ha, hne⟩, rfl⟩))
      exact List.mem_map.mpr ⟨b, (mem_ewW.mp hb).1, hbn⟩
    ⟨⟨fun e he => valOf_bnd hout (hcons e he) (hsub' e he) hk, (sigmaOf_get hout hk).2.2⟩,
      by rw [ewXG, ewArgs_lower hsub' hk]; rfl⟩

/-- A successful `lowerElementwise` in its domain: the inner function returns the expression `ewW` it was given, the traced
shapes before and after `_squeeze_transpose_broadcast` are those of `ewW` and of the flat output, and the register that the
program computes from the symbolic inputs holds exactly the cells of the denotation. -/
theorem lowerElementwise_cells {f : String} {ins : List (List G)} {eout : List G} {s : St}
    (hd : ewDomain ins eout = true) (h : lowerElementwise f ins eout = .ok s) :
    ∃ kind s2 s3, ewKindOf f = some kind ∧
      Generic.ewInner f { reg := 0, shape := [], prog := [], next := ins.length } ins (ewW ins eout) = .ok (ewW ins eout, s2) ∧
      s2.shape = lens (ewW ins eout) ∧ stb s2 (ewW ins eout) (G.leavesL eout) = .ok s3 ∧
      s3.shape = lens (G.leavesL eout) ∧ s = reshapeW s3 (gShape eout) ∧
      ∃ regs cs, evalProg symAlg s.prog (symInputs (ins.map gShape)) = .ok regs ∧ regs[s.reg]? = some ⟨gShape eout, cs⟩ ∧
        genCells (ewXG (ewCell f kind) (ins.map (fun e => (toDimL e, gShape e)))) (toDimL eout) (gShape eout) = some cs := by
  simp only [ewDomain, Bool.and_eq_true, List.all_eq_true] at hd
  have hout := (noDup_iff _).mp hd.1
  have hcons : ∀ e ∈ ins, ∀ a ∈ G.leavesL e, ∀ b ∈ G.leavesL eout, a.name = b.name → a.len = b.len :=
    fun e he => consistentLens_spec (hd.2 e he)
  cases hk : ewKindOf f with
  | none =>
    unfold lowerElementwise Generic.ewInner at h
    simp [hk, bind, Except.bind, throw, throwThe, MonadExceptOf.throw] at h
  | some kind =>
    obtain ⟨hw, hok⟩ := ewW_ok hout hcons
    rw [lowerElementwise_eq] at h
    obtain ⟨exprRes, s2, s3, hi, hstb, rfl⟩ := bind_stb_ok h
    obtain ⟨rfl, hall, ext2, T2, hrun2, hR2⟩ :=
      (ewInner_run hk hw hok ⟨rfl, by simp [symInputs_length]⟩ (symInputs_getElem? ins)).ok hi
    obtain ⟨hsh3, ext, cs, hrun, hden⟩ :=
      (Inner.forEw f kind hout hcons fun e he => (hall e he).2).correct hout hrun2 hR2 hstb
    exact ⟨kind, s2, s3, rfl, hi, by rw [← hrun2.shape, hR2.1], hstb, hsh3, rfl, _, cs, hrun.ev, hrun.reg, hden⟩

end Einx.Lower
