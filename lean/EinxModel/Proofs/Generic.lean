import EinxModel.Generic.Grammar
/-! Helper lemmas for C17 (statement grammar, skeleton, cost semantics). -/
namespace Einx.Generic

theorem holeDigits_noDigit : ∀ l : List Char, ∀ c ∈ holeDigits l, c.isDigit = false
  | [] => by simp [holeDigits]
  | c :: cs => by
    have ih := holeDigits_noDigit cs
    unfold holeDigits
    by_cases hc : c.isDigit = true
    · simp only [hc, if_true]
      split
      · rename_i rest heq
        intro d hd
        rw [heq] at ih
        exact ih d hd
      · rename_i rest _
        intro d hd
        rcases List.mem_cons.mp hd with h | h
        · subst h; decide
        · exact ih d h
    · simp only [hc]
      intro d hd
      rcases List.mem_cons.mp hd with h | h
      · subst h; simpa using hc
      · exact ih d h

theorem holeDigits_id_of_noDigit : ∀ l : List Char, (∀ c ∈ l, c.isDigit = false) → holeDigits l = l
  | [], _ => by simp [holeDigits]
  | c :: cs, h => by
    have hc : c.isDigit = false := h c (by simp)
    have ih := holeDigits_id_of_noDigit cs (fun d hd => h d (by simp [hd]))
    simp [holeDigits, hc, ih]

theorem holeDigits_idem (l : List Char) : holeDigits (holeDigits l) = holeDigits l :=
  holeDigits_id_of_noDigit _ (holeDigits_noDigit l)

theorem holeStr_idem (s : String) : holeStr (holeStr s) = holeStr s := by
  simp [holeStr, holeDigits_idem]

theorem map_holeStr_idem (m : Option String) : (m.map holeStr).map holeStr = m.map holeStr := by
  cases m <;> simp [holeStr_idem]

theorem Const.skel_idem (c : Const) : c.skel.skel = c.skel := by cases c <;> rfl

mutual
theorem PyExpr.calls_skel : ∀ e : PyExpr, e.skel.calls = e.calls
  | .name _ => rfl
  | .attr e _ => by simp only [PyExpr.skel, PyExpr.calls, PyExpr.calls_skel e]
  | .call f as _ kv => by simp only [PyExpr.skel, PyExpr.calls, PyExpr.calls_skel f, PyExpr.callsL_skel as, PyExpr.callsL_skel kv]
  | .subscript e i => by simp only [PyExpr.skel, PyExpr.calls, PyExpr.calls_skel e, PyExpr.calls_skel i]
  | .slice a b c => by simp only [PyExpr.skel, PyExpr.calls, PyExpr.calls_skel a, PyExpr.calls_skel b, PyExpr.calls_skel c]
  | .absent => rfl
  | .tuple es => by simp only [PyExpr.skel, PyExpr.calls, PyExpr.callsL_skel es]
  | .list es => by simp only [PyExpr.skel, PyExpr.calls, PyExpr.callsL_skel es]
  | .dict ks vs => by simp only [PyExpr.skel, PyExpr.calls, PyExpr.callsL_skel ks, PyExpr.callsL_skel vs]
  | .const _ => rfl
  | .unary _ e => by simp only [PyExpr.skel, PyExpr.calls, PyExpr.calls_skel e]
  | .binop _ l r => by simp only [PyExpr.skel, PyExpr.calls, PyExpr.calls_skel l, PyExpr.calls_skel r]
  | .compare _ l r => by simp only [PyExpr.skel, PyExpr.calls, PyExpr.calls_skel l, PyExpr.calls_skel r]
theorem PyExpr.callsL_skel : ∀ es : List PyExpr, PyExpr.callsL (PyExpr.skelL es) = PyExpr.callsL es
  | [] => rfl
  | e :: es => by simp only [PyExpr.skelL, PyExpr.callsL, PyExpr.calls_skel e, PyExpr.callsL_skel es]
end

theorem Stmt.flatCalls_skel (s : Stmt) : s.skel.flatCalls = s.flatCalls := by
  cases s <;> simp [Stmt.skel, Stmt.flatCalls, PyExpr.calls_skel, PyExpr.callsL_skel]

mutual
theorem Stmt.callCount_skel : ∀ s : Stmt, s.skel.callCount = s.callCount
  | .import_ _ => rfl
  | .importFrom _ _ => rfl
  | .funcDef _ _ body => by simp only [Stmt.skel, Stmt.callCount, Stmt.callCountL_skel body]
  | .assign _ _ => by simp only [Stmt.skel, Stmt.callCount, PyExpr.calls_skel, PyExpr.callsL_skel]
  | .augAssign _ _ _ => by simp only [Stmt.skel, Stmt.callCount, PyExpr.calls_skel]
  | .exprCall _ _ _ _ => by simp only [Stmt.skel, Stmt.callCount, PyExpr.calls_skel, PyExpr.callsL_skel]
  | .assert_ _ _ => by simp only [Stmt.skel, Stmt.callCount, PyExpr.calls_skel]
  | .return_ _ => by simp only [Stmt.skel, Stmt.callCount, PyExpr.calls_skel]
theorem Stmt.callCountL_skel : ∀ ss : List Stmt, Stmt.callCountL (Stmt.skelL ss) = Stmt.callCountL ss
  | [] => rfl
  | s :: ss => by simp only [Stmt.skelL, Stmt.callCountL, Stmt.callCount_skel s, Stmt.callCountL_skel ss]
end

mutual
theorem Stmt.cost_eq : ∀ s : Stmt, s.cost = s.callCount
  | .import_ _ => rfl
  | .importFrom _ _ => rfl
  | .funcDef _ _ body => by simp only [Stmt.cost, Stmt.callCount, Stmt.costL_eq body]
  | .assign _ _ => rfl
  | .augAssign _ _ _ => rfl
  | .exprCall _ _ _ _ => rfl
  | .assert_ _ _ => rfl
  | .return_ _ => rfl
theorem Stmt.costL_eq : ∀ ss : List Stmt, Stmt.costL ss = Stmt.callCountL ss
  | [] => rfl
  | s :: ss => by simp only [Stmt.costL, Stmt.callCountL, Stmt.cost_eq s, Stmt.costL_eq ss]
end

mutual
theorem evalE_calls {V : Type} (ρ : Env V) (σ : String → V) : ∀ e : PyExpr, (evalE ρ σ e).2 = e.calls
  | .name _ => rfl
  | .attr e _ => by simp only [evalE, PyExpr.calls, evalE_calls ρ σ e]
  | .call f as _ kv => by
    simp [evalE, PyExpr.calls, evalE_calls ρ σ f, evalL_calls ρ σ as, evalL_calls ρ σ kv]
  | .subscript e i => by simp only [evalE, PyExpr.calls, evalE_calls ρ σ e, evalE_calls ρ σ i]
  | .slice a b c => by simp only [evalE, PyExpr.calls, evalE_calls ρ σ a, evalE_calls ρ σ b, evalE_calls ρ σ c]
  | .absent => rfl
  | .tuple es => by simp only [evalE, PyExpr.calls, evalL_calls ρ σ es]
  | .list es => by simp only [evalE, PyExpr.calls, evalL_calls ρ σ es]
  | .dict ks vs => by simp only [evalE, PyExpr.calls, evalL_calls ρ σ ks, evalL_calls ρ σ vs]
  | .const _ => rfl
  | .unary _ e => by simp only [evalE, PyExpr.calls, evalE_calls ρ σ e]
  | .binop _ l r => by simp only [evalE, PyExpr.calls, evalE_calls ρ σ l, evalE_calls ρ σ r]
  | .compare _ l r => by simp only [evalE, PyExpr.calls, evalE_calls ρ σ l, evalE_calls ρ σ r]
theorem evalL_calls {V : Type} (ρ : Env V) (σ : String → V) : ∀ es : List PyExpr, (evalL ρ σ es).2 = PyExpr.callsL es
  | [] => rfl
  | e :: es => by simp only [evalL, PyExpr.callsL, evalE_calls ρ σ e, evalL_calls ρ σ es]
end

theorem assignTo_calls {V : Type} (ρ : Env V) (σ : String → V) (v : V) (t : PyExpr) :
    (assignTo ρ σ v t).2 = t.calls := by
  cases t <;> simp [assignTo, PyExpr.calls, evalE_calls, evalL_calls]

theorem assignAll_calls {V : Type} (ρ : Env V) (v : V) : ∀ (ts : List PyExpr) (σ : String → V),
    (assignAll ρ v σ ts).2 = PyExpr.callsL ts
  | [], _ => rfl
  | t :: ts, σ => by
    simp [assignAll, PyExpr.callsL, assignTo_calls, assignAll_calls ρ v ts]

theorem execStmt_calls {V : Type} (ρ : Env V) (σ : String → V) (s : Stmt) :
    (execStmt ρ σ s).2 = s.flatCalls := by
  cases s with
  | import_ _ => rfl
  | importFrom _ _ => rfl
  | funcDef _ _ _ => rfl
  | assign ts v => simp [execStmt, Stmt.flatCalls, evalE_calls, assignAll_calls]
  | augAssign t o v =>
    cases t <;> simp [execStmt, Stmt.flatCalls, evalE_calls]
  | exprCall f as kn kv => simp [execStmt, Stmt.flatCalls, evalE_calls, PyExpr.calls]
  | assert_ t _ => simp [execStmt, Stmt.flatCalls, evalE_calls]
  | return_ v => simp [execStmt, Stmt.flatCalls, evalE_calls]

theorem exec_calls {V : Type} (ρ : Env V) : ∀ (b : List Stmt) (σ : String → V), (exec ρ σ b).2 = flatCalls b
  | [], _ => rfl
  | s :: ss, σ => by simp only [exec, flatCalls, execStmt_calls, exec_calls ρ ss]

theorem Const.same_iff (c d : Const) : c.same d ↔ c.skel = d.skel := by
  cases c <;> cases d <;> simp [Const.same, Const.skel] <;> exact eq_comm

theorem Const.same_refl (c : Const) : c.same c := (Const.same_iff c c).mpr rfl

theorem Const.skel_same (c d : Const) : c.skel.same d ↔ c.same d := by cases c <;> rfl

mutual
theorem PyExpr.same_refl : ∀ a : PyExpr, a.same a
  | .name _ => rfl
  | .attr e _ => ⟨e, rfl, PyExpr.same_refl e⟩
  | .call f as _ kv => ⟨f, as, kv, rfl, PyExpr.same_refl f, PyExpr.sameL_refl as, PyExpr.sameL_refl kv⟩
  | .subscript e i => ⟨e, i, rfl, PyExpr.same_refl e, PyExpr.same_refl i⟩
  | .slice x y z => ⟨x, y, z, rfl, PyExpr.same_refl x, PyExpr.same_refl y, PyExpr.same_refl z⟩
  | .absent => rfl
  | .tuple es => ⟨es, rfl, PyExpr.sameL_refl es⟩
  | .list es => ⟨es, rfl, PyExpr.sameL_refl es⟩
  | .dict ks vs => ⟨ks, vs, rfl, PyExpr.sameL_refl ks, PyExpr.sameL_refl vs⟩
  | .const c => ⟨c, rfl, Const.same_refl c⟩
  | .unary _ e => ⟨e, rfl, PyExpr.same_refl e⟩
  | .binop _ l r => ⟨l, r, rfl, PyExpr.same_refl l, PyExpr.same_refl r⟩
  | .compare _ l r => ⟨l, r, rfl, PyExpr.same_refl l, PyExpr.same_refl r⟩
theorem PyExpr.sameL_refl : ∀ as : List PyExpr, PyExpr.sameL as as
  | [] => rfl
  | a :: as => ⟨a, as, rfl, PyExpr.same_refl a, PyExpr.sameL_refl as⟩
end

/- `same` reads its left argument only through the skeleton: `same` and `skel` recurse alike on it, and the right
argument is never taken apart. -/
mutual
theorem PyExpr.skel_same : ∀ a b : PyExpr, a.skel.same b ↔ a.same b
  | .name _, _ => Iff.rfl
  | .attr e _, _ => by simp only [PyExpr.skel, PyExpr.same, PyExpr.skel_same e]
  | .call f as _ kv, _ => by
    simp only [PyExpr.skel, PyExpr.same, PyExpr.skel_same f, PyExpr.skelL_same as, PyExpr.skelL_same kv]
  | .subscript e i, _ => by simp only [PyExpr.skel, PyExpr.same, PyExpr.skel_same e, PyExpr.skel_same i]
  | .slice x y z, _ => by
    simp only [PyExpr.skel, PyExpr.same, PyExpr.skel_same x, PyExpr.skel_same y, PyExpr.skel_same z]
  | .absent, _ => Iff.rfl
  | .tuple es, _ => by simp only [PyExpr.skel, PyExpr.same, PyExpr.skelL_same es]
  | .list es, _ => by simp only [PyExpr.skel, PyExpr.same, PyExpr.skelL_same es]
  | .dict ks vs, _ => by simp only [PyExpr.skel, PyExpr.same, PyExpr.skelL_same ks, PyExpr.skelL_same vs]
  | .const c, _ => by simp only [PyExpr.skel, PyExpr.same, Const.skel_same c]
  | .unary _ e, _ => by simp only [PyExpr.skel, PyExpr.same, PyExpr.skel_same e]
  | .binop _ l r, _ => by simp only [PyExpr.skel, PyExpr.same, PyExpr.skel_same l, PyExpr.skel_same r]
  | .compare _ l r, _ => by simp only [PyExpr.skel, PyExpr.same, PyExpr.skel_same l, PyExpr.skel_same r]
theorem PyExpr.skelL_same : ∀ as bs : List PyExpr, PyExpr.sameL (PyExpr.skelL as) bs ↔ PyExpr.sameL as bs
  | [], _ => Iff.rfl
  | a :: as, _ => by simp only [PyExpr.skelL, PyExpr.sameL, PyExpr.skel_same a, PyExpr.skelL_same as]
end

/- The witnesses of `same` determine `b`, so no case split on `b` is needed. -/
mutual
theorem PyExpr.skel_eq_of_same : ∀ a b : PyExpr, a.same b → a.skel = b.skel
  | .name _, _ => by
    rintro rfl; rfl
  | .attr e _, _ => by
    rintro ⟨e', rfl, h⟩
    simp only [PyExpr.skel, PyExpr.skel_eq_of_same e e' h]
  | .call f as _ kv, _ => by
    rintro ⟨f', as', kv', rfl, h1, h2, h3⟩
    simp only [PyExpr.skel, PyExpr.skel_eq_of_same f f' h1, PyExpr.skelL_eq_of_sameL as as' h2,
      PyExpr.skelL_eq_of_sameL kv kv' h3]
  | .subscript e i, _ => by
    rintro ⟨e', i', rfl, h1, h2⟩
    simp only [PyExpr.skel, PyExpr.skel_eq_of_same e e' h1, PyExpr.skel_eq_of_same i i' h2]
  | .slice x y z, _ => by
    rintro ⟨x', y', z', rfl, h1, h2, h3⟩
    simp only [PyExpr.skel, PyExpr.skel_eq_of_same x x' h1, PyExpr.skel_eq_of_same y y' h2,
      PyExpr.skel_eq_of_same z z' h3]
  | .absent, _ => by
    rintro rfl; rfl
  | .tuple es, _ => by
    rintro ⟨es', rfl, h⟩
    simp only [PyExpr.skel, PyExpr.skelL_eq_of_sameL es es' h]
  | .list es, _ => by
    rintro ⟨es', rfl, h⟩
    simp only [PyExpr.skel, PyExpr.skelL_eq_of_sameL es es' h]
  | .dict ks vs, _ => by
    rintro ⟨ks', vs', rfl, h1, h2⟩
    simp only [PyExpr.skel, PyExpr.skelL_eq_of_sameL ks ks' h1, PyExpr.skelL_eq_of_sameL vs vs' h2]
  | .const c, _ => by
    rintro ⟨c', rfl, h⟩
    simp only [PyExpr.skel, (Const.same_iff c c').mp h]
  | .unary _ e, _ => by
    rintro ⟨e', rfl, h⟩
    simp only [PyExpr.skel, PyExpr.skel_eq_of_same e e' h]
  | .binop _ l r, _ => by
    rintro ⟨l', r', rfl, h1, h2⟩
    simp only [PyExpr.skel, PyExpr.skel_eq_of_same l l' h1, PyExpr.skel_eq_of_same r r' h2]
  | .compare _ l r, _ => by
    rintro ⟨l', r', rfl, h1, h2⟩
    simp only [PyExpr.skel, PyExpr.skel_eq_of_same l l' h1, PyExpr.skel_eq_of_same r r' h2]
theorem PyExpr.skelL_eq_of_sameL : ∀ as bs : List PyExpr, PyExpr.sameL as bs → PyExpr.skelL as = PyExpr.skelL bs
  | [], _ => by
    rintro rfl; rfl
  | a :: as, _ => by
    rintro ⟨b, bs', rfl, h1, h2⟩
    simp only [PyExpr.skelL, PyExpr.skel_eq_of_same a b h1, PyExpr.skelL_eq_of_sameL as bs' h2]
end

/- From `a.skel = b.skel` one would have to show that `b` has the constructor of `a`. That is not needed: by
`skel_same` the claim `a.same b` is `a.skel.same b`, that is `b.skel.same b`, that is `b.same b`. -/
theorem PyExpr.same_iff : ∀ a b : PyExpr, a.same b ↔ a.skel = b.skel := by
  refine fun a b => ⟨PyExpr.skel_eq_of_same a b, fun h => ?_⟩
  rw [← PyExpr.skel_same, h, PyExpr.skel_same]
  exact PyExpr.same_refl b

theorem PyExpr.sameL_iff : ∀ as bs : List PyExpr, PyExpr.sameL as bs ↔ PyExpr.skelL as = PyExpr.skelL bs := by
  refine fun as bs => ⟨PyExpr.skelL_eq_of_sameL as bs, fun h => ?_⟩
  rw [← PyExpr.skelL_same, h, PyExpr.skelL_same]
  exact PyExpr.sameL_refl bs

theorem PyExpr.skel_idem (e : PyExpr) : e.skel.skel = e.skel :=
  PyExpr.skel_eq_of_same _ _ ((PyExpr.skel_same e e).mpr (PyExpr.same_refl e))

theorem PyExpr.skelL_idem (es : List PyExpr) : PyExpr.skelL (PyExpr.skelL es) = PyExpr.skelL es :=
  PyExpr.skelL_eq_of_sameL _ _ ((PyExpr.skelL_same es es).mpr (PyExpr.sameL_refl es))

mutual
theorem Stmt.same_refl : ∀ a : Stmt, a.same a
  | .import_ _ => rfl
  | .importFrom _ _ => rfl
  | .funcDef _ _ body => ⟨body, rfl, Stmt.sameL_refl body⟩
  | .assign ts v => ⟨ts, v, rfl, PyExpr.sameL_refl ts, PyExpr.same_refl v⟩
  | .augAssign t _ v => ⟨t, v, rfl, PyExpr.same_refl t, PyExpr.same_refl v⟩
  | .exprCall f as _ kv => ⟨f, as, kv, rfl, PyExpr.same_refl f, PyExpr.sameL_refl as, PyExpr.sameL_refl kv⟩
  | .assert_ t m => ⟨t, m, rfl, PyExpr.same_refl t, rfl⟩
  | .return_ v => ⟨v, rfl, PyExpr.same_refl v⟩
theorem Stmt.sameL_refl : ∀ as : List Stmt, Stmt.sameL as as
  | [] => rfl
  | a :: as => ⟨a, as, rfl, Stmt.same_refl a, Stmt.sameL_refl as⟩
end

mutual
theorem Stmt.skel_same : ∀ a b : Stmt, a.skel.same b ↔ a.same b
  | .import_ _, _ => Iff.rfl
  | .importFrom _ _, _ => Iff.rfl
  | .funcDef _ _ body, _ => by simp only [Stmt.skel, Stmt.same, Stmt.skelL_same body]
  | .assign _ _, _ => by simp only [Stmt.skel, Stmt.same, PyExpr.skelL_same, PyExpr.skel_same]
  | .augAssign _ _ _, _ => by simp only [Stmt.skel, Stmt.same, PyExpr.skel_same]
  | .exprCall _ _ _ _, _ => by simp only [Stmt.skel, Stmt.same, PyExpr.skel_same, PyExpr.skelL_same]
  | .assert_ _ _, _ => by simp only [Stmt.skel, Stmt.same, PyExpr.skel_same, map_holeStr_idem]
  | .return_ _, _ => by simp only [Stmt.skel, Stmt.same, PyExpr.skel_same]
theorem Stmt.skelL_same : ∀ as bs : List Stmt, Stmt.sameL (Stmt.skelL as) bs ↔ Stmt.sameL as bs
  | [], _ => Iff.rfl
  | a :: as, _ => by simp only [Stmt.skelL, Stmt.sameL, Stmt.skel_same a, Stmt.skelL_same as]
end

mutual
theorem Stmt.skel_eq_of_same : ∀ a b : Stmt, a.same b → a.skel = b.skel
  | .import_ _, _ => by
    rintro rfl; rfl
  | .importFrom _ _, _ => by
    rintro rfl; rfl
  | .funcDef _ _ body, _ => by
    rintro ⟨body', rfl, h⟩
    simp only [Stmt.skel, Stmt.skelL_eq_of_sameL body body' h]
  | .assign ts v, _ => by
    rintro ⟨ts', v', rfl, h1, h2⟩
    simp only [Stmt.skel, PyExpr.skelL_eq_of_sameL ts ts' h1, PyExpr.skel_eq_of_same v v' h2]
  | .augAssign t _ v, _ => by
    rintro ⟨t', v', rfl, h1, h2⟩
    simp only [Stmt.skel, PyExpr.skel_eq_of_same t t' h1, PyExpr.skel_eq_of_same v v' h2]
  | .exprCall f as _ kv, _ => by
    rintro ⟨f', as', kv', rfl, h1, h2, h3⟩
    simp only [Stmt.skel, PyExpr.skel_eq_of_same f f' h1, PyExpr.skelL_eq_of_sameL as as' h2,
      PyExpr.skelL_eq_of_sameL kv kv' h3]
  | .assert_ t m, _ => by
    rintro ⟨t', m', rfl, h1, h2⟩
    simp only [Stmt.skel, PyExpr.skel_eq_of_same t t' h1, h2]
  | .return_ v, _ => by
    rintro ⟨v', rfl, h⟩
    simp only [Stmt.skel, PyExpr.skel_eq_of_same v v' h]
theorem Stmt.skelL_eq_of_sameL : ∀ as bs : List Stmt, Stmt.sameL as bs → Stmt.skelL as = Stmt.skelL bs
  | [], _ => by
    rintro rfl; rfl
  | a :: as, _ => by
    rintro ⟨b, bs', rfl, h1, h2⟩
    simp only [Stmt.skelL, Stmt.skel_eq_of_same a b h1, Stmt.skelL_eq_of_sameL as bs' h2]
end

theorem Stmt.same_iff : ∀ a b : Stmt, a.same b ↔ a.skel = b.skel := by
  refine fun a b => ⟨Stmt.skel_eq_of_same a b, fun h => ?_⟩
  rw [← Stmt.skel_same, h, Stmt.skel_same]
  exact Stmt.same_refl b

theorem Stmt.sameL_iff : ∀ as bs : List Stmt, Stmt.sameL as bs ↔ Stmt.skelL as = Stmt.skelL bs := by
  refine fun as bs => ⟨Stmt.skelL_eq_of_sameL as bs, fun h => ?_⟩
  rw [← Stmt.skelL_same, h, Stmt.skelL_same]
  exact Stmt.sameL_refl bs

theorem Stmt.skel_idem : ∀ s : Stmt, s.skel.skel = s.skel := fun s =>
  Stmt.skel_eq_of_same _ _ ((Stmt.skel_same s s).mpr (Stmt.same_refl s))

theorem Stmt.skelL_idem : ∀ ss : List Stmt, Stmt.skelL (Stmt.skelL ss) = Stmt.skelL ss := fun ss =>
  Stmt.skelL_eq_of_sameL _ _ ((Stmt.skelL_same ss ss).mpr (Stmt.sameL_refl ss))

end Einx.Generic
