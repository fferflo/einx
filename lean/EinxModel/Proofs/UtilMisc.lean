/-!
Comparing names inside the kernel.  A `String` literal is unfolded to its UTF-8 bytes each time the kernel
compares it, which dominates the check of a lookup table keyed by names.  `nameCode` turns a name into one
number, injectively; a table is recoded once and consulted through `lookup_map_key` with number comparisons.
-/
namespace Einx.Util

/-- A byte list as a little-endian base-256 numeral under a leading `1` (the `1` keeps trailing zero bytes
and the length visible, so the coding is injective). -/
def bytesCode (l : List UInt8) : Nat := l.foldr (fun b n => 256 * n + b.toNat) 1

theorem bytesCode_pos : ∀ l : List UInt8, 0 < bytesCode l
  | [] => Nat.one_pos
  | b :: l => by
    have := bytesCode_pos l
    simp only [bytesCode, List.foldr_cons] at this ⊢
    omega

theorem bytesCode_inj : ∀ {l l' : List UInt8}, bytesCode l = bytesCode l' → l = l'
  | [], [], _ => rfl
  | [], b :: l, h | b :: l, [], h => by
    have := bytesCode_pos l
    simp only [bytesCode, List.foldr_cons, List.foldr_nil] at h this
    omega
  | b :: l, b' :: l', h => by
    have hb := b.toNat_lt
    have hb' := b'.toNat_lt
    simp only [bytesCode, List.foldr_cons] at h
    have : bytesCode l = bytesCode l' ∧ b.toNat = b'.toNat := by simp only [bytesCode]; omega
    rw [bytesCode_inj this.1, UInt8.toNat_inj.mp this.2]

def nameCode (s : String) : Nat := bytesCode s.toByteArray.data.toList

theorem nameCode_inj {s t : String} (h : nameCode s = nameCode t) : s = t :=
  String.toByteArray_inj.mp (ByteArray.ext (Array.toList_inj.mp (bytesCode_inj h)))

theorem lookup_map_key {α β γ} [BEq α] [LawfulBEq α] [BEq β] [LawfulBEq β] (f : α → β)
    (hf : ∀ {a b}, f a = f b → a = b) (k : α) (l : List (α × γ)) :
    (l.map fun r => (f r.1, r.2)).lookup (f k) = l.lookup k := by
  induction l with
  | nil => rfl
  | cons r l ih =>
    obtain ⟨a, c⟩ := r
    have : (f k == f a) = (k == a) := by
      rw [Bool.eq_iff_iff, beq_iff_eq, beq_iff_eq]
      exact ⟨hf, congrArg f⟩
    simp only [List.map_cons, List.lookup_cons, this, ih]

end Einx.Util
