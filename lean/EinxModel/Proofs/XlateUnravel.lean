import EinxModel.Proofs.PyPrelude
import EinxModel.Denote.Expr3
/-! Helper lemmas for `Props/C01Xlate.lean`: the loop of `_unravel` (item assignment into a list of `None`s,
walking `enumerate(ravel_shape)` backwards) computes `Denote.peel`.  Nothing here mentions `Extracted/*`. -/
namespace Einx.Denote
open Einx.Py

/-- The coordinates of the block, last size peeled first, in axis order. -/
def revPeel (sizes : List Nat) (k : Nat) : List Nat := (peelRevNat sizes.reverse k).reverse

theorem revPeel_append (init : List Nat) (s k : Nat) : revPeel (init ++ [s]) k = revPeel init (k / s) ++ [k % s] := by
  simp [revPeel, peelRevNat]

/-- One iteration of the loop of `_unravel` on one element. -/
def unravelStep (p : Nat × List (Option Nat)) (q : Nat × Nat) : Except String (Nat × List (Option Nat)) := do
  let out ← listSet p.2 (Int.ofNat q.1) (some (p.1 % q.2))
  pure (p.1 / q.2, out)

theorem unravel_fold : ∀ (r : List Nat) (k : Nat) (tail : List (Option Nat)),
    ∃ q, (enumerate r.reverse).reverse.foldlM unravelStep (k, List.replicate r.reverse.length none ++ tail)
      = .ok (q, (revPeel r.reverse k).map some ++ tail)
  | [], k, tail => ⟨k, by simp [enumerate, enumFrom, revPeel, peelRevNat]; rfl⟩
  | s :: r, k, tail => by
    obtain ⟨q, hq⟩ := unravel_fold r (k / s) (some (k % s) :: tail)
    refine ⟨q, ?_⟩
    rw [List.reverse_cons, enumerate_append, List.reverse_append, revPeel_append]
    simp only [List.reverse_cons, List.reverse_nil, List.nil_append, List.singleton_append, List.foldlM_cons, List.length_append,
      List.length_cons, List.length_nil, List.replicate_succ']
    have hl : (List.replicate r.reverse.length (none : Option Nat)).length = r.reverse.length := by simp
    have := listSet_at_length (List.replicate r.reverse.length (none : Option Nat)) tail none (some (k % s))
    rw [hl] at this
    simp only [unravelStep, List.append_assoc, List.singleton_append, this, bind, Except.bind, pure, Except.pure]
    rw [hq]
    simp

theorem unravel_loop (sizes : List Nat) (k : Nat) :
    ∃ q, (enumerate sizes).reverse.foldlM unravelStep (k, List.replicate sizes.length none)
      = .ok (q, (revPeel sizes k).map some) := by
  simpa using unravel_fold sizes.reverse k []

theorem peel_eq_revPeel : ∀ (sizes : List Nat) (k : Nat), sizes.length ≠ 1 → peel sizes k = revPeel sizes k
  | [], _, _ => rfl
  | [_], _, h => absurd rfl h
  | _ :: _ :: _, _, _ => rfl

end Einx.Denote
