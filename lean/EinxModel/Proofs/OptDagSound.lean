import EinxModel.Proofs.OptDagDecide
import EinxModel.Proofs.OptDagTerm
/-!
Soundness of the memoised traversal `optTok` / `mapToks` / `rebuild` of `Optimize/Dag.lean` against the DAG evaluator.

Invariant of a pass (`Inv`): the new nodes created so far evaluate (to some environment `envN`), and every memo entry
`old tracer ↦ new object` is right: the new object evaluates, in the new environment, to the value the old tracer has in
the old environment.  New nodes are only ever appended, so what has been established stays true (`evalToks_mono`).
-/
namespace Einx.OptDag
variable {V : Type}

structure Inv (Sm : Sem V) (S : Store) (envO : List V) (st : St) (bindN : List (Nat × V)) (envN : List V) : Prop where
  env : EnvOK Sm st.nodes bindN envN
  memo : ∀ o v, st.memoT.lookup o = some v → ∃ vo, envO[o]? = some vo ∧ evalToks envN v = .ok [.val vo]
  inputs : ∀ i ty, S.nodes[i]? = some ⟨ty, .none⟩ → (st.memoT.lookup i).isSome = true

/-- The memo part of the invariant, for a memo `m`. -/
def MemoOK (envO : List V) (m : List (Nat × List Tok)) (envN : List V) : Prop :=
  ∀ o v, m.lookup o = some v → ∃ vo, envO[o]? = some vo ∧ evalToks envN v = .ok [.val vo]

theorem MemoOK.cons {envO envN : List V} {m : List (Nat × List Tok)} (h : MemoOK envO m envN) {o : Nat} {w : List Tok} {vo : V}
    (h1 : envO[o]? = some vo) (h2 : evalToks envN w = .ok [.val vo]) : MemoOK envO ((o, w) :: m) envN := by
  intro o' w' hw
  rw [List.lookup_cons] at hw
  split at hw
  · rename_i he
    cases hw
    exact ⟨vo, beq_iff_eq.1 he ▸ h1, h2⟩
  · exact h o' w' hw

theorem MemoOK.mono {envO envN : List V} {m : List (Nat × List Tok)} (h : MemoOK envO m envN) (ext : List V) :
    MemoOK envO m (envN ++ ext) :=
  fun o w hw => let ⟨vo, h1, h2⟩ := h o w hw; ⟨vo, h1, evalToks_mono envN ext w _ h2⟩

section
variable (Sm : Sem V) (S : Store) (pats : List Pattern) (bindO : List (Nat × V)) (envO : List V)

theorem Inv.push {Sm : Sem V} {S : Store} {envO : List V} {st : St} {bindN : List (Nat × V)} {envN : List V}
    (hI : Inv Sm S envO st bindN envN) (n : Node) (v : V) (hv : evalNode Sm bindN envN n = .ok v) :
    Inv Sm S envO (st.pushNode n) bindN (envN ++ [v]) where
  env := hI.env.snoc n v hv
  memo := MemoOK.mono hI.memo [v]
  inputs := hI.inputs

theorem Inv.setMemo {Sm : Sem V} {S : Store} {envO : List V} {st : St} {bindN : List (Nat × V)} {envN : List V}
    (hI : Inv Sm S envO st bindN envN) (o : Nat) (w : List Tok) (vo : V) (h1 : envO[o]? = some vo)
    (h2 : evalToks envN w = .ok [.val vo]) (c : Bool) :
    Inv Sm S envO { st with memoT := (o, w) :: st.memoT, changed := c } bindN envN where
  env := hI.env
  memo := MemoOK.cons hI.memo h1 h2
  inputs := by
    intro i ty hn
    rw [List.lookup_cons]
    split
    · rfl
    · exact hI.inputs i ty hn

theorem Inv.of_eq {Sm : Sem V} {S : Store} {envO : List V} {st st' : St} {bindN : List (Nat × V)} {envN : List V}
    (hI : Inv Sm S envO st bindN envN) (hn : st'.nodes = st.nodes) (hm : st'.memoT = st.memoT) : Inv Sm S envO st' bindN envN :=
  ⟨hn ▸ hI.env, hm ▸ hI.memo, hm ▸ hI.inputs⟩

/-- The property of `_optimize` on one leaf that the traversal lemmas are parametrised by. -/
def GSound (g : Tok → St → R (List Tok × St)) : Prop :=
  ∀ (t : Tok) (st : St) (v : List Tok) (st' : St) (bindN : List (Nat × V)) (envN : List V) (r : RTok V),
    g t st = .ok (v, st') → Inv Sm S envO st bindN envN → evalTok envO t = .ok r →
    ∃ ext, Inv Sm S envO st' bindN (envN ++ ext) ∧ evalToks (envN ++ ext) v = .ok [r]

/-- … and on a pytree. -/
def VSound (h : List Tok → St → R (List Tok × St)) : Prop :=
  ∀ (toks : List Tok) (st : St) (v : List Tok) (st' : St) (bindN : List (Nat × V)) (envN : List V) (rs : List (RTok V)),
    h toks st = .ok (v, st') → Inv Sm S envO st bindN envN → evalToks envO toks = .ok rs →
    ∃ ext, Inv Sm S envO st' bindN (envN ++ ext) ∧ evalToks (envN ++ ext) v = .ok rs

theorem mapToks_sound (g : Tok → St → R (List Tok × St)) (hg : GSound Sm S envO g) : VSound Sm S envO (mapToks g) := by
  intro toks st v st' bindN envN rs h hI hr
  obtain ⟨vs, ht, rfl⟩ := mapToks_thread h
  clear h
  induction ht generalizing envN rs with
  | nil st =>
    rw [evalToks_nil] at hr
    cases hr
    exact ⟨[], by simpa using hI, rfl⟩
  | cons hp _ ih =>
    obtain ⟨r, rs', hr1, hr2, rfl⟩ := (evalToks_cons envO _ _ rs).1 hr
    obtain ⟨ext1, hI1, e1⟩ := hg _ _ _ _ bindN envN r hp hI hr1
    obtain ⟨ext2, hI2, e2⟩ := ih (envN ++ ext1) rs' hI1 hr2
    refine ⟨ext1 ++ ext2, by simpa [List.append_assoc] using hI2, ?_⟩
    have := evalToks_append (envN ++ ext1 ++ ext2) _ _ [r] rs' (evalToks_mono _ ext2 _ _ e1) e2
    simpa [List.append_assoc] using this

theorem Thread.sound {h : List Tok → St → R (List Tok × St)} (hh : VSound Sm S envO h) {vs : List (List Tok)} {st : St}
    {vs' : List (List Tok)} {st' : St} (ht : Thread (Run h) vs st vs' st') (bindN : List (Nat × V)) (envN : List V)
    (rss : List (List (RTok V))) (hI : Inv Sm S envO st bindN envN) (hr : evalOperands envO vs = .ok rss) :
    ∃ ext, Inv Sm S envO st' bindN (envN ++ ext) ∧ evalOperands (envN ++ ext) vs' = .ok rss := by
  induction ht generalizing envN rss with
  | nil st =>
    rw [evalOperands_nil] at hr
    cases hr
    exact ⟨[], by simpa using hI, rfl⟩
  | cons hp _ ih =>
    obtain ⟨r, rs', hr1, hr2, rfl⟩ := (evalOperands_cons envO _ _ rss).1 hr
    obtain ⟨ext1, hI1, e1⟩ := hh _ _ _ _ bindN envN r hp hI hr1
    obtain ⟨ext2, hI2, e2⟩ := ih (envN ++ ext1) rs' hI1 hr2
    refine ⟨ext1 ++ ext2, by simpa [List.append_assoc] using hI2, ?_⟩
    refine (evalOperands_cons _ _ _ _).2 ⟨r, rs', ?_, by simpa [List.append_assoc] using e2, rfl⟩
    simpa [List.append_assoc] using evalToks_mono (envN ++ ext1) ext2 _ _ e1

theorem mapOperands_sound {h : List Tok → St → R (List Tok × St)} (hh : VSound Sm S envO h)
    {vs : List (List Tok)} {st : St} {vs' : List (List Tok)} {st' : St} {bindN : List (Nat × V)} {envN : List V} {rss : List (List (RTok V))}
    (hm : mapOperands h vs st = .ok (vs', st')) (hI : Inv Sm S envO st bindN envN) (hr : evalOperands envO vs = .ok rss) :
    ∃ ext, Inv Sm S envO st' bindN (envN ++ ext) ∧ evalOperands (envN ++ ext) vs' = .ok rss :=
  ((mapOperands_spec _ _).ok hm).sound Sm S envO hh bindN envN rss hI hr

theorem mapKwargs_sound {h : List Tok → St → R (List Tok × St)} (hh : VSound Sm S envO h)
    {kws : List (String × List Tok)} {st : St} {kws' : List (String × List Tok)} {st' : St} {bindN : List (Nat × V)} {envN : List V}
    {rss : List (String × List (RTok V))}
    (hm : mapKwargs h kws st = .ok (kws', st')) (hI : Inv Sm S envO st bindN envN) (hr : evalKwargs envO kws = .ok rss) :
    ∃ ext, Inv Sm S envO st' bindN (envN ++ ext) ∧ evalKwargs (envN ++ ext) kws' = .ok rss := by
  obtain ⟨ht, hk⟩ := (mapKwargs_spec _ _).ok hm
  obtain ⟨vs, hv, rfl⟩ := (evalKwargs_ok envO kws rss).1 hr
  obtain ⟨ext, hI', e⟩ := ht.sound Sm S envO hh bindN envN vs hI hv
  exact ⟨ext, hI', (evalKwargs_ok _ kws' _).2 ⟨vs, e, by rw [hk]⟩⟩

variable (hO : EnvOK Sm S.nodes bindO envO)
include hO

omit hO in
/-- Output types of a rebuilt application of the node language: the type of the old output, or -- `CallInplace` -- the type of
the NEW `xs`. -/
theorem outTypes_eval (st : St) (a a' : App) (i : Nat) (ty : Ty) (r : List Ty × List Tok)
    (hn : S.nodes[i]? = some ⟨ty, .app a⟩) (hout : a.out = [.ref 0]) (hp : a.head.evaluable = true)
    (h : outTypes S st a a' i = .ok r) : ∃ ty', r = ([ty'], [.ref 0]) ∧ (a.head ≠ .callInplace → ty' = ty) ∧
      (a.head = .callInplace → ∃ j n rest, a'.pre = [.ref j] :: rest ∧ st.nodes[j]? = some n ∧ ty' = n.ty) := by
  rcases (outTypes_spec S st a a' i).ok h with ⟨hh, j, n, rest, hpre, hj, rfl⟩ | ⟨m, hh⟩ | ⟨hne, ho, hlen, hty⟩
  · exact ⟨n.ty, rfl, fun hne => (hne hh).elim, fun _ => ⟨j, n, rest, hpre, hj, rfl⟩⟩
  · rw [hh] at hp
    simp [Head.evaluable, Head.isPure, Head.isEffect] at hp
  · obtain ⟨tys, out⟩ := r
    rw [nOut_single hout] at hlen hty
    obtain ⟨t, rfl⟩ := List.length_eq_one_iff.1 hlen
    have ht := hty (0, t) (by simp)
    simp only [Nat.add_zero, Store.tyOf, hn, Option.map_some, Option.some.injEq] at ht
    exact ⟨t, by rw [show out = _ from ho, hout], fun _ => ht.symm, fun hc => (hne hc).elim⟩

omit hO in
theorem tyOK_of_shapeOf_eq (ty : Ty) (v x : V) (h : Sm.shapeOf v = Sm.shapeOf x) (hx : tyOK Sm ty x = true) : tyOK Sm ty v = true := by
  cases ty with
  | value => rfl
  | tensor s => simpa [tyOK, h] using hx
  | convertible s c =>
    cases s with
    | none => rfl
    | some s => simpa [tyOK, h] using hx

theorem rebuild_sound (h : List Tok → St → R (List Tok × St)) (hh : VSound Sm S envO h) (a : App) (i : Nat) (ty : Ty) (st st' : St)
    (bindN : List (Nat × V)) (envN : List V) (hn : S.nodes[i]? = some ⟨ty, .app a⟩) (hr : rebuild S h a i st = .ok st')
    (hI : Inv Sm S envO st bindN envN) : ∃ ext, Inv Sm S envO st' bindN (envN ++ ext) := by
  obtain ⟨vo, ea, hv, hea, happ, hout, hpure, hio⟩ := old_app hO hn
  have hty := old_tyOK hO hn hv
  obtain ⟨pre, args, kwargs, deps, e1, e2, e3, e4, rfl⟩ := (evalApp_ok envO a ea).1 hea
  obtain ⟨pre', st1, args', st2, kwargs', st3, deps', st4, ty', tys, h1, h2, h3, h4, h5, _, hn', hm', _, _⟩ := (rebuild_spec _ _ _ _ _).ok hr
  obtain ⟨x1, hI1, f1⟩ := mapOperands_sound Sm S envO hh h1 hI e1
  obtain ⟨x2, hI2, f2⟩ := mapOperands_sound Sm S envO hh h2 hI1 e2
  obtain ⟨x3, hI3, f3⟩ := mapKwargs_sound Sm S envO hh h3 hI2 e3
  obtain ⟨x4, hI4, f4⟩ := mapOperands_sound Sm S envO hh h4 hI3 e4
  obtain ⟨ty'', hot, hty1, hty2⟩ := outTypes_eval S st4 a _ i ty _ hn hout hpure h5
  simp only [Prod.mk.injEq, List.cons.injEq] at hot
  obtain ⟨⟨rfl, rfl⟩, _⟩ := hot
  have hty' : tyOK Sm ty' vo = true := by
    by_cases hc : a.head = .callInplace
    · obtain ⟨j, n, rest, hpre', hj, rfl⟩ := hty2 hc
      simp only [App.withOperands] at hpre'
      subst hpre'
      simp only [inplaceOK, hc] at hio
      split at hio
      · rename_i _ x restE
        obtain ⟨r0, rs0, g1, _, g3⟩ := (evalOperands_cons _ _ _ _).1 f1
        simp only [List.cons.injEq] at g3
        obtain ⟨rfl, _⟩ := g3
        obtain ⟨x', hx', hxe⟩ := evalToks_ref_inv _ j _ g1
        simp only [List.cons.injEq, RTok.val.injEq, and_true] at hxe
        subst hxe
        have hx4 : (envN ++ x1 ++ x2 ++ x3 ++ x4)[j]? = some x := by
          have hjl : j < (envN ++ x1).length := (List.getElem?_eq_some_iff.1 hx').1
          rw [List.append_assoc (envN ++ x1), List.append_assoc (envN ++ x1), List.getElem?_append_left hjl]
          exact hx'
        have := old_tyOK (S := ⟨st4.nodes, []⟩) hI4.env hj hx4
        exact tyOK_of_shapeOf_eq Sm n.ty vo x (by simpa using hio) this
      · cases hio
    · rw [hty1 hc]; exact hty
  have hev : evalNode Sm bindN (envN ++ x1 ++ x2 ++ x3 ++ x4) ⟨ty', .app (a.withOperands pre' args' kwargs' deps')⟩ = .ok vo :=
    evalNode_app.2 ⟨hout, hpure, ⟨a.head, pre, args, kwargs, a.out⟩,
      (evalApp_ok _ _ _).2 ⟨pre, args, kwargs, deps,
        by simpa [List.append_assoc, App.withOperands] using evalOperands_mono _ (x2 ++ x3 ++ x4) _ _ f1,
        by simpa [List.append_assoc, App.withOperands] using evalOperands_mono _ (x3 ++ x4) _ _ f2,
        by simpa [List.append_assoc, App.withOperands] using evalKwargs_mono _ x4 _ _ f3, f4, rfl⟩,
      happ, hty', hio⟩
  have hlen : st4.nodes.length = (envN ++ x1 ++ x2 ++ x3 ++ x4).length := hI4.env.1.symm
  refine ⟨x1 ++ x2 ++ x3 ++ x4 ++ [vo], ?_⟩
  have := ((hI4.push _ vo hev).setMemo i [.ref st4.nodes.length] vo hv (by
    rw [hlen]
    exact evalToks_ref _ _ vo (by simp)) st4.changed).of_eq (st' := st') hn' (by
      rw [hm', nOut_single hout]
      rfl)
  simpa [List.append_assoc] using this

end

section
variable (Sm : Sem V) (S : Store) (pats : List Pattern) (bindO : List (Nat × V)) (envO : List V)
  (hO : EnvOK Sm S.nodes bindO envO) (hL : Sm.Laws pats)
include hO hL

/-- **The memoised traversal is sound**: `_optimize` on a leaf of an evaluated store returns an object that evaluates, over
the new nodes, to what the leaf evaluates to over the old ones -- and keeps the invariant. -/
theorem optTok_sound : ∀ fuel, GSound Sm S envO (optTok pats S fuel)
  | 0 => fun t st v st' bindN envN r h => nomatch h
  | fuel + 1 => by
    have ihV := mapToks_sound Sm S envO _ (optTok_sound fuel)
    intro t st v st' bindN envN r h hI hr
    cases t with
    | gref k => cases hr
    | atom a | open_ c n =>
      obtain ⟨rfl, rfl⟩ := optTok_lit h (fun _ => nofun) (fun _ => nofun)
      cases hr
      exact ⟨[], by simpa using hI, rfl⟩
    | ref i =>
      obtain ⟨vo, hv, rfl⟩ := evalTok_ref_inv envO i r hr
      refine (optTok_ref_spec (motive := fun v st' => ∃ ext, Inv Sm S envO st' bindN (envN ++ ext) ∧
        evalToks (envN ++ ext) v = .ok [.val vo]) ?hit ?fwd ?merge ?input ?app).ok h
      case hit =>
        intro w hw
        obtain ⟨vo', h1, h2⟩ := hI.memo i _ hw
        rw [hv] at h1
        cases h1
        exact ⟨[], by simpa using hI, by simpa using h2⟩
      case fwd =>
        intro v1 new st1 _ hm h1
        have hact := firstMatch_sound hO hL _ pats (fun _ hp => hp) i _ vo hm hv
        obtain ⟨ext, hI1, e1⟩ := ihV v1 st new st1 bindN envN _ h1 hI hact
        exact ⟨ext, hI1.setMemo i new vo hv e1 true, e1⟩
      case merge =>
        intro fn x lit fn' st1 x' st2 _ hm h1 h2 hfree
        obtain ⟨f, xE, a1, a2, a3⟩ := firstMatch_sound hO hL _ pats (fun _ hp => hp) i _ vo hm hv
        obtain ⟨x1, hI1, f1⟩ := ihV fn st fn' st1 bindN envN _ h1 hI a1
        obtain ⟨x2, hI2, f2⟩ := ihV x st1 x' st2 bindN _ _ h2 hI1 a2
        have hev : evalNode Sm bindN (envN ++ x1 ++ x2) ⟨.value, .app (mergedApp fn' x' lit)⟩ = .ok vo :=
          evalNode_app.2 ⟨rfl, rfl, mergedCall f xE lit,
            (evalApp_ok _ _ _).2 ⟨[[.val f]], [xE, lits lit], [], [],
              (evalOperands_cons _ _ _ _).2 ⟨_, [], evalToks_mono _ x2 _ _ f1, evalOperands_nil _, rfl⟩,
              (evalOperands_cons _ _ _ _).2 ⟨_, [lits lit], f2,
                (evalOperands_cons _ _ _ _).2 ⟨_, [], evalToks_lits _ lit hfree, evalOperands_nil _, rfl⟩, rfl⟩,
              rfl, evalOperands_nil _, rfl⟩,
            a3 hfree, rfl, rfl⟩
        have hlen : st2.nodes.length = (envN ++ x1 ++ x2).length := hI2.env.1.symm
        have e3 : evalToks (envN ++ x1 ++ x2 ++ [vo]) [.ref st2.nodes.length] = .ok [.val vo] := by
          rw [hlen]
          exact evalToks_ref _ _ vo (by simp)
        refine ⟨x1 ++ x2 ++ [vo], ?_, by simpa [List.append_assoc] using e3⟩
        have := (hI2.push _ vo hev).setMemo i [.ref st2.nodes.length] vo hv e3 true
        simpa [List.append_assoc, St.pushNode] using this
      case input =>
        intro ty hmemo hn
        have := hI.inputs i ty hn
        rw [hmemo] at this
        cases this
      case app =>
        intro a base k st1 w _ ha h1 hw
        obtain ⟨ty, hn, rfl, _⟩ := appOf_inv hO ha
        obtain ⟨ext, hI1⟩ := rebuild_sound Sm S bindO envO hO _ ihV a i ty st st1 bindN envN hn h1 hI
        obtain ⟨vo', g1, g2⟩ := hI1.memo i _ hw
        rw [hv] at g1
        cases g1
        exact ⟨ext, hI1, g2⟩

end

theorem lookup_zip_nodup : ∀ (l : List Nat) (vals : List V) (m i : Nat) (x : V), l.Nodup → l[m]? = some i → vals[m]? = some x →
    (l.zip vals).lookup i = some x
  | [], _, m, i, x, _, h, _ => by simp at h
  | a :: l, [], m, i, x, _, _, h => by simp at h
  | a :: l, b :: vals, 0, i, x, _, h1, h2 => by
    simp at h1 h2; subst h1; subst h2
    simp [List.zip_cons_cons]
  | a :: l, b :: vals, m + 1, i, x, hnd, h1, h2 => by
    simp at h1 h2
    have hne : (i == a) = false := by
      have hmem : i ∈ l := List.mem_of_getElem? h1
      have := (List.nodup_cons.1 hnd).1
      simp only [beq_eq_false_iff_ne, ne_eq]
      intro e; subst e; exact this hmem
    simp only [List.zip_cons_cons, List.lookup_cons, hne]
    exact lookup_zip_nodup l vals m i x (List.nodup_cons.1 hnd).2 h1 h2

theorem lookup_zip_mem : ∀ (l : List Nat) (vals : List V) (i : Nat) (x : V), (l.zip vals).lookup i = some x → i ∈ l
  | [], _, i, x, h => by simp at h
  | a :: l, [], i, x, h => by simp at h
  | a :: l, b :: vals, i, x, h => by
    rw [List.zip_cons_cons, List.lookup_cons] at h
    split at h
    · rename_i he
      exact beq_iff_eq.1 he ▸ List.mem_cons_self
    · exact List.mem_cons_of_mem _ (lookup_zip_mem l vals i x h)

theorem lookup_none_of_keys_ne (bnd : List (Nat × V)) (k : Nat) (h : ∀ kv ∈ bnd, kv.1 ≠ k) : bnd.lookup k = none :=
  List.lookup_eq_none_iff.2 fun p hp => bne_iff_ne.2 (Ne.symm (h p hp))

theorem EnvOK.bind_ext {Sm : Sem V} {nodes : List Node} {bnd : List (Nat × V)} {env : List V} (h : EnvOK Sm nodes bnd env)
    (extra : List (Nat × V)) (hx : ∀ kv ∈ extra, nodes.length ≤ kv.1) : EnvOK Sm nodes (bnd ++ extra) env := by
  refine ⟨h.1, ?_⟩
  intro i n hn
  obtain ⟨v, hv, he⟩ := h.2 i n hn
  refine ⟨v, hv, ?_⟩
  have hi : i < nodes.length := (List.getElem?_eq_some_iff.1 hn).1
  have hlen : (env.take i).length = i := by rw [List.length_take, h.1]; omega
  obtain ⟨ty, o⟩ := n
  cases o with
  | none =>
    rw [evalNode_none] at he ⊢
    rw [List.lookup_append, lookup_none_of_keys_ne extra _ (fun kv hkv => by have := hx kv hkv; omega), Option.or_none]
    exact he
  | app a => exact evalNode_app.2 (evalNode_app.1 he)
  | proj s k => exact (evalNode_proj he).elim

theorem old_input {Sm : Sem V} {nodes : List Node} {bnd : List (Nat × V)} {env : List V} (h : EnvOK Sm nodes bnd env) (i : Nat) (ty : Ty)
    (hn : nodes[i]? = some ⟨ty, .none⟩) : ∃ v, env[i]? = some v ∧ bnd.lookup i = some v := by
  obtain ⟨v, hv, he⟩ := h.2 i _ hn
  have hi : i < nodes.length := (List.getElem?_eq_some_iff.1 hn).1
  have hl : (env.take i).length = i := by rw [List.length_take, h.1]; omega
  exact ⟨v, hv, hl ▸ (evalNode_none.1 he).1⟩

theorem newInputs_memo (S : Store) (is : List Nat) (st : St) (js : List Nat) (st1 : St) (h : Thread (InputStep S) is st js st1) :
    ∀ o, (st.memoT.lookup o).isSome = true → (st1.memoT.lookup o).isSome = true := by
  induction h with
  | nil st => exact fun _ ho => ho
  | cons hp _ ih =>
    obtain ⟨nd, _, rfl, rfl⟩ := hp
    intro o ho
    refine ih o ?_
    simp only [List.lookup_cons]
    split
    · rfl
    · exact ho

section
variable (Sm : Sem V) (S : Store) (bindO : List (Nat × V)) (envO : List V) (hO : EnvOK Sm S.nodes bindO envO)
include hO

theorem newInputs_sound {is : List Nat} {st : St} {js : List Nat} {st1 : St} (h : Thread (InputStep S) is st js st1) :
    ∀ (vals : List V) (bindN : List (Nat × V)) (envN : List V), is.length = vals.length →
    (∀ (m i : Nat) (x : V), is[m]? = some i → vals[m]? = some x → ∃ ty, S.nodes[i]? = some ⟨ty, .none⟩ ∧ envO[i]? = some x) →
    EnvOK Sm st.nodes bindN envN → (∀ kv ∈ bindN, kv.1 < st.nodes.length) → MemoOK envO st.memoT envN →
    ∃ ext, EnvOK Sm st1.nodes (bindN ++ js.zip vals) (envN ++ ext) ∧ MemoOK envO st1.memoT (envN ++ ext) ∧ js.length = is.length ∧
      (∀ i ∈ is, (st1.memoT.lookup i).isSome = true) ∧ st1.graphs = st.graphs := by
  induction h with
  | nil st => exact fun vals bindN envN _ _ hE _ hM => ⟨[], by simpa using hE, by simpa using hM, rfl, by simp, rfl⟩
  | @cons i is st j st' js' st1 hp h1 ih =>
    intro vals bindN envN hl hH hE hK hM
    obtain _ | ⟨x, vals⟩ := vals
    · simp at hl
    obtain ⟨ty, hn, hx⟩ := hH 0 i x rfl rfl
    obtain ⟨nd, hn', rfl, rfl⟩ := hp
    rw [hn] at hn'
    cases hn'
    have hE1 : EnvOK Sm st.nodes (bindN ++ [(st.nodes.length, x)]) envN :=
      hE.bind_ext [(st.nodes.length, x)] (by intro kv hkv; simp at hkv; subst hkv; exact Nat.le_refl _)
    have hev : evalNode Sm (bindN ++ [(st.nodes.length, x)]) envN ⟨ty, .none⟩ = .ok x := by
      have hlk : (bindN ++ [(st.nodes.length, x)]).lookup envN.length = some x := by
        rw [List.lookup_append, hE.1, lookup_none_of_keys_ne bindN _ (fun kv hkv => by have := hK kv hkv; omega)]
        simp
      exact evalNode_none.2 ⟨hlk, old_tyOK hO hn hx⟩
    have hE2 := hE1.snoc _ x hev
    have hlen : st.nodes.length = envN.length := hE.1.symm
    have hM2 : MemoOK envO ((i, [Tok.ref st.nodes.length]) :: st.memoT) (envN ++ [x]) :=
      (hM.mono [x]).cons hx (hlen ▸ evalToks_ref _ _ x (by simp))
    obtain ⟨ext, hE3, hM3, hjl, hmem, hg⟩ := ih vals (bindN ++ [(st.nodes.length, x)]) (envN ++ [x])
      (by simpa using hl) (fun m i' x' a b => hH (m + 1) i' x' (by simpa using a) (by simpa using b))
      (by simpa [St.pushNode] using hE2)
      (by
        intro kv hkv
        simp only [St.pushNode, List.length_append, List.length_cons, List.length_nil]
        rcases List.mem_append.1 hkv with hkv | hkv
        · have := hK kv hkv; omega
        · simp at hkv; subst hkv; simp) hM2
    refine ⟨[x] ++ ext, by simpa [List.append_assoc] using hE3, by simpa [List.append_assoc] using hM3, by simp [hjl], ?_, by simpa [St.pushNode] using hg⟩
    intro i' hi'
    rcases List.mem_cons.1 hi' with rfl | hi'
    · exact newInputs_memo S is _ js' st1 h1 i' (by simp)
    · exact hmem i' hi'

end

theorem wfTop_cases {p : Prog} (h : p.wfTop = true) :
    ∃ k g, p.top = [.gref k] ∧ p.store.graphs[k]? = some g ∧ g.inputs.Nodup ∧ ∀ i ∈ g.inputs, ∃ ty, p.store.nodes[i]? = some ⟨ty, .none⟩ := by
  unfold Prog.wfTop at h
  split at h
  · rename_i k htop
    split at h
    · rename_i g hg
      simp only [Bool.and_eq_true, decide_eq_true_eq, List.all_eq_true] at h
      refine ⟨k, g, htop, hg, h.1, fun i hi => ?_⟩
      have := h.2 i hi
      split at this
      · rename_i ty hn
        exact ⟨ty, hn⟩
      · cases this
    · cases h
  · cases h

theorem evalProgram_ok {Sm : Sem V} {p : Prog} {k : Nat} {g : GraphV} {inputs : List V} {r : List (RTok V)} (htop : p.top = [.gref k])
    (hg : p.store.graphs[k]? = some g) : evalProgram Sm p inputs = .ok r ↔
      g.inputs.length = inputs.length ∧ ∃ env, evalNodes Sm (g.inputs.zip inputs) p.store.nodes [] = .ok env ∧ evalToks env g.output = .ok r := by
  unfold evalProgram
  rw [htop]
  simp only [hg]
  split
  · rename_i hlen
    exact ⟨fun h => ⟨beq_iff_eq.1 hlen, bind_ok.1 h⟩, fun h => bind_ok.2 h.2⟩
  · rename_i hlen
    exact ⟨fun h => (nomatch h), fun h => (hlen (beq_iff_eq.2 h.1)).elim⟩

/-- **One pass is sound**: on a well-formed top-level graph on which `InlineGraph` does not fire, whatever the graph
returns on given inputs, the graph after the pass returns the same. -/
theorem pass_sound (Sm : Sem V) (pats : List Pattern) (hL : Sm.Laws pats) (p p' : Prog) (fuel : Nat) (ch : Bool)
    (hwf : p.wfTop = true) (hni : noTopInline pats p = true) (hp : pass pats fuel p = .ok (p', ch))
    (inputs : List V) (r : List (RTok V)) (hev : evalProgram Sm p inputs = .ok r) : evalProgram Sm p' inputs = .ok r := by
  obtain ⟨k, g, htop, hg, hnd, hin⟩ := wfTop_cases hwf
  obtain ⟨hlen, envO, hE, hout⟩ := (evalProgram_ok htop hg).1 hev
  have hO := envOK_of_evalNodes Sm _ _ _ hE
  obtain ⟨fuel', ins, sta, out, stb, rfl, h3, h4, rfl, _⟩ := (pass_spec pats fuel p k g htop hg).ok hp hni
  have hH : ∀ (m i : Nat) (x : V), g.inputs[m]? = some i → inputs[m]? = some x →
      ∃ ty, p.store.nodes[i]? = some ⟨ty, .none⟩ ∧ envO[i]? = some x := by
    intro m i x hm hx
    obtain ⟨ty, hn⟩ := hin i (List.mem_of_getElem? hm)
    obtain ⟨v, hv, hb⟩ := old_input hO i ty hn
    rw [lookup_zip_nodup g.inputs inputs m i x hnd hm hx] at hb
    exact ⟨ty, hn, Option.some.inj hb ▸ hv⟩
  obtain ⟨ext, hE1, hM1, hjl, hmem, _⟩ := newInputs_sound Sm p.store _ envO hO ((newInputs_spec _ _ _).ok h3) inputs [] [] hlen hH
    ⟨rfl, fun _ _ hn => nomatch hn⟩ (fun _ hkv => nomatch hkv) (fun _ _ hv => nomatch hv)
  have hI : Inv Sm p.store envO sta (ins.zip inputs) ext := by
    refine ⟨by simpa using hE1, by simpa [MemoOK] using hM1, ?_⟩
    intro i ty hn
    obtain ⟨v, _, hb⟩ := old_input hO i ty hn
    exact hmem i (lookup_zip_mem _ _ _ _ hb)
  have hLs := optTok_sound Sm p.store pats _ envO hO hL fuel'
  obtain ⟨ext2, hI2, hout2⟩ := mapToks_sound Sm p.store envO _ hLs g.output sta out stb _ _ r h4 hI hout
  exact (evalProgram_ok rfl List.getElem?_concat_length).2
    ⟨hjl.trans hlen, _, evalNodes_of_envOK Sm _ _ _ hI2.env, by simpa using hout2⟩

end Einx.OptDag
