import EinxModel.Denote.Expr2
/-! Assignments of axis names (C08).  `extend` and `inputAssign` are loops that give a value to every name that has none
yet; `Built` says what such a loop computes, and both are reasoned about through it. -/
namespace Einx.Denote
open Einx

theorem get_nil (n : String) : Assign.get [] n = none := rfl

theorem get_cons (p : String × Nat) (σ : Assign) (n : String) :
    Assign.get (p :: σ) n = if p.1 = n then some p.2 else Assign.get σ n := by
  simp only [Assign.get, List.find?_cons]
  by_cases h : p.1 = n
  · simp [h]
  · have : (p.1 == n) = false := by simpa using h
    simp [this, h]

theorem get_zip_names : ∀ (ns : List String) (u : List Nat) (n : String), ns.length ≤ u.length →
    Assign.get (ns.zip u) n = (ns.idxOf? n).map (fun j => u.getD j 0)
  | [], _, _, _ => by simp [get_nil]
  | a :: ns, [], _, h => by simp at h
  | a :: ns, x :: u, n, h => by
    have ih := get_zip_names ns u n (by simpa using h)
    rw [List.zip_cons_cons, get_cons, List.idxOf?_cons]
    by_cases e : a = n
    · simp [e]
    · have e' : (a == n) = false := by simpa using e
      simp only [e, if_false, e', Bool.false_eq_true, ih, Option.map_map]
      cases ns.idxOf? n with
      | none => rfl
      | some j => simp

theorem get_append (σ τ : Assign) (n : String) :
    Assign.get (σ ++ τ) n = match Assign.get σ n with
      | some x => some x
      | none => Assign.get τ n := by
  induction σ with
  | nil => simp [get_nil]
  | cons p σ ih =>
    rw [List.cons_append, get_cons, get_cons]
    by_cases h : p.1 = n
    · simp [h]
    · simp only [h, if_false]; exact ih

theorem get_snoc (acc : Assign) (m : String) (v : Nat) (n : String) :
    (acc ++ [(m, v)]).get n = match acc.get n with
      | some x => some x
      | none => if m = n then some v else none := by
  rw [get_append, get_cons, get_nil]

def SameGet (σ τ : Assign) : Prop := ∀ n, Assign.get σ n = Assign.get τ n

theorem SameGet.append {σ τ : Assign} (h : SameGet σ τ) (x : Assign) : SameGet (σ ++ x) (τ ++ x) := by
  intro n; rw [get_append, get_append, h n]

theorem SameGet.cons {σ τ : Assign} (h : SameGet σ τ) (p : String × Nat) : SameGet (p :: σ) (p :: τ) := by
  intro n; rw [get_cons, get_cons, h n]

theorem sameGet_swap (p q : String × Nat) (σ : Assign) (h : p.1 ≠ q.1) : SameGet (p :: q :: σ) (q :: p :: σ) := by
  intro n
  simp only [get_cons]
  by_cases h1 : p.1 = n <;> by_cases h2 : q.1 = n <;> simp [h1, h2]
  exact absurd (h1.trans h2.symm) h

def AgreeOn (σ τ : Assign) (ls : List Leaf) : Prop := ∀ l ∈ ls, Assign.get σ l.name = Assign.get τ l.name

theorem SameGet.agreeOn {σ τ : Assign} (h : SameGet σ τ) (ls : List Leaf) : AgreeOn σ τ ls :=
  fun l _ => h l.name

theorem AgreeOn.append {σ τ : Assign} {a b : List Leaf} (h : AgreeOn σ τ (a ++ b)) : AgreeOn σ τ a ∧ AgreeOn σ τ b :=
  ⟨fun l hl => h l (List.mem_append_left _ hl), fun l hl => h l (List.mem_append_right _ hl)⟩

theorem AgreeOn.symm {σ τ : Assign} {a : List Leaf} (h : AgreeOn σ τ a) : AgreeOn τ σ a :=
  fun l hl => (h l hl).symm

def BoundedOn (σ : Assign) (ls : List Leaf) : Prop := ∀ l ∈ ls, ∃ x, Assign.get σ l.name = some x ∧ x < l.size

def boundedB (σ : Assign) (ls : List Leaf) : Bool :=
  ls.all (fun l => match Assign.get σ l.name with | some x => decide (x < l.size) | none => false)

theorem boundedB_spec {σ : Assign} {ls : List Leaf} (h : boundedB σ ls = true) : BoundedOn σ ls := by
  intro l hl
  simp only [boundedB, List.all_eq_true] at h
  have := h l hl
  cases hg : Assign.get σ l.name with
  | none => simp [hg] at this
  | some x => exact ⟨x, rfl, by simpa [hg] using this⟩

theorem BoundedOn.append {σ : Assign} {a b : List Leaf} (h : BoundedOn σ (a ++ b)) : BoundedOn σ a ∧ BoundedOn σ b :=
  ⟨fun l hl => h l (List.mem_append_left _ hl), fun l hl => h l (List.mem_append_right _ hl)⟩

theorem BoundedOn.mono {σ : Assign} {ls ls' : List Leaf} (h : BoundedOn σ ls) (hm : ∀ l ∈ ls', l ∈ ls) :
    BoundedOn σ ls' := fun l hl => h l (hm l hl)

theorem BoundedOn.sameGet {σ τ : Assign} {ls : List Leaf} (h : BoundedOn σ ls) (hs : SameGet σ τ) : BoundedOn τ ls :=
  fun l hl => by obtain ⟨x, hx, hlt⟩ := h l hl; exact ⟨x, by rw [← hs]; exact hx, hlt⟩

def InRangeOn (σ : Assign) (ls : List Leaf) : Prop := ∀ l ∈ ls, ∀ y, Assign.get σ l.name = some y → y < l.size

theorem InRangeOn.mono {σ : Assign} {ls ls' : List Leaf} (h : InRangeOn σ ls) (hm : ∀ l ∈ ls', l ∈ ls) :
    InRangeOn σ ls' := fun l hl => h l (hm l hl)

theorem InRangeOn.append {σ τ : Assign} {ls : List Leaf} (hτ : InRangeOn τ ls) (hσ : InRangeOn σ ls) :
    InRangeOn (τ ++ σ) ls := by
  intro l hl y hy
  rw [get_append] at hy
  cases hg : τ.get l.name with
  | some z => rw [hg] at hy; exact Option.some.inj hy ▸ hτ l hl z hg
  | none => rw [hg] at hy; exact hσ l hl y hy

/-- What a solved expression guarantees of its leaves. -/
def Consistent (ls : List Leaf) : Prop := ∀ l ∈ ls, ∀ l' ∈ ls, l.name = l'.name → l.size = l'.size

def consistentB (ls : List Leaf) : Bool := ls.all (fun l => ls.all (fun l' => l.name != l'.name || l.size == l'.size))

theorem consistentB_spec {ls : List Leaf} (h : consistentB ls = true) : Consistent ls := by
  intro l hl l' hl' hn
  simp only [consistentB, List.all_eq_true, Bool.or_eq_true, bne_iff_ne, ne_eq, beq_iff_eq] at h
  rcases h l hl l' hl' with h | h
  · exact absurd hn h
  · exact h

theorem Consistent.mono {ls ls' : List Leaf} (h : Consistent ls) (hm : ∀ l ∈ ls', l ∈ ls) : Consistent ls' :=
  fun a ha b hb => h a (hm a ha) b (hm b hb)

theorem Consistent.left {a b : List Leaf} (h : Consistent (a ++ b)) : Consistent a :=
  h.mono fun _ hl => List.mem_append_left _ hl

def LeavesSub (a b : List Leaf) : Prop := ∀ l ∈ a, ∃ l' ∈ b, l'.name = l.name ∧ l'.size = l.size

def leavesSubB (a b : List Leaf) : Bool := a.all (fun l => b.any (fun l' => l'.name == l.name && l'.size == l.size))

theorem leavesSubB_spec {a b : List Leaf} (h : leavesSubB a b = true) : LeavesSub a b := by
  intro l hl
  simp only [leavesSubB, List.all_eq_true, List.any_eq_true, Bool.and_eq_true, beq_iff_eq] at h
  exact h l hl

theorem LeavesSub.trans {a b c : List Leaf} (h1 : LeavesSub a b) (h2 : LeavesSub b c) : LeavesSub a c := by
  intro l hl
  obtain ⟨l', hl', hn, hs⟩ := h1 l hl
  obtain ⟨l'', hl'', hn', hs'⟩ := h2 l' hl'
  exact ⟨l'', hl'', by rw [hn', hn], by rw [hs', hs]⟩

theorem BoundedOn.sub {σ : Assign} {a b : List Leaf} (h : BoundedOn σ b) (hs : LeavesSub a b) : BoundedOn σ a := by
  intro l hl
  obtain ⟨l', hl', hn, hsz⟩ := hs l hl
  obtain ⟨x, hx, hlt⟩ := h l' hl'
  exact ⟨x, by rw [← hn]; exact hx, by rw [← hsz]; exact hlt⟩

theorem AgreeOn.sub {σ τ : Assign} {a b : List Leaf} (h : AgreeOn σ τ b) (hs : LeavesSub a b) : AgreeOn σ τ a := by
  intro l hl
  obtain ⟨l', hl', hn, _⟩ := hs l hl
  rw [← hn]; exact h l' hl'

/-- The step common to `extend` and `inputAssign`: a name that has a value keeps it, one that has none gets `val l`. -/
def fillStep (val : Leaf → Option Nat) (acc : Assign) (l : Leaf) : Option Assign :=
  match acc.get l.name with
  | some _ => some acc
  | none => (val l).map (fun v => acc ++ [(l.name, v)])

/-- `Built val acc ls r`: `r` is the result of the `fillStep` loop over `ls` started at `acc`, said without the loop. -/
def Built (val : Leaf → Option Nat) (acc : Assign) (ls : List Leaf) : Option Assign → Prop
  | some a => (∀ n l, acc.get n = none → ls.find? (·.name == n) = some l → val l ≠ none) ∧
      ∀ n, a.get n = match acc.get n with
        | some x => some x
        | none => (ls.find? (·.name == n)).bind val
  | none => ∃ l ∈ ls, acc.get l.name = none ∧ val l = none

theorem Built.get {val : Leaf → Option Nat} {acc a : Assign} {ls : List Leaf} (h : Built val acc ls (some a)) (n : String) :
    a.get n = match acc.get n with
      | some x => some x
      | none => (ls.find? (·.name == n)).bind val := h.2 n

theorem Built.val_ne_none {val : Leaf → Option Nat} {acc a : Assign} {ls : List Leaf} (h : Built val acc ls (some a))
    {n : String} {l : Leaf} (hn : acc.get n = none) (hf : ls.find? (·.name == n) = some l) : val l ≠ none := h.1 n l hn hf

theorem Built.fails {val : Leaf → Option Nat} {acc : Assign} {ls : List Leaf} (h : Built val acc ls none) :
    ∃ l ∈ ls, acc.get l.name = none ∧ val l = none := h

theorem Built.cons_some {val : Leaf → Option Nat} {acc : Assign} {l : Leaf} {ls : List Leaf} {r : Option Assign} {x : Nat}
    (hg : acc.get l.name = some x) (h : Built val acc ls r) : Built val acc (l :: ls) r := by
  have hne : ∀ n, acc.get n = none → (l.name == n) = false :=
    fun n hn => beq_eq_false_iff_ne.mpr fun e => by rw [e, hn] at hg; nomatch hg
  cases r with
  | none =>
    obtain ⟨l', hl', h'⟩ := h
    exact ⟨l', List.mem_cons_of_mem _ hl', h'⟩
  | some a =>
    refine ⟨fun n l' hn hf => h.1 n l' hn (by rwa [List.find?_cons, hne n hn] at hf), fun n => ?_⟩
    rw [h.2 n]
    cases hn : acc.get n with
    | some y => rfl
    | none => simp only [List.find?_cons, hne n hn]

theorem Built.cons_none {val : Leaf → Option Nat} {acc : Assign} {l : Leaf} {ls : List Leaf} {r : Option Assign} {v : Nat}
    (hv : val l = some v) (h : Built val (acc ++ [(l.name, v)]) ls r) :
    Built val acc (l :: ls) r := by
  cases r with
  | none =>
    obtain ⟨l', hl', h1, h2⟩ := h
    refine ⟨l', List.mem_cons_of_mem _ hl', ?_, h2⟩
    rw [get_snoc] at h1
    cases hn : acc.get l'.name with
    | some y => rw [hn] at h1; nomatch h1
    | none => rfl
  | some a =>
    refine ⟨fun n l' hn hf => ?_, fun n => ?_⟩
    · rw [List.find?_cons] at hf
      by_cases e : l.name = n
      · rw [beq_iff_eq.mpr e] at hf; cases hf; rw [hv]; simp
      · rw [beq_eq_false_iff_ne.mpr e] at hf
        exact h.1 n l' (by rw [get_snoc, hn, if_neg e]) hf
    · rw [h.2 n, get_snoc, List.find?_cons]
      cases acc.get n with
      | some y => rfl
      | none =>
        by_cases e : l.name = n
        · simp only [if_pos e, beq_iff_eq.mpr e, Option.bind_some, hv]
        · simp only [if_neg e, beq_eq_false_iff_ne.mpr e]

/-- `Inv` is an invariant of the accumulator under which the loop body `step` is a `fillStep` (`True` for `extend`; for
`inputAssign`: every value present comes from `val`). -/
theorem built_foldlM {val : Leaf → Option Nat} {all : List Leaf} {step : Assign → Leaf → Option Assign}
    {Inv : Assign → Prop}
    (hstep : ∀ acc l, l ∈ all → Inv acc → step acc l = fillStep val acc l)
    (hpres : ∀ acc l v, Inv acc → l ∈ all → acc.get l.name = none → val l = some v → Inv (acc ++ [(l.name, v)])) :
    ∀ (ls : List Leaf) (acc : Assign), (∀ l ∈ ls, l ∈ all) → Inv acc → Built val acc ls (ls.foldlM step acc) := by
  intro ls
  induction ls with
  | nil =>
    intro acc _ _
    refine ⟨fun n l _ hf => (nomatch hf), fun n => ?_⟩
    cases acc.get n <;> rfl
  | cons l ls ih =>
    intro acc hsub hI
    have hl : l ∈ all := hsub l (List.mem_cons_self ..)
    have hsub' : ∀ l' ∈ ls, l' ∈ all := fun l' h' => hsub l' (List.mem_cons_of_mem _ h')
    rw [List.foldlM_cons, hstep acc l hl hI, fillStep]
    cases hg : acc.get l.name with
    | some x => exact (ih acc hsub' hI).cons_some hg
    | none =>
      cases hv : val l with
      | none => exact ⟨l, List.mem_cons_self .., hg, hv⟩
      | some v => exact (ih _ hsub' (hpres acc l v hI hl hg hv)).cons_none hv

def ByName (val : Leaf → Option Nat) (ls : List Leaf) : Prop :=
  ∀ l ∈ ls, ∀ l' ∈ ls, l.name = l'.name → val l = val l'

theorem ByName.mono {val : Leaf → Option Nat} {ls ls' : List Leaf} (h : ByName val ls) (hm : ∀ l ∈ ls', l ∈ ls) :
    ByName val ls' := fun a ha b hb => h a (hm a ha) b (hm b hb)

theorem Built.get_mem {val : Leaf → Option Nat} {acc a : Assign} {ls : List Leaf} (h : Built val acc ls (some a))
    (hval : ByName val ls) {l : Leaf} (hl : l ∈ ls) (hg : acc.get l.name = none) :
    a.get l.name = val l ∧ val l ≠ none := by
  cases hf : ls.find? (·.name == l.name) with
  | none => exact absurd (by simp) (List.find?_eq_none.mp hf l hl)
  | some l0 =>
    have h0 : val l0 = val l := hval l0 (List.mem_of_find?_eq_some hf) l hl (by simpa using List.find?_some hf)
    exact ⟨by rw [h.get, hg]; simp only [hf, Option.bind_some, h0], h0 ▸ h.val_ne_none hg hf⟩

theorem find?_name_congr {val : Leaf → Option Nat} {ls ls' : List Leaf} (hm : ∀ l, l ∈ ls ↔ l ∈ ls')
    (hval : ByName val ls) (n : String) :
    (ls.find? (·.name == n)).bind val = (ls'.find? (·.name == n)).bind val := by
  cases h : ls.find? (·.name == n) with
  | none =>
    cases h' : ls'.find? (·.name == n) with
    | none => rfl
    | some l' =>
      have := List.find?_eq_none.mp h l' ((hm l').mpr (List.mem_of_find?_eq_some h'))
      exact absurd (List.find?_some h') this
  | some l =>
    have hl := List.mem_of_find?_eq_some h
    cases h' : ls'.find? (·.name == n) with
    | none =>
      have := List.find?_eq_none.mp h' l ((hm l).mp hl)
      exact absurd (List.find?_some h) this
    | some l' =>
      have hn : l.name = n := by simpa using List.find?_some h
      have hn' : l'.name = n := by simpa using List.find?_some h'
      exact hval l hl l' ((hm l').mpr (List.mem_of_find?_eq_some h')) (hn.trans hn'.symm)

theorem Built.perm {val : Leaf → Option Nat} {acc acc' : Assign} {ls ls' : List Leaf} {r r' : Option Assign}
    (hm : ∀ l, l ∈ ls ↔ l ∈ ls') (hval : ByName val ls) (hacc : SameGet acc acc') (h : Built val acc ls r)
    (h' : Built val acc' ls' r') :
    (r = none ∧ r' = none) ∨ ∃ a a', r = some a ∧ r' = some a' ∧ SameGet a a' := by
  have hval' : ByName val ls' := hval.mono fun l hl => (hm l).mpr hl
  cases r with
  | none =>
    cases r' with
    | none => exact Or.inl ⟨rfl, rfl⟩
    | some a' =>
      obtain ⟨l, hl, h1, h2⟩ := h.fails
      exact absurd h2 (h'.get_mem hval' ((hm l).mp hl) (by rw [← hacc]; exact h1)).2
  | some a =>
    cases r' with
    | none =>
      obtain ⟨l, hl, h1, h2⟩ := h'.fails
      exact absurd h2 (h.get_mem hval ((hm l).mpr hl) (by rw [hacc]; exact h1)).2
    | some a' =>
      refine Or.inr ⟨a, a', rfl, rfl, fun n => ?_⟩
      rw [h.get n, h'.get n, hacc n, find?_name_congr hm hval n]

theorem Built.bounded {val : Leaf → Option Nat} {acc a : Assign} {ls : List Leaf} (h : Built val acc ls (some a))
    (hval : ByName val ls) (hacc : InRangeOn acc ls) (hvr : ∀ l ∈ ls, ∀ x, val l = some x → x < l.size) :
    BoundedOn a ls := by
  intro l hl
  cases hg : acc.get l.name with
  | some x => exact ⟨x, by rw [h.get, hg], hacc l hl x hg⟩
  | none =>
    obtain ⟨e, hne⟩ := h.get_mem hval hl hg
    cases hv : val l with
    | none => exact absurd hv hne
    | some x => exact ⟨x, by rw [e, hv], hvr l hl x hv⟩

theorem extend_nil (σ : Assign) : extend σ [] = some σ := rfl

theorem extend_cons (σ : Assign) (l : Leaf) (ls : List Leaf) :
    extend σ (l :: ls) = match Assign.get σ l.name with
      | some _ => extend σ ls
      | none => if l.size == 1 then extend (σ ++ [(l.name, 0)]) ls else none := by
  unfold extend
  rw [List.foldlM_cons]
  cases Assign.get σ l.name with
  | some x => rfl
  | none => dsimp only; split <;> rfl

/-- The value `extend` gives to a missing name. -/
def exVal (l : Leaf) : Option Nat := if l.size == 1 then some 0 else none

theorem exVal_eq_some {l : Leaf} {x : Nat} (h : exVal l = some x) : x = 0 ∧ l.size = 1 := by
  unfold exVal at h
  by_cases hs : (l.size == 1) = true
  · rw [if_pos hs] at h; exact ⟨(Option.some.inj h).symm, beq_iff_eq.mp hs⟩
  · rw [if_neg hs] at h; nomatch h

theorem exVal_of_size {l : Leaf} (h : l.size = 1) : exVal l = some 0 := by
  unfold exVal; rw [if_pos (beq_iff_eq.mpr h)]

theorem exVal_byName {ls : List Leaf} (hc : Consistent ls) : ByName exVal ls :=
  fun l hl l' hl' hn => by unfold exVal; rw [hc l hl l' hl' hn]

theorem exVal_lt {l : Leaf} {x : Nat} (h : exVal l = some x) : x < l.size := by
  obtain ⟨rfl, hs⟩ := exVal_eq_some h
  omega

theorem extend_built (σ : Assign) (ls : List Leaf) : Built exVal σ ls (extend σ ls) :=
  built_foldlM (all := ls) (Inv := fun _ => True)
    (fun acc l _ _ => by
      unfold fillStep exVal
      cases acc.get l.name with
      | some x => rfl
      | none => dsimp only; split <;> rfl)
    (fun _ _ _ _ _ _ _ => trivial) ls σ (fun _ h => h) trivial

theorem extend_isSome_of_extendable {ls : List Leaf} {σ : Assign}
    (h : ∀ l ∈ ls, Assign.get σ l.name ≠ none ∨ l.size = 1) : ∃ σ', extend σ ls = some σ' := by
  have hb := extend_built σ ls
  cases hf : extend σ ls with
  | some a => exact ⟨a, rfl⟩
  | none =>
    rw [hf] at hb
    obtain ⟨l, hl, h1, h2⟩ := hb.fails
    rcases h l hl with e | e
    · exact absurd h1 e
    · rw [exVal_of_size e] at h2; nomatch h2

theorem extend_get (ls : List Leaf) (σ σ' : Assign) (h : extend σ ls = some σ') (n : String) :
    Assign.get σ' n = match Assign.get σ n with
      | some x => some x
      | none => if ls.any (fun l => l.name == n) then some 0 else none := by
  have hb := extend_built σ ls
  rw [h] at hb
  rw [hb.get n]
  cases hn : σ.get n with
  | some x => rfl
  | none =>
    dsimp only
    cases hf : ls.find? (·.name == n) with
    | none =>
      have : ls.any (fun l => l.name == n) = false := List.any_eq_false.mpr (List.find?_eq_none.mp hf)
      rw [this]; rfl
    | some l =>
      have hany : ls.any (fun l => l.name == n) = true :=
        List.any_eq_true.mpr ⟨l, List.mem_of_find?_eq_some hf, by simpa using List.find?_some hf⟩
      rw [hany, if_pos rfl]
      cases hv : exVal l with
      | none => exact absurd hv (hb.val_ne_none hn hf)
      | some x => rw [Option.bind_some, hv, (exVal_eq_some hv).1]

theorem extend_of_bounded {σ : Assign} : ∀ ls : List Leaf, BoundedOn σ ls → extend σ ls = some σ := by
  intro ls
  induction ls with
  | nil => intro _; rfl
  | cons l ls ih =>
    intro h
    obtain ⟨x, hx, _⟩ := h l (List.mem_cons_self ..)
    rw [extend_cons, hx]
    exact ih (fun l' hl' => h l' (List.mem_cons_of_mem _ hl'))

theorem extend_sameGet : ∀ (ls : List Leaf) (σ τ : Assign), SameGet σ τ →
    (extend σ ls = none ∧ extend τ ls = none) ∨
      ∃ σ1 τ1, extend σ ls = some σ1 ∧ extend τ ls = some τ1 ∧ SameGet σ1 τ1 := by
  intro ls
  induction ls with
  | nil => intro σ τ h; exact Or.inr ⟨σ, τ, rfl, rfl, h⟩
  | cons l ls ih =>
    intro σ τ h
    rw [extend_cons, extend_cons, ← h l.name]
    cases Assign.get σ l.name with
    | some y => exact ih σ τ h
    | none =>
      by_cases hs : (l.size == 1) = true
      · simp only [hs, if_true]; exact ih _ _ (h.append _)
      · simp [hs]

def inputStep (σ τ : Assign) (acc : Assign) (l : Leaf) : Option Assign :=
  if l.marked then
    match τ.get l.name with
    | some v => some (if (acc.get l.name).isSome then acc else acc ++ [(l.name, v)])
    | none => none
  else
    match acc.get l.name with
    | some _ => some acc
    | none =>
      match σ.get l.name with
      | some v => some (acc ++ [(l.name, v)])
      | none => if l.size == 1 then some (acc ++ [(l.name, 0)]) else none

theorem inputAssign_eq (σ τ : Assign) (ls : List Leaf) : inputAssign σ τ ls = ls.foldlM (inputStep σ τ) [] := rfl

theorem inputStep_congr {σ σ' τ τ' : Assign} (hσ : SameGet σ σ') (hτ : SameGet τ τ') (acc : Assign) (l : Leaf) :
    inputStep σ τ acc l = inputStep σ' τ' acc l := by
  unfold inputStep; rw [hσ l.name, hτ l.name]

theorem inputAssign_congr {σ σ' τ τ' : Assign} (hσ : SameGet σ σ') (hτ : SameGet τ τ') (ls : List Leaf) :
    inputAssign σ τ ls = inputAssign σ' τ' ls := by
  rw [inputAssign_eq, inputAssign_eq]
  have : inputStep σ τ = inputStep σ' τ' := by funext acc l; exact inputStep_congr hσ hτ acc l
  rw [this]

def MarkSep (ls : List Leaf) : Prop := ∀ l ∈ ls, ∀ l' ∈ ls, l.name = l'.name → l.marked = l'.marked

def markSepB (ls : List Leaf) : Bool := ls.all (fun l => ls.all (fun l' => l.name != l'.name || l.marked == l'.marked))

theorem markSepB_spec {ls : List Leaf} (h : markSepB ls = true) : MarkSep ls := by
  intro l hl l' hl' hn
  simp only [markSepB, List.all_eq_true, Bool.or_eq_true, bne_iff_ne, ne_eq, beq_iff_eq] at h
  rcases h l hl l' hl' with h1 | h1
  · exact absurd hn h1
  · exact h1

/-- The value `inputAssign σ τ` gives to the name of leaf `l`. -/
def inVal (σ τ : Assign) (l : Leaf) : Option Nat :=
  if l.marked then τ.get l.name
  else
    match σ.get l.name with
    | some v => some v
    | none => if l.size == 1 then some 0 else none

theorem inVal_congr {σ τ : Assign} {all : List Leaf} (hms : MarkSep all) (hc : Consistent all) {l l' : Leaf}
    (hl : l ∈ all) (hl' : l' ∈ all) (hn : l.name = l'.name) : inVal σ τ l = inVal σ τ l' := by
  unfold inVal
  rw [hms l hl l' hl' hn, hc l hl l' hl' hn, hn]

theorem inVal_byName {σ τ : Assign} {ls : List Leaf} (hms : MarkSep ls) (hc : Consistent ls) : ByName (inVal σ τ) ls :=
  fun _ hl _ hl' => inVal_congr hms hc hl hl'

theorem inVal_lt {σ τ : Assign} {ls : List Leaf} (hσ : InRangeOn σ ls) (hτ : InRangeOn τ ls) :
    ∀ l ∈ ls, ∀ x, inVal σ τ l = some x → x < l.size := by
  intro l hl x hx
  unfold inVal at hx
  by_cases hmk : l.marked = true
  · rw [if_pos hmk] at hx; exact hτ l hl x hx
  · rw [if_neg hmk] at hx
    cases hg : σ.get l.name with
    | some y => rw [hg] at hx; exact Option.some.inj hx ▸ hσ l hl y hg
    | none => rw [hg] at hx; exact exVal_lt hx

/-- The bracketed branch of `inputStep` consults `τ` even if the name has a value: it is a `fillStep` step only if that value
came from `inVal`. -/
theorem inputStep_eq_fillStep (σ τ acc : Assign) (l : Leaf) (hinv : ∀ x, acc.get l.name = some x → inVal σ τ l = some x) :
    inputStep σ τ acc l = fillStep (inVal σ τ) acc l := by
  unfold inputStep fillStep inVal
  by_cases hm : l.marked = true
  · simp only [hm, if_true]
    cases ha : acc.get l.name with
    | some x =>
      have := hinv x ha
      simp only [inVal, hm, if_true] at this
      rw [this]; rfl
    | none => cases τ.get l.name <;> rfl
  · simp only [hm, Bool.false_eq_true, if_false]
    cases acc.get l.name with
    | some x => rfl
    | none =>
      cases σ.get l.name with
      | some v => rfl
      | none => by_cases hs : (l.size == 1) = true <;> simp [hs]

theorem inputAssign_built (σ τ : Assign) {ls : List Leaf} (hms : MarkSep ls) (hc : Consistent ls) :
    Built (inVal σ τ) [] ls (inputAssign σ τ ls) :=
  built_foldlM (all := ls) (Inv := fun acc => ∀ l ∈ ls, ∀ x, acc.get l.name = some x → inVal σ τ l = some x)
    (fun acc l hl hI => inputStep_eq_fillStep σ τ acc l (hI l hl))
    (fun acc l v hI hl _ hv l2 hl2 x hx => by
      rw [get_snoc] at hx
      cases ha : acc.get l2.name with
      | some y => rw [ha] at hx; exact hI l2 hl2 x (by rw [ha]; exact hx)
      | none =>
        rw [ha] at hx
        by_cases hn : l.name = l2.name
        · rw [if_pos hn] at hx
          rw [← inVal_congr hms hc hl hl2 hn, hv]; exact hx
        · rw [if_neg hn] at hx; nomatch hx)
    ls [] (fun _ h => h) (fun l _ x hx => nomatch hx)

theorem inputAssign_spec (σ τ : Assign) {ls : List Leaf} (hms : MarkSep ls) (hc : Consistent ls) :
    match inputAssign σ τ ls with
    | some a => (∀ l ∈ ls, inVal σ τ l ≠ none ∧ a.get l.name = inVal σ τ l) ∧
        ∀ n, (∀ l ∈ ls, l.name ≠ n) → a.get n = none
    | none => ∃ l ∈ ls, inVal σ τ l = none := by
  have hb := inputAssign_built σ τ hms hc
  cases hf : inputAssign σ τ ls with
  | none => rw [hf] at hb; obtain ⟨l, hl, _, h⟩ := hb.fails; exact ⟨l, hl, h⟩
  | some a =>
    rw [hf] at hb
    refine ⟨fun l hl => (hb.get_mem (inVal_byName hms hc) hl rfl).symm, fun n hn => ?_⟩
    rw [hb.get n, get_nil]
    cases hfind : ls.find? (·.name == n) with
    | none => rfl
    | some l0 => exact absurd (by simpa using List.find?_some hfind) (hn l0 (List.mem_of_find?_eq_some hfind))

end Einx.Denote
