import EinxModel.Proofs.DenoteConcat
import EinxModel.Proofs.DenoteDotPerm
import EinxModel.Proofs.DenoteViews
/-!
`id` with concatenations (C08c): the enumeration of virtual tensors (`views`) commutes with grouping adjacent root
dimensions and every virtual tensor has the shape of the real one; congruence of the functional form `denoteIdFunG` in
the inputs (with a map on cells); the entries of a pair when the virtual input is regrouped or its root dimensions reordered.
-/
namespace Einx.Denote
open Einx Einx.IR List
open Einx.Update (mapOpt mapOpt_eq_some_iff mapOpt_congr mapOpt_length mapOpt_optmap mapOpt_pointwise)

/-! ### lists related position by position -/

theorem forall₂_flatMap {α β γ : Type} {R : β → γ → Prop} (l : List α) (f : α → List β) (g : α → List γ)
    (h : ∀ a ∈ l, Forall₂ R (f a) (g a)) : Forall₂ R (l.flatMap f) (l.flatMap g) := by
  induction l with
  | nil => exact Forall₂.nil
  | cons a l ih =>
    simp only [List.flatMap_cons]
    exact List.rel_append (h a (List.mem_cons_self ..)) (ih (fun b hb => h b (List.mem_cons_of_mem _ hb)))

theorem forall₂_flatMap₂ {α α' β γ : Type} {R : β → γ → Prop} {S : α → α' → Prop} {l1 : List α} {l2 : List α'}
    (f : α → List β) (g : α' → List γ) (h : Forall₂ S l1 l2) (hf : ∀ a b, S a b → Forall₂ R (f a) (g b)) :
    Forall₂ R (l1.flatMap f) (l2.flatMap g) := by
  induction h with
  | nil => exact Forall₂.nil
  | cons hab _ ih =>
    simp only [List.flatMap_cons]
    exact List.rel_append (hf _ _ hab) ih

theorem forall₂_and_mem {α β : Type} {R : α → β → Prop} {l1 : List α} {l2 : List β} (h : Forall₂ R l1 l2) :
    Forall₂ (fun a b => R a b ∧ a ∈ l1 ∧ b ∈ l2) l1 l2 := by
  induction h with
  | nil => exact Forall₂.nil
  | cons hab _ ih =>
    refine Forall₂.cons ⟨hab, List.mem_cons_self .., List.mem_cons_self ..⟩ ?_
    exact ih.imp (fun _ _ h => ⟨h.1, List.mem_cons_of_mem _ h.2.1, List.mem_cons_of_mem _ h.2.2⟩)

theorem forall₂_of_map_eq {α β : Type} (f : α → Option β) : ∀ (l1 : List α) (l2 : List β),
    l1.map f = l2.map some → Forall₂ (fun b a => f a = some b) l2 l1 := by
  intro l1
  induction l1 with
  | nil => intro l2 h; cases l2 with
    | nil => exact Forall₂.nil
    | cons _ _ => simp at h
  | cons a l1 ih =>
    intro l2 h
    cases l2 with
    | nil => simp at h
    | cons b l2 =>
      simp only [List.map_cons, List.cons.injEq] at h
      exact Forall₂.cons h.1 (ih l2 h.2)

theorem forall₂_zipIdx_set {α : Type} (l : List α) (j : Nat) (a b : α) :
    Forall₂ (fun x y => x.2 = y.2 ∧ (x.1 = y.1 ∨ (x.1 = a ∧ y.1 = b))) (l.set j a).zipIdx (l.set j b).zipIdx := by
  rw [List.forall₂_iff_get]
  refine ⟨by simp, ?_⟩
  intro i h1 h2
  simp only [List.get_eq_getElem, List.getElem_zipIdx, List.getElem_set, Nat.zero_add, true_and]
  by_cases hji : j = i
  · simp [hji]
  · simp [hji]

theorem zip_map_snd_congr {α β γ δ : Type} (g : γ → δ) : ∀ (A : List α) (B : List β) (Z : List γ),
    A.length = B.length → (List.zip A Z).map (fun p => g p.2) = (List.zip B Z).map (fun p => g p.2) := by
  intro A
  induction A with
  | nil => intro B Z h; cases B with
    | nil => rfl
    | cons _ _ => simp at h
  | cons a A ih =>
    intro B Z h
    cases B with
    | nil => simp at h
    | cons b B =>
      cases Z with
      | nil => rfl
      | cons z Z => simp only [List.zip_cons_cons, List.map_cons, ih B Z (by simpa using h)]

/-! ### the enumeration of virtual tensors under grouping -/

theorem nconcatL_append (A B : List Dim) : Dim.nconcatL (A ++ B) = Dim.nconcatL A + Dim.nconcatL B := by
  induction A with
  | nil => simp [Dim.nconcatL]
  | cons d A ih => simp only [List.cons_append, Dim.nconcatL, ih]; omega

theorem chooseL_append (k : Nat) (A B : List Dim) :
    Dim.chooseL k (A ++ B) = if Dim.nconcatL A > 0 then (Dim.chooseL k A).map (· ++ B) else (Dim.chooseL k B).map (A ++ ·) := by
  induction A with
  | nil => simp [Dim.nconcatL]
  | cons d A ih =>
    simp only [List.cons_append, Dim.chooseL, Dim.nconcatL]
    by_cases hd : d.nconcat > 0
    · have : d.nconcat + Dim.nconcatL A > 0 := by omega
      simp only [hd, this, if_true]
      cases d.choose k <;> rfl
    · have h0 : d.nconcat = 0 := by omega
      simp only [if_neg hd]
      rw [ih]
      simp only [h0, Nat.zero_add]
      by_cases hA : Dim.nconcatL A > 0
      · simp only [hA, if_true]; cases Dim.chooseL k A <;> rfl
      · simp only [hA, if_false]; cases Dim.chooseL k B <;> rfl

theorem nblocksL_append (A B : List Dim) :
    Dim.nblocksL (A ++ B) = if Dim.nconcatL A > 0 then Dim.nblocksL A else Dim.nblocksL B := by
  induction A with
  | nil => simp [Dim.nconcatL]
  | cons d A ih =>
    simp only [List.cons_append, Dim.nblocksL, Dim.nconcatL]
    by_cases hd : d.nconcat > 0
    · have : d.nconcat + Dim.nconcatL A > 0 := by omega
      simp only [hd, this, if_true]
    · have h0 : d.nconcat = 0 := by omega
      simp only [if_neg hd]
      rw [ih]
      simp only [h0, Nat.zero_add]

/-- `g` is `u` with some adjacent root dimensions wrapped in parentheses. -/
def Regroup (g u : List Dim) : Prop := ∃ P M Q, g = P ++ [Dim.flat M] ++ Q ∧ u = P ++ M ++ Q

theorem viewsFuel_regroup : ∀ (n : Nat) (P M Q : List Dim),
    Forall₂ Regroup (viewsFuel n (P ++ [Dim.flat M] ++ Q)) (viewsFuel n (P ++ M ++ Q))
  | 0, P, M, Q => Forall₂.cons ⟨P, M, Q, rfl, rfl⟩ Forall₂.nil
  | n + 1, P, M, Q => by
    have hnc : Dim.nconcatL (P ++ [Dim.flat M] ++ Q) = Dim.nconcatL (P ++ M ++ Q) := by
      simp only [nconcatL_append, Dim.nconcatL, Dim.nconcat]; omega
    rw [viewsFuel, viewsFuel, hnc]
    split
    · exact Forall₂.cons ⟨P, M, Q, rfl, rfl⟩ Forall₂.nil
    · have hnb : Dim.nblocksL (P ++ [Dim.flat M] ++ Q) = Dim.nblocksL (P ++ M ++ Q) := by
        simp only [List.append_assoc, nblocksL_append, List.cons_append, List.nil_append, Dim.nblocksL, Dim.nconcat,
          Dim.nblocks]
        by_cases hP : Dim.nconcatL P > 0 <;> by_cases hM : Dim.nconcatL M > 0 <;> simp only [hP, hM, if_true, if_false]
      rw [hnb]
      apply forall₂_flatMap
      intro k _
      simp only [List.append_assoc, chooseL_append, List.cons_append, List.nil_append, Dim.chooseL, Dim.nconcat,
        Dim.choose]
      by_cases hP : Dim.nconcatL P > 0
      · simp only [hP, if_true]
        cases Dim.chooseL k P with
        | none => exact Forall₂.nil
        | some P' =>
          have := viewsFuel_regroup n P' M Q
          simpa only [List.append_assoc, List.cons_append, List.nil_append, Option.map_some] using this
      · simp only [hP, if_false]
        by_cases hM : Dim.nconcatL M > 0
        · simp only [hM, if_true]
          cases Dim.chooseL k M with
          | none => exact Forall₂.nil
          | some M' =>
            have := viewsFuel_regroup n P M' Q
            simpa only [List.append_assoc, List.cons_append, List.nil_append, Option.map_some] using this
        · simp only [hM, if_false]
          cases Dim.chooseL k Q with
          | none => exact Forall₂.nil
          | some Q' =>
            have := viewsFuel_regroup n P M Q'
            simpa only [List.append_assoc, List.cons_append, List.nil_append, Option.map_some] using this

/-! ### choosing a block changes no size -/

theorem foldl_size_le (ds : List Dim) : ∀ (k acc : Nat) (d : Dim), ds[k]? = some d →
    (ds.take k).foldl (fun a x => a + x.size) acc + d.size ≤ acc + Dim.sizeSum ds := by
  induction ds with
  | nil => intro k acc d h; simp at h
  | cons x ds ih =>
    intro k acc d h
    cases k with
    | zero =>
      simp only [List.getElem?_cons_zero, Option.some.injEq] at h
      subst h
      simp only [List.take_zero, List.foldl_nil, Dim.sizeSum]; omega
    | succ k =>
      simp only [List.getElem?_cons_succ] at h
      have := ih k (acc + x.size) d h
      simp only [List.take_succ_cons, List.foldl_cons, Dim.sizeSum]; omega

/-- Choosing a block changes no size: a block `off o d t` has the size `t` of its concatenation. -/
theorem choose_size_both (k : Nat) :
    (∀ d d' : Dim, d.choose k = some d' → d'.size = d.size) ∧
      (∀ ds ds' : List Dim, Dim.chooseL k ds = some ds' → viewShape ds' = viewShape ds) :=
  Dim.choose_ind_both k
    (fun ds ds' _ h => by rw [size_flat, size_flat, h])
    (fun _ _ _ => rfl)
    (fun _ _ _ _ _ _ => rfl)
    (fun _ _ _ _ _ h => by simp only [viewShape, List.map_cons, h])
    (fun _ _ _ _ _ h => by simp only [viewShape, List.map_cons] at h ⊢; rw [h])

theorem choose_size (k : Nat) (d d' : Dim) : d.choose k = some d' → d'.size = d.size := (choose_size_both k).1 d d'

theorem chooseL_viewShape (k : Nat) (ds ds' : List Dim) : Dim.chooseL k ds = some ds' → viewShape ds' = viewShape ds :=
  (choose_size_both k).2 ds ds'

theorem chooseL_sizeProd (k : Nat) : ∀ (ds ds' : List Dim), Dim.chooseL k ds = some ds' → Dim.sizeProd ds' = Dim.sizeProd ds := by
  intro ds ds' h
  rw [sizeProd_eq, sizeProd_eq]
  exact congrArg prod (chooseL_viewShape k ds ds' h)

theorem viewsFuel_viewShape (n : Nat) (ds : List Dim) : ∀ v ∈ viewsFuel n ds, viewShape v = viewShape ds :=
  viewsFuel_ind (Q := fun u => viewShape u = viewShape ds) (fun k a b hc h => (chooseL_viewShape k a b hc).trans h) n ds rfl

theorem views_viewShape (e : Expr) : ∀ v ∈ views e, viewShape v = shapeOf e := by
  intro v hv
  exact viewsFuel_viewShape _ _ v hv

theorem views_regroup (pre mid post : List Expr) :
    Forall₂ (fun g u => Regroup g u ∧ viewShape g = viewShape (dimsL false pre ++ [Dim.flat (dimsL false mid)] ++ dimsL false post)
        ∧ viewShape u = viewShape (dimsL false pre ++ dimsL false mid ++ dimsL false post))
      (views (.list (pre ++ [.flat (.list mid)] ++ post))) (views (.list (pre ++ mid ++ post))) := by
  have hg : dims false (.list (pre ++ [.flat (.list mid)] ++ post))
      = dimsL false pre ++ [Dim.flat (dimsL false mid)] ++ dimsL false post := by
    simp [dims, dimsL_append, dimsL]
  have hu : dims false (.list (pre ++ mid ++ post)) = dimsL false pre ++ dimsL false mid ++ dimsL false post := by
    simp [dims, dimsL_append]
  unfold views
  simp only [hg, hu]
  have hnc : Dim.nconcatL (dimsL false pre ++ [Dim.flat (dimsL false mid)] ++ dimsL false post)
      = Dim.nconcatL (dimsL false pre ++ dimsL false mid ++ dimsL false post) := by
    simp only [nconcatL_append, Dim.nconcatL, Dim.nconcat]; omega
  rw [hnc]
  refine (forall₂_and_mem (viewsFuel_regroup _ _ _ _)).imp ?_
  intro g u h
  exact ⟨h.1, viewsFuel_viewShape _ _ g h.2.1, viewsFuel_viewShape _ _ u h.2.2⟩

/-! ### congruence of `denoteIdFunG` in the inputs -/

theorem entriesFor_map (h : Cell → Cell) (k : Nat) (ks : List Nat) (ess : List (List (Nat × Cell))) :
    entriesFor k (List.zip ks (ess.map (List.map (fun e => (e.1, h e.2)))))
      = (entriesFor k (List.zip ks ess)).map (fun e => (e.1, h e.2)) := by
  simp [entriesFor, List.zip_map_right, List.filter_map, List.flatMap_map, List.map_flatMap, Function.comp_def]

theorem denoteIdFunG_congr_in (h : Cell → Cell) (insA insB outs : List Expr)
    (hpair : Forall₂ (fun a b => ∀ z ∈ idVout outs, (idPairEntries outs (a, z)).map (List.map (fun e => (e.1, h e.2)))
        = idPairEntries outs (b, z)) (idVin insA) (idVin insB)) :
    (denoteIdFunG insA outs).map (List.map (Tensor.map h)) = denoteIdFunG insB outs := by
  unfold denoteIdFunG
  have hlen : (idVin insA).length = (idVin insB).length := hpair.length_eq
  simp only [hlen]
  split
  · rfl
  · have hm : (mapOpt (idPairEntries outs) (List.zip (idVin insA) (idVout outs))).map
        (List.map (List.map (fun e => (e.1, h e.2))))
        = mapOpt (idPairEntries outs) (List.zip (idVin insB) (idVout outs)) := by
      apply mapOpt_pointwise
      · simp [hlen]
      · intro k a b ha hb
        obtain ⟨a1, a2⟩ := a
        obtain ⟨b1, b2⟩ := b
        rw [List.getElem?_zip_eq_some] at ha hb
        simp only at ha hb
        have hz : a2 = b2 := by
          have := ha.2.symm.trans hb.2
          exact Option.some.inj this
        have hab := List.forall₂_iff_get.mp hpair
        obtain ⟨hk1, h1⟩ := List.getElem?_eq_some_iff.mp ha.1
        obtain ⟨hk2, h2⟩ := List.getElem?_eq_some_iff.mp hb.1
        subst hz
        have := hab.2 k hk1 hk2 a2 (List.mem_of_getElem? ha.2)
        simp only [List.get_eq_getElem, h1, h2] at this
        exact this
    have hks : (List.zip (idVin insA) (idVout outs)).map (fun p => p.2.2)
        = (List.zip (idVin insB) (idVout outs)).map (fun p => p.2.2) :=
      zip_map_snd_congr (fun z : List Dim × Nat => z.2) _ _ _ hlen
    rw [← hm, ← hks]
    cases mapOpt (idPairEntries outs) (List.zip (idVin insA) (idVout outs)) with
    | none => rfl
    | some ess =>
      simp only [Option.map_some]
      rw [← mapOpt_optmap]
      apply mapOpt_congr
      intro x _
      rw [entriesFor_map, gatherAll_map]
      cases gatherAll (prod (shapeOf x.1)) (entriesFor x.2 (List.zip
        ((List.zip (idVin insA) (idVout outs)).map (fun p => p.2.2)) ess)) <;> rfl

/-! ### the entries of a pair whose virtual input is regrouped or permuted -/

theorem idPairEntries_regroup_in (outs : List Expr) (P M Q : List Dim) (i : Nat) (z : List Dim × Nat) :
    idPairEntries outs ((P ++ [Dim.flat M] ++ Q, i, viewShape (P ++ [Dim.flat M] ++ Q)), z)
      = idPairEntries outs ((P ++ M ++ Q, i, viewShape (P ++ M ++ Q)), z) := by
  unfold idPairEntries
  have : idEntry (P ++ [Dim.flat M] ++ Q) (viewShape (P ++ [Dim.flat M] ++ Q)) i z.1 (shapeOf (outs.getD z.2 (Expr.list [])))
      = idEntry (P ++ M ++ Q) (viewShape (P ++ M ++ Q)) i z.1 (shapeOf (outs.getD z.2 (Expr.list []))) := by
    funext σ
    simp only [idEntry, leavesL_regroup, cellAt_regroup]
  simp only [this]

theorem idPairEntries_permute_in (outs : List Expr) {v v' : List Dim} {perm : List Nat} {plan : Plan}
    (z : List Dim × Nat) (hperm : isPermOf perm v.length = true) (hv' : permuteL perm v = some v')
    (hok : Dim.viewOKL v = true) (hcons : Consistent (Dim.leavesL v ++ Dim.leavesL z.1))
    (hplan : planInstr [viewShape v] (.transpose 0 perm) = .ok plan) :
    (idPairEntries outs ((v', 0, viewShape v'), z)).map
        (List.map (fun e => (e.1, subst [⟨plan.shape, plan.cells⟩] e.2)))
      = idPairEntries outs ((v, 0, viewShape v), z) := by
  unfold idPairEntries
  rw [← mapOpt_optmap]
  apply mapOpt_congr
  intro σ hσ
  rw [idEntry_eq_genEntry, idEntry_eq_genEntry, ← genEntry_map]
  exact genEntry_congr (inCell_permuted [⟨plan.shape, plan.cells⟩] hperm hv' hok hcons.left
    (outAssignments_inRange hcons hσ) rfl hplan rfl) _ _

end Einx.Denote
