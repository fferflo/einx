import EinxModel.Proofs.NotationPrintDefs
import Std.Data.String.ToNat
/-!
# M1 Notation — `natStr` is a string of ASCII decimal digits that `int()` maps back
-/
namespace Einx.Notation

theorem natStr_eq_toDigits (k : Nat) : natStr k = Nat.toDigits 10 k := by
  simp [natStr]

theorem natStr_mem_range {k : Nat} {c : Char} (h : c ∈ natStr k) : 48 ≤ c.toNat ∧ c.toNat ≤ 57 := by
  rw [natStr_eq_toDigits] at h
  have hd : c.isDigit = true := Nat.isDigit_of_mem_toDigits (by decide) (by decide) h
  simp only [Char.isDigit, Bool.and_eq_true, decide_eq_true_eq, UInt32.le_iff_toNat_le] at hd
  exact ⟨hd.1, hd.2⟩

theorem isDigitChar_of_range {c : Char} (h : 48 ≤ c.toNat ∧ c.toNat ≤ 57) : isDigitChar c = true := by
  simp [isDigitChar, inRanges, Einx.Extracted.digitRanges, h.1, h.2]

theorem isDecimalChar_of_range {c : Char} (h : 48 ≤ c.toNat ∧ c.toNat ≤ 57) : isDecimalChar c = true := by
  simp [isDecimalChar, inRanges, Einx.Extracted.decimalRanges, h.1, h.2]

theorem decimalValue_of_range {c : Char} (h : 48 ≤ c.toNat ∧ c.toNat ≤ 57) :
    decimalValue c = c.toNat - 48 := by
  simp [decimalValue, Einx.Extracted.decimalRanges, h.1, h.2]

theorem isAsciiDigit_of_range {c : Char} (h : 48 ≤ c.toNat ∧ c.toNat ≤ 57) : isAsciiDigit c = true := by
  have h1 : '0' ≤ c := by
    rw [Char.le_def, UInt32.le_iff_toNat_le]; exact h.1
  have h2 : c ≤ '9' := by
    rw [Char.le_def, UInt32.le_iff_toNat_le]; exact h.2
  simp [isAsciiDigit, h1, h2]

theorem isNameCont_of_range {c : Char} (h : 48 ≤ c.toNat ∧ c.toNat ≤ 57) : isNameCont c = true := by
  simp [isNameCont, isAsciiDigit_of_range h]

theorem not_isNameStart_of_range {c : Char} (h : 48 ≤ c.toNat ∧ c.toNat ≤ 57) : isNameStart c = false := by
  have ha : ¬ 'a' ≤ c := by
    rw [Char.le_def, UInt32.le_iff_toNat_le]
    have : c.val.toNat = c.toNat := rfl
    have : ('a' : Char).val.toNat = 97 := rfl
    omega
  have hA : ¬ 'A' ≤ c := by
    rw [Char.le_def, UInt32.le_iff_toNat_le]
    have : c.val.toNat = c.toNat := rfl
    have : ('A' : Char).val.toNat = 65 := rfl
    omega
  have hu : c ≠ '_' := by
    intro hc
    subst hc
    have : ('_' : Char).toNat = 95 := rfl
    omega
  simp [isNameStart, isAsciiLetter, ha, hA, hu]

theorem foldl_decimal_eq_ofDigitChars (s : List Char) (acc : Nat)
    (h : ∀ c ∈ s, 48 ≤ c.toNat ∧ c.toNat ≤ 57) :
    s.foldl (fun acc c => 10 * acc + decimalValue c) acc = Nat.ofDigitChars 10 s acc := by
  induction s generalizing acc with
  | nil => simp [Nat.ofDigitChars]
  | cons c cs ih =>
    rw [List.foldl_cons, Nat.ofDigitChars_cons, decimalValue_of_range (h c (by simp))]
    exact ih _ (fun d hd => h d (by simp [hd]))

theorem natStr_ne_nil (k : Nat) : natStr k ≠ [] := by
  rw [natStr_eq_toDigits]; exact Nat.toDigits_ne_nil

theorem natStr_isDigitStr (k : Nat) : isDigitStr (natStr k) = true := by
  have hne := natStr_ne_nil k
  simp only [isDigitStr, Bool.and_eq_true, Bool.not_eq_true', List.isEmpty_eq_false_iff,
    List.all_eq_true]
  exact ⟨hne, fun c hc => isDigitChar_of_range (natStr_mem_range hc)⟩

theorem natStr_all_decimal (k : Nat) : (natStr k).all isDecimalChar = true := by
  rw [List.all_eq_true]
  exact fun c hc => isDecimalChar_of_range (natStr_mem_range hc)

theorem natStr_value (k : Nat) : intOfDecimals (natStr k) = k := by
  unfold intOfDecimals
  rw [foldl_decimal_eq_ofDigitChars _ _ (fun c hc => natStr_mem_range hc), natStr_eq_toDigits]
  exact Nat.ofDigitChars_ten_toDigits

theorem natStr_isWord (k : Nat) : isWord (natStr k) = true := by
  have hne := natStr_ne_nil k
  simp only [isWord, Bool.and_eq_true, Bool.not_eq_true', List.isEmpty_eq_false_iff,
    List.all_eq_true]
  exact ⟨hne, fun c hc => isNameCont_of_range (natStr_mem_range hc)⟩

theorem natStr_not_axisName (k : Nat) : isAxisName (natStr k) = false := by
  have hne := natStr_ne_nil k
  cases hs : natStr k with
  | nil => exact absurd hs hne
  | cons c cs =>
    have hc : c ∈ natStr k := by rw [hs]; simp
    simp [isAxisName, not_isNameStart_of_range (natStr_mem_range hc)]

end Einx.Notation
