import EinxModel.Proofs.SolveRankSem
/-!
Consistent renaming of axis names (`renameE`, `renameInput`) against the semantics and the rank
system.  The anonymous ellipsis `...` is the ellipsis over the axis `.anonymous_ellipsis_axis`;
writing `s...` instead is the renaming `.anonymous_ellipsis_axis ↦ s`.
-/
namespace Einx.Solve

theorem rename_axesOf (ρ : Var → Nat) (f : String → String) (e : Expr) : ∀ (idx : List Nat),
    axesOf ρ idx (renameE f e) = (axesOf ρ idx e).map (renAxis f) := by
  induction e using Expr.induct with
  | axis n => exact fun _ => rfl
  | num _ => exact fun _ => rfl
  | brackets e ih => exact ih
  | flat e ih => exact ih
  | concat cs ih => exact ih
  | ellipsis id e ih =>
    intro idx
    simp only [renameE, axesOf, List.map_flatMap]
    simp only [ih]
  | nil => exact fun _ => rfl
  | cons c cs ihc ihcs =>
    intro idx
    dsimp only [renameE, renameEL, axesOf, axesOfL] at ihcs ⊢
    rw [List.map_append, ihc idx, ihcs idx]

theorem renameL_axesOf (ρ : Var → Nat) (f : String → String) : ∀ (cs : List Expr) (idx : List Nat),
    axesOfL ρ idx (renameEL f cs) = (axesOfL ρ idx cs).map (renAxis f) :=
  fun cs => rename_axesOf ρ f (.list cs)

theorem rename_evalItems (ρ σ σ' : Var → Nat) (f : String → String) (e : Expr) : ∀ (idx : List Nat),
    (∀ a ∈ axesOf ρ idx e, σ' (renVar f a) = σ a.2.2) →
    evalItems ρ σ' idx (renameE f e) = evalItems ρ σ idx e := by
  induction e using Expr.induct with
  | axis n =>
    intro idx h
    have hh := h (n, idx, n ++ idxSuffix idx) (by simp [axesOf])
    simp only [renVar] at hh
    simp only [renameE, evalItems]
    rw [hh]
  | num _ => exact fun _ _ => rfl
  | brackets e ih => exact ih
  | flat e ih => intro idx h; simp only [renameE, evalItems]; rw [ih idx h]
  | concat cs ih => intro idx h; dsimp only [renameE, evalItems, axesOf] at ih h ⊢; rw [ih idx h]
  | ellipsis id e ih =>
    intro idx h
    simp only [axesOf, List.forall_mem_flatMap] at h
    simp only [renameE, evalItems]
    exact flatMap_congr (fun i hi => ih (idx ++ [i]) (h i hi))
  | nil => exact fun _ _ => rfl
  | cons c cs ihc ihcs =>
    intro idx h
    dsimp only [renameE, renameEL, evalItems, evalItemsL, axesOf, axesOfL] at ihcs h ⊢
    rw [List.forall_mem_append] at h
    rw [ihc idx h.1, ihcs idx h.2]

theorem renameL_evalItems (ρ σ σ' : Var → Nat) (f : String → String) (cs : List Expr) (idx : List Nat)
    (h : ∀ a ∈ axesOfL ρ idx cs, σ' (renVar f a) = σ a.2.2) :
    evalItemsL ρ σ' idx (renameEL f cs) = evalItemsL ρ σ idx cs :=
  rename_evalItems ρ σ σ' f (.list cs) idx h

theorem rename_nodeValues (ρ σ σ' : Var → Nat) (f : String → String) (e : Expr) : ∀ (idx : List Nat),
    (∀ a ∈ axesOf ρ idx e, σ' (renVar f a) = σ a.2.2) →
    nodeValues ρ σ' idx (renameE f e) = nodeValues ρ σ idx e := by
  induction e using Expr.induct with
  | axis _ => exact fun _ _ => rfl
  | num _ => exact fun _ _ => rfl
  | brackets e ih => exact ih
  | flat e ih =>
    intro idx h
    simp only [axesOf] at h
    simp only [renameE, nodeValues]
    rw [ih idx h, rename_evalItems ρ σ σ' f e idx h]
  | concat cs ih =>
    intro idx h
    dsimp only [renameE, nodeValues, axesOf] at ih h ⊢
    rw [ih idx h, renameL_evalItems ρ σ σ' f cs idx h]
  | ellipsis id e ih =>
    intro idx h
    simp only [axesOf, List.forall_mem_flatMap] at h
    simp only [renameE, nodeValues]
    exact flatMap_congr (fun i hi => ih (idx ++ [i]) (h i hi))
  | nil => exact fun _ _ => rfl
  | cons c cs ihc ihcs =>
    intro idx h
    dsimp only [renameE, renameEL, nodeValues, nodeValuesL, axesOf, axesOfL] at ihcs h ⊢
    rw [List.forall_mem_append] at h
    rw [ihc idx h.1, ihcs idx h.2]

theorem renameL_nodeValues (ρ σ σ' : Var → Nat) (f : String → String) : ∀ (cs : List Expr) (idx : List Nat),
    (∀ a ∈ axesOfL ρ idx cs, σ' (renVar f a) = σ a.2.2) →
    nodeValuesL ρ σ' idx (renameEL f cs) = nodeValuesL ρ σ idx cs :=
  fun cs => rename_nodeValues ρ σ σ' f (.list cs)

theorem rename_occs (f : String → String) (e : Expr) : ∀ (stack : List Var),
    occs stack (renameE f e) = (occs stack e).map (fun p => (f p.1, p.2)) := by
  induction e using Expr.induct with
  | axis _ => exact fun _ => rfl
  | num _ => exact fun _ => rfl
  | brackets e ih => exact ih
  | flat e ih => exact ih
  | concat cs ih => exact ih
  | ellipsis id e ih => exact fun stack => ih (stack ++ [id])
  | nil => exact fun _ => rfl
  | cons c cs ihc ihcs =>
    intro stack
    dsimp only [renameE, renameEL, occs, occsL] at ihcs ⊢
    rw [List.map_append, ihc stack, ihcs stack]

theorem renameL_occs (f : String → String) : ∀ (cs : List Expr) (stack : List Var),
    occsL stack (renameEL f cs) = (occsL stack cs).map (fun p => (f p.1, p.2)) :=
  fun cs => rename_occs f (.list cs)

/-- Renaming keeps the items, hence their number; with all lengths `0` the two assignments are linked by `rfl`. -/
theorem rename_width (ρ : Var → Nat) (f : String → String) (e : Expr) : width ρ (renameE f e) = width ρ e := by
  rw [← length_evalItems ρ (fun _ => 0) _ [], rename_evalItems ρ (fun _ => 0) _ f e [] fun _ _ => rfl, length_evalItems]

theorem renameL_width (ρ : Var → Nat) (f : String → String) : ∀ (cs : List Expr), widthL ρ (renameEL f cs) = widthL ρ cs :=
  fun cs => rename_width ρ f (.list cs)

theorem renameInput_occs (f : String → String) (inp : Input) :
    (renameInput f inp).occs = inp.occs.map (fun p => (f p.1, p.2)) := by
  unfold Input.occs renameInput
  simp only [List.flatMap_map, List.map_flatMap, rename_occs]

theorem occ_name_mem {inp : Input} {p : String × List Var} (hp : p ∈ inp.occs) : p.1 ∈ inp.names :=
  List.mem_append_left _ (List.mem_map_of_mem hp)

theorem constraint_name_mem {inp : Input} {c : Constraint} (hc : c ∈ inp.constraints) : c.name ∈ inp.names :=
  List.mem_append_right _ (List.mem_map_of_mem hc)

theorem rename_rank (f : String → String) (inp : Input)
    (hinj : ∀ a ∈ inp.names, ∀ b ∈ inp.names, f a = f b → a = b) (ρ : Var → Nat) :
    Sat (rankSystem true (renameInput f inp)) ρ ↔ Sat (rankSystem true inp) ρ := by
  -- looking up a renamed name among the renamed occurrences finds what the name found
  have hlook : ∀ m ∈ inp.names, (inp.occs.map (fun p => (f p.1, p.2))).lookup (f m) = inp.occs.lookup m :=
    fun m hm => lookup_map_inj f m inp.occs (fun q hq he => hinj _ (occ_name_mem hq) _ hm he)
  rw [sat_rankSystem_iff, sat_rankSystem_iff, renameInput_occs]
  refine and_congr ?_ (and_congr ?_ ?_)
  · simp only [renameInput, List.forall_mem_map, holds_rankEqn, rename_width]
  · rw [sameName_holds, sameName_holds]
    simp only [List.nil_append, List.forall_mem_map]
    exact forall₂_congr fun p hp => by rw [hlook p.1 (occ_name_mem hp)]
  · simp only [renameInput, List.forall_mem_map]
    refine forall₂_congr fun c hc => ?_
    unfold constraintRankEqns
    simp only [hlook c.name (constraint_name_mem hc)]

theorem renameInput_axes (f : String → String) (inp : Input) (ρ : Var → Nat) :
    (renameInput f inp).axes ρ = (inp.axes ρ).map (renAxis f) := by
  simp only [inputAxes_eq, renameInput, List.flatMap_map, rename_axesOf, List.map_flatMap]

theorem axis_name_mem (inp : Input) (ρ : Var → Nat) (t : Tensor) (ht : t ∈ inp.tensors)
    (a : String × List Nat × Var) (ha : a ∈ axesOf ρ [] t.expr) : a.1 ∈ inp.names := by
  obtain ⟨st, hmem, _⟩ := inputAxes_occs (mem_inputAxes.mpr ⟨t, ht, ha⟩)
  exact occ_name_mem hmem

/-- Under the renaming the semantic solutions correspond field by field: only the constraints need
injectivity (an axis of the renamed name comes from an axis of the original name). -/
theorem rename_semSat (f : String → String) (inp : Input)
    (hinj : ∀ a ∈ inp.names, ∀ b ∈ inp.names, f a = f b → a = b) (ρ σ σ' : Var → Nat)
    (link : ∀ a ∈ inp.axes ρ, σ' (renVar f a) = σ a.2.2) :
    (SemSat (renameInput f inp) ρ σ' ↔ SemSat inp ρ σ) ∧
    semShapes (renameInput f inp) ρ σ' = semShapes inp ρ σ := by
  have hl : ∀ t ∈ inp.tensors, ∀ a ∈ axesOf ρ [] t.expr, σ' (renVar f a) = σ a.2.2 :=
    fun t ht a ha => link a (mem_inputAxes.mpr ⟨t, ht, ha⟩)
  constructor
  · simp only [semSat_iff, renameInput, List.forall_mem_map, rename_axesOf, renAxis]
    refine and_congr (forall₂_congr fun t ht => forall₂_congr fun a ha => by rw [hl t ht a ha])
      (and_congr (forall₂_congr fun t ht => by rw [rename_nodeValues ρ σ σ' f t.expr [] (hl t ht)])
      (and_congr (forall₂_congr fun t ht => by rw [rename_evalItems ρ σ σ' f t.expr [] (hl t ht)])
      (forall₂_congr fun c hc => forall₂_congr fun t ht => forall₂_congr fun a ha => ?_)))
    rw [hl t ht a ha]
    exact ⟨fun h hn => h (hn ▸ rfl), fun h hn => h (hinj _ (axis_name_mem inp ρ t ht a ha) _ (constraint_name_mem hc) hn)⟩
  · exact semShapes_map inp (renameE f) _ ρ ρ σ σ' fun t ht => rename_evalItems ρ σ σ' f t.expr [] (hl t ht)

/-! ### Transporting assignments along the renaming -/

def pushRen (f : String → String) (inp : Input) (ρ σ : Var → Nat) : Var → Nat :=
  fun y => match (inp.axes ρ).find? (fun a => renVar f a == y) with
    | some a => σ a.2.2
    | none => σ y

def pullRen (f : String → String) (inp : Input) (ρ σ' : Var → Nat) : Var → Nat :=
  fun x => match (inp.axes ρ).find? (fun a => a.2.2 == x) with
    | some a => σ' (renVar f a)
    | none => σ' x

theorem renOK_iff (f : String → String) (inp : Input) (ρ : Var → Nat) :
    renOK f inp ρ = true ↔ ∀ a ∈ inp.axes ρ, ∀ b ∈ inp.axes ρ, (a.2.2 = b.2.2 ↔ renVar f a = renVar f b) := by
  simp only [renOK, List.all_eq_true, beq_beq_iff]

theorem pushRen_link (f : String → String) (inp : Input) (ρ σ : Var → Nat) (hok : renOK f inp ρ = true) :
    ∀ a ∈ inp.axes ρ, pushRen f inp ρ σ (renVar f a) = σ a.2.2 := by
  rw [renOK_iff] at hok
  intro a ha
  obtain ⟨b, hf, hb, hp⟩ := find?_of_mem (p := fun b => renVar f b == renVar f a) ha (beq_self_eq_true _)
  simp only [pushRen, hf]
  rw [(hok b hb a ha).mpr (eq_of_beq hp)]

theorem pullRen_link (f : String → String) (inp : Input) (ρ σ' : Var → Nat) (hok : renOK f inp ρ = true) :
    ∀ a ∈ inp.axes ρ, σ' (renVar f a) = pullRen f inp ρ σ' a.2.2 := by
  rw [renOK_iff] at hok
  intro a ha
  obtain ⟨b, hf, hb, hp⟩ := find?_of_mem (p := fun b => b.2.2 == a.2.2) ha (beq_self_eq_true _)
  simp only [pullRen, hf]
  rw [(hok b hb a ha).mp (eq_of_beq hp)]

end Einx.Solve
