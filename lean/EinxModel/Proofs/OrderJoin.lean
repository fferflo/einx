import EinxModel.Order.Join
/-! C16, `_join_exprs`: the loop places every name once, whatever the enumeration; the enumerations used are admissible. -/
namespace Einx.Order.Join

theorem argmaxFirst_lt (l : List Nat) (h : l ≠ []) : ∃ i, argmaxFirst l = some i ∧ i < l.length := by
  induction l with
  | nil => exact absurd rfl h
  | cons c cs ih =>
    simp only [argmaxFirst]
    cases hc : argmaxFirst cs with
    | none => exact ⟨0, rfl, by simp⟩
    | some k =>
      have hk : k < cs.length := by
        by_cases hcs : cs = []
        · subst hcs; simp [argmaxFirst] at hc
        · obtain ⟨i, hi, hl⟩ := ih hcs
          rw [hc] at hi; cases hi; exact hl
      by_cases hgt : cs.getD k 0 > c
      · exact ⟨k + 1, by simp only [if_pos hgt], by simp only [List.length_cons]; omega⟩
      · exact ⟨0, by simp only [if_neg hgt], by simp⟩

theorem mem_firsts_flatten {axes : List (List String)} {n : String} (h : n ∈ firsts axes) : n ∈ axes.flatten := by
  simp only [firsts, List.mem_filterMap] at h
  obtain ⟨l, hl, hh⟩ := h
  simp only [List.mem_flatten]
  exact ⟨l, hl, List.mem_of_mem_head? hh⟩

theorem any_nonempty_iff (axes : List (List String)) :
    axes.any (fun l => !l.isEmpty) = true ↔ axes.flatten ≠ [] := by
  induction axes with
  | nil => simp
  | cons l ls ih =>
    cases l with
    | nil => simp [ih]
    | cons a as => simp

theorem firsts_ne_nil {axes : List (List String)} (h : axes.flatten ≠ []) : firsts axes ≠ [] := by
  -- `flatten` and `firsts` compute on a given head: an empty one is skipped by both, a non-empty one contributes to both
  induction axes with
  | nil => exact h
  | cons l ls ih =>
    cases l with
    | nil => exact ih h
    | cons a as => exact List.cons_ne_nil a (firsts ls)

theorem takeOne_mem (enum : List String → List String) (h : EnumOK enum) (axes : List (List String))
    (hne : axes.flatten ≠ []) : ∃ n, takeOne enum axes = some n ∧ n ∈ axes.flatten := by
  have hf := firsts_ne_nil hne
  obtain ⟨x, hx⟩ := List.exists_mem_of_ne_nil _ hf
  have hnames : enum (firsts axes) ≠ [] := by
    intro he
    have := ((h (firsts axes)).2 x).2 hx
    rw [he] at this; simp at this
  obtain ⟨i, hi, hlt⟩ := argmaxFirst_lt ((enum (firsts axes)).map (getCount axes)) (by simpa using hnames)
  simp only [List.length_map] at hlt
  refine ⟨(enum (firsts axes))[i], ?_, ?_⟩
  · simp only [takeOne, hi]
    exact List.getElem?_eq_getElem hlt
  · exact mem_firsts_flatten (((h (firsts axes)).2 _).1 (List.getElem_mem hlt))

theorem flatten_removeName (axes : List (List String)) (n : String) :
    (removeName axes n).flatten = axes.flatten.filter (fun x => x != n) := by
  induction axes with
  | nil => rfl
  | cons l ls ih => simp only [removeName, List.map_cons, List.flatten_cons, List.filter_append] at ih ⊢; rw [ih]

theorem total_removeName_lt (axes : List (List String)) (n : String) (h : n ∈ axes.flatten) :
    total (removeName axes n) < total axes := by
  simp only [total, flatten_removeName]
  exact List.length_filter_lt_length_iff_exists.mpr ⟨n, h, by simp⟩

/-- The loop invariant: the result is duplicate free and consists of what was already placed plus every name that is
still waiting; in particular the loop never raises and `total axes` iterations suffice. -/
theorem joinLoop_spec (enum : List String → List String) (h : EnumOK enum) :
    ∀ (fuel : Nat) (axes : List (List String)) (acc : List String), total axes ≤ fuel → acc.Nodup →
      (∀ x ∈ acc, x ∉ axes.flatten) →
      ∃ r, joinLoop enum fuel axes acc = some r ∧ r.Nodup ∧ ∀ x, x ∈ r ↔ x ∈ acc ∨ x ∈ axes.flatten := by
  intro fuel
  induction fuel with
  | zero =>
    intro axes acc hf hnd _
    have hnil : axes.flatten = [] := List.eq_nil_of_length_eq_zero (by simp only [total] at hf; omega)
    have : ¬ (axes.any (fun l => !l.isEmpty) = true) := by rw [any_nonempty_iff]; simp [hnil]
    exact ⟨acc, by simp [joinLoop, this], hnd, by simp [hnil]⟩
  | succ fuel ih =>
    intro axes acc hf hnd hdis
    by_cases hany : axes.any (fun l => !l.isEmpty) = true
    · have hne := (any_nonempty_iff axes).1 hany
      obtain ⟨n, hn, hmem⟩ := takeOne_mem enum h axes hne
      have hlt := total_removeName_lt axes n hmem
      have hnacc : n ∉ acc := fun hc => hdis n hc hmem
      obtain ⟨r, hr, hrnd, hrmem⟩ := ih (removeName axes n) (acc ++ [n]) (by omega)
        (by
          rw [List.nodup_append]
          exact ⟨hnd, by simp, fun a ha b hb hab => hnacc (List.mem_singleton.mp hb ▸ hab ▸ ha)⟩)
        (by
          intro x hx
          rw [flatten_removeName]
          simp only [List.mem_filter, bne_iff_ne, ne_eq, not_and, Decidable.not_not]
          rcases List.mem_append.mp hx with hx | hx
          · exact fun hc => absurd hc (hdis x hx)
          · exact fun _ => List.mem_singleton.mp hx)
      refine ⟨r, by simp [joinLoop, hany, hn, hr], hrnd, ?_⟩
      intro x
      rw [hrmem x, flatten_removeName]
      simp only [List.mem_append, List.mem_singleton, List.mem_filter, bne_iff_ne, ne_eq]
      constructor
      · rintro ((hx | rfl) | ⟨hx, _⟩)
        · exact Or.inl hx
        · exact Or.inr hmem
        · exact Or.inr hx
      · rintro (hx | hx)
        · exact Or.inl (Or.inl hx)
        · by_cases hxn : x = n
          · exact Or.inl (Or.inr hxn)
          · exact Or.inr ⟨hx, hxn⟩
    · have hnil : axes.flatten = [] := by
        by_cases hc : axes.flatten = []
        · exact hc
        · exact absurd ((any_nonempty_iff axes).2 hc) hany
      exact ⟨acc, by simp [joinLoop, hany], hnd, by simp [hnil]⟩

/-- `joined_axisnames` for an admissible enumeration: defined, duplicate free, and exactly the names of the axes with
`value != 1`. -/
theorem joinNames_spec (enum : List String → List String) (h : EnumOK enum) (exprs : List (List Ax)) :
    ∃ r, joinNames enum exprs = some r ∧ r.Nodup ∧ ∀ x, x ∈ r ↔ x ∈ (nonUnit exprs).flatten := by
  obtain ⟨r, hr, hnd, hm⟩ := joinLoop_spec enum h (total (nonUnit exprs)) (nonUnit exprs) [] (Nat.le_refl _)
    List.nodup_nil (by simp)
  exact ⟨r, hr, hnd, by simpa using hm⟩

theorem mem_nonUnit_flatten {exprs : List (List Ax)} {x : String} (h : x ∈ (nonUnit exprs).flatten) :
    ∃ a ∈ exprs.flatten, a.1 = x ∧ a.2 ≠ 1 := by
  simp only [nonUnit, List.mem_flatten, List.mem_map] at h
  obtain ⟨l, ⟨e, he, rfl⟩, hx⟩ := h
  simp only [List.mem_map, List.mem_filter, bne_iff_ne, ne_eq] at hx
  obtain ⟨a, ⟨ha, hv⟩, rfl⟩ := hx
  exact ⟨a, List.mem_flatten.2 ⟨e, he, ha⟩, rfl, hv⟩

theorem valueOf_isSome {exprs : List (List Ax)} {x : String} (h : ∃ a ∈ exprs.flatten, a.1 = x) :
    ∃ v, valueOf exprs x = some v := by
  obtain ⟨a, ha, hx⟩ := h
  cases hf : exprs.flatten.reverse.find? (fun a => a.1 == x) with
  | some b => exact ⟨b.2, by simp [valueOf, hf]⟩
  | none =>
    rw [List.find?_eq_none] at hf
    exact absurd (by simp [hx]) (hf a (List.mem_reverse.2 ha))

theorem allSome_map {α β : Type} (f : α → Option β) (g : α → β) (l : List α) (h : ∀ x ∈ l, f x = some (g x)) :
    allSome (l.map f) = some (l.map g) := by
  induction l with
  | nil => rfl
  | cons a as ih =>
    simp [allSome, h a (by simp), ih fun x hx => h x (by simp [hx])]

theorem nodup_eraseDups : ∀ l : List String, l.eraseDups.Nodup
  | [] => by simp
  | a :: as => by
    rw [List.eraseDups_cons, List.nodup_cons]
    exact ⟨by rw [List.mem_eraseDups]; simp, nodup_eraseDups _⟩
termination_by l => l.length
decreasing_by exact Nat.lt_succ_of_le (List.length_filter_le _ _)

theorem enumFirst_ok : EnumOK enumFirst :=
  fun l => ⟨nodup_eraseDups l, fun _ => List.mem_eraseDups⟩

theorem enumLast_ok : EnumOK enumLast :=
  fun l => ⟨((List.reverse_perm _).nodup_iff).2 (nodup_eraseDups l),
    fun x => by simp [enumLast, List.mem_eraseDups]⟩

/-- The enumeration the driver uses to replay an observed set order is admissible, whatever priority list it is given. -/
theorem enumBy_ok (prio : List String) : EnumOK (enumBy prio) := by
  intro l
  have hd := nodup_eraseDups l
  have hp := nodup_eraseDups prio
  constructor
  · simp only [enumBy]
    rw [List.nodup_append]
    refine ⟨hp.filter _, hd.filter _, ?_⟩
    intro a ha b hb hab
    subst hab
    simp only [List.mem_filter, List.mem_eraseDups, List.contains_eq_mem, decide_eq_true_eq, Bool.not_eq_eq_eq_not,
      Bool.not_true, decide_eq_false_iff_not] at ha hb
    exact hb.2 ha.1
  · intro x
    simp only [enumBy, List.mem_append, List.mem_filter, List.mem_eraseDups, List.contains_eq_mem, decide_eq_true_eq,
      Bool.not_eq_eq_eq_not, Bool.not_true, decide_eq_false_iff_not]
    constructor
    · rintro (⟨_, h⟩ | ⟨h, _⟩) <;> exact h
    · intro h
      by_cases hx : x ∈ prio
      · exact Or.inl ⟨hx, h⟩
      · exact Or.inr ⟨h, hx⟩

end Einx.Order.Join
