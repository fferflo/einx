import EinxModel.Denote.Fun3
import EinxModel.Proofs.DenoteAssign
import EinxModel.Proofs.DenoteViews
import EinxModel.Proofs.DenotePos
import EinxModel.Proofs.Update
import EinxModel.Proofs.IR
/-! Views (C08, equivariance of the loop-notation denotation): the position a view addresses under an assignment, when it is
defined, in range and determines the assignment; regrouping and permutation of root dimensions against numpy's reshape and
transpose plans; the iteration space; scatter/gather; what an operand reads under an assignment built for its leaves. -/
namespace Einx.Denote
open Einx Einx.IR
open Einx.Update (mapOpt mapOpt_eq_some_iff mapOpt_length mapOpt_getElem? mapOpt_congr mapM_eq_mapOpt mapOpt_append mapOpt_map mapOpt_optmap mapOpt_some_of_forall)

theorem position_append (v1 v2 : List Dim) (σ : Assign) :
    position (v1 ++ v2) σ = match position v1 σ, position v2 σ with
      | some a, some b => some (a ++ b)
      | _, _ => none := by
  simp only [position_eq, mapOpt_append]
  cases mapOpt (Dim.pos σ) v1 <;> cases mapOpt (Dim.pos σ) v2 <;> rfl

theorem position_length {v : List Dim} {σ : Assign} {p : List Nat} (h : position v σ = some p) :
    p.length = v.length := by
  rw [position_eq] at h; exact mapOpt_length h

theorem sizeProd_eq (ds : List Dim) : Dim.sizeProd ds = prod (ds.map Dim.size) := by
  induction ds with
  | nil => simp [Dim.sizeProd, prod]
  | cons d ds ih => simp [Dim.sizeProd, prod, ih]

theorem size_flat (ds : List Dim) : (Dim.flat ds).size = prod (viewShape ds) := by
  simp [Dim.size, sizeProd_eq, viewShape]

theorem posFlat_eq (σ : Assign) (ds : List Dim) (acc : Nat) :
    Dim.posFlat σ ds acc =
      (mapOpt (Dim.pos σ) ds).map (fun ps => acc * prod (ds.map Dim.size) + ravel (ds.map Dim.size) ps) := by
  induction ds generalizing acc with
  | nil => simp [Dim.posFlat, mapOpt, prod, ravel]
  | cons d ds ih =>
    simp only [Dim.posFlat, mapOpt]
    cases hd : d.pos σ with
    | none => simp
    | some p =>
      simp only [ih]
      cases mapOpt (Dim.pos σ) ds with
      | none => simp
      | some ps =>
        simp only [Option.map_some, List.map_cons, prod, ravel, Option.some.injEq]
        rw [Nat.add_mul, Nat.mul_assoc, Nat.add_assoc]

theorem pos_flat (σ : Assign) (ds : List Dim) :
    (Dim.flat ds).pos σ = (position ds σ).map (ravel (viewShape ds)) := by
  simp only [Dim.pos, posFlat_eq, position_eq, viewShape]
  cases mapOpt (Dim.pos σ) ds <;> simp

theorem pos_congr {σ τ : Assign} : ∀ d : Dim, AgreeOn σ τ d.leaves → d.pos σ = d.pos τ :=
  fun d h => by rw [← pos_transport (ρ := id) d h, rename_id]

theorem position_congr {σ τ : Assign} (v : List Dim) (h : AgreeOn σ τ (Dim.leavesL v)) :
    position v σ = position v τ := by
  rw [← position_transport (ρ := id) v h, renameL_id]

theorem position_sameGet {σ τ : Assign} (h : SameGet σ τ) (v : List Dim) : position v σ = position v τ :=
  position_congr v (h.agreeOn _)

theorem cellAt_congr {σ τ : Assign} (v : List Dim) (s : List Nat) (i : Nat) (h : AgreeOn σ τ (Dim.leavesL v)) :
    cellAt v s i σ = cellAt v s i τ := by
  rw [← cellAt_transport (ρ := id) v s i h, renameL_id]

theorem cellAt_sameGet {σ τ : Assign} (h : SameGet σ τ) (v : List Dim) (s : List Nat) (i : Nat) :
    cellAt v s i σ = cellAt v s i τ := cellAt_congr v s i (h.agreeOn _)

/-! Three conditions on a view: `Dim.concatFreeL` (neither `concat` nor `off`), `Dim.viewOKL` (no `concat`, every `off`
block fits), `Dim.nconcatL v = 0` (no `concat`; what every member of `views e` satisfies).  The first implies the other two;
the third implies the second for well-formed dimensions (`viewOKL_of_wf`). -/

theorem viewOK_of_concatFree (d : Dim) : d.concatFree = true → d.viewOK = true := by
  induction d using Dim.induct with
  | axis | nil => exact fun _ => rfl
  | concat | off => exact fun h => nomatch h
  | cons d ds ihd ihds =>
    simp only [Dim.concatFree, Dim.concatFreeL, Dim.viewOK, Dim.viewOKL, Bool.and_eq_true] at ihds ⊢
    exact fun h => ⟨ihd h.1, ihds h.2⟩

theorem viewOKL_of_concatFreeL (ds : List Dim) : Dim.concatFreeL ds = true → Dim.viewOKL ds = true :=
  viewOK_of_concatFree (.flat ds)

theorem nconcat_of_concatFree : ∀ d : Dim, d.concatFree = true → d.nconcat = 0 := by
  intro d
  induction d using Dim.induct with
  | axis | nil => exact fun _ => rfl
  | concat | off => exact fun h => nomatch h
  | cons d ds ihd ihds =>
    simp only [Dim.concatFree, Dim.concatFreeL, Bool.and_eq_true, Dim.nconcat, Dim.nconcatL] at ihds ⊢
    exact fun h => by rw [ihd h.1, ihds h.2]

theorem nconcatL_of_concatFree (ds : List Dim) : Dim.concatFreeL ds = true → Dim.nconcatL ds = 0 :=
  nconcat_of_concatFree (.flat ds)

mutual
theorem pos_lt_view {σ : Assign} : ∀ d : Dim, d.viewOK = true → BoundedOn σ d.leaves →
    ∃ p, d.pos σ = some p ∧ p < d.size
  | .axis l, _, h => by
    obtain ⟨x, hx, hlt⟩ := h l (List.mem_singleton_self l)
    exact ⟨x, hx, hlt⟩
  | .flat ds, hc, h => by
    obtain ⟨ps, hps, hv⟩ := mapOpt_pos_valid_view ds hc h
    refine ⟨ravel (viewShape ds) ps, ?_, ?_⟩
    · rw [pos_flat, position_eq, hps]; rfl
    · rw [size_flat]; exact ravel_lt hv
  | .concat _, hc, _ => by simp [Dim.viewOK] at hc
  | .off o d t, hc, h => by
    simp only [Dim.viewOK, Bool.and_eq_true, decide_eq_true_eq] at hc
    obtain ⟨p, hp, hlt⟩ := pos_lt_view d hc.1 h
    exact ⟨o + p, by simp [Dim.pos, hp], by simp only [Dim.size]; omega⟩
theorem mapOpt_pos_valid_view {σ : Assign} : ∀ ds : List Dim, Dim.viewOKL ds = true → BoundedOn σ (Dim.leavesL ds) →
    ∃ ps, mapOpt (Dim.pos σ) ds = some ps ∧ Valid (viewShape ds) ps
  | [], _, _ => ⟨[], rfl, Valid.nil⟩
  | d :: ds, hc, h => by
    simp only [Dim.viewOKL, Bool.and_eq_true] at hc
    simp only [Dim.leavesL] at h
    obtain ⟨p, hp, hlt⟩ := pos_lt_view d hc.1 h.append.1
    obtain ⟨ps, hps, hv⟩ := mapOpt_pos_valid_view ds hc.2 h.append.2
    exact ⟨p :: ps, by simp [mapOpt, hp, hps], Valid.cons hlt hv⟩
end

theorem position_valid_view {σ : Assign} (v : List Dim) (hc : Dim.viewOKL v = true) (h : BoundedOn σ (Dim.leavesL v)) :
    ∃ p, position v σ = some p ∧ Valid (viewShape v) p := by
  rw [position_eq]; exact mapOpt_pos_valid_view v hc h

theorem position_valid {σ : Assign} (v : List Dim) (hc : Dim.concatFreeL v = true) (h : BoundedOn σ (Dim.leavesL v)) :
    ∃ p, position v σ = some p ∧ Valid (viewShape v) p :=
  position_valid_view v (viewOKL_of_concatFreeL v hc) h

theorem cellAt_in_range {v : List Dim} {σ : Assign} (i : Nat) (hc : Dim.viewOKL v = true)
    (hb : BoundedOn σ (Dim.leavesL v)) : ∃ k, cellAt v (viewShape v) i σ = some (.src i k) ∧ k < prod (viewShape v) := by
  obtain ⟨p, hp, hv⟩ := position_valid_view v hc hb
  exact ⟨ravel (viewShape v) p, by simp [cellAt, flatPos, hp], ravel_lt hv⟩

theorem pos_inj {σ τ : Assign} :
    (∀ d : Dim, d.concatFree = true → BoundedOn σ d.leaves → BoundedOn τ d.leaves →
      d.pos σ = d.pos τ → AgreeOn σ τ d.leaves) ∧
    ∀ ds : List Dim, Dim.concatFreeL ds = true → BoundedOn σ (Dim.leavesL ds) → BoundedOn τ (Dim.leavesL ds) →
      mapOpt (Dim.pos σ) ds = mapOpt (Dim.pos τ) ds → AgreeOn σ τ (Dim.leavesL ds) := by
  apply Dim.ind_both
  case axis =>
    intro l _ _ _ he l' hl'
    simp only [Dim.leaves, List.mem_singleton] at hl'
    subst hl'
    simpa [Dim.pos] using he
  case flat =>
    intro ds ih hc hs ht he
    obtain ⟨ps, hps, hvs⟩ := mapOpt_pos_valid_view ds (viewOKL_of_concatFreeL ds hc) hs
    obtain ⟨qs, hqs, hvt⟩ := mapOpt_pos_valid_view ds (viewOKL_of_concatFreeL ds hc) ht
    rw [pos_flat, pos_flat, position_eq, position_eq, hps, hqs] at he
    simp only [Option.map_some, Option.some.injEq] at he
    have : ps = qs := by
      have := congrArg (unravel (viewShape ds)) he
      rwa [unravel_ravel hvs, unravel_ravel hvt] at this
    exact ih hc hs ht (by rw [hps, hqs, this])
  case concat => exact fun _ _ hc => nomatch hc
  case off => exact fun _ _ _ _ hc => nomatch hc
  case nil => exact fun _ _ _ _ l hl => by simp [Dim.leavesL] at hl
  case cons =>
    intro d ds ihd ihds hc hs ht he
    simp only [Dim.concatFreeL, Bool.and_eq_true] at hc
    simp only [Dim.leavesL] at hs ht ⊢
    obtain ⟨p, hp, _⟩ := pos_lt_view d (viewOK_of_concatFree d hc.1) hs.append.1
    obtain ⟨q, hq, _⟩ := pos_lt_view d (viewOK_of_concatFree d hc.1) ht.append.1
    obtain ⟨ps, hps, _⟩ := mapOpt_pos_valid_view ds (viewOKL_of_concatFreeL ds hc.2) hs.append.2
    obtain ⟨qs, hqs, _⟩ := mapOpt_pos_valid_view ds (viewOKL_of_concatFreeL ds hc.2) ht.append.2
    simp only [mapOpt, hp, hq, hps, hqs, Option.some.injEq, List.cons.injEq] at he
    have h1 := ihd hc.1 hs.append.1 ht.append.1 (by rw [hp, hq, he.1])
    have h2 := ihds hc.2 hs.append.2 ht.append.2 (by rw [hps, hqs, he.2])
    intro l hl
    rcases List.mem_append.mp hl with hl | hl
    · exact h1 l hl
    · exact h2 l hl

theorem flatPos_inj {σ τ : Assign} (v : List Dim) (hc : Dim.concatFreeL v = true)
    (hs : BoundedOn σ (Dim.leavesL v)) (ht : BoundedOn τ (Dim.leavesL v))
    (he : flatPos v (viewShape v) σ = flatPos v (viewShape v) τ) : AgreeOn σ τ (Dim.leavesL v) :=
  pos_inj.1 (.flat v) hc hs ht ((pos_flat σ v).trans (he.trans (pos_flat τ v).symm))

/-! ### regrouping: parentheses are a reshape -/

/-- Flat-index form of "grouping adjacent dimensions is a reshape". -/
theorem ravel_regroup (sp pp sm pm sq pq : List Nat) (hp : pp.length = sp.length) (hm : pm.length = sm.length) :
    ravel (sp ++ [prod sm] ++ sq) (pp ++ [ravel sm pm] ++ pq) = ravel (sp ++ sm ++ sq) (pp ++ pm ++ pq) := by
  have h1 : ravel [prod sm] [ravel sm pm] = ravel sm pm := by simp only [ravel, Nat.mul_one, prod, Nat.add_zero]
  have h2 : prod [prod sm] = prod sm := by simp only [prod, Nat.mul_one]
  rw [List.append_assoc, List.append_assoc, List.append_assoc, List.append_assoc,
    ravel_append_len sp pp _ _ hp, ravel_append_len sp pp _ _ hp, ravel_append_len sm pm _ _ hm,
    ravel_append_len [prod sm] [ravel sm pm] _ _ rfl, prod_append, prod_append, h1, h2]

theorem viewShape_append (v1 v2 : List Dim) : viewShape (v1 ++ v2) = viewShape v1 ++ viewShape v2 := by
  simp [viewShape]

theorem position_flat_singleton (mid : List Dim) (σ : Assign) :
    position [Dim.flat mid] σ = (position mid σ).map (fun pm => [ravel (viewShape mid) pm]) := by
  rw [position_cons, position_nil, pos_flat]
  cases position mid σ <;> rfl

theorem viewShape_position_length {v : List Dim} {σ : Assign} {p : List Nat} (h : position v σ = some p) :
    p.length = (viewShape v).length := by
  simp [viewShape, position_length h]

theorem flatPos_regroup (pre mid post : List Dim) (σ : Assign) :
    flatPos (pre ++ [Dim.flat mid] ++ post) (viewShape (pre ++ [Dim.flat mid] ++ post)) σ
      = flatPos (pre ++ mid ++ post) (viewShape (pre ++ mid ++ post)) σ := by
  simp only [flatPos, position_append, viewShape_append, position_flat_singleton]
  cases hp : position pre σ with
  | none => rfl
  | some pp =>
    cases hm : position mid σ with
    | none => rfl
    | some pm =>
      cases hq : position post σ with
      | none => rfl
      | some pq =>
        simp only [Option.map_some]
        have : viewShape [Dim.flat mid] = [prod (viewShape mid)] := by simp [viewShape, size_flat]
        rw [this, ravel_regroup _ _ _ _ _ _ (viewShape_position_length hp) (viewShape_position_length hm)]

theorem leavesL_append (a b : List Dim) : Dim.leavesL (a ++ b) = Dim.leavesL a ++ Dim.leavesL b := by
  induction a with
  | nil => simp [Dim.leavesL]
  | cons d a ih => simp [Dim.leavesL, ih]

theorem leavesL_regroup (pre mid post : List Dim) :
    Dim.leavesL (pre ++ [Dim.flat mid] ++ post) = Dim.leavesL (pre ++ mid ++ post) := by
  simp [leavesL_append, Dim.leavesL, Dim.leaves]

theorem prod_viewShape_regroup (pre mid post : List Dim) :
    prod (viewShape (pre ++ [Dim.flat mid] ++ post)) = prod (viewShape (pre ++ mid ++ post)) := by
  simp [prod_append, viewShape, size_flat, prod]

theorem cellAt_regroup (pre mid post : List Dim) (i : Nat) (σ : Assign) :
    cellAt (pre ++ [Dim.flat mid] ++ post) (viewShape (pre ++ [Dim.flat mid] ++ post)) i σ
      = cellAt (pre ++ mid ++ post) (viewShape (pre ++ mid ++ post)) i σ := by
  simp only [cellAt, flatPos_regroup]

/-! ### permutation of root dimensions and numpy's transpose -/

theorem mapOpt_permute {α β : Type} (f : α → Option β) (l : List α) (r : List β) (h : mapOpt f l = some r) :
    ∀ (perm : List Nat) (l' : List α), permuteL perm l = some l' → mapOpt f l' = permuteL perm r := by
  intro perm
  induction perm with
  | nil => intro l' hl; simp only [permuteL, mapOpt, Option.some.injEq] at hl; subst hl; rfl
  | cons a perm ih =>
    intro l' hl
    simp only [permuteL, mapOpt] at hl ⊢
    cases ha : l[a]? with
    | none => simp [ha] at hl
    | some y =>
      cases hr : mapOpt (fun a => l[a]?) perm with
      | none => simp [ha, hr] at hl
      | some ys =>
        simp only [ha, hr, Option.some.injEq] at hl
        subst hl
        have h1 : f y = r[a]? := mapOpt_getElem? h a y ha
        have h2 := ih ys hr
        simp only [permuteL] at h2
        simp only [mapOpt, h1, h2]

theorem permuteL_eq_map {α : Type} (d : α) (perm : List Nat) (l : List α) (h : ∀ a ∈ perm, a < l.length) :
    permuteL perm l = some (perm.map (fun a => l.getD a d)) := by
  unfold permuteL
  rw [mapOpt_eq_some_iff]
  simp only [List.map_map]
  apply List.map_congr_left
  intro a ha
  have := h a ha
  simp [List.getD, List.getElem?_eq_getElem this]

theorem position_permute {v v' : List Dim} {σ : Assign} {p perm : List Nat} (hp : position v σ = some p)
    (hv' : permuteL perm v = some v') : position v' σ = permuteL perm p := by
  rw [position_eq] at hp ⊢
  exact mapOpt_permute _ _ _ hp perm v' hv'

theorem viewShape_permute {v v' : List Dim} {perm : List Nat} (hv' : permuteL perm v = some v') :
    permuteL perm (viewShape v) = some (viewShape v') := by
  have h : mapOpt (fun d => some (Dim.size d)) v = some (viewShape v) := by
    rw [mapOpt_eq_some_iff]; simp [viewShape]
  have h' : mapOpt (fun d => some (Dim.size d)) v' = some (viewShape v') := by
    rw [mapOpt_eq_some_iff]; simp [viewShape]
  rw [← mapOpt_permute _ _ _ h perm v' hv', h']

theorem mem_permuteL {α : Type} {perm : List Nat} {l l' : List α} (hperm : isPermOf perm l.length = true)
    (h : permuteL perm l = some l') (a : α) : a ∈ l' ↔ a ∈ l := by
  obtain ⟨_, _, hall, hlt⟩ := isPermOf_spec hperm
  unfold permuteL at h
  have hm := (mapOpt_eq_some_iff _ _ _).mp h
  have e : a ∈ l' ↔ some a ∈ l'.map some := by simp
  rw [e, ← hm]
  simp only [List.mem_map]
  constructor
  · rintro ⟨i, _, hi⟩; exact List.mem_of_getElem? hi
  · intro ha
    obtain ⟨i, hi, rfl⟩ := List.getElem_of_mem ha
    exact ⟨i, hall i hi, by simp [hi]⟩

theorem mem_leavesL (v : List Dim) (l : Leaf) : l ∈ Dim.leavesL v ↔ ∃ d ∈ v, l ∈ d.leaves := by
  induction v with
  | nil => simp [Dim.leavesL]
  | cons d v ih => simp [Dim.leavesL, ih]

theorem leavesL_permute {perm : List Nat} {v v' : List Dim} (hperm : isPermOf perm v.length = true)
    (h : permuteL perm v = some v') (l : Leaf) : l ∈ Dim.leavesL v ↔ l ∈ Dim.leavesL v' := by
  rw [mem_leavesL, mem_leavesL]
  constructor
  · rintro ⟨d, hd, hl⟩; exact ⟨d, (mem_permuteL hperm h d).mpr hd, hl⟩
  · rintro ⟨d, hd, hl⟩; exact ⟨d, (mem_permuteL hperm h d).mp hd, hl⟩

/-! ### the iteration space -/

theorem assignments_eq (axes : List (String × Nat)) :
    assignments axes = (Einx.Update.assignments (axes.map (·.2))).map (fun v => (axes.map (·.1)).zip v) := by
  induction axes with
  | nil => rfl
  | cons a axes ih =>
    obtain ⟨n, s⟩ := a
    simp only [assignments, List.map_cons, Einx.Update.assignments, ih, List.map_flatMap, List.map_map]
    congr 1

def axesStep (acc : List (String × Nat)) (l : Leaf) : List (String × Nat) :=
  if acc.any (·.1 == l.name) then acc else acc ++ [(l.name, l.size)]

theorem axesOf_eq (ls : List Leaf) : axesOf ls = ls.foldl axesStep [] := rfl

theorem axesFold_mem (ls : List Leaf) : ∀ acc : List (String × Nat),
    (∀ q ∈ acc, q ∈ ls.foldl axesStep acc) ∧
    (∀ l ∈ ls, ∃ s, (l.name, s) ∈ ls.foldl axesStep acc) ∧
    (∀ q ∈ ls.foldl axesStep acc, q ∈ acc ∨ ∃ l ∈ ls, l.name = q.1 ∧ l.size = q.2) := by
  induction ls with
  | nil => intro acc; exact ⟨fun q h => h, fun l h => by simp at h, fun q h => Or.inl h⟩
  | cons l ls ih =>
    intro acc
    obtain ⟨i1, i2, i3⟩ := ih (axesStep acc l)
    have hsub : ∀ q ∈ acc, q ∈ axesStep acc l := by
      intro q hq; unfold axesStep; split
      · exact hq
      · exact List.mem_append_left _ hq
    have hl : ∃ s, (l.name, s) ∈ axesStep acc l := by
      unfold axesStep; split
      · rename_i h
        simp only [List.any_eq_true, beq_iff_eq] at h
        obtain ⟨q, hq, hn⟩ := h
        exact ⟨q.2, by rw [← hn]; exact hq⟩
      · exact ⟨l.size, by simp⟩
    refine ⟨fun q hq => i1 q (hsub q hq), ?_, ?_⟩
    · intro l' hl'
      rcases List.mem_cons.mp hl' with rfl | h
      · obtain ⟨s, hs⟩ := hl; exact ⟨s, i1 _ hs⟩
      · exact i2 l' h
    · intro q hq
      rcases i3 q hq with h | ⟨l', hl', hn, hs⟩
      · unfold axesStep at h; split at h
        · exact Or.inl h
        · rcases List.mem_append.mp h with h | h
          · exact Or.inl h
          · simp only [List.mem_singleton] at h
            exact Or.inr ⟨l, List.mem_cons_self .., by rw [h], by rw [h]⟩
      · exact Or.inr ⟨l', List.mem_cons_of_mem _ hl', hn, hs⟩

theorem axesOf_leaf {ls : List Leaf} {q : String × Nat} (h : q ∈ axesOf ls) : ∃ l ∈ ls, l.name = q.1 ∧ l.size = q.2 :=
  ((axesFold_mem ls []).2.2 q h).resolve_left List.not_mem_nil

theorem axesOf_name {ls : List Leaf} {l : Leaf} (h : l ∈ ls) : ∃ s, (l.name, s) ∈ axesOf ls :=
  (axesFold_mem ls []).2.1 l h

theorem mem_axesOf {ls : List Leaf} (hc : Consistent ls) (q : String × Nat) :
    q ∈ axesOf ls ↔ ∃ l ∈ ls, l.name = q.1 ∧ l.size = q.2 := by
  refine ⟨axesOf_leaf, ?_⟩
  rintro ⟨l, hl, hn, hs⟩
  obtain ⟨s, hs'⟩ := axesOf_name hl
  obtain ⟨l', hl', hn', hsz'⟩ := axesOf_leaf hs'
  have : l'.size = l.size := hc l' hl' l hl hn'
  have e : q = (l.name, s) := by
    simp only at hsz'
    exact Prod.ext hn.symm (by simp only; rw [← hs, ← this, hsz'])
  rw [e]; exact hs'

theorem axesFold_nodup (ls : List Leaf) : ∀ acc : List (String × Nat), (acc.map (·.1)).Nodup →
    ((ls.foldl axesStep acc).map (·.1)).Nodup := by
  induction ls with
  | nil => intro acc h; exact h
  | cons l ls ih =>
    intro acc h
    apply ih
    unfold axesStep
    split
    · exact h
    · rename_i hany
      rw [List.map_append, List.nodup_append]
      refine ⟨h, by simp, ?_⟩
      intro a ha b hb
      simp only [List.map_cons, List.map_nil, List.mem_singleton] at hb
      subst hb
      rintro rfl
      apply hany
      obtain ⟨q, hq, hqn⟩ := List.mem_map.mp ha
      simp only [List.any_eq_true, beq_iff_eq]
      exact ⟨q, hq, hqn⟩

theorem axesOf_nodup (ls : List Leaf) : ((axesOf ls).map (·.1)).Nodup := by
  rw [axesOf_eq]; exact axesFold_nodup ls [] (by simp)

theorem axesFold_of_nodup : ∀ (ls : List Leaf) (acc : List (String × Nat)),
    (∀ l ∈ ls, ∀ q ∈ acc, q.1 ≠ l.name) → (ls.map (·.name)).Nodup →
    ls.foldl axesStep acc = acc ++ ls.map (fun l => (l.name, l.size))
  | [], acc, _, _ => by simp
  | l :: ls, acc, hd, hn => by
    rw [List.map_cons, List.nodup_cons] at hn
    have hany : acc.any (fun q => q.1 == l.name) = false := by
      rw [Bool.eq_false_iff]
      intro h
      obtain ⟨q, hq, he⟩ := List.any_eq_true.mp h
      exact hd l (List.mem_cons_self ..) q hq (by simpa using he)
    simp only [List.foldl_cons, axesStep, hany, Bool.false_eq_true, if_false]
    rw [axesFold_of_nodup ls _ ?_ hn.2]
    · simp
    · intro b hb q hq
      rcases List.mem_append.mp hq with h | h
      · exact hd b (List.mem_cons_of_mem _ hb) q h
      · rw [List.mem_singleton.mp h]
        exact fun e => hn.1 (List.mem_map.mpr ⟨b, hb, e.symm⟩)

theorem axesOf_of_nodup {ls : List Leaf} (h : (ls.map (·.name)).Nodup) : axesOf ls = ls.map (fun l => (l.name, l.size)) := by
  rw [axesOf_eq, axesFold_of_nodup ls [] (fun _ _ _ hq => nomatch hq) h, List.nil_append]

theorem assignments_get_isSome : ∀ (axes : List (String × Nat)) (σ : Assign), σ ∈ assignments axes →
    ∀ q ∈ axes, ∃ x, Assign.get σ q.1 = some x := by
  intro axes
  induction axes with
  | nil => intro σ _ q hq; simp at hq
  | cons a rest ih =>
    obtain ⟨n0, s0⟩ := a
    intro σ hσ q hq
    simp only [assignments, List.mem_flatMap, List.mem_range, List.mem_map] at hσ
    obtain ⟨i, _, σ', hσ', rfl⟩ := hσ
    rw [get_cons]
    by_cases hn : n0 = q.1
    · exact ⟨i, by simp [hn]⟩
    · have hq' : q ∈ rest := by
        rcases List.mem_cons.mp hq with h | h
        · exact absurd (by rw [h]) hn
        · exact h
      obtain ⟨x, hx⟩ := ih σ' hσ' q hq'
      exact ⟨x, by simp [hn, hx]⟩

theorem assignments_get_some : ∀ (axes : List (String × Nat)) (σ : Assign), σ ∈ assignments axes →
    ∀ n y, Assign.get σ n = some y → ∃ s, (n, s) ∈ axes ∧ y < s := by
  intro axes
  induction axes with
  | nil =>
    intro σ hσ n y h
    simp only [assignments, List.mem_singleton] at hσ
    subst hσ; simp [get_nil] at h
  | cons a rest ih =>
    obtain ⟨n0, s0⟩ := a
    intro σ hσ n y h
    simp only [assignments, List.mem_flatMap, List.mem_range, List.mem_map] at hσ
    obtain ⟨i, hi, σ', hσ', rfl⟩ := hσ
    rw [get_cons] at h
    by_cases hn : n0 = n
    · simp only [hn, if_true, Option.some.injEq] at h
      subst h
      exact ⟨s0, by rw [← hn]; exact List.mem_cons_self .., hi⟩
    · simp only [hn, if_false] at h
      obtain ⟨s, hs, hlt⟩ := ih σ' hσ' n y h
      exact ⟨s, List.mem_cons_of_mem _ hs, hlt⟩

theorem assignments_inRange {all : List Leaf} {axes : List (String × Nat)} {τ : Assign} (hc : Consistent all)
    (hτ : τ ∈ assignments axes) (haxes : ∀ q ∈ axes, ∃ l ∈ all, l.name = q.1 ∧ l.size = q.2) : InRangeOn τ all := by
  intro l hl x hx
  obtain ⟨s, hs, hlt⟩ := assignments_get_some _ τ hτ l.name x hx
  obtain ⟨l', hl', hn, hsz⟩ := haxes _ hs
  have : l'.size = l.size := hc l' hl' l hl hn
  simp only at hsz
  omega

theorem outAssignments_inRange {w : List Dim} {ls : List Leaf} (hcons : Consistent (ls ++ Dim.leavesL w))
    {σ : Assign} (hσ : σ ∈ outAssignments w) : InRangeOn σ ls :=
  (assignments_inRange hcons hσ fun _ hq =>
    (axesOf_leaf hq).imp fun _ h => ⟨List.mem_append_right _ h.1, h.2⟩).mono fun _ => List.mem_append_left _

theorem outAssignments_bounded {vo : List Dim} (hcons : Consistent (Dim.leavesL vo)) {σ : Assign}
    (hσ : σ ∈ outAssignments vo) : BoundedOn σ (Dim.leavesL vo) := by
  intro l hl
  obtain ⟨s, hs⟩ := axesOf_name hl
  obtain ⟨x, hx⟩ := assignments_get_isSome _ σ hσ _ hs
  exact ⟨x, hx, outAssignments_inRange (hcons.mono fun l hl => (List.mem_append.mp hl).elim id id) hσ l hl x hx⟩

theorem outAssignments_dom {w : List Dim} {σ : Assign} (hσ : σ ∈ outAssignments w) (n : String) :
    Assign.get σ n ≠ none ↔ ∃ l ∈ Dim.leavesL w, l.name = n := by
  constructor
  · intro h
    cases hg : Assign.get σ n with
    | none => exact absurd hg h
    | some y =>
      obtain ⟨s, hs, _⟩ := assignments_get_some _ σ hσ n y hg
      obtain ⟨l, hl, hn, _⟩ := axesOf_leaf hs
      exact ⟨l, hl, hn⟩
  · rintro ⟨l, hl, rfl⟩
    obtain ⟨s, hs⟩ := axesOf_name hl
    obtain ⟨x, hx⟩ := assignments_get_isSome _ σ hσ _ hs
    rw [hx]; simp

theorem sameGet_of_agreeOn {w w' : List Dim} {σ τ : Assign} (hm : ∀ l, l ∈ Dim.leavesL w ↔ l ∈ Dim.leavesL w')
    (hσ : σ ∈ outAssignments w) (hτ : τ ∈ outAssignments w') (ha : AgreeOn σ τ (Dim.leavesL w)) : SameGet σ τ := by
  intro n
  by_cases h : ∃ l ∈ Dim.leavesL w, l.name = n
  · obtain ⟨l, hl, rfl⟩ := h; exact ha l hl
  · have h' : ¬ ∃ l ∈ Dim.leavesL w', l.name = n := by
      rintro ⟨l, hl, hn⟩; exact h ⟨l, (hm l).mpr hl, hn⟩
    rw [Decidable.of_not_not (mt (outAssignments_dom hσ n).mp h), Decidable.of_not_not (mt (outAssignments_dom hτ n).mp h')]

/-! ### scatter and gather -/

theorem scatterFold_length (entries : List (Nat × Cell)) : ∀ init : List (Option Cell),
    (entries.foldl (fun acc e => acc.set e.1 (some e.2)) init).length = init.length := by
  induction entries with
  | nil => intro init; rfl
  | cons e es ih => intro init; simp only [List.foldl_cons, ih, List.length_set]

theorem scatter_length (n : Nat) (entries : List (Nat × Cell)) : (scatter n entries).length = n := by
  rw [scatter, scatterFold_length, List.length_replicate]

theorem foldl_last {β : Type} (l : List β) (o : Option β) : l.foldl (fun _ c => some c) o = l.getLast?.or o := by
  induction l generalizing o with
  | nil => simp
  | cons x xs ih => rw [List.foldl_cons, ih, List.getLast?_cons]; cases xs.getLast? <;> rfl

theorem scatter_getElem? (n : Nat) (entries : List (Nat × Cell)) (k : Nat) (hk : k < n) :
    (scatter n entries)[k]? = some (writesTo k entries).getLast? := by
  have : (fun (acc : List (Option Cell)) (e : Nat × Cell) => acc.set e.1 (some e.2))
      = fun acc e => acc.modify e.1 (fun o => (fun _ c => some c) o e.2) := by
    funext acc e; exact set_getD_eq_modify acc e.1 (fun _ => some e.2) none
  rw [scatter, this, getElem?_foldl_modify, List.getElem?_replicate, if_pos hk, Option.map_some, foldl_last,
    Option.or_none]

theorem gatherAll_eq_some_iff (n : Nat) (entries : List (Nat × Cell)) (cs : List Cell) :
    gatherAll n entries = some cs ↔ cs.length = n ∧ ∀ k, k < n → (writesTo k entries).getLast? = cs[k]? := by
  rw [gatherAll, mapOpt_eq_some_iff, List.map_id]
  constructor
  · intro h
    have hl : cs.length = n := by rw [← scatter_length n entries, h, List.length_map]
    refine ⟨hl, fun k hk => ?_⟩
    have := scatter_getElem? n entries k hk
    rw [h, List.getElem?_map, List.getElem?_eq_getElem (by omega)] at this
    rw [List.getElem?_eq_getElem (by omega)]
    exact (Option.some.inj this).symm
  · rintro ⟨hl, h⟩
    apply List.ext_getElem?
    intro k
    by_cases hk : k < n
    · rw [scatter_getElem? n entries k hk, h k hk, List.getElem?_map, List.getElem?_eq_getElem (by omega)]; rfl
    · rw [List.getElem?_eq_none (by rw [scatter_length]; omega), List.getElem?_eq_none (by rw [List.length_map]; omega)]

theorem gatherAll_spec {n : Nat} {entries : List (Nat × Cell)} {cs : List Cell} (h : gatherAll n entries = some cs) :
    cs.length = n ∧ ∀ k, k < n → ∃ e ∈ entries, e.1 = k ∧ cs[k]? = some e.2 := by
  obtain ⟨hl, hr⟩ := (gatherAll_eq_some_iff n entries cs).mp h
  refine ⟨hl, fun k hk => ?_⟩
  obtain ⟨c, hc⟩ : ∃ c, cs[k]? = some c := ⟨_, List.getElem?_eq_getElem (by omega)⟩
  obtain ⟨e, he, h1, h2⟩ := mem_writesTo_iff.mp (List.mem_of_getLast? ((hr k hk).trans hc))
  exact ⟨e, he, h1, h2 ▸ hc⟩

theorem gatherAll_isSome {n : Nat} {entries : List (Nat × Cell)} (h : ∀ k, k < n → ∃ e ∈ entries, e.1 = k) :
    ∃ cs, gatherAll n entries = some cs := by
  apply mapOpt_some_of_forall
  intro o ho
  obtain ⟨k, hk, hget⟩ := List.getElem_of_mem ho
  have hk' : k < n := by rw [scatter_length] at hk; exact hk
  obtain ⟨e, he, hek⟩ := h k hk'
  have hw : e.2 ∈ writesTo k entries := mem_writesTo_iff.mpr ⟨e, he, hek, rfl⟩
  have ho : some o = some (writesTo k entries).getLast? := by
    rw [← scatter_getElem? n entries k hk', List.getElem?_eq_getElem hk, hget]
  cases hl : (writesTo k entries).getLast? with
  | none => rw [List.getLast?_eq_none_iff.mp hl] at hw; cases hw
  | some c => exact ⟨c, (Option.some.inj ho).trans hl⟩

theorem gatherAll_range (n : Nat) (c : Nat → Cell) :
    gatherAll n ((List.range n).map (fun k => (k, c k))) = some ((List.range n).map c) := by
  rw [gatherAll_eq_some_iff]
  refine ⟨by rw [List.length_map, List.length_range], fun k hk => ?_⟩
  have := writesTo_of_nodup (c := (k, c k)) (cs := (List.range n).map (fun k => (k, c k)))
    (by rw [List.map_map]; exact (List.map_id _).symm ▸ List.nodup_range) (List.mem_map.mpr ⟨k, List.mem_range.mpr hk, rfl⟩)
  rw [this, List.getElem?_map, List.getElem?_range hk]
  rfl

theorem scatterFold_map (h : Cell → Cell) (es : List (Nat × Cell)) : ∀ init : List (Option Cell),
    (es.map (fun e => (e.1, h e.2))).foldl (fun acc e => acc.set e.1 (some e.2)) (init.map (Option.map h))
      = (es.foldl (fun acc e => acc.set e.1 (some e.2)) init).map (Option.map h) := by
  induction es with
  | nil => intro init; rfl
  | cons e es ih =>
    intro init
    simp only [List.map_cons, List.foldl_cons]
    rw [← ih, List.map_set]
    rfl

theorem gatherAll_map (h : Cell → Cell) (n : Nat) (es : List (Nat × Cell)) :
    gatherAll n (es.map (fun e => (e.1, h e.2))) = (gatherAll n es).map (List.map h) := by
  unfold gatherAll scatter
  have := scatterFold_map h es (List.replicate n none)
  simp only [List.map_replicate, Option.map_none] at this
  rw [this, mapOpt_map]
  exact mapOpt_optmap id h _

theorem concatFreeL_append (a b : List Dim) :
    Dim.concatFreeL (a ++ b) = (Dim.concatFreeL a && Dim.concatFreeL b) := by
  induction a with
  | nil => simp [Dim.concatFreeL]
  | cons d a ih => simp [Dim.concatFreeL, ih, Bool.and_assoc]

theorem dims_concatFree (m : Bool) (e : Expr) : e.concatFree = true → Dim.concatFreeL (dims m e) = true := by
  induction e using Expr.induct generalizing m with
  | axis | nil => exact fun _ => rfl
  | flat e ih =>
    simp only [dims, Dim.concatFreeL, Dim.concatFree, Bool.and_true]
    exact ih m
  | concat => exact fun h => nomatch h
  | br e ih => exact ih true
  | cons c cs ihc ihcs =>
    simp only [Expr.concatFree, Expr.concatFreeL, dims, dimsL, concatFreeL_append, Bool.and_eq_true] at ihcs ⊢
    exact fun h => ⟨ihc m h.1, ihcs m h.2⟩

theorem dimsL_concatFree : ∀ (m : Bool) (cs : List Expr), Expr.concatFreeL cs = true → Dim.concatFreeL (dimsL m cs) = true :=
  fun m cs => dims_concatFree m (.list cs)

theorem dimsL_append (m : Bool) (a b : List Expr) : dimsL m (a ++ b) = dimsL m a ++ dimsL m b := by
  induction a with
  | nil => simp [dimsL]
  | cons x a ih => simp [dimsL, ih]

theorem rootDims_concatFree {e : Expr} (h : e.concatFree = true) : Dim.concatFreeL (rootDims e) = true :=
  dims_concatFree false e h

theorem concatFreeL_set : ∀ (exprsIn : List Expr) (j : Nat) (e' : Expr), Expr.concatFreeL exprsIn = true →
    e'.concatFree = true → Expr.concatFreeL (exprsIn.set j e') = true := by
  intro exprsIn
  induction exprsIn with
  | nil => intro j e' h _; exact h
  | cons x xs ih =>
    intro j e' h he'
    simp only [Expr.concatFreeL, Bool.and_eq_true] at h
    cases j with
    | zero => simp [Expr.concatFreeL, he', h.2]
    | succ j => simp [Expr.concatFreeL, h.1, ih j e' h.2 he']

theorem concatFreeL_mem : ∀ (exprsIn : List Expr), Expr.concatFreeL exprsIn = true → ∀ e ∈ exprsIn, e.concatFree = true := by
  intro exprsIn
  induction exprsIn with
  | nil => intro _ e he; simp at he
  | cons x xs ih =>
    intro h e he
    simp only [Expr.concatFreeL, Bool.and_eq_true] at h
    rcases List.mem_cons.mp he with rfl | hm
    · exact h.1
    · exact ih h.2 e hm

theorem shapeOf_eq (e : Expr) : shapeOf e = viewShape (rootDims e) := rfl

theorem denoteIdFun_single_eq (e1 e2 : Expr) (h1 : e1.concatFree = true) (h2 : e2.concatFree = true) :
    denoteIdFun [e1] [e2] = match idCells (rootDims e1) (shapeOf e1) 0 (rootDims e2) (shapeOf e2) with
      | some cs => .ok [⟨shapeOf e2, cs⟩]
      | none => .error "id: an axis is unassigned, or the output is not fully defined" := by
  unfold denoteIdFun
  simp only [Expr.concatFreeL, h1, h2, Bool.and_self, Bool.not_true, Bool.false_eq_true, if_false,
    List.length_singleton, bne_self_eq_false, List.zipIdx_cons, List.zipIdx_nil, List.zip_cons_cons,
    List.zip_nil_right, List.mapM_cons, List.mapM_nil, denoteIdFun1]
  cases idCells (rootDims e1) (shapeOf e1) 0 (rootDims e2) (shapeOf e2) <;> rfl

theorem denoteIdFun_single {e1 e2 : Expr} {ts : List (Tensor Cell)} (h : denoteIdFun [e1] [e2] = .ok ts) :
    e1.concatFree = true ∧ e2.concatFree = true ∧
      ∃ cs, idCells (rootDims e1) (shapeOf e1) 0 (rootDims e2) (shapeOf e2) = some cs ∧ ts = [⟨shapeOf e2, cs⟩] := by
  have hc : e1.concatFree = true ∧ e2.concatFree = true := by
    cases h1 : e1.concatFree <;> cases h2 : e2.concatFree <;>
      first | exact ⟨rfl, rfl⟩ | (simp [denoteIdFun, Expr.concatFreeL, h1, h2, throw, throwThe, MonadExceptOf.throw] at h)
  rw [denoteIdFun_single_eq e1 e2 hc.1 hc.2] at h
  cases hcs : idCells (rootDims e1) (shapeOf e1) 0 (rootDims e2) (shapeOf e2) with
  | none => rw [hcs] at h; nomatch h
  | some cs => rw [hcs] at h; exact ⟨hc.1, hc.2, cs, rfl, (Except.ok.inj h).symm⟩

theorem subst_src (T : Tensor Cell) (k : Nat) : subst [T] (.src 0 k) = (T.data[k]?).getD .bad :=
  evalCell_src symAlg rfl k

theorem subst_symInput (regs : List (Tensor Cell)) (i k : Nat) (s : List Nat) (h : regs[i]? = some (symInput i s))
    (hk : k < prod s) : subst regs (.src i k) = .src i k := by
  rw [subst, evalCell_src symAlg h]
  simp [symInput, List.getElem?_range hk]

theorem subst_app (regs : List (Tensor Cell)) (f : String) (args : List Cell) :
    subst regs (.app f args) = .app f (args.map (subst regs)) := by
  simp only [subst, evalCell, evalCells_eq_map, symAlg]
  rfl

theorem transpose_plan_view {v v' : List Dim} {perm : List Nat} {shapes : List (List Nat)} {x : Nat}
    (hperm : isPermOf perm v.length = true) (hv' : permuteL perm v = some v') (hx : shapes[x]? = some (viewShape v)) :
    ∃ plan, planInstr shapes (.transpose x perm) = .ok plan ∧ plan.shape = viewShape v' ∧
      plan.cells.length = prod plan.shape ∧
      ∀ p, Valid (viewShape v) p → ∃ p', permuteL perm p = some p' ∧ Valid plan.shape p' ∧
        plan.cells[ravel plan.shape p']? = some (.src x (ravel (viewShape v) p)) := by
  obtain ⟨hisp, hlen, hall, hlt⟩ := isPermOf_spec (n := (viewShape v).length) (by rw [viewShape, List.length_map]; exact hperm)
  refine ⟨tabulate (permShape perm (viewShape v)) (fun o =>
      Cell.src x (ravel (viewShape v) (gatherIdx perm (viewShape v).length o))), ?_, ?_, ?_, ?_⟩
  · exact (planInstr_transpose_eq hx perm).trans (if_pos hisp)
  · exact Option.some.inj ((permuteL_eq_map 0 perm (viewShape v) hlt).symm.trans (viewShape_permute hv'))
  · simp [tabulate]
  · intro p hv
    have hpl : p.length = (viewShape v).length := valid_length hv
    have hv' := valid_permute hv perm hlt
    refine ⟨perm.map (fun a => p.getD a 0), permuteL_eq_map 0 perm p (by rw [hpl]; exact hlt), hv', ?_⟩
    exact (tabulate_getElem? _ _ hv').trans (by rw [unpermute perm p (viewShape v).length hpl hall])

theorem transpose_plan_spec {v v' : List Dim} {perm : List Nat} {shapes : List (List Nat)} {x : Nat} {plan : Plan}
    (hperm : isPermOf perm v.length = true) (hv' : permuteL perm v = some v') (hx : shapes[x]? = some (viewShape v))
    (hplan : planInstr shapes (.transpose x perm) = .ok plan) :
    plan.shape = viewShape v' ∧ plan.cells.length = prod plan.shape ∧
      ∀ p, Valid (viewShape v) p → ∃ p', permuteL perm p = some p' ∧ Valid plan.shape p' ∧
        plan.cells[ravel plan.shape p']? = some (.src x (ravel (viewShape v) p)) := by
  obtain ⟨plan2, hplan2, h⟩ := transpose_plan_view hperm hv' hx
  rw [hplan] at hplan2
  cases hplan2
  exact h

/-- Reading the permuted view from the transposed tensor (register `j`) = reading the original view from the original
tensor `x`. -/
theorem cellAt_permute_input {v v' : List Dim} {perm : List Nat} {shapes : List (List Nat)} {x : Nat} {σ : Assign}
    {plan : Plan} (regs : List (Tensor Cell)) (j : Nat)
    (hperm : isPermOf perm v.length = true) (hv' : permuteL perm v = some v')
    (hok : Dim.viewOKL v = true) (hb : BoundedOn σ (Dim.leavesL v))
    (hx : shapes[x]? = some (viewShape v)) (hplan : planInstr shapes (.transpose x perm) = .ok plan)
    (hregs : regs[j]? = some ⟨plan.shape, plan.cells⟩) :
    (cellAt v' (viewShape v') j σ).map (subst regs) = cellAt v (viewShape v) x σ := by
  obtain ⟨p, hp, hv⟩ := position_valid_view v hok hb
  obtain ⟨hs, _, hreads⟩ := transpose_plan_spec hperm hv' hx hplan
  obtain ⟨p', hp', _, hcell⟩ := hreads p hv
  have hpos' : position v' σ = some p' := by rw [position_permute hp hv', hp']
  rw [← hs]
  simp only [cellAt, flatPos, hpos', hp, Option.map_some, subst, evalCell_src symAlg hregs, hcell, Option.getD_some]

/-! ### reading a view under a built assignment -/

/-- The element of input `q.2` read through the view `q.1.1` under the assignment that `B` builds for its leaves. -/
def readVia (B : List Leaf → Option Assign) (q : (List Dim × List Nat) × Nat) : Option Cell :=
  match B (Dim.leavesL q.1.1) with
  | some a => cellAt q.1.1 q.1.2 q.2 a
  | none => none

theorem readVia_src {B : List Leaf → Option Assign} {q : (List Dim × List Nat) × Nat} {c : Cell} (h : readVia B q = some c) :
    ∃ k, c = Cell.src q.2 k := by
  unfold readVia at h
  cases ha : B (Dim.leavesL q.1.1) with
  | none => rw [ha] at h; nomatch h
  | some a =>
    simp only [ha, cellAt] at h
    cases hf : flatPos q.1.1 q.1.2 a with
    | none => rw [hf] at h; nomatch h
    | some k => rw [hf] at h; exact ⟨k, (Option.some.inj h).symm⟩

theorem readVia_regroup (B : List Leaf → Option Assign) (pre mid post : List Dim) (i : Nat) :
    readVia B ((pre ++ [Dim.flat mid] ++ post, viewShape (pre ++ [Dim.flat mid] ++ post)), i)
      = readVia B ((pre ++ mid ++ post, viewShape (pre ++ mid ++ post)), i) := by
  simp only [readVia, leavesL_regroup, cellAt_regroup]

/-- `B` builds the assignment for the leaves of `v` by a `fillStep` loop from `acc` whose values are in range.  `built` asks
this of every list with the members of `Dim.leavesL v`: a permuted view lists the same leaves in another order, and
`Built.perm` compares the two loops. -/
structure Fills (B : List Leaf → Option Assign) (val : Leaf → Option Nat) (acc : Assign) (v : List Dim) : Prop where
  built : ∀ ls, (∀ l, l ∈ Dim.leavesL v ↔ l ∈ ls) → Built val acc ls (B ls)
  byName : ByName val (Dim.leavesL v)
  accRange : InRangeOn acc (Dim.leavesL v)
  valRange : ∀ l ∈ Dim.leavesL v, ∀ x, val l = some x → x < l.size

theorem extend_fills {σ : Assign} {v : List Dim} (hcons : Consistent (Dim.leavesL v)) (hr : InRangeOn σ (Dim.leavesL v)) :
    Fills (extend σ) exVal σ v :=
  ⟨fun ls _ => extend_built σ ls, exVal_byName hcons, hr, fun _ _ _ => exVal_lt⟩

theorem inputAssign_fills {σ τ : Assign} {v : List Dim} (hms : MarkSep (Dim.leavesL v))
    (hcons : Consistent (Dim.leavesL v)) (hσ : InRangeOn σ (Dim.leavesL v)) (hτ : InRangeOn τ (Dim.leavesL v)) :
    Fills (inputAssign σ τ) (inVal σ τ) [] v :=
  ⟨fun _ hm => inputAssign_built σ τ (fun a ha b hb => hms a ((hm a).mpr ha) b ((hm b).mpr hb))
      (hcons.mono fun l hl => (hm l).mpr hl),
    inVal_byName hms hcons, fun _ _ _ hy => (nomatch hy), inVal_lt hσ hτ⟩

theorem Fills.bounded {B : List Leaf → Option Assign} {val : Leaf → Option Nat} {acc a : Assign} {v : List Dim}
    (h : Fills B val acc v) (ha : B (Dim.leavesL v) = some a) : BoundedOn a (Dim.leavesL v) :=
  (ha ▸ h.built _ fun _ => Iff.rfl).bounded h.byName h.accRange h.valRange

theorem readVia_permuted {B : List Leaf → Option Assign} {val : Leaf → Option Nat} {acc : Assign}
    {v v' : List Dim} {perm : List Nat} {shapes : List (List Nat)} {x j : Nat} {plan : Plan} (regs : List (Tensor Cell))
    (hperm : isPermOf perm v.length = true) (hv' : permuteL perm v = some v') (hok : Dim.viewOKL v = true)
    (hB : Fills B val acc v) (hx : shapes[x]? = some (viewShape v))
    (hplan : planInstr shapes (.transpose x perm) = .ok plan) (hregs : regs[j]? = some ⟨plan.shape, plan.cells⟩) :
    (readVia B ((v', viewShape v'), j)).map (subst regs) = readVia B ((v, viewShape v), x) := by
  have hm := leavesL_permute hperm hv'
  simp only [readVia]
  rcases Built.perm hm hB.byName (fun _ => rfl) (hB.built _ fun _ => Iff.rfl) (hB.built _ hm) with
    ⟨h1, h2⟩ | ⟨a, a', h1, h2, hs⟩
  · rw [h1, h2]; rfl
  · have := cellAt_permute_input regs j hperm hv' hok ((hB.bounded h1).sameGet hs) hx hplan hregs
    rw [h1, h2]
    simp only []
    rw [this, ← cellAt_sameGet hs]

theorem readVia_fixed {B : List Leaf → Option Assign} {val : Leaf → Option Nat} {acc : Assign} {u : List Dim} {k : Nat}
    (regs : List (Tensor Cell)) (hc : Dim.viewOKL u = true) (hB : Fills B val acc u)
    (hregs : regs[k]? = some (symInput k (viewShape u))) :
    (readVia B ((u, viewShape u), k)).map (subst regs) = readVia B ((u, viewShape u), k) := by
  simp only [readVia]
  cases hx : B (Dim.leavesL u) with
  | none => rfl
  | some a =>
    obtain ⟨pos, hcell, hlt⟩ := cellAt_in_range k hc (hB.bounded hx)
    simp only [hcell, Option.map_some, subst_symInput regs k pos _ hregs hlt]

end Einx.Denote
