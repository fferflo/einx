import EinxModel.Proofs.Update
/-!
Soundness of the lowering of indexed updates (C14), core Lean only.

The lowering tabulates the addresses over the shape `mask axes idxAxes` and the update values over
`mask axes udims` (every axis the operand does not mention has length 1) and lets numpy broadcast both to the
full iteration space.  A function of the assignment that depends only on the axes `pos` (the congruence lemmas),
tabulated over `mask axes pos` and broadcast, is the function tabulated over `axes` (`broadcast_mask`); on operands
of one shape the numpy primitives are the fold of the denotation (`runPrim_sound`).
-/
namespace Einx.Update

/-- The numpy primitive that realises a mode. -/
def Mode.prim : Mode → Prim
  | .set => .put
  | .add => .addAt
  | .sub => .subAt

/-- Every un-bracketed axis occurs in the coordinate/target expressions or in the update expression, and has positive length. -/
def Op.covered (op : Op) : Prop :=
  (∀ n ∈ op.axes, 0 < n) ∧ ∀ j, j < op.axes.length → j ∈ op.idxAxes ∨ j ∈ op.udims

/-- The index `σ` clamped to a shape with stretched (length 1) dimensions, as `broadcastTo` does. -/
def clamp (σ s : List Nat) : List Nat := List.zipWith (fun i a => if a = 1 then 0 else i) σ s

theorem clamp_self {s σ : List Nat} (h : Valid s σ) : clamp σ s = σ := by
  induction h with
  | nil => rfl
  | cons hlt _ ih =>
    unfold clamp at ih ⊢
    simp only [List.zipWith_cons_cons, ih, List.cons.injEq, and_true]
    split
    · omega
    · rfl

/-- `axes` with every axis outside `pos` replaced by 1. -/
def mask (axes pos : List Nat) : List Nat := maskShape axes (usedBy axes.length pos)

theorem mask_length (axes pos : List Nat) : (mask axes pos).length = axes.length := by
  simp [mask, maskShape, usedBy]

theorem mask_getElem? (axes pos : List Nat) (j : Nat) :
    (mask axes pos)[j]? = axes[j]?.map (fun n => if pos.contains j then n else 1) := by
  simp only [mask, maskShape, usedBy, List.getElem?_zipWith, List.getElem?_map]
  cases hj : axes[j]? with
  | none => rfl
  | some n => rw [List.getElem?_range (List.getElem?_eq_some_iff.mp hj).1]; rfl

theorem clamp_mask_getElem? (axes pos σ : List Nat) (j : Nat) :
    (clamp σ (mask axes pos))[j]? =
      match σ[j]?, axes[j]? with
      | some x, some n => some (if (if pos.contains j then n else 1) = 1 then 0 else x)
      | _, _ => none := by
  rw [clamp, List.getElem?_zipWith, mask_getElem?]
  cases σ[j]? <;> cases axes[j]? <;> rfl

theorem valid_clamp_mask {axes pos σ : List Nat} (h : Valid axes σ) :
    Valid (mask axes pos) (clamp σ (mask axes pos)) := by
  obtain ⟨hl, hh⟩ := valid_iff_getElem?.mp h
  refine valid_iff_getElem?.mpr ⟨by simp [clamp, mask_length, hl], fun j a i ha hi => ?_⟩
  rw [mask_getElem?] at ha
  rw [clamp_mask_getElem?] at hi
  split at hi
  · rename_i x n hσ hax
    rw [hax] at ha
    cases hi
    cases ha
    have := hh j n x hax hσ
    cases pos.contains j
    · show (if (1 : Nat) = 1 then 0 else x) < 1
      exact Nat.one_pos
    · show (if n = 1 then 0 else x) < n
      split <;> omega
  · cases hi

theorem clamp_mask_agree {axes pos σ : List Nat} (h : Valid axes σ) (j : Nat) (hj : j ∈ pos) :
    (clamp σ (mask axes pos))[j]? = σ[j]? := by
  obtain ⟨hl, hh⟩ := valid_iff_getElem?.mp h
  rw [clamp_mask_getElem?, List.contains_iff_mem.mpr hj]
  cases hσ : σ[j]? with
  | none => rfl
  | some x =>
    obtain ⟨n, hax⟩ : ∃ n, axes[j]? = some n :=
      ⟨_, List.getElem?_eq_getElem (hl ▸ (List.getElem?_eq_some_iff.mp hσ).1)⟩
    have := hh j n x hax hσ
    rw [hax]
    show some (if (if true = true then n else 1) = 1 then 0 else x) = some x
    rw [if_pos rfl]
    split
    · congr 1; omega
    · rfl

theorem valid_of_valid_mask {axes pos σ : List Nat} (hpos : ∀ n ∈ axes, 0 < n)
    (h : Valid (mask axes pos) σ) : Valid axes σ := by
  obtain ⟨hl, hh⟩ := valid_iff_getElem?.mp h
  refine valid_iff_getElem?.mpr ⟨by rw [hl, mask_length], fun j n i hax hi => ?_⟩
  have := hh j (if pos.contains j then n else 1) i (by rw [mask_getElem?, hax]; rfl) hi
  have hn := hpos n (List.mem_of_getElem? hax)
  split at this <;> omega

theorem zipWith_max_mask {axes p q : List Nat} (hpos : ∀ n ∈ axes, 0 < n)
    (hc : ∀ j, j < axes.length → j ∈ p ∨ j ∈ q) :
    List.zipWith max (mask axes p) (mask axes q) = axes := by
  apply List.ext_getElem?
  intro j
  rw [List.getElem?_zipWith, mask_getElem?, mask_getElem?]
  cases hax : axes[j]? with
  | none => rfl
  | some n =>
    have hle : ∀ c : Bool, (if c then n else 1) ≤ n := fun c => by
      cases c
      · exact hpos n (List.mem_of_getElem? hax)
      · exact Nat.le_refl n
    show some (max (if p.contains j then n else 1) (if q.contains j then n else 1)) = some n
    rcases hc j (List.getElem?_eq_some_iff.mp hax).1 with h | h
    · rw [List.contains_iff_mem.mpr h, if_pos rfl, Nat.max_eq_left (hle _)]
    · rw [List.contains_iff_mem.mpr h, if_pos rfl, Nat.max_eq_right (hle _)]

theorem broadcast_cond_mask (axes pos : List Nat) :
    (List.zipWith (fun a b => decide (a = b ∨ a = 1)) (mask axes pos) axes).all id = true := by
  rw [List.all_eq_true]
  intro x hx
  obtain ⟨k, hk⟩ := List.mem_iff_getElem?.mp hx
  rw [List.getElem?_zipWith, mask_getElem?] at hk
  cases hs : axes[k]? with
  | none => rw [hs] at hk; cases hk
  | some a =>
    rw [hs] at hk
    cases hk
    show decide _ = true
    rw [decide_eq_true_iff]
    split
    · exact Or.inl rfl
    · exact Or.inr rfl

theorem targetIndex_congr {σ σ' : List Nat} (tdims : List TDim) (cs : List Nat)
    (h : ∀ j ∈ tdims.filterMap TDim.axis?, σ[j]? = σ'[j]?) :
    targetIndex σ tdims cs = targetIndex σ' tdims cs := by
  induction tdims generalizing cs with
  | nil => cases cs <;> rfl
  | cons d ds ih =>
    cases d with
    | vec j =>
      have h' : ∀ k ∈ j :: ds.filterMap TDim.axis?, σ[k]? = σ'[k]? := h
      simp only [targetIndex, h' j (List.mem_cons_self ..), ih cs fun k hk => h' k (List.mem_cons_of_mem _ hk)]
    | idx n =>
      cases cs with
      | nil => rfl
      | cons c cs => simp only [targetIndex, ih cs h]

theorem coordVector_congr {axes σ σ' : List Nat} (coords : List Coord)
    (h : ∀ j ∈ coords.flatMap (fun c => c.dims.filterMap CDim.axis?), σ[j]? = σ'[j]?) :
    coordVector axes σ coords = coordVector axes σ' coords := by
  simp only [coordVector]
  congr 1
  apply mapOpt_congr
  intro c hc
  apply mapOpt_congr
  intro i _
  simp only [Coord.read]
  have : mapOpt (CDim.index σ i) c.dims = mapOpt (CDim.index σ' i) c.dims := by
    apply mapOpt_congr
    intro d hd
    cases d with
    | ax j => exact h j (List.mem_flatMap.mpr ⟨c, hc, List.mem_filterMap.mpr ⟨.ax j, hd, rfl⟩⟩)
    | br n => rfl
  rw [this]

theorem tidxAt_congr (op : Op) {σ σ' : List Nat} (h : ∀ j ∈ op.idxAxes, σ[j]? = σ'[j]?) :
    op.tidxAt σ = op.tidxAt σ' := by
  simp only [Op.idxAxes, List.mem_append] at h
  simp only [Op.tidxAt]
  rw [coordVector_congr op.coords (fun j hj => h j (Or.inr hj))]
  cases coordVector op.axes σ' op.coords with
  | none => rfl
  | some cs => exact targetIndex_congr op.tdims cs (fun j hj => h j (Or.inl hj))

theorem addrLowered_congr (kernel : List Nat → List Nat → List Nat) (op : Op) {σ σ' : List Nat}
    (h : ∀ j ∈ op.idxAxes, σ[j]? = σ'[j]?) : addrLowered kernel op σ = addrLowered kernel op σ' := by
  simp only [addrLowered, tidxAt_congr op h]

theorem readUpd_congr (op : Op) {σ σ' : List Nat}
    (h : ∀ j ∈ op.udims, σ[j]? = σ'[j]?) : op.readUpd σ = op.readUpd σ' := by
  have : pick σ op.udims = pick σ' op.udims := mapOpt_congr h
  simp only [Op.readUpd, this]

theorem broadcast_mask {β : Type} (f : List Nat → Option β) (axes pos : List Nat) {flat : List β}
    (hcongr : ∀ σ σ' : List Nat, (∀ j ∈ pos, σ[j]? = σ'[j]?) → f σ = f σ')
    (hflat : mapOpt f (assignments (mask axes pos)) = some flat) :
    broadcastTo (mask axes pos) axes flat = mapOpt f (assignments axes) := by
  have hlen : flat.length = prod (mask axes pos) := by rw [mapOpt_length hflat, assignments_length]
  simp only [broadcastTo, mask_length, broadcast_cond_mask, hlen, and_self, ↓reduceIte]
  apply mapOpt_congr
  intro σ hσ
  have hv : Valid axes σ := mem_assignments_iff_valid.mp hσ
  have hv' : Valid (mask axes pos) (clamp σ (mask axes pos)) := valid_clamp_mask hv
  show readAt (mask axes pos) flat (clamp σ (mask axes pos)) = f σ
  rw [readAt_of_valid flat hv', ← mapOpt_getElem? hflat _ _ (assignments_getElem? _ _ hv')]
  exact hcongr _ _ (fun j hj => clamp_mask_agree hv j hj)

theorem broadcastTo_self (shape : List Nat) (vals : List Int) (hv : vals.length = prod shape) :
    broadcastTo shape shape vals = some vals := by
  have hall : (List.zipWith (fun a b => decide (a = b ∨ a = 1)) shape shape).all id = true := by
    simp [List.all_eq_true, List.mem_iff_getElem?]
  simp only [broadcastTo, hall, hv, and_self, ↓reduceIte]
  rw [← mapOpt_read_assignments shape vals hv]
  apply mapOpt_congr
  intro σ hσ
  have hvσ : Valid shape σ := mem_assignments_iff_valid.mp hσ
  show readAt shape vals (clamp σ shape) = _
  rw [clamp_self hvσ, readAt_of_valid vals hvσ]

theorem cycle_self (vals : List Int) : cycle vals vals.length = some vals := by
  rw [cycle, mapOpt_eq_some_iff]
  apply List.ext_getElem?
  intro k
  simp only [List.getElem?_map]
  by_cases hk : k < vals.length
  · simp [List.getElem?_range hk, Nat.mod_eq_of_lt hk, List.getElem?_eq_getElem hk]
  · simp [List.getElem?_eq_none (Nat.le_of_not_lt hk)]
    exact Nat.le_of_not_lt hk

theorem npPut_zip (t : List Int) (idx : List Nat) (vals : List Int) (hl : idx.length = vals.length)
    (hr : ∀ c ∈ idx.zip vals, c.1 < t.length) : npPut t idx vals = some (applyUpdates .set t (idx.zip vals)) := by
  rw [npPut]
  split
  · rename_i he
    rw [List.isEmpty_iff.mp he, List.zip_nil_right]
    rfl
  · rw [hl, cycle_self]
    exact scatterGo_eq_applyUpdates .set t _ hr

theorem npUfuncAt_self (m : Mode) (t : List Int) (shape idx : List Nat) (vals : List Int)
    (hi : idx.length = prod shape) (hv : vals.length = prod shape) (hr : ∀ c ∈ idx.zip vals, c.1 < t.length) :
    npUfuncAt m.apply t shape idx shape vals = some (applyUpdates m t (idx.zip vals)) := by
  simp only [npUfuncAt, broadcastTo_self shape vals hv, hi, ↓reduceIte]
  exact scatterGo_eq_applyUpdates m t _ hr

theorem runPrim_sound (m : Mode) (t : List Int) (shape : List Nat) (cs : List (Nat × Int))
    (hl : cs.length = prod shape) (hr : ∀ c ∈ cs, c.1 < t.length) :
    runPrim m.prim t shape (cs.map (·.1)) shape (cs.map (·.2)) = some (applyUpdates m t cs) := by
  have hz : (cs.map (·.1)).zip (cs.map (·.2)) = cs := (List.zip_of_prod rfl rfl).symm
  have hi : (cs.map (·.1)).length = prod shape := by rw [List.length_map, hl]
  have hv : (cs.map (·.2)).length = prod shape := by rw [List.length_map, hl]
  rw [← hz] at hr
  cases m with
  | set =>
    simp only [Mode.prim, runPrim, hi, hv, and_self, ↓reduceIte]
    rw [npPut_zip t _ _ (hi.trans hv.symm) hr, hz]
  | add => exact (npUfuncAt_self .add t shape _ _ hi hv hr).trans (by rw [hz])
  | sub => exact (npUfuncAt_self .sub t shape _ _ hi hv hr).trans (by rw [hz])

/-- The one fact about the index kernel that scatter (`lowering_sound`) and gather (`lower_get_at_sound`) rest on: where
the coordinates name a valid target index, the lowered address is its row-major position. -/
theorem addrLowered_of_valid {kernel : List Nat → List Nat → List Nat}
    (hk : ∀ shape idx : List Nat, Valid shape idx → (kernel idx shape).sum = ravel shape idx)
    {op : Op} {σ tshape tidx : List Nat} (hts : targetShape op.axes op.tdims = some tshape)
    (hti : op.tidxAt σ = some tidx) (hv : Valid tshape tidx) :
    addrLowered kernel op σ = some (ravel tshape tidx) := by
  simp only [addrLowered, hts, hti, hk tshape tidx hv]

/-- The lowering computes the denotation; the index kernel need only be the row-major formula on valid indices. -/
theorem lowering_sound (L : Lowering) (m : Mode) (op : Op) (t r : List Int)
    (hk : ∀ shape idx : List Nat, Valid shape idx → (L.kernel idx shape).sum = ravel shape idx)
    (hb : L.broadcasts m = true) (hp : L.prim m = m.prim) (hc : op.covered)
    (hd : denote m op t = some r) : lower L m op t = some r := by
  obtain ⟨hpos, hcov⟩ := hc
  obtain ⟨tshape, cs, hts, hcs, hlen, rfl⟩ := denote_eq_some hd
  have hcs' : mapOpt op.contribAt (assignments op.axes) = some cs := hcs
  -- the address and the value of every assignment, tabulated over the full iteration space
  have haddr : mapOpt (addrLowered L.kernel op) (assignments op.axes) = some (cs.map (·.1)) := by
    apply mapOpt_map_of hcs'
    intro σ _ c hc
    obtain ⟨tidx, h1, h2, h3, _⟩ := contribAt_some hts hc
    rw [addrLowered_of_valid hk hts h1 h2, h3]
  have hupd : mapOpt op.readUpd (assignments op.axes) = some (cs.map (·.2)) := by
    apply mapOpt_map_of hcs'
    intro σ _ c hc
    obtain ⟨tidx, _, _, _, h4⟩ := contribAt_some hts hc
    exact h4
  -- the tensors the lowering actually computes
  have hsub : ∀ pos σ, σ ∈ assignments (mask op.axes pos) → σ ∈ assignments op.axes := fun pos σ hσ =>
    mem_assignments_iff_valid.mpr (valid_of_valid_mask hpos (mem_assignments_iff_valid.mp hσ))
  obtain ⟨idxFlat, hidx⟩ := mapOpt_some_of_subset haddr (hsub op.idxAxes)
  obtain ⟨updFlat, hupdF⟩ := mapOpt_some_of_subset hupd (hsub op.udims)
  have hbi := broadcast_mask (addrLowered L.kernel op) op.axes op.idxAxes
    (fun σ σ' h => addrLowered_congr L.kernel op h) hidx
  have hbu := broadcast_mask op.readUpd op.axes op.udims (fun σ σ' h => readUpd_congr op h) hupdF
  rw [haddr] at hbi
  rw [hupd] at hbu
  have e1 : op.idxShape = mask op.axes op.idxAxes := rfl
  have e2 : op.updShape = mask op.axes op.udims := rfl
  have hfull : List.zipWith max (mask op.axes op.idxAxes) (mask op.axes op.udims) = op.axes :=
    zipWith_max_mask hpos hcov
  have hrange : ∀ c ∈ cs, c.1 < t.length := by
    intro c hc
    obtain ⟨σ, _, hσ⟩ := mapOpt_mem hcs' hc
    obtain ⟨tidx, _, h2, h3, _⟩ := contribAt_some hts hσ
    rw [h3, hlen.1]; exact ravel_lt h2
  have hcl : cs.length = prod op.axes := by rw [mapOpt_length hcs', assignments_length]
  simp only [lower, hts, e1, e2, hidx, hupdF, if_pos hlen, hb, ↓reduceIte, hfull, hbi, hbu, hp]
  exact runPrim_sound m t op.axes cs hcl hrange

end Einx.Update
