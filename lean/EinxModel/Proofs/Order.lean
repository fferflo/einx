import EinxModel.Proofs.DenotePos
import EinxModel.Order.Rename
import EinxModel.Extracted.Sets
/-! C16: the rewrite rules `s == s` for the classification table of `Props/C16.lean`, and sizes and flat positions under the
renaming of `Order/Rename.lean` (whose `renameDims` is `Dim.renameL`: `renameDims_eq`, `Proofs/DenotePos.lean`). -/
namespace Einx.Order

/- `s == s` without instance arguments: as rewrite rules for `simp` over a table of literals they cost no instance search. -/
theorem string_beq_self (s : String) : (s == s) = true := beq_self_eq_true s
theorem siteClass_beq_self (c : Einx.Extracted.Sets.SiteClass) : (c == c) = true := beq_self_eq_true c

end Einx.Order

namespace Einx.Order.Fresh
open Einx.Denote

theorem sizeProd_rename (ρ : String → String) : ∀ (ds : List Dim), Dim.sizeProd (renameDims ρ ds) = Dim.sizeProd ds :=
  fun ds => by rw [renameDims_eq, Denote.sizeProd_rename]

theorem sizeSum_rename (ρ : String → String) : ∀ (ds : List Dim), Dim.sizeSum (renameDims ρ ds) = Dim.sizeSum ds :=
  fun ds => by rw [renameDims_eq, Denote.sizeSum_rename]

theorem posFlat_rename_aux (ρ : String → String) (σ : Assign) : ∀ (ds : List Dim) (acc : Nat),
    InjOn ρ (dimsNames ds ++ σ.map (·.1)) →
    Dim.posFlat (renameAssign ρ σ) (renameDims ρ ds) acc = Dim.posFlat σ ds acc :=
  fun ds acc h => by
    rw [renameDims_eq]
    exact posFlat_transport ds (ren_rename_on h (mem_dimNames (.flat ds))) acc

end Einx.Order.Fresh
