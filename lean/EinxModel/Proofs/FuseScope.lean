import EinxModel.Proofs.FuseAll
/-!
C04, name re-use: every block number the scope map (`getScopes`, `Scopes.get`; `scope.py`) returns is below the number of
scopes, i.e. below `nblocks` of `compile`.  (The `fuse` loop only looks at the blocks `0 … nblocks-1`.)
-/
namespace Einx.Compile

theorem mem_dedupe (l : List Nat) (x : Nat) (h : x ∈ dedupe l) : x ∈ l := mem_dedupeNat l x h

theorem mem_assocSet {β : Type} (l : List (E × β)) (k : E) (v : β) (p : E × β) (h : p ∈ assocSet l k v) :
    p ∈ l ∨ p = (k, v) := by
  unfold assocSet at h
  split at h
  · obtain ⟨q, hq, rfl⟩ := List.mem_map.1 h
    split
    · exact Or.inr rfl
    · exact Or.inl hq
  · rcases List.mem_append.1 h with h | h
    · exact Or.inl h
    · exact Or.inr (by simpa using h)

/-! ### `_find_common_scope` picks one of the candidates -/

def pickStep (P : Nat → Nat → Except String Bool) (sc s2 : Nat) : Except String Nat := do
  if sc == s2 then pure sc
  else if ← P sc s2 then pure s2
  else if ← P s2 sc then pure sc
  else throw "ValueError: scopes not in a predecessor relationship"

theorem pickStep_mem (P : Nat → Nat → Except String Bool) (sc s2 t : Nat) (h : pickStep P sc s2 = .ok t) : t = sc ∨ t = s2 := by
  unfold pickStep at h
  split at h
  · cases h; exact Or.inl rfl
  · obtain ⟨b1, -, h⟩ := bind_ok.1 h
    split at h
    · cases h; exact Or.inr rfl
    · obtain ⟨b2, -, h⟩ := bind_ok.1 h
      split at h
      · cases h; exact Or.inl rfl
      · cases h

theorem pick_mem (P : Nat → Nat → Except String Bool) : ∀ (rest : List Nat) (s0 r : Nat),
    rest.foldlM (pickStep P) s0 = .ok r → r = s0 ∨ r ∈ rest
  | [], s0, r, h => by cases h; exact Or.inl rfl
  | s2 :: rest, s0, r, h => by
    rw [List.foldlM_cons] at h
    obtain ⟨t, h1, h⟩ := bind_ok.1 h
    rcases pick_mem P rest t r h with h2 | h2
    · rcases pickStep_mem P s0 s2 t h1 with h3 | h3
      · exact Or.inl (h2.trans h3)
      · exact Or.inr (by rw [h2, h3]; simp)
    · exact Or.inr (List.mem_cons_of_mem _ h2)

/-- The common scope of a list of candidates followed by the global scope. -/
theorem pick_lt (P : Nat → Nat → Except String Bool) (n : Nat) (hn : 0 < n) (l : List Nat) (hl : ∀ x ∈ l, x < n)
    (s0 : Nat) (rest : List Nat) (hm : l ++ [0] = s0 :: rest) (r : Nat) (h : rest.foldlM (pickStep P) s0 = .ok r) : r < n := by
  have hall : ∀ x ∈ l ++ [0], x < n := by
    intro x hx
    rcases List.mem_append.1 hx with hx | hx
    · exact hl x hx
    · simp only [List.mem_singleton] at hx; rw [hx]; exact hn
  rw [hm] at hall
  rcases pick_mem P rest s0 r h with h1 | h1
  · rw [h1]; exact hall s0 (by simp)
  · exact hall r (List.mem_cons_of_mem _ h1)

/-! ### `_get_required_scopes` -/

/-- Every scope number recorded so far is the number of an existing scope. -/
def RQ (s : SState) : Prop := 0 < s.scopes.length ∧ ∀ p ∈ s.req, ∀ x ∈ p.2, x < s.scopes.length

def RQRes (s : SState) (res : List Nat × SState) : Prop :=
  RQ res.2 ∧ s.scopes.length ≤ res.2.scopes.length ∧ ∀ y ∈ res.1, y < res.2.scopes.length

theorem RQ.set {s : SState} (h : RQ s) (k : E) (r : List Nat) (hr : ∀ x ∈ r, x < s.scopes.length) :
    RQ { s with req := assocSet s.req k r } := by
  refine ⟨h.1, ?_⟩
  intro p hp x hx
  rcases mem_assocSet _ _ _ _ hp with hp | rfl
  · exact h.2 p hp x hx
  · exact hr x hx

theorem get_lt (s : SState) (h : RQ s) (x : E) : ∀ y ∈ s.get x, y < s.scopes.length := by
  intro y hy
  unfold SState.get at hy
  split at hy
  · simp only [List.mem_singleton] at hy; rw [hy]; exact h.1
  · obtain ⟨k, _, hk⟩ := List.mem_flatMap.1 hy
    cases hg : assocGet s.req k with
    | none => simp [hg] at hk
    | some r =>
      simp only [hg, Option.getD_some] at hk
      exact h.2 (k, r) (assocGet_mem _ _ _ hg) y hk

theorem many_rq (f : E → SState → Except String (List Nat × SState))
    (hf : ∀ i s res, RQ s → f i s = .ok res → RQRes s res) :
    ∀ (xs : List E) (acc res : List Nat × SState),
      xs.foldlM (fun (acc : List Nat × SState) i => do
        let x ← f i acc.2
        pure (acc.1 ++ x.1, x.2)) acc = .ok res →
      RQ acc.2 → (∀ y ∈ acc.1, y < acc.2.scopes.length) → RQRes acc.2 res := by
  refine foldlM_ok_rel _ (fun acc res => RQ acc.2 → (∀ y ∈ acc.1, y < acc.2.scopes.length) → RQRes acc.2 res)
    (fun acc hrq hacc => ⟨hrq, Nat.le_refl _, hacc⟩) ?_ ?_
  · intro a b c h1 h2 hrq hacc
    obtain ⟨r1, l1, y1⟩ := h1 hrq hacc
    obtain ⟨r2, l2, y2⟩ := h2 r1 y1
    exact ⟨r2, Nat.le_trans l1 l2, y2⟩
  · intro acc i res h hrq hacc
    obtain ⟨⟨r, s1⟩, hfi, h⟩ := bind_ok.1 h
    cases h
    obtain ⟨h1, h2, h3⟩ := hf i acc.2 (r, s1) hrq hfi
    exact ⟨h1, h2, fun y hy => (List.mem_append.1 hy).elim (fun hy => Nat.lt_of_lt_of_le (hacc y hy) h2) (h3 y)⟩

theorem outs_rq (f : E → SState → Except String (List Nat × SState))
    (hf : ∀ i s res, RQ s → f i s = .ok res → RQRes s res) :
    ∀ (os : List Nat) (s s' : SState),
      os.foldlM (fun s o => do
        let x ← f (.var o) s
        pure x.2) s = .ok s' → RQ s → RQ s' ∧ s.scopes.length ≤ s'.scopes.length := by
  refine foldlM_ok_rel _ (fun s s' => RQ s → RQ s' ∧ s.scopes.length ≤ s'.scopes.length)
    (fun s hrq => ⟨hrq, Nat.le_refl _⟩) ?_ ?_
  · intro a b c h1 h2 hrq
    obtain ⟨r1, l1⟩ := h1 hrq
    obtain ⟨r2, l2⟩ := h2 r1
    exact ⟨r2, Nat.le_trans l1 l2⟩
  · intro s o s' h hrq
    obtain ⟨⟨r, s1⟩, hfi, h⟩ := bind_ok.1 h
    cases h
    obtain ⟨h1, h2, -⟩ := hf _ s (r, s1) hrq hfi
    exact ⟨h1, h2⟩

theorem dedupe_zero_lt (n : Nat) (hn : 0 < n) (ins : List Nat) (h : ∀ y ∈ ins, y < n) : ∀ y ∈ dedupe (ins ++ [0]), y < n := by
  intro y hy
  rcases List.mem_append.1 (mem_dedupe _ _ hy) with hy | hy
  · exact h y hy
  · simp only [List.mem_singleton] at hy; rw [hy]; exact hn

theorem inputs_fold_rq (inner : Nat) : ∀ (ts : List Nat) (s : SState), RQ s → inner < s.scopes.length →
    RQ (ts.foldl (fun s t => { s with req := assocSet s.req (.var t) [inner] }) s) ∧
    (ts.foldl (fun s t => { s with req := assocSet s.req (.var t) [inner] }) s).scopes = s.scopes
  | [], s, h, _ => ⟨h, rfl⟩
  | t :: ts, s, h, hi => by
    simp only [List.foldl_cons]
    have h1 : RQ { s with req := assocSet s.req (.var t) [inner] } :=
      h.set _ _ (by intro x hx; simp only [List.mem_singleton] at hx; rw [hx]; exact hi)
    have := inputs_fold_rq inner ts _ h1 hi
    exact ⟨this.1, this.2⟩

theorem reqScopes_rq (g : Graph) : ∀ (fuel : Nat) (x : E) (s : SState) (res : List Nat × SState),
    RQ s → reqScopes g fuel x s = .ok res → RQRes s res := by
  intro fuel
  induction fuel with
  | zero => intro x s res _ h; simp [reqScopes] at h
  | succ fuel ih =>
    intro x s res hrq h
    unfold reqScopes at h
    split at h
    · split at h
      · simp at h
      · simp only [Except.ok.injEq] at h
        subst h
        exact ⟨hrq, Nat.le_refl _, get_lt s hrq x⟩
    · dsimp only at h
      have hmany := many_rq (reqScopes g fuel) ih
      have houts := outs_rq (reqScopes g fuel) ih
      split at h
      · rename_i t
        split at h
        · cases h
        · rename_i i a horig
          obtain ⟨⟨ins, s1⟩, hm, h⟩ := bind_ok.1 h
          obtain ⟨s2, ho, h⟩ := bind_ok.1 h
          cases h
          obtain ⟨h1, h2, h3⟩ := hmany a.inputs ([], s) _ hm hrq (by simp)
          have hr := dedupe_zero_lt _ h1.1 ins h3
          obtain ⟨h5, h6⟩ := houts a.outs _ s2 ho (h1.set _ _ hr)
          exact ⟨h5, Nat.le_trans h2 h6, fun y hy => Nat.lt_of_lt_of_le (hr y hy) h6⟩
      · obtain ⟨⟨ins, s1⟩, hm, h⟩ := bind_ok.1 h
        cases h
        obtain ⟨h1, h2, h3⟩ := hmany _ ([], s) _ hm hrq (by simp)
        exact ⟨h1, h2, dedupe_zero_lt _ h1.1 _ h3⟩
      · obtain ⟨⟨ins, s1⟩, hm, h⟩ := bind_ok.1 h
        cases h
        obtain ⟨h1, h2, h3⟩ := hmany _ ([], s) _ hm hrq (by simp)
        exact ⟨h1, h2, dedupe_zero_lt _ h1.1 _ h3⟩
      · obtain ⟨⟨ins, s1⟩, hm, h⟩ := bind_ok.1 h
        cases h
        obtain ⟨h1, h2, h3⟩ := hmany _ ([], s) _ hm hrq (by simp)
        exact ⟨h1, h2, dedupe_zero_lt _ h1.1 _ h3⟩
      · rename_i i
        split at h
        · cases h
        · rename_i sg hsg
          simp only [bind, Except.bind] at h
          have hin := inputs_fold_rq s.scopes.length sg.inputs { s with scopes := s.scopes ++ [{ required := [] }] }
            ⟨by simp, fun p hp x hx => by
              have := hrq.2 p hp x hx
              simp only [List.length_append, List.length_cons, List.length_nil]
              omega⟩ (by simp)
          split at h
          · cases h
          · rename_i v hr
            simp only [pure, Except.pure, Except.ok.injEq] at h
            subst h
            obtain ⟨h1, h2, h3⟩ := ih _ _ _ hin.1 hr
            rw [hin.2] at h2
            simp only [List.length_append, List.length_cons, List.length_nil] at h2
            have hr' : ∀ y ∈ (if (v.1.filter (· != s.scopes.length)).isEmpty = true then [0] else v.1.filter (· != s.scopes.length)),
                y < v.2.scopes.length := by
              intro y hy
              split at hy
              · simp only [List.mem_singleton] at hy; rw [hy]; exact h1.1
              · exact h3 y (List.mem_filter.1 hy).1
            refine ⟨⟨?_, ?_⟩, ?_, ?_⟩
            · simp only [List.length_mapIdx]; exact h1.1
            · intro p hp x hx
              simp only [List.length_mapIdx]
              rcases mem_assocSet _ _ _ _ hp with hp | rfl
              · exact h1.2 p hp x hx
              · exact hr' x hx
            · simp only [List.length_mapIdx]; omega
            · simp only [List.length_mapIdx]; exact hr'
      · simp only [Except.ok.injEq] at h
        subst h
        exact ⟨hrq, Nat.le_refl _, by intro y hy; simp only [List.mem_singleton] at hy; rw [hy]; exact hrq.1⟩

/-! ### `get_scopes` and `Map.__getitem__` -/

theorem RQ.init : RQ {} := ⟨by simp, by intro p hp; simp at hp⟩

theorem getScopes_inv (g : Graph) (fuel : Nat) (sc : Scopes) (h : getScopes g fuel = .ok sc) :
    0 < sc.scopes.length ∧ ∀ p ∈ sc.ofKey, p.2 < sc.scopes.length := by
  unfold getScopes at h
  obtain ⟨v, hreq, h⟩ := bind_ok.1 h
  obtain ⟨scopes, hsc, h⟩ := bind_ok.1 h
  obtain ⟨ofKey, hof, h⟩ := bind_ok.1 h
  cases h
  have hrq := (reqScopes_rq g fuel g.top {} v RQ.init hreq).1
  have hlen : scopes.length = v.2.scopes.length := by
    rw [mapM_ok_length _ _ _ hsc]; simp
  refine ⟨by rw [hlen]; exact hrq.1, ?_⟩
  intro p hp
  obtain ⟨⟨k, r⟩, ha, hfa⟩ := mapM_ok_mem _ _ _ hof p hp
  simp only at hfa
  split at hfa
  · obtain ⟨_, hfa, _⟩ := bind_ok.1 hfa
    cases hfa
  · rename_i s0 rest hm
    obtain ⟨sc0, hpick, hfa⟩ := bind_ok.1 hfa
    cases hfa
    show sc0 < scopes.length
    rw [hlen]
    exact pick_lt _ _ hrq.1 (dedupe r) (fun x hx => hrq.2 (k, r) ha x (mem_dedupe _ _ hx)) s0 rest hm sc0 hpick

theorem Scopes.get_lt (sc : Scopes) (h0 : 0 < sc.scopes.length) (hk : ∀ p ∈ sc.ofKey, p.2 < sc.scopes.length) :
    ∀ (fuel : Nat) (x : E) (b : Nat), sc.get fuel x = .ok b → b < sc.scopes.length := by
  intro fuel
  induction fuel with
  | zero => intro x b h; simp [Scopes.get] at h
  | succ fuel ih =>
    intro x b h
    unfold Scopes.get at h
    split at h
    · cases h; exact h0
    · split at h
      · rename_i s hs
        cases h
        exact hk (x, _) (assocGet_mem _ _ _ hs)
      · have container : ∀ a : E, (do
              let l ← a.toList.mapM (sc.get fuel)
              let n := sc.scopes.length
              match dedupe l ++ [0] with
              | [] => throw "unreachable"
              | s0 :: rest => rest.foldlM (pickStep (isPredParent sc.scopes (n + 2))) s0 : Except String Nat) = .ok b →
            b < sc.scopes.length := by
          intro a h
          obtain ⟨l, hl, h⟩ := bind_ok.1 h
          simp only at h
          split at h
          · cases h
          · rename_i s0 rest hm
            refine pick_lt (isPredParent sc.scopes (sc.scopes.length + 2)) _ h0 (dedupe l) ?_ s0 rest hm b h
            intro x hx
            obtain ⟨y, _, hy⟩ := mapM_ok_mem _ _ _ hl x (mem_dedupe _ _ hx)
            exact ih y x hy
        split at h
        · exact container _ h
        · exact container _ h
        · exact container _ h
        · cases h

theorem goodBlk_lt (c : Ctx) (g0 : Graph) (f0 : Nat) (hs : getScopes g0 f0 = .ok c.scopes) (b : Nat) (h : GoodBlk c b) :
    b < c.scopes.scopes.length := by
  obtain ⟨h0, hk⟩ := getScopes_inv g0 f0 c.scopes hs
  rcases h with rfl | ⟨x, hx⟩
  · exact h0
  · exact Scopes.get_lt c.scopes h0 hk _ x b hx

end Einx.Compile
