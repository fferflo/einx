import EinxModel.Proofs.NotationNFDefs
import EinxModel.Proofs.NotationEqns
/-!
# M1 Notation — the smart constructors on arguments of known form

`mkFlat`, `mkBrackets`, `mkEllipsis`, `mkConcat`, `mkList` are the plain constructors when the argument has no redundant form;
`flattenOne`/`flattenAll` drop nothing but lists and keep `ndim`; a `Lift.wrap` node is read through `children`, `b`, `e`.
-/
namespace Einx.Notation

namespace NF

theorem children_wrap (k : Lift) (cs : List Expr) (b e : Int) : (k.wrap cs b e).children = cs := by
  cases k <;> rfl

theorem b_wrap (k : Lift) (cs : List Expr) (b e : Int) : (k.wrap cs b e).b = b := by
  cases k <;> rfl

theorem e_wrap (k : Lift) (cs : List Expr) (b e : Int) : (k.wrap cs b e).e = e := by
  cases k <;> rfl

theorem mkFlat_nf {i : Expr} (b e : Int) (h : i.isFlat = false) : mkFlat i b e = .flat i b e :=
  mkFlat_elim (motive := fun r => r = .flat i b e) (fun h' => absurd h' (by simp [h])) fun _ => rfl

theorem mkFlat_isFlat (a : Expr) (b e : Int) : (mkFlat a b e).isFlat = true :=
  mkFlat_elim (motive := fun r => r.isFlat = true) (fun h => h) fun _ => rfl

theorem mkBrackets_nf {i : Expr} (b e : Int) (h1 : i.isBrackets = false) (h2 : (i.ndim != some 0) = true) :
    mkBrackets i b e = .brackets i b e :=
  mkBrackets_elim (motive := fun r => r = .brackets i b e) (fun h => absurd h (by simp [h1]))
    (fun h => absurd h (by simpa using h2)) fun _ _ => rfl

theorem mkEllipsis_nf {i : Expr} (b e : Int) (d : Nat) (h2 : (i.ndim != some 0) = true) :
    mkEllipsis i b e d = .ellipsis i d b e :=
  mkEllipsis_elim (motive := fun r => r = .ellipsis i d b e) (fun h => absurd h (by simpa using h2)) fun _ => rfl

theorem mkConcat_two {cs : List Expr} (b e : Int) (h : 2 ≤ cs.length) : mkConcat cs b e = .concat cs b e :=
  mkConcat_elim (motive := fun r => r = .concat cs b e) (fun c hc => by rw [hc] at h; simp at h) fun _ => rfl

theorem flattenOne_notList {x : Expr} (h : x.isList = false) : flattenOne x = [x] := by
  cases x <;> first | rfl | (simp [Expr.isList] at h)

theorem flattenOne_item {x : Expr} (h : isItem x = true) : flattenOne x = [x] := by
  cases x <;> first | rfl | (simp [isItem] at h)

theorem flattenOne_empty {x : Expr} (h : isEmptyList x = true) : flattenOne x = [] := by
  cases x with
  | list cs b e =>
    cases cs with
    | nil => simp [flattenOne, flattenAll]
    | cons _ _ => simp [isEmptyList] at h
  | _ => simp [isEmptyList] at h

theorem flattenAll_notList : ∀ {zs : List Expr}, (∀ z ∈ zs, z.isList = false) → flattenAll zs = zs
  | [], _ => by simp [flattenAll]
  | z :: zs, h => by
    have h1 := flattenOne_notList (h z (by simp))
    have h2 := flattenAll_notList (zs := zs) (fun z' hz' => h z' (List.mem_cons_of_mem _ hz'))
    simp only [flattenAll, h1, h2, List.singleton_append]

theorem mem_flattenAll {z : Expr} {ys : List Expr} : z ∈ flattenAll ys ↔ ∃ y ∈ ys, z ∈ flattenOne y := by
  rw [flattenAll_eq_flatMap]
  exact List.mem_flatMap

theorem flattenAll_filter : ∀ {xs : List Expr}, (∀ x ∈ xs, (isItem x || isEmptyList x) = true) →
    flattenAll xs = xs.filter (fun x => !isEmptyList x)
  | [], _ => rfl
  | x :: xs, h => by
    have ih := flattenAll_filter (fun y hy => h y (List.mem_cons_of_mem _ hy))
    have hx := h x (by simp)
    simp only [flattenAll, ih, List.filter_cons]
    cases he : isEmptyList x with
    | true => simp [flattenOne_empty he]
    | false =>
      have hit : isItem x = true := by simpa [he] using hx
      simp [flattenOne_item hit]

theorem mkList_nf {cs : List Expr} (b e : Int) (h1 : flattenAll cs = cs) (h2 : cs.length ≠ 1) :
    mkList cs b e = .list cs b e :=
  mkList_elim (motive := fun r => r = .list cs b e) (fun c hc => by rw [h1] at hc; rw [hc] at h2; simp at h2)
    fun _ => by rw [h1]

/-! ### `ndim` -/

theorem isEmptyList_ndim {x : Expr} (h : isEmptyList x = true) : x.ndim = some 0 := by
  cases x with
  | list cs b e =>
    cases cs with
    | nil => simp [Expr.ndim, ndimSum]
    | cons _ _ => simp [isEmptyList] at h
  | _ => simp [isEmptyList] at h

theorem ndimSum_append : ∀ (xs ys : List Expr), ndimSum (xs ++ ys) =
    (match ndimSum xs, ndimSum ys with | some a, some b => some (a + b) | _, _ => none)
  | [], ys => by
    simp only [List.nil_append, ndimSum]
    cases ndimSum ys <;> simp
  | x :: xs, ys => by
    simp only [List.cons_append, ndimSum, ndimSum_append xs ys]
    cases x.ndim <;> cases ndimSum xs <;> cases ndimSum ys <;> simp [Nat.add_assoc]

theorem ndimSum_single (c : Expr) : ndimSum [c] = c.ndim := by
  simp only [ndimSum]
  cases c.ndim <;> simp

theorem ndimSum_map_congr {f : Expr → Expr} : ∀ {cs : List Expr}, (∀ c ∈ cs, (f c).ndim = c.ndim) →
    ndimSum (cs.map f) = ndimSum cs
  | [], _ => rfl
  | c :: cs, h => by
    have ih := ndimSum_map_congr (f := f) (cs := cs) fun c' hc' => h c' (List.mem_cons_of_mem _ hc')
    simp only [List.map_cons, ndimSum, h c List.mem_cons_self, ih]

theorem flattenAll_ndim_of : ∀ {cs : List Expr}, (∀ c ∈ cs, ndimSum (flattenOne c) = c.ndim) →
    ndimSum (flattenAll cs) = ndimSum cs
  | [], _ => by simp only [flattenAll]
  | c :: cs, h => by
    simp only [flattenAll, ndimSum_append, h c List.mem_cons_self,
      flattenAll_ndim_of fun c' hc' => h c' (List.mem_cons_of_mem _ hc'), ndimSum]
    cases c.ndim <;> cases ndimSum cs <;> rfl

theorem flattenOne_ndim : ∀ (x : Expr), ndimSum (flattenOne x) = x.ndim := by
  intro x
  induction x using Expr.memInduction with
  | list cs _ _ ih => simp only [flattenOne, Expr.ndim, flattenAll_ndim_of ih]
  | axis | flat | brackets | ellipsis | concat | args | op => simp only [flattenOne, ndimSum_single]

theorem flattenAll_ndim (cs : List Expr) : ndimSum (flattenAll cs) = ndimSum cs :=
  flattenAll_ndim_of fun c _ => flattenOne_ndim c

theorem mkList_ndim (ys : List Expr) (b e : Int) : (mkList ys b e).ndim = ndimSum ys :=
  mkList_elim (motive := fun r => r.ndim = ndimSum ys) (fun c hc => by rw [← flattenAll_ndim ys, hc, ndimSum_single])
    fun _ => by simp only [Expr.ndim, flattenAll_ndim]

theorem ndim_of_isFlat {x : Expr} (h : x.isFlat = true) : x.ndim = some 1 := by
  cases x <;> simp [Expr.isFlat] at h
  simp [Expr.ndim]

theorem ndim_of_axisOrFlat {x : Expr} (h : isAxisOrFlat x = true) : x.ndim = some 1 := by
  cases x <;> simp [isAxisOrFlat, Expr.isAxis, Expr.isFlat] at h <;> simp [Expr.ndim]

end NF

end Einx.Notation
