/-!
Schedules over an arbitrary transition system with numbered threads: `step c i` is the step of thread `i` in
configuration `c`, `none` if it is not enabled.  Shared by both interleaving models (registry, compiled-function cache).
-/
namespace Einx.Sched

variable {C : Type}

/-- Run a schedule; scheduling a thread that is not enabled is a no-op.  `Registry.Conc.run rc lc` and
`Cache.Conc.run comp trim` unfold to `run` of their `stepThread`. -/
def run (step : C → Nat → Option C) (c : C) (sched : List Nat) : C :=
  sched.foldl (fun c i => (step c i).getD c) c

theorem run_append (step : C → Nat → Option C) (c : C) (a b : List Nat) :
    run step c (a ++ b) = run step (run step c a) b := List.foldl_append ..

theorem run_snoc_of_step {step : C → Nat → Option C} {c c' : C} (sched : List Nat) {i : Nat}
    (h : step (run step c sched) i = some c') : run step c (sched ++ [i]) = c' := by
  rw [run_append]
  show (step (run step c sched) i).getD _ = c'
  rw [h]
  rfl

theorem inv_run {step : C → Nat → Option C} {P : C → Prop}
    (hstep : ∀ c i c', P c → step c i = some c' → P c') (sched : List Nat) {c : C} (h : P c) :
    P (run step c sched) := by
  induction sched generalizing c with
  | nil => exact h
  | cons i rest ih =>
    show P (run step ((step c i).getD c) rest)
    cases hs : step c i with
    | none => exact ih h
    | some c' => exact ih (hstep c i c' h hs)

theorem can_finish {step : C → Nat → Option C} {P : C → Prop} (measure : C → Nat) (fin : C → Bool)
    (hstep : ∀ c i c', P c → step c i = some c' → P c')
    (hlt : ∀ c i c', step c i = some c' → measure c' < measure c)
    (hen : ∀ c, P c → fin c = false → ∃ i, (step c i).isSome = true)
    {c : C} (h : P c) (sched : List Nat) : ∃ ext, fin (run step c (sched ++ ext)) = true := by
  generalize hn : measure (run step c sched) = n
  induction n using Nat.strongRecOn generalizing sched with
  | _ n ih =>
    cases hfin : fin (run step c sched) with
    | true => exact ⟨[], by rw [List.append_nil]; exact hfin⟩
    | false =>
      obtain ⟨i, hi⟩ := hen _ (inv_run hstep sched h) hfin
      obtain ⟨c', hs⟩ := Option.isSome_iff_exists.1 hi
      have hrun := run_snoc_of_step sched hs
      obtain ⟨ext, hext⟩ := ih (measure c') (hn ▸ hlt _ i c' hs) (sched ++ [i]) (by rw [hrun])
      exact ⟨i :: ext, by rwa [List.append_assoc] at hext⟩

theorem getElem?_set_cases {α} (l : List α) (i j : Nat) (x y : α) (h : (l.set i x)[j]? = some y) :
    (j = i ∧ y = x) ∨ (j ≠ i ∧ l[j]? = some y) := by
  rw [List.getElem?_set] at h
  by_cases hij : i = j
  · subst hij
    simp only [↓reduceIte] at h
    split at h <;> simp_all
  · simp only [hij, ↓reduceIte] at h
    exact .inr ⟨fun e => hij e.symm, h⟩

theorem sum_map_set {α} (f : α → Nat) (l : List α) (i : Nat) (x y : α) (h : l[i]? = some x) :
    ((l.set i y).map f).sum + f x = (l.map f).sum + f y := by
  induction l generalizing i with
  | nil => cases h
  | cons a l ih =>
    cases i with
    | zero => cases h; simp only [List.set_cons_zero, List.map_cons, List.sum_cons]; omega
    | succ i =>
      have := ih i h
      simp only [List.set_cons_succ, List.map_cons, List.sum_cons]
      omega

theorem sum_set_lt {α} (f : α → Nat) (l : List α) (i : Nat) (x y : α) (hi : l[i]? = some x) (h : f y < f x) :
    ((l.set i y).map f).sum < (l.map f).sum := by
  have := sum_map_set f l i x y hi
  omega

end Einx.Sched
