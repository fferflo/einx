import EinxModel.Proofs.ExceptList
/-!
# Lists related pointwise

`Forall2 R l l'`: the two lists have the same length and `R` holds place by place.
-/
namespace Einx.Notation

/-- Pointwise relation between two lists of the same length (Mathlib's `List.Forall₂`; defined here because the
    notation files use core only, and under its own name so that it cannot clash with Mathlib elsewhere in the project). -/
inductive Forall2 {α β : Type} (R : α → β → Prop) : List α → List β → Prop
  | nil : Forall2 R [] []
  | cons {a : α} {b : β} {l₁ : List α} {l₂ : List β} : R a b → Forall2 R l₁ l₂ → Forall2 R (a :: l₁) (b :: l₂)

theorem Forall2.append {α β : Type} {R : α → β → Prop} {a c : List α} {b d : List β}
    (h1 : Forall2 R a b) (h2 : Forall2 R c d) : Forall2 R (a ++ c) (b ++ d) := by
  induction h1 with
  | nil => exact h2
  | cons hr _ ih => exact .cons hr ih

namespace Forall2
variable {α β γ δ : Type} {R : α → β → Prop} {l : List α} {l' : List β}

theorem flip (h : Forall2 R l l') : Forall2 (fun b a => R a b) l' l := by
  induction h with
  | nil => exact .nil
  | cons h1 _ ih => exact .cons h1 ih

theorem length_eq (h : Forall2 R l l') : l.length = l'.length := by
  induction h with
  | nil => rfl
  | cons _ _ ih => exact congrArg (· + 1) ih

theorem isEmpty_eq (h : Forall2 R l l') : l.isEmpty = l'.isEmpty := by
  cases h <;> rfl

theorem imp_mem {S : α → β → Prop} (h : Forall2 R l l') (hRS : ∀ a ∈ l, ∀ b, R a b → S a b) : Forall2 S l l' := by
  induction h with
  | nil => exact .nil
  | cons h1 _ ih => exact .cons (hRS _ List.mem_cons_self _ h1) (ih fun a ha => hRS a (List.mem_cons_of_mem _ ha))

theorem imp {S : α → β → Prop} (hRS : ∀ a b, R a b → S a b) (h : Forall2 R l l') : Forall2 S l l' :=
  h.imp_mem fun a _ b => hRS a b

theorem self_of_mem {R : α → α → Prop} : ∀ {l : List α}, (∀ a ∈ l, R a a) → Forall2 R l l
  | [], _ => .nil
  | a :: _, h => .cons (h a List.mem_cons_self) (self_of_mem fun x hx => h x (List.mem_cons_of_mem _ hx))

theorem mem_left (h : Forall2 R l l') : ∀ a ∈ l, ∃ b ∈ l', R a b := by
  induction h with
  | nil => exact fun _ h => nomatch h
  | cons h1 _ ih =>
    exact List.forall_mem_cons.mpr ⟨⟨_, List.mem_cons_self, h1⟩,
      fun a ha => let ⟨b, hb, hr⟩ := ih a ha; ⟨b, List.mem_cons_of_mem _ hb, hr⟩⟩

theorem mem_right (h : Forall2 R l l') : ∀ b ∈ l', ∃ a ∈ l, R a b :=
  h.flip.mem_left

theorem map {S : γ → δ → Prop} {f : α → γ} {g : β → δ} (hfg : ∀ a b, R a b → S (f a) (g b)) (h : Forall2 R l l') :
    Forall2 S (l.map f) (l'.map g) := by
  induction h with
  | nil => exact .nil
  | cons h1 _ ih => exact .cons (hfg _ _ h1) ih

theorem of_map {R : γ → δ → Prop} (f : α → γ) (g : β → δ) : ∀ {l : List α} {l' : List β},
    Forall2 R (l.map f) (l'.map g) → Forall2 (fun a b => R (f a) (g b)) l l'
  | [], [], _ => .nil
  | _ :: _, _ :: _, .cons h1 h2 => .cons h1 (of_map f g h2)

theorem map_eq {f : α → γ} {g : β → γ} (hfg : ∀ a b, R a b → f a = g b) (h : Forall2 R l l') : l.map f = l'.map g := by
  induction h with
  | nil => rfl
  | cons h1 _ ih => rw [List.map_cons, List.map_cons, hfg _ _ h1, ih]

theorem any_eq {p : α → Bool} {q : β → Bool} (hpq : ∀ a b, R a b → p a = q b) (h : Forall2 R l l') : l.any p = l'.any q := by
  induction h with
  | nil => rfl
  | cons h1 _ ih => rw [List.any_cons, List.any_cons, hpq _ _ h1, ih]

theorem flatMap {S : γ → δ → Prop} {f : α → List γ} {g : β → List δ} (hfg : ∀ a b, R a b → Forall2 S (f a) (g b))
    (h : Forall2 R l l') : Forall2 S (l.flatMap f) (l'.flatMap g) := by
  induction h with
  | nil => exact .nil
  | cons h1 _ ih =>
    rw [List.flatMap_cons, List.flatMap_cons]
    exact (hfg _ _ h1).append ih

theorem getD {d : α} {d' : β} (hd : R d d') (h : Forall2 R l l') (i : Nat) : R (l.getD i d) (l'.getD i d') := by
  induction h generalizing i with
  | nil => exact hd
  | cons h1 _ ih =>
    cases i with
    | zero => exact h1
    | succ i => exact ih i

theorem filter {p : α → Bool} {q : β → Bool} (hpq : ∀ a b, R a b → p a = q b) (h : Forall2 R l l') :
    Forall2 R (l.filter p) (l'.filter q) := by
  induction h with
  | nil => exact .nil
  | cons h1 _ ih =>
    rw [List.filter_cons, List.filter_cons, hpq _ _ h1]
    split
    · exact .cons h1 ih
    · exact ih

theorem dropWhile {p : α → Bool} {q : β → Bool} (hpq : ∀ a b, R a b → p a = q b) (h : Forall2 R l l') :
    Forall2 R (l.dropWhile p) (l'.dropWhile q) := by
  induction h with
  | nil => exact .nil
  | cons h1 h2 ih =>
    rw [List.dropWhile_cons, List.dropWhile_cons, hpq _ _ h1]
    split
    · exact ih
    · exact .cons h1 h2

theorem snoc_left {l₀ : List α} {a : α} (h : Forall2 R (l₀ ++ [a]) l') : ∃ l₀' a', l' = l₀' ++ [a'] ∧ Forall2 R l₀ l₀' ∧ R a a' := by
  induction l₀ generalizing l' with
  | nil =>
    cases h with
    | cons h1 h2 => cases h2; exact ⟨[], _, rfl, .nil, h1⟩
  | cons x xs ih =>
    cases h with
    | cons h1 h2 =>
      obtain ⟨l₀', a', rfl, h3, h4⟩ := ih h2
      exact ⟨_ :: l₀', a', rfl, .cons h1 h3, h4⟩

end Forall2

theorem _root_.Einx.ExceptR.mapM {ε ε' α α' β β' : Type} {E : ε → ε' → Prop} {R : β → β' → Prop} {f : α → Except ε β}
    {g : α' → Except ε' β'} {l : List α} {l' : List α'} (h : Forall2 (fun a b => ExceptR E R (f a) (g b)) l l') :
    ExceptR E (Forall2 R) (l.mapM f) (l'.mapM g) := by
  induction h with
  | nil => exact .nil
  | cons h1 _ ih =>
    rw [List.mapM_cons, List.mapM_cons]
    exact h1.bind fun _ _ _ _ hx => ih.bind fun _ _ _ _ hxs => .cons hx hxs

/-- `Forall2` under the name that the statements about axis occurrences use (`pw_iff`). -/
inductive PW {α β : Type} (R : α → β → Prop) : List α → List β → Prop
  | nil : PW R [] []
  | cons {a : α} {b : β} {l₁ : List α} {l₂ : List β} : R a b → PW R l₁ l₂ → PW R (a :: l₁) (b :: l₂)

theorem pw_iff {α β : Type} {R : α → β → Prop} {l : List α} {l' : List β} : PW R l l' ↔ Forall2 R l l' := by
  constructor <;> intro h <;> induction h with
  | nil => exact .nil
  | cons h1 _ ih => exact .cons h1 ih

theorem PW.append {α β : Type} {R : α → β → Prop} :
    ∀ {as : List α} {as' : List β} {bs : List α} {bs' : List β},
      PW R as as' → PW R bs bs' → PW R (as ++ bs) (as' ++ bs') :=
  fun ha hb => pw_iff.mpr ((pw_iff.mp ha).append (pw_iff.mp hb))

theorem PW.mem_left {α β : Type} {R : α → β → Prop} {as : List α} {as' : List β} (h : PW R as as') :
    ∀ a ∈ as, ∃ a' ∈ as', R a a' :=
  (pw_iff.mp h).mem_left

theorem PW.mem_right {α β : Type} {R : α → β → Prop} {as : List α} {as' : List β} (h : PW R as as') :
    ∀ a' ∈ as', ∃ a ∈ as, R a a' :=
  (pw_iff.mp h).mem_right

end Einx.Notation
