import EinxModel.Exec.View
/-! Helper lemmas for `Props/C15Exec.lean`: inversion of the translation `toAdapt`. -/
namespace Einx.Exec
open Einx.Compile

theorem toVal_ref_inv (x : E) (f : Nat) (h : toVal x = .ref f) : x = .var f := by
  cases x with
  | var t => cases h; rfl
  | lit s => simp only [toVal] at h; generalize litKind s = k at h; cases k <;> cases h
  | node tag a => cases tag <;> cases h
  | _ => cases h

theorem toAdaptApp_call_inv (cv : Option Adapt.Val) (a : App) (fn : Adapt.Val) (args : List Adapt.Val)
    (kwargs : List (String × Adapt.Val)) (out : Adapt.Val) (h : toAdaptApp cv a = .call fn args kwargs out) :
    ∃ fn' args' kwargs' deps' o, a = .call fn' args' kwargs' deps' o ∧ fn = toVal fn' ∧ args = args'.map toVal ∧
      kwargs = toKw kwargs' ∧ out = .ref o := by
  cases a with
  | call fn' args' kwargs' deps' o =>
    cases h
    exact ⟨fn', args', kwargs', deps', o, rfl, rfl, rfl, rfl, rfl⟩
  | import_ imp from_ as_ o => simp only [toAdaptApp] at h; split at h <;> cases h
  | assert_ xs cond msg o => simp only [toAdaptApp] at h; split at h <;> cases h
  | _ => cases h

theorem toAdaptApp_constant_inv (cv : Option Adapt.Val) (a : App) (v : Adapt.Val) (c : Nat)
    (h : toAdaptApp cv a = .constant v c) : ∃ str, a = .constant str c := by
  cases a with
  | constant str o => cases h; exact ⟨str, rfl⟩
  | import_ imp from_ as_ o => simp only [toAdaptApp] at h; split at h <;> cases h
  | assert_ xs cond msg o => simp only [toAdaptApp] at h; split at h <;> cases h
  | _ => cases h

theorem toAdapt_app_eq (g : Graph) (shapes : List (Nat × List Nat)) (constVals : List (Option Adapt.Val)) (ag : Adapt.Graph)
    (h : toAdapt g shapes constVals = some ag) (i : Nat) :
    ag.apps[i]? = (g.apps[i]?).map (toAdaptApp ((constVals[i]?).getD none)) := by
  unfold toAdapt at h
  split at h
  · split at h
    · cases h
      simp only [List.getElem?_map, List.getElem?_zipIdx, Option.map_map, Nat.zero_add]
      rfl
    · cases h
  · cases h

theorem toAdapt_app (g : Graph) (shapes : List (Nat × List Nat)) (constVals : List (Option Adapt.Val)) (ag : Adapt.Graph)
    (h : toAdapt g shapes constVals = some ag) (i : Nat) (b : Adapt.App) (hb : ag.apps[i]? = some b) :
    ∃ a, g.apps[i]? = some a ∧ b = toAdaptApp ((constVals[i]?).getD none) a := by
  rw [toAdapt_app_eq g shapes constVals ag h, Option.map_eq_some_iff] at hb
  obtain ⟨a, ha, rfl⟩ := hb
  exact ⟨a, ha, rfl⟩

theorem toAdapt_app_fwd (g : Graph) (shapes : List (Nat × List Nat)) (constVals : List (Option Adapt.Val)) (ag : Adapt.Graph)
    (h : toAdapt g shapes constVals = some ag) (i : Nat) (a : App) (ha : g.apps[i]? = some a) :
    ag.apps[i]? = some (toAdaptApp ((constVals[i]?).getD none) a) := by
  rw [toAdapt_app_eq g shapes constVals ag h, ha]
  rfl

end Einx.Exec
