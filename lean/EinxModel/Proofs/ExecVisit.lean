import EinxModel.Proofs.CompileOrder
import EinxModel.Proofs.ExecView
import EinxModel.Proofs.ExecReach
/-! Helper lemmas for `Props/C13Exec.lean`: the generator's memoised depth-first traversal (`Compile.visit`) of a
supported, well-formed graph visits exactly the applications that the C13 backward pass calls reachable. -/
namespace Einx.Exec
open Einx.Compile Einx.Factory

/-- A tracer some evaluated node needs: the output mentions it, or a reachable application consumes it. -/
def Wanted (fg : Factory.Graph) (r : Nat) : Prop :=
  r ∈ fg.output.refs ∨ ∃ j b, Reach fg j ∧ fg.apps[j]? = some b ∧ r ∈ refsL b.node.operands

structure VI (cg : Compile.Graph) (fg : Factory.Graph) (ins : List Nat) (st : OState) : Prop where
  sound : ∀ i, Visit.app i ∈ st.order → Reach fg i
  prod : ∀ r, E.var r ∈ st.registered →
    r ∈ ins ∨ ∃ i a, Visit.app i ∈ st.order ∧ cg.apps[i]? = some a ∧ r ∈ (toV a.out).refs
  ops : ∀ i a, Visit.app i ∈ st.order → cg.apps[i]? = some a →
    ∀ o ∈ a.genOperands, ∀ r ∈ (toV o).refs, E.var r ∈ st.registered
  keys : ∀ k ∈ st.registered, (∃ n, k = E.gref n) ∨ (isVarTree k = true ∧ ∀ r ∈ k.vars, E.var r ∈ st.registered)

structure VS (cg : Compile.Graph) (fg : Factory.Graph) (ins : List Nat) (l : List E) (st st' : OState) : Prop where
  inv : VI cg fg ins st'
  reg : ∀ k ∈ st.registered, k ∈ st'.registered
  ord : ∀ v ∈ st.order, v ∈ st'.order
  ent : ∀ k, Visit.enter k ∈ st'.order → Visit.enter k ∈ st.order
  post : ∀ o ∈ l, ∀ r ∈ (toV o).refs, E.var r ∈ st'.registered

structure Setup (cg : Compile.Graph) (fg : Factory.Graph) : Prop where
  wf : cg.WF = true
  noNested : ∀ a ∈ cg.apps, ∀ o ∈ a.genOperands, o.grefsOf = []
  varOuts : ∀ a ∈ cg.apps, isVarTree a.out = true
  apps : fg.apps = cg.apps.map toGApp
  root : ∃ k sg, cg.top = .gref k ∧ cg.graphs[k]? = some sg ∧ fg.inputs = sg.inputs ∧ fg.output = toV sg.output

theorem Setup.app {cg : Compile.Graph} {fg : Factory.Graph} (S : Setup cg fg) (i : Nat) (a : App)
    (ha : cg.apps[i]? = some a) : fg.apps[i]? = some (toGApp a) := by
  rw [S.apps, List.getElem?_map, ha]; rfl

theorem Setup.app_inv {cg : Compile.Graph} {fg : Factory.Graph} (S : Setup cg fg) (i : Nat) (b : GApp)
    (hb : fg.apps[i]? = some b) : ∃ a, cg.apps[i]? = some a ∧ b = toGApp a := by
  rw [S.apps, List.getElem?_map, Option.map_eq_some_iff] at hb
  obtain ⟨a, ha, rfl⟩ := hb
  exact ⟨a, ha, rfl⟩

theorem VS.refl {cg : Compile.Graph} {fg : Factory.Graph} {ins : List Nat} {l : List E} {st : OState} (hinv : VI cg fg ins st)
    (post : ∀ o ∈ l, ∀ r ∈ (toV o).refs, E.var r ∈ st.registered) : VS cg fg ins l st st :=
  ⟨hinv, fun _ hk => hk, fun _ hv => hv, fun _ hk => hk, post⟩

theorem VI.app {cg : Compile.Graph} {fg : Factory.Graph} {ins : List Nat} {st : OState} (hinv : VI cg fg ins st)
    (S : Setup cg fg) (i : Nat) (a : App) (happ : cg.apps[i]? = some a) (hreach : Reach fg i)
    (hops : ∀ o ∈ a.genOperands, ∀ r ∈ (toV o).refs, E.var r ∈ st.registered) :
    VI cg fg ins { registered := st.registered ++ regKeys a.out, order := st.order ++ [.app i] } := by
  have hvt := S.varOuts a (List.mem_of_getElem? happ)
  refine ⟨fun i' hi' => ?_, fun r hr => ?_, fun i' a' hi' ha' o ho r hr => ?_, fun k hk => ?_⟩
  · rcases List.mem_append.1 hi' with hi' | hi'
    · exact hinv.sound i' hi'
    · cases List.mem_singleton.1 hi'
      exact hreach
  · rcases List.mem_append.1 hr with hr | hr
    · rcases hinv.prod r hr with h' | ⟨i', a', h1', h2', h3'⟩
      · exact Or.inl h'
      · exact Or.inr ⟨i', a', List.mem_append_left _ h1', h2', h3'⟩
    · exact Or.inr ⟨i, a, List.mem_append_right _ (List.mem_singleton_self _), happ, (varTree_regKeys_iff a.out hvt r).1 hr⟩
  · rcases List.mem_append.1 hi' with hi' | hi'
    · exact List.mem_append_left _ (hinv.ops i' a' hi' ha' o ho r hr)
    · cases List.mem_singleton.1 hi'
      cases happ.symm.trans ha'
      exact List.mem_append_left _ (hops o ho r hr)
  · rcases List.mem_append.1 hk with hk | hk
    · rcases hinv.keys k hk with h' | ⟨a1, a3⟩
      · exact Or.inl h'
      · exact Or.inr ⟨a1, fun r hr => List.mem_append_left _ (a3 r hr)⟩
    · obtain ⟨a1, a3⟩ := varTree_regKeys_sub a.out hvt k hk
      exact Or.inr ⟨a1, fun r hr => List.mem_append_right _ (a3 r hr)⟩

/-- What the traversal of one value `x` establishes, as the predicate of `visit_induct`. -/
def VisitVS (cg : Compile.Graph) (fg : Factory.Graph) (ins : List Nat) (x : E) (st st' : OState) : Prop :=
  VI cg fg ins st → x.grefsOf = [] → (∀ r ∈ (toV x).refs, Wanted fg r) → VS cg fg ins [x] st st'

theorem chain_vs {cg : Compile.Graph} {fg : Factory.Graph} {ins : List Nat} {l : List E} {st st' : OState}
    (h : Chain (VisitVS cg fg ins) l st st') (hinv : VI cg fg ins st)
    (hl : ∀ o ∈ l, o.grefsOf = [] ∧ ∀ r ∈ (toV o).refs, Wanted fg r) : VS cg fg ins l st st' := by
  induction h with
  | nil st => exact VS.refl hinv fun _ ho => nomatch ho
  | @cons o rest st s1 st' h1 _ ih =>
    have ho := hl o (List.mem_cons_self ..)
    have r1 := h1 hinv ho.1 ho.2
    have r2 := ih r1.inv (fun o' ho' => hl o' (List.mem_cons_of_mem _ ho'))
    refine ⟨r2.inv, fun k hk => r2.reg k (r1.reg k hk), fun v hv => r2.ord v (r1.ord v hv),
      fun k hk => r1.ent k (r2.ent k hk), fun o' ho' r hr => ?_⟩
    rcases List.mem_cons.1 ho' with rfl | ho'
    · exact r2.reg _ (r1.post o' (List.mem_singleton_self _) r hr)
    · exact r2.post o' ho' r hr

theorem grefsOf_elem (a o : E) (ho : o ∈ a.toList) (tag : Tag) (h : (E.node tag a).grefsOf = []) : o.grefsOf = [] :=
  List.eq_nil_iff_forall_not_mem.2 fun k hk => by
    have := (mem_toList_vars a o ho).2 k hk
    rw [show a.grefsOf = [] from h] at this
    cases this

theorem visit_vs (cg : Compile.Graph) (fg : Factory.Graph) (ins : List Nat) (S : Setup cg fg) :
    ∀ (fuel : Nat) (x : E) (st st' : OState), visit cg fuel x st = .ok st' → VisitVS cg fg ins x st st' := by
  refine visit_induct cg (VisitVS cg fg ins) ?skip ?app ?node ?gref
  case skip =>
    rintro x st (hreg | ⟨s, rfl⟩) hinv _ _
    · -- memoised: the key of `x` is registered, and it determines the tracers `x` mentions
      refine VS.refl hinv fun o ho r hr => ?_
      cases List.mem_singleton.1 ho
      simp only [isRegistered] at hreg
      split at hreg
      · rename_i k hk
        rcases hinv.keys k (List.contains_iff_mem.1 hreg) with ⟨n, rfl⟩ | ⟨hv, hall⟩
        · -- a graph key: `x` is that graph, which mentions no tracer
          cases x with
          | gref g => simp [refs_gref] at hr
          | var t => simp [keyOf] at hk
          | node tag a => cases tag <;> simp [keyOf] at hk
          | _ => simp [keyOf] at hk
        · rw [(refs_of_key x).1 k hk hv] at hr
          exact hall r hr
      · cases hreg
    · exact VS.refl hinv fun o ho r hr => by cases List.mem_singleton.1 ho; simp [refs_lit] at hr
  case app =>
    intro t i a st s1 _ horig hch hinv _ hw
    have happ := originOf_app cg t i a horig
    have hmem : a ∈ cg.apps := List.mem_of_getElem? happ
    have hfa := S.app i a happ
    have hvt := S.varOuts a hmem
    have hreg := WF.origin S.wf t i a horig
    have htout : t ∈ (toV a.out).refs := (varTree_regKeys_iff a.out hvt t).1 hreg
    have hreach : Reach fg i := by
      rcases hw t (by simp [refs_var]) with ho | ⟨j, b, hj, hb, hrb⟩
      · exact Reach.out i (toGApp a) t hfa htout ho
      · exact Reach.step j b i (toGApp a) t hj hb hrb hfa htout
    have r1 := chain_vs hch hinv (fun o ho =>
      ⟨S.noNested a hmem o ho, fun r hr => Or.inr ⟨i, toGApp a, hreach, hfa, (operand_refs a r).2 ⟨o, ho, hr⟩⟩⟩)
    refine ⟨r1.inv.app S i a happ hreach r1.post, fun k hk => List.mem_append_left _ (r1.reg k hk),
      fun v hv => List.mem_append_left _ (r1.ord v hv), fun k hk => r1.ent k (by simpa using hk), ?_⟩
    intro o ho r hr
    cases List.mem_singleton.1 ho
    cases List.mem_singleton.1 (refs_var t ▸ hr)
    exact List.mem_append_right _ hreg
  case node =>
    intro tag a st st' htag hch hinv hng hw
    have hrefs : ∀ r, r ∈ (toV (.node tag a)).refs ↔ ∃ o ∈ a.toList, r ∈ (toV o).refs := by
      rcases htag with rfl | rfl | rfl
      · exact mem_refs_tuple a
      · exact mem_refs_list a
      · exact mem_refs_dict a
    have r := chain_vs hch hinv (fun o ho =>
      ⟨grefsOf_elem a o ho tag hng, fun r hr => hw r ((hrefs r).2 ⟨o, ho, hr⟩)⟩)
    refine ⟨r.inv, r.reg, r.ord, r.ent, fun o' ho' r' hr' => ?_⟩
    cases List.mem_singleton.1 ho'
    obtain ⟨o, ho, hro⟩ := (hrefs r').1 hr'
    exact r.post o ho r' hro
  case gref =>
    intro k sg st s1 _ _ _ _ hng
    simp [E.grefsOf] at hng

theorem mem_appsOf (order : List Visit) (i : Nat) : i ∈ appsOf order ↔ Visit.app i ∈ order := by
  induction order with
  | nil => simp [appsOf]
  | cons v rest ih => cases v <;> simp [appsOf, ih]

theorem appsOf_nodup (order : List Visit) (h : order.Nodup) : (appsOf order).Nodup := by
  induction order with
  | nil => simp [appsOf]
  | cons v rest ih =>
    have h' := List.nodup_cons.1 h
    cases v with
    | app i =>
      simp only [appsOf, List.nodup_cons]
      exact ⟨fun hin => h'.1 ((mem_appsOf rest i).1 hin), ih h'.2⟩
    | enter g => simpa [appsOf] using ih h'.2
    | exit g => simpa [appsOf] using ih h'.2

theorem supported_setup (cg : Compile.Graph) (aux : List TAux) (fg : Factory.Graph) (hwf : cg.WF = true)
    (hsup : Supported cg = true) (hfg : toFactory cg aux = some fg) : Setup cg fg := by
  simp only [Supported, Bool.and_eq_true, List.all_eq_true, List.isEmpty_iff] at hsup
  obtain ⟨k, sg, htop, hsg, rfl⟩ := toFactory_eq cg aux fg hfg
  exact ⟨hwf, fun a ha o ho => hsup.1.2 a ha o ho, fun a ha => hsup.2 a ha, rfl, k, sg, htop, hsg, rfl, rfl⟩

theorem visitOrder_vs (cg : Compile.Graph) (fg : Factory.Graph) (S : Setup cg fg) (k : Nat) (sg : SubGraph)
    (htop : cg.top = .gref k) (hsg : cg.graphs[k]? = some sg) (hout : fg.output = toV sg.output)
    (order : List Visit) (ho : visitOrder cg = .ok order) :
    ∃ s0 s1, s0.order = [.enter k] ∧ order = s1.order ++ [.exit k] ∧ VS cg fg sg.inputs [sg.output] s0 s1 := by
  simp only [visitOrder, bind_ok, pure_ok] at ho
  obtain ⟨sfin, h1, rfl⟩ := ho
  rw [show cg.fuel = 4 * (cg.apps.length + cg.graphs.length) + 63 + 1 from rfl, htop] at h1
  unfold visit at h1
  simp only [isRegistered, keyOf, List.contains_nil, Bool.false_eq_true, if_false, hsg, bind_ok, pure_ok] at h1
  obtain ⟨s1, h2, rfl⟩ := h1
  refine ⟨_, s1, rfl, rfl,
    visit_vs cg fg sg.inputs S _ sg.output _ s1 h2 ⟨?_, ?_, ?_, ?_⟩ (WF.outputs S.wf k sg hsg)
      (fun r hr => Or.inl (hout ▸ hr))⟩
  · intro i' hi'
    simp at hi'
  · intro r hr
    simpa using hr
  · intro i' a' hi'
    simp at hi'
  · intro k' hk'
    simp only [List.nil_append, List.cons_append, List.mem_cons, List.mem_map] at hk'
    rcases hk' with rfl | ⟨t, ht, rfl⟩
    · exact Or.inl ⟨k, rfl⟩
    · refine Or.inr ⟨rfl, fun r hr => ?_⟩
      cases List.mem_singleton.1 hr
      simpa using ht

/-- **The traversal visits exactly the reachable applications.** -/
theorem visitOrder_reach (cg : Compile.Graph) (aux : List TAux) (fg : Factory.Graph) (hwf : cg.WF = true)
    (hsup : Supported cg = true) (hfg : toFactory cg aux = some fg) (hfwf : Factory.wf fg = true)
    (order : List Visit) (ho : visitOrder cg = .ok order) (i : Nat) :
    Visit.app i ∈ order ↔ Reach fg i := by
  have S := supported_setup cg aux fg hwf hsup hfg
  obtain ⟨k, sg, htop, hsg, hins, hout⟩ := S.root
  obtain ⟨s0, s1, _, rfl, r⟩ := visitOrder_vs cg fg S k sg htop hsg hout order ho
  rw [show Visit.app i ∈ s1.order ++ [Visit.exit k] ↔ Visit.app i ∈ s1.order by simp]
  refine ⟨r.inv.sound i, fun hr => ?_⟩
  have hprod : ∀ (i' : Nat) (b : GApp) (x : Nat), fg.apps[i']? = some b → x ∈ b.out.refs →
      E.var x ∈ s1.registered → Visit.app i' ∈ s1.order := by
    intro i' b x hb hx hreg
    rcases r.inv.prod x hreg with hin | ⟨i'', a'', h1', h2', h3'⟩
    · exact absurd hx (wf_input_not_out hfwf x (hins ▸ hin) i' b hb)
    · rw [wf_producer_unique hfwf i' i'' b (toGApp a'') hb (S.app i'' a'' h2') x hx h3']
      exact h1'
  induction hr with
  | out i a x ha hx ho =>
    exact hprod i a x ha hx (r.post sg.output (List.mem_singleton_self _) x (hout ▸ ho))
  | step j b i a x _ hb hxb ha hx ihj =>
    obtain ⟨b', hb', rfl⟩ := S.app_inv j b hb
    obtain ⟨o, ho, hro⟩ := (operand_refs b' x).1 hxb
    exact hprod i a x ha hx (r.inv.ops j b' ihj hb' o ho x hro)

theorem visitOrder_enters (cg : Compile.Graph) (fg : Factory.Graph) (S : Setup cg fg)
    (order : List Visit) (ho : visitOrder cg = .ok order) (k' : Nat) (hk' : Visit.enter k' ∈ order) : cg.top = .gref k' := by
  obtain ⟨k, sg, htop, hsg, _, hout⟩ := S.root
  obtain ⟨s0, s1, h0, rfl, r⟩ := visitOrder_vs cg fg S k sg htop hsg hout order ho
  have := r.ent k' (by simpa using hk')
  rw [h0, List.mem_singleton] at this
  cases this
  exact htop

end Einx.Exec
