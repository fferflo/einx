import EinxModel.Proofs.NotationPrintDefs
import EinxModel.Proofs.NotationFold
/-!
# M1 Notation — the delimiter stack on the token texts of a position-free token tree (`buildTree_texts`)
-/
namespace Einx.Notation

namespace StackP

/-- Frames after appending the items `T` to the innermost open frame (unchanged if no frame is open). -/
def pushF (T : List Tok) : List (Token × List Tok) → List (Token × List Tok)
  | [] => []
  | (o, items) :: rest => (o, items ++ T) :: rest

/-- Root items after appending the items `T` to the innermost open frame (`base ++ T` if no frame is open). -/
def pushB (T : List Tok) : List (Token × List Tok) → List Tok → List Tok
  | [], base => base ++ T
  | _ :: _, base => base

theorem pushF_nil (frames : List (Token × List Tok)) : pushF [] frames = frames := by
  cases frames with
  | nil => rfl
  | cons f fs => obtain ⟨o, items⟩ := f; simp [pushF]

theorem pushB_nil (frames : List (Token × List Tok)) (base : List Tok) : pushB [] frames base = base := by
  cases frames with
  | nil => simp [pushB]
  | cons f fs => rfl

theorem pushF_append (T1 T2 : List Tok) (frames : List (Token × List Tok)) :
    pushF T2 (pushF T1 frames) = pushF (T1 ++ T2) frames := by
  cases frames with
  | nil => rfl
  | cons f fs => obtain ⟨o, items⟩ := f; simp [pushF]

theorem pushB_append (T1 T2 : List Tok) (frames : List (Token × List Tok)) (base : List Tok) :
    pushB T2 (pushF T1 frames) (pushB T1 frames base) = pushB (T1 ++ T2) frames base := by
  cases frames with
  | nil => simp [pushF, pushB]
  | cons f fs => obtain ⟨o, items⟩ := f; simp [pushF, pushB]

theorem eraseL_append (xs ys : List Tok) : eraseL (xs ++ ys) = eraseL xs ++ eraseL ys := by
  induction xs with
  | nil => simp [eraseL]
  | cons x xs ih => simp [eraseL, ih]

theorem closing_back {o c : Str} (ho : delimsFront.contains o = true) (hc : closingOf o = some c) :
    delimsFront.contains c = false ∧ delimsBack.contains c = true := by
  have hm : o ∈ delimsFront := List.contains_iff_mem.mp ho
  rw [delimsFront_eq] at hm
  simp only [List.mem_cons, List.mem_nil_iff, or_false] at hm
  rcases hm with hm | hm
  · subst hm
    have : closingOf ['('] = some [')'] := by decide
    rw [this] at hc
    cases hc
    decide
  · subst hm
    have : closingOf ['['] = some [']'] := by decide
    rw [this] at hc
    cases hc
    decide

/-- `pushF`, `pushB` are the two components of `TreeIns.appTop`, so a step of `buildTree` is a step of the fold `TreeIns.full`. -/
theorem appTop_eq (T : List Tok) (frames : List (Token × List Tok)) (base : List Tok) :
    TreeIns.appTop T (frames, base) = (pushF T frames, pushB T frames base) := by
  cases frames with
  | nil => rfl
  | cons f fs => rfl

theorem step_open (t : Token) (rest : List Token) (frames : List (Token × List Tok)) (base : List Tok)
    (h : delimsFront.contains t.text = true) :
    buildTree (t :: rest) frames base = buildTree rest ((t, []) :: frames) base := by
  rw [TreeIns.buildTree_eq_full, TreeIns.buildTree_eq_full, TreeIns.full_cons_ok (TreeIns.step_front _ h)]

theorem step_atom (t : Token) (rest : List Token) (frames : List (Token × List Tok)) (base : List Tok)
    (h1 : delimsFront.contains t.text = false) (h2 : delimsBack.contains t.text = false) :
    buildTree (t :: rest) frames base = buildTree rest (pushF [.atom t] frames) (pushB [.atom t] frames base) := by
  rw [TreeIns.buildTree_eq_full, TreeIns.buildTree_eq_full, TreeIns.full_cons_ok (TreeIns.step_atom _ h1 h2), appTop_eq]

theorem step_close (o t : Token) (items : List Tok) (rest : List Token) (frames : List (Token × List Tok)) (base : List Tok)
    (h1 : delimsFront.contains t.text = false) (h2 : delimsBack.contains t.text = true)
    (h3 : closingOf o.text = some t.text) :
    buildTree (t :: rest) ((o, items) :: frames) base
      = buildTree rest (pushF [.group o t items] frames) (pushB [.group o t items] frames base) := by
  rw [TreeIns.buildTree_eq_full, TreeIns.buildTree_eq_full, ← appTop_eq]
  exact TreeIns.full_cons_ok (by rw [TreeIns.step_back_cons _ _ _ h1 h2, h3, bne_self_eq_false, if_neg Bool.false_ne_true])

mutual
theorem run_one : ∀ (p : PTok), p.wf = true → ∀ (toks : List Token), toks.map (·.text) = p.texts →
    ∀ (rest : List Token) (frames : List (Token × List Tok)) (base : List Tok),
    ∃ T, eraseL T = [p] ∧
      buildTree (toks ++ rest) frames base = buildTree rest (pushF T frames) (pushB T frames base)
  | .atom s, h, toks, ht, rest, frames, base => by
    simp only [PTok.texts] at ht
    obtain ⟨t, hts, hs⟩ : ∃ t, toks = [t] ∧ t.text = s := by
      match toks, ht with
      | [t], ht => simp only [List.map_cons, List.map_nil, List.cons.injEq, and_true] at ht; exact ⟨t, rfl, ht⟩
    subst hts
    subst hs
    simp only [PTok.wf, Bool.and_eq_true, Bool.not_eq_true'] at h
    refine ⟨[.atom t], by simp [eraseL, Tok.erase], ?_⟩
    simpa using step_atom t rest frames base h.1 h.2
  | .group o c inner, h, toks, ht, rest, frames, base => by
    simp only [PTok.texts] at ht
    simp only [PTok.wf, Bool.and_eq_true, beq_iff_eq] at h
    obtain ⟨⟨ho, hoc⟩, hin⟩ := h
    obtain ⟨to, toks', htoks, hto, ht'⟩ := List.map_eq_cons_iff.mp ht
    obtain ⟨ti, tl, htoks', hti, htl⟩ := List.map_eq_append_iff.mp ht'
    obtain ⟨tc, htl', htc⟩ : ∃ tc, tl = [tc] ∧ tc.text = c := by
      match tl, htl with
      | [t], htl => simp only [List.map_cons, List.map_nil, List.cons.injEq, and_true] at htl; exact ⟨t, rfl, htl⟩
    subst htoks htoks' htl'
    have hto' : to.text = o := hto
    obtain ⟨Ti, hTi, hrun⟩ := run_list inner hin ti hti (tc :: rest) ((to, []) :: frames) base
    have hcl := closing_back ho hoc
    refine ⟨[.group to tc Ti], by simp [eraseL, Tok.erase, hTi, hto', htc], ?_⟩
    have e1 : (to :: (ti ++ [tc])) ++ rest = to :: (ti ++ (tc :: rest)) := by simp
    rw [e1, step_open to _ frames base (by rw [hto']; exact ho), hrun]
    simp only [pushF, pushB, List.nil_append]
    exact step_close to tc Ti rest frames base (by rw [htc]; exact hcl.1) (by rw [htc]; exact hcl.2)
      (by rw [hto', htc]; exact hoc)
theorem run_list : ∀ (P : List PTok), wfL P = true → ∀ (toks : List Token), toks.map (·.text) = textsL P →
    ∀ (rest : List Token) (frames : List (Token × List Tok)) (base : List Tok),
    ∃ T, eraseL T = P ∧
      buildTree (toks ++ rest) frames base = buildTree rest (pushF T frames) (pushB T frames base)
  | [], _, toks, ht, rest, frames, base => by
    simp only [textsL, List.map_eq_nil_iff] at ht
    subst ht
    exact ⟨[], by simp [eraseL], by simp [pushF_nil, pushB_nil]⟩
  | p :: ps, h, toks, ht, rest, frames, base => by
    simp only [textsL] at ht
    simp only [wfL, Bool.and_eq_true] at h
    obtain ⟨t1, t2, htoks, ht1, ht2⟩ := List.map_eq_append_iff.mp ht
    subst htoks
    obtain ⟨T1, hT1, hr1⟩ := run_one p h.1 t1 ht1 (t2 ++ rest) frames base
    obtain ⟨T2, hT2, hr2⟩ := run_list ps h.2 t2 ht2 rest (pushF T1 frames) (pushB T1 frames base)
    refine ⟨T1 ++ T2, by rw [eraseL_append, hT1, hT2]; rfl, ?_⟩
    rw [List.append_assoc, hr1, hr2, pushF_append, pushB_append]
end

end StackP

/-- A token list whose texts are the texts of a well-formed position-free token tree `P` is turned by the delimiter stack
    into a token tree that erases to `P`. -/
theorem buildTree_texts (P : List PTok) (h : wfL P = true) (toks : List Token) (ht : toks.map (·.text) = textsL P) :
    ∃ T, buildTree toks [] [] = .ok T ∧ eraseL T = P := by
  obtain ⟨T, hT, hrun⟩ := StackP.run_list P h toks ht [] [] []
  refine ⟨T, ?_, hT⟩
  simpa [StackP.pushF, StackP.pushB, buildTree] using hrun

end Einx.Notation
