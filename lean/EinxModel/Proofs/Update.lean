import EinxModel.Proofs.OptionList
import EinxModel.Proofs.IndexSpace
/-! Helper lemmas for C14 about the denotation of indexed updates: reading a flat tensor at a multi-index, the fold
`applyUpdates` element by element, and what a defined `denote` / `contribAt` consists of.

The fold is met in three places (`Update.applyUpdates`, `Denote.scatter`, `Denote.applyEntries`): a list of writes
`(address, value)` applied in order to a flat array with an update function.  What it leaves at address `k` is the old
element updated by the values written to `k`, in order: `getElem?_foldl_modify`. -/
namespace Einx

/-- The values written to address `k`, in order. -/
def writesTo {β : Type} (k : Nat) (cs : List (Nat × β)) : List β := (cs.filter (fun c => c.1 == k)).map (·.2)

theorem writesTo_cons {β : Type} (k : Nat) (c : Nat × β) (cs : List (Nat × β)) :
    writesTo k (c :: cs) = if c.1 = k then c.2 :: writesTo k cs else writesTo k cs := by
  by_cases h : c.1 = k <;> simp [writesTo, h]

theorem writesTo_eq_nil {β : Type} {k : Nat} {cs : List (Nat × β)} (h : ∀ c ∈ cs, c.1 ≠ k) : writesTo k cs = [] := by
  simp only [writesTo, List.map_eq_nil_iff, List.filter_eq_nil_iff, beq_iff_eq]
  exact h

theorem writesTo_of_nodup {β : Type} {c : Nat × β} : ∀ {cs : List (Nat × β)}, (cs.map (·.1)).Nodup → c ∈ cs →
    writesTo c.1 cs = [c.2]
  | d :: ds, hd, hc => by
    rw [List.map_cons, List.nodup_cons] at hd
    rw [writesTo_cons]
    rcases List.mem_cons.mp hc with rfl | hc
    · rw [if_pos rfl, writesTo_eq_nil fun e he heq => hd.1 (List.mem_map.mpr ⟨e, he, heq⟩)]
    · rw [if_neg fun heq => hd.1 (List.mem_map.mpr ⟨c, hc, heq.symm⟩), writesTo_of_nodup hd.2 hc]

theorem mem_writesTo_iff {β : Type} {k : Nat} {cs : List (Nat × β)} {b : β} :
    b ∈ writesTo k cs ↔ ∃ e ∈ cs, e.1 = k ∧ e.2 = b := by
  simp only [writesTo, List.mem_map, List.mem_filter, beq_iff_eq, and_assoc]

theorem getElem?_foldl_modify {α β : Type} (upd : α → β → α) (cs : List (Nat × β)) (t : List α) (k : Nat) :
    (cs.foldl (fun t c => t.modify c.1 (fun o => upd o c.2)) t)[k]? = t[k]?.map (fun o => (writesTo k cs).foldl upd o) := by
  induction cs generalizing t with
  | nil => simp [writesTo]
  | cons c cs ih =>
    rw [List.foldl_cons, ih, List.getElem?_modify, writesTo_cons]
    by_cases hc : c.1 = k <;> cases t[k]? <;> simp [hc]

/-- A fold of `set`s whose new value is computed from the old one is a fold of `modify`s. -/
theorem set_getD_eq_modify {α : Type} (s : List α) (k : Nat) (f : α → α) (d : α) : s.set k (f (s.getD k d)) = s.modify k f := by
  apply List.ext_getElem?
  intro j
  rw [List.getElem?_set', List.getElem?_modify, List.getD_eq_getElem?_getD]
  by_cases h : k = j
  · subst h; cases s[k]? <;> simp
  · simp [h]

end Einx

namespace Einx.Update

theorem readAt_of_valid {α : Type} {shape idx : List Nat} (data : List α) (h : Valid shape idx) :
    readAt shape data idx = data[ravel shape idx]? := by
  rw [readAt, if_pos (validb_iff.mpr h)]

theorem valid_of_readAt_eq_some {α : Type} {shape idx : List Nat} {data : List α} {v : α}
    (h : readAt shape data idx = some v) : Valid shape idx := by
  rw [readAt] at h
  split at h
  · exact validb_iff.mp ‹_›
  · cases h

theorem mapOpt_read_assignments {α : Type} (s : List Nat) (data : List α) (h : data.length = prod s) :
    mapOpt (fun σ => data[ravel s σ]?) (assignments s) = some data := by
  rw [mapOpt_eq_some_iff]
  have : (assignments s).map (fun σ => data[ravel s σ]?) = ((assignments s).map (ravel s)).map (fun k => data[k]?) := by
    simp [List.map_map, Function.comp_def]
  rw [this, assignments_map_ravel, ← h]
  apply List.ext_getElem (by simp)
  intro k h1 _
  simp [List.getElem?_eq_getElem (by simpa using h1 : k < data.length)]

theorem applyUpdates_nil (m : Mode) (t : List Int) : applyUpdates m t [] = t := rfl

theorem applyUpdates_cons (m : Mode) (t : List Int) (c : Nat × Int) (cs : List (Nat × Int)) :
    applyUpdates m t (c :: cs) = applyUpdates m (t.modify c.1 (fun o => m.apply o c.2)) cs := rfl

theorem applyUpdates_append (m : Mode) (t : List Int) (cs ds : List (Nat × Int)) :
    applyUpdates m t (cs ++ ds) = applyUpdates m (applyUpdates m t cs) ds := by
  simp [applyUpdates, List.foldl_append]

theorem applyUpdates_length (m : Mode) (t : List Int) (cs : List (Nat × Int)) :
    (applyUpdates m t cs).length = t.length := by
  induction cs generalizing t with
  | nil => rfl
  | cons c cs ih => rw [applyUpdates_cons, ih, List.length_modify]

/-- The contributions addressed to `k`, in order. -/
def addressedTo (k : Nat) (cs : List (Nat × Int)) : List Int := (cs.filter (fun c => c.1 == k)).map (·.2)

theorem addressedTo_eq_writesTo (k : Nat) (cs : List (Nat × Int)) : addressedTo k cs = writesTo k cs := rfl

theorem getElem?_applyUpdates (m : Mode) (t : List Int) (cs : List (Nat × Int)) (k : Nat) :
    (applyUpdates m t cs)[k]? = t[k]?.map (fun o => (addressedTo k cs).foldl m.apply o) :=
  getElem?_foldl_modify m.apply cs t k

theorem foldl_add (l : List Int) (o : Int) : l.foldl (Mode.apply .add) o = o + l.sum := by
  induction l generalizing o with
  | nil => simp
  | cons x xs ih => simp only [List.foldl_cons, Mode.apply, ih, List.sum_cons]; omega

theorem foldl_sub (l : List Int) (o : Int) : l.foldl (Mode.apply .sub) o = o - l.sum := by
  induction l generalizing o with
  | nil => simp
  | cons x xs ih => simp only [List.foldl_cons, Mode.apply, ih, List.sum_cons]; omega

theorem foldl_set (l : List Int) (o : Int) : l.foldl (Mode.apply .set) o = l.getLast?.getD o := by
  induction l generalizing o with
  | nil => simp
  | cons x xs ih => simp only [List.foldl_cons, Mode.apply, ih, List.getLast?_cons, Option.getD_some]

theorem perm_sum_int {l₁ l₂ : List Int} (h : l₁.Perm l₂) : l₁.sum = l₂.sum :=
  h.foldr_eq' (fun x _ y _ z => Int.add_left_comm y x z) 0

theorem addressedTo_perm_sum {k : Nat} {cs ds : List (Nat × Int)} (h : cs.Perm ds) :
    (addressedTo k cs).sum = (addressedTo k ds).sum :=
  perm_sum_int ((h.filter _).map _)

theorem applyUpdates_perm_add_sub (m : Mode) (hm : m = .add ∨ m = .sub) (t : List Int) {cs ds : List (Nat × Int)}
    (h : cs.Perm ds) : applyUpdates m t cs = applyUpdates m t ds := by
  apply List.ext_getElem?
  intro k
  rw [getElem?_applyUpdates, getElem?_applyUpdates]
  rcases hm with rfl | rfl
  · simp only [foldl_add, addressedTo_perm_sum h]
  · simp only [foldl_sub, addressedTo_perm_sum h]

/-- With pairwise distinct addresses at most one contribution is addressed to `k`: the same one in both orders. -/
theorem applyUpdates_perm_set (t : List Int) {cs ds : List (Nat × Int)} (h : cs.Perm ds)
    (hn : (cs.map (·.1)).Nodup) : applyUpdates .set t cs = applyUpdates .set t ds := by
  apply List.ext_getElem?
  intro k
  rw [getElem?_applyUpdates, getElem?_applyUpdates, addressedTo_eq_writesTo, addressedTo_eq_writesTo]
  have hn' : (ds.map (·.1)).Nodup := (h.map _).nodup_iff.mp hn
  by_cases hk : ∃ c ∈ cs, c.1 = k
  · obtain ⟨c, hc, rfl⟩ := hk
    rw [writesTo_of_nodup hn hc, writesTo_of_nodup hn' (h.mem_iff.mp hc)]
  · rw [writesTo_eq_nil fun c hc hck => hk ⟨c, hc, hck⟩, writesTo_eq_nil fun c hc hck => hk ⟨c, h.mem_iff.mpr hc, hck⟩]

theorem contribAt_some {op : Op} {σ : List Nat} {c : Nat × Int} {tshape : List Nat}
    (hts : targetShape op.axes op.tdims = some tshape) (h : op.contribAt σ = some c) :
    ∃ tidx, op.tidxAt σ = some tidx ∧ Valid tshape tidx ∧ c.1 = ravel tshape tidx
      ∧ op.readUpd σ = some c.2 := by
  simp only [Op.contribAt, hts] at h
  split at h
  · rename_i _ tidx v hs hti hu
    cases hs
    split at h
    · rename_i hv
      cases h
      exact ⟨tidx, hti, validb_iff.mp hv, rfl, hu⟩
    · cases h
  · cases h

theorem denote_eq_some {m : Mode} {op : Op} {t r : List Int} (h : denote m op t = some r) :
    ∃ tshape cs, targetShape op.axes op.tdims = some tshape ∧ op.contribs = some cs ∧
      (t.length = prod tshape ∧ op.coords.all Coord.wf = true) ∧ r = applyUpdates m t cs := by
  simp only [denote] at h
  split at h
  · rename_i tshape cs hts hcs
    split at h
    · rename_i hlen
      exact ⟨tshape, cs, hts, hcs, hlen, (Option.some.inj h).symm⟩
    · cases h
  · cases h

theorem scatterGo_eq_applyUpdates (m : Mode) (t : List Int) (cs : List (Nat × Int))
    (h : ∀ c ∈ cs, c.1 < t.length) : scatterGo m.apply t cs = some (applyUpdates m t cs) := by
  induction cs generalizing t with
  | nil => rfl
  | cons c cs ih =>
    obtain ⟨i, v⟩ := c
    have hi : i < t.length := h (i, v) (List.mem_cons_self ..)
    simp only [scatterGo, hi, ↓reduceIte, applyUpdates_cons]
    apply ih
    intro c hc
    rw [List.length_modify]
    exact h c (List.mem_cons_of_mem _ hc)

theorem scatterGo_none (f : Int → Int → Int) (t : List Int) (cs : List (Nat × Int))
    (h : ∃ c ∈ cs, t.length ≤ c.1) : scatterGo f t cs = none := by
  induction cs generalizing t with
  | nil => simp at h
  | cons c cs ih =>
    obtain ⟨i, v⟩ := c
    simp only [scatterGo]
    split
    · apply ih
      obtain ⟨c, hc, hl⟩ := h
      rw [List.length_modify]
      rcases List.mem_cons.mp hc with rfl | hc
      · simp at hl; omega
      · exact ⟨c, hc, hl⟩
    · rfl

end Einx.Update
