import EinxModel.Proofs.DenoteTie
import EinxModel.Order.Rename
/-! Consistent renaming of axis names (C08): every denotation is invariant under an injective renaming; a renaming that is
injective on the names in use only agrees there with an injective one (`extInj`). -/
namespace Einx.Denote
open Einx Einx.IR
open Einx.Update (mapOpt mapOpt_congr mapOpt_map)
open Einx.Order.Fresh (InjOn)

theorem get_rename {ρ : String → String} (hρ : Function.Injective ρ) (σ : Assign) (n : String) :
    Assign.get (Assign.rename ρ σ) (ρ n) = Assign.get σ n :=
  get_rename_on ρ σ n fun _ _ e => hρ e

theorem pos_rename {ρ : String → String} (hρ : Function.Injective ρ) (σ : Assign) (d : Dim) :
    (d.rename ρ).pos (Assign.rename ρ σ) = d.pos σ :=
  pos_transport d (ren_rename hρ σ _)

theorem posFlat_rename {ρ : String → String} (hρ : Function.Injective ρ) (σ : Assign) :
    ∀ (ds : List Dim) (acc : Nat),
      Dim.posFlat (Assign.rename ρ σ) (Dim.renameL ρ ds) acc = Dim.posFlat σ ds acc :=
  fun ds acc => posFlat_transport ds (ren_rename hρ σ _) acc

theorem position_rename {ρ : String → String} (hρ : Function.Injective ρ) (v : List Dim) (σ : Assign) :
    position (Dim.renameL ρ v) (Assign.rename ρ σ) = position v σ :=
  position_transport v (ren_rename hρ σ _)

theorem flatPos_rename {ρ : String → String} (hρ : Function.Injective ρ) (v : List Dim) (s : List Nat) (σ : Assign) :
    flatPos (Dim.renameL ρ v) s (Assign.rename ρ σ) = flatPos v s σ := by
  rw [flatPos, position_rename hρ, flatPos]

theorem cellAt_rename {ρ : String → String} (hρ : Function.Injective ρ) (v : List Dim) (s : List Nat) (i : Nat)
    (σ : Assign) : cellAt (Dim.renameL ρ v) s i (Assign.rename ρ σ) = cellAt v s i σ :=
  cellAt_transport v s i (ren_rename hρ σ _)

theorem leaves_rename (ρ : String → String) : ∀ d : Dim, (d.rename ρ).leaves = d.leaves.map (Leaf.rename ρ) := by
  intro d
  induction d using Dim.induct with
  | axis | concat | nil => rfl
  | off _ _ _ ih => exact ih
  | cons d ds ihd ihds => exact (congr (congrArg _ ihd) ihds).trans List.map_append.symm

theorem leavesL_rename (ρ : String → String) (ds : List Dim) :
    Dim.leavesL (Dim.renameL ρ ds) = (Dim.leavesL ds).map (Leaf.rename ρ) := leaves_rename ρ (.flat ds)

def renPair (ρ : String → String) (p : String × Nat) : String × Nat := (ρ p.1, p.2)

theorem rename_eq_map (ρ : String → String) (σ : Assign) : Assign.rename ρ σ = σ.map (renPair ρ) := rfl

theorem any_name_rename {ρ : String → String} (hρ : Function.Injective ρ) (acc : List (String × Nat)) (n : String) :
    (acc.map (renPair ρ)).any (·.1 == ρ n) = acc.any (·.1 == n) := by
  induction acc with
  | nil => rfl
  | cons p acc ih =>
    have e : (ρ p.1 == ρ n) = (p.1 == n) := by
      by_cases h : p.1 = n
      · subst h; simp
      · have h2 : ρ p.1 ≠ ρ n := fun e => h (hρ e)
        rw [beq_eq_false_iff_ne.mpr h, beq_eq_false_iff_ne.mpr h2]
    simp only [List.map_cons, List.any_cons, ih, renPair, e]

theorem axesFold_rename {ρ : String → String} (hρ : Function.Injective ρ) (ls : List Leaf) :
    ∀ acc : List (String × Nat),
      (ls.map (Leaf.rename ρ)).foldl axesStep (acc.map (renPair ρ)) = (ls.foldl axesStep acc).map (renPair ρ) := by
  induction ls with
  | nil => intro acc; rfl
  | cons l ls ih =>
    intro acc
    simp only [List.map_cons, List.foldl_cons]
    have : axesStep (acc.map (renPair ρ)) (Leaf.rename ρ l) = (axesStep acc l).map (renPair ρ) := by
      simp only [axesStep, Leaf.rename, any_name_rename hρ]
      split <;> simp [renPair]
    rw [this, ih]

theorem axesOf_rename {ρ : String → String} (hρ : Function.Injective ρ) (ls : List Leaf) :
    axesOf (ls.map (Leaf.rename ρ)) = (axesOf ls).map (renPair ρ) := by
  simpa [axesOf_eq] using axesFold_rename hρ ls []

theorem assignments_rename (ρ : String → String) (axes : List (String × Nat)) :
    assignments (axes.map (renPair ρ)) = (assignments axes).map (Assign.rename ρ) := by
  induction axes with
  | nil => rfl
  | cons a rest ih =>
    obtain ⟨n, s⟩ := a
    simp only [List.map_cons, renPair, assignments, ih, List.map_flatMap, List.map_map]
    rfl

theorem extend_rename {ρ : String → String} (hρ : Function.Injective ρ) (ls : List Leaf) :
    ∀ σ : Assign, extend (Assign.rename ρ σ) (ls.map (Leaf.rename ρ)) = (extend σ ls).map (Assign.rename ρ) := by
  induction ls with
  | nil => intro σ; rfl
  | cons l ls ih =>
    intro σ
    rw [List.map_cons, extend_cons, extend_cons]
    have hg : Assign.get (Assign.rename ρ σ) (Leaf.rename ρ l).name = Assign.get σ l.name := by
      simp [Leaf.rename, get_rename hρ]
    rw [hg]
    cases Assign.get σ l.name with
    | some x => exact ih σ
    | none =>
      have hs : (Leaf.rename ρ l).size = l.size := rfl
      simp only [hs]
      by_cases h : (l.size == 1) = true
      · simp only [h, if_true]
        have : Assign.rename ρ σ ++ [((Leaf.rename ρ l).name, 0)] = Assign.rename ρ (σ ++ [(l.name, 0)]) := by
          simp [Assign.rename, Leaf.rename]
        rw [this]; exact ih _
      · simp [h]

theorem outAssignments_rename {ρ : String → String} (hρ : Function.Injective ρ) (vo : List Dim) :
    outAssignments (Dim.renameL ρ vo) = (outAssignments vo).map (Assign.rename ρ) := by
  simp only [outAssignments, leavesL_rename, axesOf_rename hρ, assignments_rename]

theorem idEntry_rename {ρ : String → String} (hρ : Function.Injective ρ) (vi : List Dim) (si : List Nat) (i : Nat)
    (vo : List Dim) (so : List Nat) (σ : Assign) :
    idEntry (Dim.renameL ρ vi) si i (Dim.renameL ρ vo) so (Assign.rename ρ σ) = idEntry vi si i vo so σ := by
  simp only [idEntry, leavesL_rename, extend_rename hρ, flatPos_rename hρ]
  cases extend σ (Dim.leavesL vi) with
  | none => rfl
  | some σ' => simp only [Option.map_some, cellAt_rename hρ]

theorem idCells_rename {ρ : String → String} (hρ : Function.Injective ρ) (vi : List Dim) (si : List Nat) (i : Nat)
    (vo : List Dim) (so : List Nat) :
    idCells (Dim.renameL ρ vi) si i (Dim.renameL ρ vo) so = idCells vi si i vo so := by
  simp only [idCells, idEntries, outAssignments_rename hρ, mapOpt_map, idEntry_rename hρ]

theorem ewArgs_rename {ρ : String → String} (hρ : Function.Injective ρ) (ins : List (List Dim × List Nat)) (σ : Assign) :
    ewArgs (ins.map (fun p => (Dim.renameL ρ p.1, p.2))) (Assign.rename ρ σ) = ewArgs ins σ := by
  simp only [ewArgs]
  have hz : (ins.map (fun p => (Dim.renameL ρ p.1, p.2))).zipIdx
      = ins.zipIdx.map (fun q => ((Dim.renameL ρ q.1.1, q.1.2), q.2)) := by
    rw [List.zipIdx_map]
    simp [Prod.map]
  rw [hz, mapOpt_map]
  apply mapOpt_congr
  intro q _
  simp only [leavesL_rename, extend_rename hρ]
  cases extend σ (Dim.leavesL q.1.1) with
  | none => rfl
  | some σ' => simp only [Option.map_some, cellAt_rename hρ]

theorem ewCells_rename {ρ : String → String} (hρ : Function.Injective ρ) (f : String)
    (ins : List (List Dim × List Nat)) (vo : List Dim) (so : List Nat) :
    ewCells f (ins.map (fun p => (Dim.renameL ρ p.1, p.2))) (Dim.renameL ρ vo) so = ewCells f ins vo so := by
  simp only [ewCells, outAssignments_rename hρ, mapOpt_map, ewEntry, ewArgs_rename hρ, flatPos_rename hρ]
  rfl

theorem dims_rename (ρ : String → String) (m : Bool) (e : Expr) : dims m (e.rename ρ) = Dim.renameL ρ (dims m e) := by
  induction e using Expr.induct generalizing m with
  | axis | nil => rfl
  | flat e ih => exact congrArg (fun ds => [Dim.flat ds]) (ih m)
  | concat cs ih => exact congrArg (fun ds => [Dim.concat ds]) (ih m)
  | br e ih => exact ih true
  | cons c cs ihc ihcs =>
    simp only [Expr.rename, Expr.renameL, dims, dimsL] at ihcs ⊢
    simp only [ihc, ihcs, renameL_eq_map, List.map_append]

theorem dimsL_rename (ρ : String → String) :
    ∀ (m : Bool) (cs : List Expr), dimsL m (Expr.renameL ρ cs) = Dim.renameL ρ (dimsL m cs) :=
  fun m cs => dims_rename ρ m (.list cs)

theorem concatFree_rename (ρ : String → String) (e : Expr) : (e.rename ρ).concatFree = e.concatFree := by
  induction e using Expr.induct with
  | axis | concat | nil => rfl
  | flat _ ih | br _ ih => exact ih
  | cons c cs ihc ihcs =>
    simp only [Expr.rename, Expr.renameL, Expr.concatFree, Expr.concatFreeL] at ihcs ⊢
    rw [ihc, ihcs]

theorem concatFreeL_rename (ρ : String → String) (cs : List Expr) :
    Expr.concatFreeL (Expr.renameL ρ cs) = Expr.concatFreeL cs := concatFree_rename ρ (.list cs)

theorem rootDims_rename (ρ : String → String) (e : Expr) : rootDims (e.rename ρ) = Dim.renameL ρ (rootDims e) :=
  dims_rename ρ false e

theorem shapeOf_rename (ρ : String → String) (e : Expr) : shapeOf (e.rename ρ) = shapeOf e := by
  have := viewShape_rename ρ (dims false e)
  simpa [shapeOf, viewShape, dims_rename] using this

theorem Expr.renameL_eq_map (ρ : String → String) (cs : List Expr) : Expr.renameL ρ cs = cs.map (Expr.rename ρ) := by
  induction cs with
  | nil => simp [Expr.renameL]
  | cons c cs ih => simp [Expr.renameL, ih]

theorem denoteIdFun1_rename {ρ : String → String} (hρ : Function.Injective ρ) (vi : List Dim) (si : List Nat) (i : Nat)
    (vo : List Dim) (so : List Nat) :
    denoteIdFun1 (Dim.renameL ρ vi) si i (Dim.renameL ρ vo) so = denoteIdFun1 vi si i vo so := by
  simp only [denoteIdFun1, idCells_rename hρ]

theorem denoteIdFun_rename {ρ : String → String} (hρ : Function.Injective ρ) (exprsIn exprsOut : List Expr) :
    denoteIdFun (Expr.renameL ρ exprsIn) (Expr.renameL ρ exprsOut) = denoteIdFun exprsIn exprsOut := by
  unfold denoteIdFun
  simp only [concatFreeL_rename]
  have hl1 : (Expr.renameL ρ exprsIn).length = exprsIn.length := by simp [Expr.renameL_eq_map]
  have hl2 : (Expr.renameL ρ exprsOut).length = exprsOut.length := by simp [Expr.renameL_eq_map]
  rw [hl1, hl2]
  have hz : List.zip (Expr.renameL ρ exprsIn).zipIdx (Expr.renameL ρ exprsOut)
      = (List.zip exprsIn.zipIdx exprsOut).map (fun p => ((p.1.1.rename ρ, p.1.2), p.2.rename ρ)) := by
    rw [Expr.renameL_eq_map, Expr.renameL_eq_map, List.zipIdx_map, List.zip_map]
    simp [Prod.map]
  rw [hz, List.mapM_map]
  simp only [Function.comp_def, rootDims_rename, shapeOf_rename, denoteIdFun1_rename hρ]

theorem denoteElementwiseFun_rename {ρ : String → String} (hρ : Function.Injective ρ) (f : String)
    (exprsIn : List Expr) (exprOut : Expr) :
    denoteElementwiseFun f (Expr.renameL ρ exprsIn) (exprOut.rename ρ) = denoteElementwiseFun f exprsIn exprOut := by
  unfold denoteElementwiseFun
  simp only [concatFreeL_rename, concatFree_rename, shapeOf_rename, rootDims_rename]
  have : (Expr.renameL ρ exprsIn).map (fun e => (rootDims e, shapeOf e))
      = (exprsIn.map (fun e => (rootDims e, shapeOf e))).map (fun p => (Dim.renameL ρ p.1, p.2)) := by
    simp [Expr.renameL_eq_map, List.map_map, Function.comp_def, rootDims_rename, shapeOf_rename]
  rw [this, ewCells_rename hρ]

theorem nconcat_rename (ρ : String → String) (d : Dim) : (d.rename ρ).nconcat = d.nconcat := by
  induction d using Dim.induct with
  | axis | nil => rfl
  | concat _ ih => exact congrArg (1 + ·) ih
  | off _ _ _ ih => exact ih
  | cons d ds ihd ihds =>
    simp only [Dim.rename, Dim.renameL, Dim.nconcat, Dim.nconcatL] at ihds ⊢
    rw [ihd, ihds]

theorem nconcatL_rename (ρ : String → String) (ds : List Dim) : Dim.nconcatL (Dim.renameL ρ ds) = Dim.nconcatL ds :=
  nconcat_rename ρ (.flat ds)

theorem renameL_length (ρ : String → String) (ds : List Dim) : (Dim.renameL ρ ds).length = ds.length := by
  rw [renameL_eq_map, List.length_map]

theorem nblocks_rename (ρ : String → String) : ∀ d : Dim, (d.rename ρ).nblocks = d.nblocks := by
  intro d
  induction d using Dim.induct with
  | axis | nil => rfl
  | concat ds => exact renameL_length ρ ds
  | off _ _ _ ih => exact ih
  | cons d ds ihd ihds =>
    simp only [Dim.rename, Dim.renameL, Dim.nblocks, Dim.nblocksL, nconcat_rename] at ihds ⊢
    rw [ihd, ihds]

theorem nblocksL_rename (ρ : String → String) (ds : List Dim) : Dim.nblocksL (Dim.renameL ρ ds) = Dim.nblocksL ds :=
  nblocks_rename ρ (.flat ds)

theorem foldl_size_rename (ρ : String → String) (ds : List Dim) : ∀ acc : Nat,
    (Dim.renameL ρ ds).foldl (fun a x => a + x.size) acc = ds.foldl (fun a x => a + x.size) acc := by
  induction ds with
  | nil => intro acc; rfl
  | cons d ds ih => intro acc; simp only [Dim.renameL, List.foldl_cons, size_rename, ih]

theorem renameL_take (ρ : String → String) (k : Nat) (ds : List Dim) :
    (Dim.renameL ρ ds).take k = Dim.renameL ρ (ds.take k) := by
  rw [renameL_eq_map, renameL_eq_map, List.map_take]

mutual
theorem choose_rename (ρ : String → String) (k : Nat) : ∀ d : Dim, (d.rename ρ).choose k = (d.choose k).map (Dim.rename ρ)
  | .axis _ => rfl
  | .flat ds => by
    simp only [Dim.rename, Dim.choose, chooseL_rename ρ k ds]
    cases Dim.chooseL k ds <;> simp [Dim.rename]
  | .concat ds => by
    simp only [Dim.rename, Dim.choose]
    have h1 : (Dim.renameL ρ ds)[k]? = (ds[k]?).map (Dim.rename ρ) := by rw [renameL_eq_map, List.getElem?_map]
    rw [h1]
    cases ds[k]? with
    | none => rfl
    | some d => simp [Dim.rename, renameL_take, foldl_size_rename, sizeSum_rename]
  | .off o d t => by
    simp only [Dim.rename, Dim.choose, choose_rename ρ k d]
    cases d.choose k <;> simp [Dim.rename]
theorem chooseL_rename (ρ : String → String) (k : Nat) : ∀ ds : List Dim,
    Dim.chooseL k (Dim.renameL ρ ds) = (Dim.chooseL k ds).map (Dim.renameL ρ)
  | [] => rfl
  | d :: ds => by
    simp only [Dim.renameL, Dim.chooseL, nconcat_rename ρ d]
    split
    · rw [choose_rename ρ k d]; cases d.choose k <;> simp [Dim.renameL]
    · rw [chooseL_rename ρ k ds]; cases Dim.chooseL k ds <;> simp [Dim.renameL]
end

theorem viewsFuel_rename (ρ : String → String) : ∀ (n : Nat) (ds : List Dim),
    viewsFuel n (Dim.renameL ρ ds) = (viewsFuel n ds).map (Dim.renameL ρ)
  | 0, ds => rfl
  | n + 1, ds => by
    simp only [viewsFuel, nconcatL_rename, nblocksL_rename]
    split
    · rfl
    · rw [List.map_flatMap]
      congr 1
      funext k
      rw [chooseL_rename]
      cases Dim.chooseL k ds with
      | none => rfl
      | some ds' => exact viewsFuel_rename ρ n ds'

theorem views_rename (ρ : String → String) (e : Expr) : views (e.rename ρ) = (views e).map (Dim.renameL ρ) := by
  unfold views
  simp only [dims_rename, nconcatL_rename, viewsFuel_rename]

theorem idVin_rename (ρ : String → String) (exprsIn : List Expr) :
    idVin (Expr.renameL ρ exprsIn) = (idVin exprsIn).map (fun x => (Dim.renameL ρ x.1, x.2)) := by
  unfold idVin
  rw [Expr.renameL_eq_map, List.zipIdx_map, List.flatMap_map, List.map_flatMap]
  congr 1
  funext x
  simp only [Prod.map, id, views_rename, shapeOf_rename, List.map_map, Function.comp_def]

theorem idVout_rename (ρ : String → String) (exprsOut : List Expr) :
    idVout (Expr.renameL ρ exprsOut) = (idVout exprsOut).map (fun x => (Dim.renameL ρ x.1, x.2)) := by
  unfold idVout
  rw [Expr.renameL_eq_map, List.zipIdx_map, List.flatMap_map, List.map_flatMap]
  congr 1
  funext x
  simp only [Prod.map, id, views_rename, List.map_map, Function.comp_def]

theorem shapeOf_getD_rename (ρ : String → String) (exprsOut : List Expr) (k : Nat) :
    shapeOf ((Expr.renameL ρ exprsOut).getD k (Expr.list [])) = shapeOf (exprsOut.getD k (Expr.list [])) := by
  rw [Expr.renameL_eq_map]
  simp only [List.getD_eq_getElem?_getD, List.getElem?_map]
  cases exprsOut[k]? with
  | none => rfl
  | some e => simp [shapeOf_rename]

theorem idPairEntries_rename {ρ : String → String} (hρ : Function.Injective ρ) (exprsOut : List Expr)
    (x : (List Dim × Nat × List Nat) × (List Dim × Nat)) :
    idPairEntries (Expr.renameL ρ exprsOut) ((Dim.renameL ρ x.1.1, x.1.2), (Dim.renameL ρ x.2.1, x.2.2))
      = idPairEntries exprsOut x := by
  unfold idPairEntries
  have := outAssignments_rename hρ x.2.1
  unfold outAssignments at this
  simp only [this, mapOpt_map, shapeOf_getD_rename, idEntry_rename hρ]

theorem denoteIdFunG_rename {ρ : String → String} (hρ : Function.Injective ρ) (exprsIn exprsOut : List Expr) :
    denoteIdFunG (Expr.renameL ρ exprsIn) (Expr.renameL ρ exprsOut) = denoteIdFunG exprsIn exprsOut := by
  unfold denoteIdFunG
  simp only [idVin_rename, idVout_rename, List.length_map]
  have hz : List.zip ((idVin exprsIn).map (fun x => (Dim.renameL ρ x.1, x.2))) ((idVout exprsOut).map (fun x => (Dim.renameL ρ x.1, x.2)))
      = (List.zip (idVin exprsIn) (idVout exprsOut)).map
          (fun x => ((Dim.renameL ρ x.1.1, x.1.2), (Dim.renameL ρ x.2.1, x.2.2))) := by
    rw [List.zip_map]; rfl
  rw [hz, mapOpt_map]
  have hpe : (fun a => idPairEntries (Expr.renameL ρ exprsOut) ((Dim.renameL ρ a.1.1, a.1.2), (Dim.renameL ρ a.2.1, a.2.2)))
      = idPairEntries exprsOut := by
    funext a; exact idPairEntries_rename hρ exprsOut a
  rw [hpe, List.map_map]
  simp only [Function.comp_def]
  split
  · rfl
  · cases mapOpt (idPairEntries exprsOut) (List.zip (idVin exprsIn) (idVout exprsOut)) with
    | none => rfl
    | some ess =>
      simp only []
      rw [Expr.renameL_eq_map, List.zipIdx_map, mapOpt_map]
      apply mapOpt_congr
      intro x _
      simp only [Prod.map, id, shapeOf_rename]

theorem inputStep_rename {ρ : String → String} (hρ : Function.Injective ρ) (σ τ acc : Assign) (l : Leaf) :
    inputStep (Assign.rename ρ σ) (Assign.rename ρ τ) (Assign.rename ρ acc) (Leaf.rename ρ l)
      = (inputStep σ τ acc l).map (Assign.rename ρ) := by
  have hn : (Leaf.rename ρ l).name = ρ l.name := rfl
  have hm : (Leaf.rename ρ l).marked = l.marked := rfl
  have hs : (Leaf.rename ρ l).size = l.size := rfl
  simp only [inputStep, hn, hm, hs, get_rename hρ]
  by_cases hmk : l.marked = true
  · simp only [hmk, if_true]
    cases τ.get l.name with
    | none => rfl
    | some v =>
      cases (acc.get l.name).isSome <;> simp [Assign.rename]
  · simp only [hmk, Bool.false_eq_true, if_false]
    cases acc.get l.name with
    | some _ => rfl
    | none =>
      cases σ.get l.name with
      | some v => simp [Assign.rename]
      | none =>
        by_cases h1 : (l.size == 1) = true
        · simp [h1, Assign.rename]
        · simp [h1]

theorem inputFold_rename {ρ : String → String} (hρ : Function.Injective ρ) (σ τ : Assign) : ∀ (ls : List Leaf) (acc : Assign),
    (ls.map (Leaf.rename ρ)).foldlM (inputStep (Assign.rename ρ σ) (Assign.rename ρ τ)) (Assign.rename ρ acc)
      = (ls.foldlM (inputStep σ τ) acc).map (Assign.rename ρ) := by
  intro ls
  induction ls with
  | nil => intro acc; rfl
  | cons l ls ih =>
    intro acc
    simp only [List.map_cons, List.foldlM_cons, inputStep_rename hρ]
    cases inputStep σ τ acc l with
    | none => rfl
    | some acc' => exact ih acc'

theorem inputAssign_rename {ρ : String → String} (hρ : Function.Injective ρ) (σ τ : Assign) (ls : List Leaf) :
    inputAssign (Assign.rename ρ σ) (Assign.rename ρ τ) (ls.map (Leaf.rename ρ)) = (inputAssign σ τ ls).map (Assign.rename ρ) :=
  inputFold_rename hρ σ τ ls []

theorem filter_marked_rename (ρ : String → String) (ls : List Leaf) :
    (ls.map (Leaf.rename ρ)).filter (·.marked) = (ls.filter (·.marked)).map (Leaf.rename ρ) := by
  rw [List.filter_map]; rfl

theorem rdInner_rename {ρ : String → String} (hρ : Function.Injective ρ) (vi : List Dim) (si : List Nat) (li : List Leaf)
    (σ τ : Assign) (cells : List Cell) :
    rdInner (Dim.renameL ρ vi) si (li.map (Leaf.rename ρ)) (Assign.rename ρ σ) (Assign.rename ρ τ) cells
      = rdInner vi si li σ τ cells := by
  simp only [rdInner, inputAssign_rename hρ]
  cases inputAssign σ τ li with
  | none => rfl
  | some a => simp only [Option.map_some, optE_some, pure_bind, position_rename hρ]

theorem rdOuter_rename {ρ : String → String} (hρ : Function.Injective ρ) (f : String) (vi : List Dim) (si : List Nat)
    (vo : List Dim) (σ : Assign) (entries : List (List Nat × Cell)) :
    rdOuter f (Dim.renameL ρ vi) si (Dim.leavesL (Dim.renameL ρ vi))
        (axesOf ((Dim.leavesL (Dim.renameL ρ vi)).filter (·.marked))) (Dim.renameL ρ vo) (Assign.rename ρ σ) entries
      = rdOuter f vi si (Dim.leavesL vi) (axesOf ((Dim.leavesL vi).filter (·.marked))) vo σ entries := by
  simp only [rdOuter, leavesL_rename, filter_marked_rename, axesOf_rename hρ, assignments_rename, List.forIn_map,
    position_rename hρ]
  have : (fun τ y => rdInner (Dim.renameL ρ vi) si ((Dim.leavesL vi).map (Leaf.rename ρ)) (Assign.rename ρ σ)
      (Assign.rename ρ τ) y) = rdInner vi si (Dim.leavesL vi) σ := by
    funext τ y; exact rdInner_rename hρ vi si _ σ τ y
  rw [this]

/-- **Reductions are invariant under consistent renaming** (executable loop form, concatenation-free). -/
theorem denoteReduce_rename {ρ : String → String} (hρ : Function.Injective ρ) (f : String) (e eo : Expr)
    (he : e.concatFree = true) (heo : eo.concatFree = true) :
    denoteReduce f (e.rename ρ) (eo.rename ρ) = denoteReduce f e eo := by
  rw [denoteReduce_eq, denoteReduce_eq,
    singleView_of_concatFree (by rw [concatFree_rename]; exact he),
    singleView_of_concatFree (by rw [concatFree_rename]; exact heo),
    singleView_of_concatFree he, singleView_of_concatFree heo]
  simp only [pure_bind, rootDims_rename, shapeOf_rename, leavesL_rename ρ (rootDims eo), axesOf_rename hρ,
    assignments_rename, List.forIn_map]
  have : (fun σ y => rdOuter f (Dim.renameL ρ (rootDims e)) (shapeOf e) (Dim.leavesL (Dim.renameL ρ (rootDims e)))
      (axesOf ((Dim.leavesL (Dim.renameL ρ (rootDims e))).filter (·.marked))) (Dim.renameL ρ (rootDims eo))
      (Assign.rename ρ σ) y)
      = rdOuter f (rootDims e) (shapeOf e) (Dim.leavesL (rootDims e))
          (axesOf ((Dim.leavesL (rootDims e)).filter (·.marked))) (rootDims eo) := by
    funext σ y; exact rdOuter_rename hρ f _ _ _ σ y
  rw [this]

mutual
def Expr.names : Expr → List String
  | .axis n _ => [n]
  | .list cs => Expr.namesL cs
  | .flat e => e.names
  | .concat cs => Expr.namesL cs
  | .br e => e.names
def Expr.namesL : List Expr → List String
  | [] => []
  | c :: cs => c.names ++ Expr.namesL cs
end

theorem Expr.rename_congr {ρ ρ' : String → String} (e : Expr) :
    (∀ n ∈ e.names, ρ n = ρ' n) → e.rename ρ = e.rename ρ' := by
  induction e using Expr.induct with
  | axis n v => exact fun h => by rw [Expr.rename, Expr.rename, h n (List.mem_singleton_self n)]
  | flat _ ih => exact fun h => congrArg Expr.flat (ih h)
  | concat _ ih => exact fun h => congrArg Expr.concat (Expr.list.inj (ih h))
  | br _ ih => exact fun h => congrArg Expr.br (ih h)
  | nil => exact fun _ => rfl
  | cons c cs ihc ihcs =>
    intro h
    rw [Expr.rename, Expr.rename, Expr.renameL, Expr.renameL, ihc (fun n hn => h n (List.mem_append_left _ hn)),
      Expr.list.inj (ihcs fun n hn => h n (List.mem_append_right _ hn))]

theorem Expr.renameL_congr {ρ ρ' : String → String} (cs : List Expr) (h : ∀ n ∈ Expr.namesL cs, ρ n = ρ' n) :
    Expr.renameL ρ cs = Expr.renameL ρ' cs := Expr.list.inj (Expr.rename_congr (.list cs) h)

def lenBound (ρ : String → String) : List String → Nat
  | [] => 0
  | m :: ms => (ρ m).length + lenBound ρ ms

theorem le_lenBound (ρ : String → String) : ∀ (N : List String) (m : String), m ∈ N → (ρ m).length ≤ lenBound ρ N
  | [], _, h => by simp at h
  | a :: N, m, h => by
    simp only [lenBound]
    rcases List.mem_cons.mp h with rfl | h
    · omega
    · have := le_lenBound ρ N m h; omega

/-- An everywhere-injective renaming that agrees with `ρ` on `N` (names outside `N` are sent to strings longer
than every image of `N`). -/
def extInj (ρ : String → String) (N : List String) (n : String) : String :=
  if n ∈ N then ρ n else n ++ "".pushn 'x' (lenBound ρ N + 1)

theorem extInj_agree (ρ : String → String) (N : List String) {n : String} (h : n ∈ N) : extInj ρ N n = ρ n := by
  simp [extInj, h]

theorem extInj_injective {ρ : String → String} {N : List String} (h : InjOn ρ N) : Function.Injective (extInj ρ N) := by
  intro a b hab
  unfold extInj at hab
  by_cases ha : a ∈ N <;> by_cases hb : b ∈ N
  · simp only [ha, hb, if_true] at hab; exact h a ha b hb hab
  · simp only [ha, hb, if_true, if_false] at hab
    have := congrArg String.length hab
    rw [String.length_append, String.length_pushn] at this
    have := le_lenBound ρ N a ha
    simp at *; omega
  · simp only [ha, hb, if_true, if_false] at hab
    have := congrArg String.length hab
    rw [String.length_append, String.length_pushn] at this
    have := le_lenBound ρ N b hb
    simp at *; omega
  · simp only [ha, hb, if_false] at hab
    exact (String.append_left_inj _).mp hab

theorem Expr.rename_extInj (ρ : String → String) {N : List String} (e : Expr) (h : ∀ n ∈ e.names, n ∈ N) :
    e.rename ρ = e.rename (extInj ρ N) :=
  Expr.rename_congr e fun n hn => (extInj_agree ρ N (h n hn)).symm

theorem Expr.renameL_extInj (ρ : String → String) {N : List String} (cs : List Expr) (h : ∀ n ∈ Expr.namesL cs, n ∈ N) :
    Expr.renameL ρ cs = Expr.renameL (extInj ρ N) cs :=
  Expr.renameL_congr cs fun n hn => (extInj_agree ρ N (h n hn)).symm

theorem denoteIdFun_rename_on {ρ : String → String} (exprsIn exprsOut : List Expr)
    (hρ : InjOn ρ (Expr.namesL exprsIn ++ Expr.namesL exprsOut)) :
    denoteIdFun (Expr.renameL ρ exprsIn) (Expr.renameL ρ exprsOut) = denoteIdFun exprsIn exprsOut := by
  rw [Expr.renameL_extInj ρ exprsIn fun _ hn => List.mem_append_left (Expr.namesL exprsOut) hn,
    Expr.renameL_extInj ρ exprsOut fun _ hn => List.mem_append_right (Expr.namesL exprsIn) hn]
  exact denoteIdFun_rename (extInj_injective hρ) exprsIn exprsOut

theorem denoteElementwiseFun_rename_on {ρ : String → String} (f : String) (exprsIn : List Expr) (exprOut : Expr)
    (hρ : InjOn ρ (Expr.namesL exprsIn ++ exprOut.names)) :
    denoteElementwiseFun f (Expr.renameL ρ exprsIn) (exprOut.rename ρ) = denoteElementwiseFun f exprsIn exprOut := by
  rw [Expr.renameL_extInj ρ exprsIn fun _ hn => List.mem_append_left exprOut.names hn,
    Expr.rename_extInj ρ exprOut fun _ hn => List.mem_append_right (Expr.namesL exprsIn) hn]
  exact denoteElementwiseFun_rename (extInj_injective hρ) f exprsIn exprOut

theorem denoteIdFunG_rename_on {ρ : String → String} (exprsIn exprsOut : List Expr)
    (hρ : InjOn ρ (Expr.namesL exprsIn ++ Expr.namesL exprsOut)) :
    denoteIdFunG (Expr.renameL ρ exprsIn) (Expr.renameL ρ exprsOut) = denoteIdFunG exprsIn exprsOut := by
  rw [Expr.renameL_extInj ρ exprsIn fun _ hn => List.mem_append_left (Expr.namesL exprsOut) hn,
    Expr.renameL_extInj ρ exprsOut fun _ hn => List.mem_append_right (Expr.namesL exprsIn) hn]
  exact denoteIdFunG_rename (extInj_injective hρ) exprsIn exprsOut

theorem denoteReduce_rename_on {ρ : String → String} (f : String) (e eo : Expr)
    (he : e.concatFree = true) (heo : eo.concatFree = true) (hρ : InjOn ρ (e.names ++ eo.names)) :
    denoteReduce f (e.rename ρ) (eo.rename ρ) = denoteReduce f e eo := by
  rw [Expr.rename_extInj ρ e fun _ hn => List.mem_append_left eo.names hn,
    Expr.rename_extInj ρ eo fun _ hn => List.mem_append_right e.names hn]
  exact denoteReduce_rename (extInj_injective hρ) f e eo he heo

end Einx.Denote
