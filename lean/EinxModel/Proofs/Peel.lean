import EinxModel.Denote.Expr3
import EinxModel.Proofs.IR
/-
Justification of the canonical forms of `Denote/Expr3.lean`.  argmax/argmin: peeling a flat index by successive `divmod`
with the sizes from the last axis to the first (what einx's `_unravel` emits and `peelCells` builds symbolically) gives
`unravel`, as numbers and under every interpretation in which `remainder` / `floor_divide` are `%` and `/`.  get_at: under
every interpretation in which `add` / `multiply` are the integer operations, the index cell `ravelExpr` evaluates to the
row-major sum `Σ c_j · m_j`, which is `ravel`.
-/
namespace Einx.Denote
open Einx Einx.IR

theorem prod_append_single (a : List Nat) (s : Nat) : prod (a ++ [s]) = prod a * s := by
  rw [prod_append]; simp [prod]

theorem unravel_append_single : ∀ (a : List Nat) (s k : Nat), k < prod (a ++ [s]) →
    unravel (a ++ [s]) k = unravel a (k / s) ++ [k % s]
  | [], s, k, h => by
    simp only [List.nil_append, prod, Nat.mul_one] at h
    simp [unravel, prod, Nat.mod_eq_of_lt h]
  | x :: a, s, k, h => by
    have hP : prod (a ++ [s]) = prod a * s := prod_append_single a s
    have hpos : 0 < prod a * s := by
      rcases Nat.eq_zero_or_pos (prod a * s) with h0 | h0
      · simp [prod, hP, h0] at h
      · exact h0
    have ih := unravel_append_single a s (k % (prod a * s)) (by rw [hP]; exact Nat.mod_lt _ hpos)
    simp only [List.cons_append, unravel, hP, ih, List.cons.injEq]
    refine ⟨?_, ?_⟩
    · rw [Nat.mul_comm (prod a) s, Nat.div_div_eq_div_mul]
    · rw [Nat.mul_comm (prod a) s, Nat.mod_mul_right_div_self, Nat.mod_mod_of_dvd _ (Nat.dvd_mul_right s (prod a))]

theorem peelRevNat_reverse : ∀ (rs : List Nat) (k : Nat), k < prod rs.reverse →
    (peelRevNat rs k).reverse = unravel rs.reverse k
  | [], k, _ => by simp [peelRevNat, unravel]
  | s :: rs, k, h => by
    simp only [List.reverse_cons] at h ⊢
    have hP := prod_append_single rs.reverse s
    have hq : k / s < prod rs.reverse := by
      rw [hP] at h
      exact Nat.div_lt_of_lt_mul (by rw [Nat.mul_comm]; exact h)
    rw [unravel_append_single _ _ _ h, ← peelRevNat_reverse rs (k / s) hq]
    simp [peelRevNat]

/-- **The peeled coordinates are `unravel`**: for a flat index inside the block, successive `divmod` by the
trailing sizes (last axis first; no arithmetic at all for a single axis) gives the row-major multi-index. -/
theorem peel_eq_unravel (sizes : List Nat) (k : Nat) (h : k < prod sizes) : peel sizes k = unravel sizes k := by
  have hgen : (peelRevNat sizes.reverse k).reverse = unravel sizes k := by
    have := peelRevNat_reverse sizes.reverse k (by simpa using h)
    simpa using this
  unfold peel
  split
  · rename_i s
    simp [unravel, prod]
  · exact hgen

/-- An interpretation of the function symbols in which `remainder` / `floor_divide` are the integer
operations on non-negative arguments (as in numpy). -/
def DivModInterp (I : String → List Int → Int) : Prop :=
  ∀ (a s : Nat), I "remainder" [Int.ofNat a, Int.ofNat s] = Int.ofNat (a % s) ∧
    I "floor_divide" [Int.ofNat a, Int.ofNat s] = Int.ofNat (a / s)

theorem evalCells_peelRevCells {I : String → List Int → Int} (hI : DivModInterp I) (bad : Int)
    (regs : List (Tensor Int)) : ∀ (rs : List Nat) (q : Cell) (n : Nat),
      evalCell (intAlgOf I bad) regs q = Int.ofNat n →
      evalCells (intAlgOf I bad) regs (peelRevCells rs q) = (peelRevNat rs n).map Int.ofNat
  | [], _, _, _ => by simp [peelRevCells, peelRevNat, evalCells]
  | s :: rs, q, n, hq => by
    have ih := evalCells_peelRevCells hI bad regs rs (.app "floor_divide" [q, .lit (Int.ofNat s)]) (n / s)
      (by simp only [evalCell, evalCells, intAlgOf_app, intAlgOf_lit, hq]; exact (hI n s).2)
    simp only [peelRevCells, peelRevNat, evalCells, evalCell, intAlgOf_app, intAlgOf_lit, hq, ih, List.map_cons, (hI n s).1]

theorem evalCells_reverse {α : Type} (A : Alg α) (regs : List (Tensor α)) (cs : List Cell) :
    evalCells A regs cs.reverse = (evalCells A regs cs).reverse := by
  rw [evalCells_eq_map, evalCells_eq_map, List.map_reverse]

/-- **Meaning of the argmax/argmin coordinate cells**: whenever the flat-index cell `k` evaluates to a
natural number `n` inside the block, the cells `peelCells sizes k` of the denotation evaluate to the
row-major multi-index `unravel sizes n`. -/
theorem evalCell_peelCells {I : String → List Int → Int} (hI : DivModInterp I) (bad : Int)
    (regs : List (Tensor Int)) (sizes : List Nat) (k : Cell) (n : Nat)
    (hk : evalCell (intAlgOf I bad) regs k = Int.ofNat n) (hn : n < prod sizes) :
    evalCells (intAlgOf I bad) regs (peelCells sizes k) = (unravel sizes n).map Int.ofNat := by
  rw [← peel_eq_unravel sizes n hn]
  unfold peelCells peel
  split
  · simp [evalCells, hk]
  · rw [evalCells_reverse, evalCells_peelRevCells hI bad regs _ k n hk]
    simp

/-- An interpretation in which `add` / `multiply` are the integer operations. -/
def ArithInterp (I : String → List Int → Int) : Prop :=
  ∀ a b : Int, I "add" [a, b] = a + b ∧ I "multiply" [a, b] = a * b

/-- The row-major formula on integers: `Σ c_j · m_j` over the axes that have a coordinate. -/
def ravelInt (coords : List (Option Int)) (sizes : List Nat) : Int :=
  ((List.zip coords (strides sizes)).filterMap (fun (c, m) => c.map (· * Int.ofNat m))).sum

theorem evalCell_foldl_add {I : String → List Int → Int} (hI : ArithInterp I) (bad : Int)
    (regs : List (Tensor Int)) : ∀ (ts : List Cell) (c : Cell),
      evalCell (intAlgOf I bad) regs (ts.foldl (fun acc d => Cell.app "add" [acc, d]) c) =
        evalCell (intAlgOf I bad) regs c + (ts.map (evalCell (intAlgOf I bad) regs)).sum
  | [], c => by simp
  | t :: ts, c => by
    rw [List.foldl_cons, evalCell_foldl_add hI bad regs ts]
    simp only [evalCell, evalCells, intAlgOf_app, (hI _ _).1, List.map_cons, List.sum_cons]
    omega

theorem evalCell_terms {I : String → List Int → Int} (hI : ArithInterp I) (bad : Int)
    (regs : List (Tensor Int)) : ∀ (zs : List (Option Cell × Nat)),
      ((zs.filterMap (fun (c, m) => c.map (fun c => if m == 1 then c else Cell.app "multiply" [c, .lit (Int.ofNat m)]))).map
        (evalCell (intAlgOf I bad) regs)).sum =
      ((zs.map (fun (c, m) => (c.map (evalCell (intAlgOf I bad) regs), m))).filterMap
        (fun (c, m) => c.map (· * Int.ofNat m))).sum
  | [] => by simp
  | (none, m) :: zs => by
    simpa [List.filterMap_cons] using evalCell_terms hI bad regs zs
  | (some c, m) :: zs => by
    have ih := evalCell_terms hI bad regs zs
    simp only [List.filterMap_cons, Option.map_some, List.map_cons, List.sum_cons, ih]
    congr 1
    by_cases hm : m = 1
    · subst hm; simp
    · simp [hm, evalCell, evalCells, intAlgOf_app, intAlgOf_lit, (hI _ _).2]

/-- **Meaning of the get_at index cell**: under every interpretation in which `add` / `multiply` are the
integer operations, `ravelExpr coords sizes` evaluates to `Σ c_j · m_j` over the values of the
coordinate cells. -/
theorem evalCell_ravelExpr {I : String → List Int → Int} (hI : ArithInterp I) (bad : Int)
    (regs : List (Tensor Int)) (coords : List (Option Cell)) (sizes : List Nat) :
    evalCell (intAlgOf I bad) regs (ravelExpr coords sizes) =
      ravelInt (coords.map (Option.map (evalCell (intAlgOf I bad) regs))) sizes := by
  have hz : List.zip (coords.map (Option.map (evalCell (intAlgOf I bad) regs))) (strides sizes) =
      (List.zip coords (strides sizes)).map (fun (c, m) => (c.map (evalCell (intAlgOf I bad) regs), m)) := by
    rw [List.zip_map_left]
    apply List.map_congr_left
    intro ⟨c, m⟩ _; rfl
  unfold ravelExpr ravelInt
  rw [hz, ← evalCell_terms hI bad regs]
  generalize (List.zip coords (strides sizes)).filterMap _ = terms
  cases terms with
  | nil => simp [evalCell, intAlgOf_lit]
  | cons t ts => simp only [foldCells, evalCell_foldl_add hI bad regs, List.map_cons, List.sum_cons]

/-- … and on natural-number coordinates (an omitted axis standing for index 0) that sum is `ravel`. -/
theorem ravelInt_eq_ravel : ∀ (sizes : List Nat) (vals : List (Option Nat)),
    ravelInt (vals.map (Option.map Int.ofNat)) sizes = Int.ofNat (ravel sizes (vals.map (·.getD 0)))
  | [], vals => by cases vals <;> simp [ravelInt, strides, ravel]
  | s :: ss, [] => by simp [ravelInt, ravel]
  | s :: ss, v :: vals => by
    have ih := ravelInt_eq_ravel ss vals
    unfold ravelInt at ih ⊢
    simp only [List.map_cons, strides, List.zip_cons_cons, List.filterMap_cons, ravel]
    cases v with
    | none => simpa using ih
    | some i =>
      simp only [Option.map_some, List.sum_cons, Option.getD_some]
      rw [ih]
      simp [Int.natCast_add, Int.natCast_mul]

end Einx.Denote
