import EinxModel.Factory.Check
/-! Helper lemmas for `Props/C13Exec.lean`: the backward pass `Factory.reachable` computes exactly the applications
from which the graph output is reachable along operand edges (`Reach`), for every serialisation-sane (`wf`) graph. -/
namespace Einx.Factory

/-- Application `i` produces a tracer that the graph output mentions, or that a reachable application consumes. -/
inductive Reach (g : Graph) : Nat → Prop
  | out (i : Nat) (a : GApp) (r : Nat) : g.apps[i]? = some a → r ∈ a.out.refs → r ∈ g.output.refs → Reach g i
  | step (j : Nat) (b : GApp) (i : Nat) (a : GApp) (r : Nat) : Reach g j → g.apps[j]? = some b →
      r ∈ refsL b.node.operands → g.apps[i]? = some a → r ∈ a.out.refs → Reach g i

theorem Reach.lt {g : Graph} {i : Nat} (h : Reach g i) : i < g.apps.length := by
  cases h with
  | out _ a r ha _ _ => exact (List.getElem?_eq_some_iff.1 ha).1
  | step j b _ a r _ _ _ ha _ => exact (List.getElem?_eq_some_iff.1 ha).1

theorem wf_out {g : Graph} (hwf : wf g = true) (i : Nat) (a : GApp) (ha : g.apps[i]? = some a) (k : Nat) (hk : k ∈ a.out.refs) :
    ∃ ti, g.tracers[k]? = some ti ∧ ti.origin = some i := by
  simp only [wf, Bool.and_eq_true, List.all_eq_true] at hwf
  have h1 := (hwf.1.2 (a, i) (List.mem_zipIdx_iff_getElem?.2 ha)).1 k hk
  cases ht : g.tracers[k]? with
  | none => simp [ht] at h1
  | some ti => exact ⟨ti, rfl, by simpa [ht] using h1⟩

theorem wf_operand {g : Graph} (hwf : wf g = true) (i : Nat) (a : GApp) (ha : g.apps[i]? = some a) (x : Nat)
    (hx : x ∈ refsL a.node.operands) : ∃ ti, g.tracers[x]? = some ti ∧ ∀ o, ti.origin = some o → o < i := by
  simp only [wf, Bool.and_eq_true, List.all_eq_true] at hwf
  have h1 := (hwf.1.2 (a, i) (List.mem_zipIdx_iff_getElem?.2 ha)).2 x hx
  cases ht : g.tracers[x]? with
  | none => simp [ht] at h1
  | some ti =>
    refine ⟨ti, rfl, ?_⟩
    intro o ho
    simpa [ht, ho] using h1

theorem wf_input {g : Graph} (hwf : wf g = true) (t : Nat) (ht : t ∈ g.inputs) :
    ∃ ti, g.tracers[t]? = some ti ∧ ti.origin = none := by
  simp only [wf, Bool.and_eq_true, List.all_eq_true] at hwf
  have h1 := hwf.1.1 t ht
  cases hti : g.tracers[t]? with
  | none => simp [hti] at h1
  | some ti => exact ⟨ti, rfl, by simpa [hti] using h1⟩

theorem wf_producer_unique {g : Graph} (hwf : wf g = true) (i i' : Nat) (a a' : GApp) (ha : g.apps[i]? = some a)
    (ha' : g.apps[i']? = some a') (r : Nat) (hr : r ∈ a.out.refs) (hr' : r ∈ a'.out.refs) : i = i' := by
  obtain ⟨ti, h1, h2⟩ := wf_out hwf i a ha r hr
  obtain ⟨ti', h1', h2'⟩ := wf_out hwf i' a' ha' r hr'
  rw [h1] at h1'
  cases h1'
  rw [h2] at h2'
  exact Option.some.inj h2'

theorem wf_topo {g : Graph} (hwf : wf g = true) (i j : Nat) (a b : GApp) (ha : g.apps[i]? = some a)
    (hb : g.apps[j]? = some b) (r : Nat) (hr : r ∈ a.out.refs) (hr' : r ∈ refsL b.node.operands) : i < j := by
  obtain ⟨ti, h1, h2⟩ := wf_out hwf i a ha r hr
  obtain ⟨ti', h1', h2'⟩ := wf_operand hwf j b hb r hr'
  rw [h1] at h1'
  cases h1'
  exact h2' i h2

theorem wf_input_not_out {g : Graph} (hwf : wf g = true) (t : Nat) (ht : t ∈ g.inputs) (i : Nat) (a : GApp)
    (ha : g.apps[i]? = some a) : t ∉ a.out.refs := by
  intro hr
  obtain ⟨ti, h1, h2⟩ := wf_out hwf i a ha t hr
  obtain ⟨ti', h1', h2'⟩ := wf_input hwf t ht
  rw [h1] at h1'
  cases h1'
  rw [h2] at h2'
  cases h2'

def bwStep (acc : List Nat × List Nat) (p : GApp × Nat) : List Nat × List Nat :=
  if p.1.out.refs.any (fun r => acc.1.contains r) then (refsL p.1.node.operands ++ acc.1, p.2 :: acc.2) else acc

/-- The pass over the applications `k, k+1, …` (from the last one down to `k`). -/
def bw (g : Graph) (k : Nat) : List Nat × List Nat :=
  ((g.apps.drop k).zipIdx k).foldr (fun p acc => bwStep acc p) (g.output.refs, [])

theorem reachable_eq_bw (g : Graph) : reachable g = (bw g 0).2 := by
  unfold reachable bw
  rw [List.foldl_reverse]
  rfl

theorem bw_end (g : Graph) (k : Nat) (hk : g.apps.length ≤ k) : bw g k = (g.output.refs, []) := by
  unfold bw
  rw [List.drop_eq_nil_of_le hk]
  rfl

theorem bw_step (g : Graph) (k : Nat) (a : GApp) (ha : g.apps[k]? = some a) :
    bw g k = bwStep (bw g (k + 1)) (a, k) := by
  unfold bw
  have hk := (List.getElem?_eq_some_iff.1 ha).1
  have hd : g.apps.drop k = a :: g.apps.drop (k + 1) := by
    rw [List.drop_eq_getElem_cons hk]
    congr 1
    exact (List.getElem?_eq_some_iff.1 ha).2
  rw [hd, List.zipIdx_cons, List.foldr_cons]

structure BwInv (g : Graph) (k : Nat) (acc : List Nat × List Nat) : Prop where
  marked : ∀ i, i ∈ acc.2 ↔ (k ≤ i ∧ Reach g i)
  needed : ∀ r, r ∈ acc.1 ↔ (r ∈ g.output.refs ∨ ∃ j b, j ∈ acc.2 ∧ g.apps[j]? = some b ∧ r ∈ refsL b.node.operands)

theorem BwInv.step {g : Graph} (hwf : wf g = true) {k : Nat} {acc : List Nat × List Nat} (hinv : BwInv g (k + 1) acc)
    (a : GApp) (ha : g.apps[k]? = some a) : BwInv g k (bwStep acc (a, k)) := by
  -- `k` is reachable iff one of its results is needed by the output or by a marked (later, reachable) application
  have hk : Reach g k ↔ ∃ r, r ∈ a.out.refs ∧ r ∈ acc.1 := by
    constructor
    · intro hr
      cases hr with
      | out _ a' r ha' hr ho =>
        cases ha.symm.trans ha'
        exact ⟨r, hr, (hinv.needed r).2 (Or.inl ho)⟩
      | step j b _ a' r hj hb hrb ha' hr =>
        cases ha.symm.trans ha'
        have hkj := wf_topo hwf k j a b ha hb r hr hrb
        exact ⟨r, hr, (hinv.needed r).2 (Or.inr ⟨j, b, (hinv.marked j).2 ⟨by omega, hj⟩, hb, hrb⟩)⟩
    · rintro ⟨r, hr, hacc⟩
      rcases (hinv.needed r).1 hacc with ho | ⟨j, b, hj, hb, hrb⟩
      · exact Reach.out k a r ha hr ho
      · exact Reach.step j b k a r ((hinv.marked j).1 hj).2 hb hrb ha hr
  have hmarked : ∀ i, i ∈ acc.2 ∨ (i = k ∧ Reach g k) ↔ k ≤ i ∧ Reach g i := by
    intro i
    rw [hinv.marked i]
    constructor
    · rintro (⟨h1, h2⟩ | ⟨rfl, h2⟩)
      · exact ⟨by omega, h2⟩
      · exact ⟨Nat.le_refl _, h2⟩
    · rintro ⟨h1, h2⟩
      by_cases hik : i = k
      · exact Or.inr ⟨hik, hik ▸ h2⟩
      · exact Or.inl ⟨by omega, h2⟩
  unfold bwStep
  split
  · rename_i hm
    have hreach : Reach g k := hk.2 (by simpa using hm)
    refine ⟨fun i => ?_, fun x => ?_⟩
    · rw [← hmarked i, List.mem_cons]
      exact ⟨fun h => h.elim (fun e => Or.inr ⟨e, hreach⟩) Or.inl, fun h => h.elim Or.inr (fun e => Or.inl e.1)⟩
    · rw [List.mem_append, hinv.needed x]
      constructor
      · rintro (hx | ho | ⟨j, b, hj, hb, hxb⟩)
        · exact Or.inr ⟨k, a, List.mem_cons_self .., ha, hx⟩
        · exact Or.inl ho
        · exact Or.inr ⟨j, b, List.mem_cons_of_mem _ hj, hb, hxb⟩
      · rintro (ho | ⟨j, b, hj, hb, hxb⟩)
        · exact Or.inr (Or.inl ho)
        · rcases List.mem_cons.1 hj with rfl | hj
          · cases ha.symm.trans hb
            exact Or.inl hxb
          · exact Or.inr (Or.inr ⟨j, b, hj, hb, hxb⟩)
  · rename_i hm
    have hnot : ¬ Reach g k := fun hr => hm (by simpa using hk.1 hr)
    refine ⟨fun i => ?_, hinv.needed⟩
    rw [← hmarked i]
    exact ⟨Or.inl, fun h => h.elim id (fun e => absurd e.2 hnot)⟩

theorem bw_inv (g : Graph) (hwf : wf g = true) (n : Nat) : ∀ k, k + n = g.apps.length → BwInv g k (bw g k) := by
  induction n with
  | zero =>
    intro k hk
    rw [bw_end g k (by omega)]
    exact ⟨fun i => ⟨fun h => (nomatch h), fun ⟨hki, hr⟩ => absurd hr.lt (by omega)⟩, fun r => by simp⟩
  | succ n ih =>
    intro k hk
    have ha : g.apps[k]? = some g.apps[k] := List.getElem?_eq_getElem (by omega)
    rw [bw_step g k _ ha]
    exact (ih (k + 1) (by omega)).step hwf _ ha

/-- **The backward pass is reachability**: for a `wf` graph, `reachable g` lists exactly the applications from which
the output is reachable along operand edges. -/
theorem mem_reachable_iff (g : Graph) (hwf : wf g = true) (i : Nat) : i ∈ reachable g ↔ Reach g i := by
  rw [reachable_eq_bw, (bw_inv g hwf g.apps.length 0 (by omega)).marked i]
  simp

end Einx.Factory
