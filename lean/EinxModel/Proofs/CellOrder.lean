import EinxModel.IR.PrimX
import Mathlib.Data.List.Sort
/-!
`Cell.cmp` (the comparison `sortCells` sorts with, `IR/PrimX.lean`) is a linear order on cells: antisymmetric up to
equality, oriented and transitive.  Hence `sortCells` -- insertion sort by `Cell.cmp` -- is a normal form of the
*multiset* of cells, and so is the canonical reduction cell `mkRed`.
-/
namespace Einx.IR
open List

/-- Strong transitivity of the three comparison results of a triple. -/
def T3 (ab bc ac : Ordering) : Prop :=
  (ab = .lt → bc ≠ .gt → ac = .lt) ∧ (ab ≠ .gt → bc = .lt → ac = .lt) ∧ (ab = .eq → bc = .eq → ac = .eq)

theorem T3_gt_left (x y : Ordering) : T3 .gt x y := ⟨nofun, fun h => absurd rfl h, nofun⟩
theorem T3_gt_mid (x y : Ordering) : T3 x .gt y := ⟨fun _ h => absurd rfl h, nofun, nofun⟩
theorem T3_lt_right (x : Ordering) : T3 x .lt .lt := ⟨fun _ _ => rfl, fun _ _ => rfl, nofun⟩
theorem T3_lt_lt (x : Ordering) : T3 .lt x .lt := ⟨fun _ _ => rfl, fun _ _ => rfl, nofun⟩

/-- Lexicographic composition preserves strong transitivity: the first components decide unless all three are `eq`. -/
theorem T3_then (o1 o2 o3 p1 p2 p3 : Ordering) (h1 : T3 o1 o2 o3) (h2 : T3 p1 p2 p3) :
    T3 (o1.then p1) (o2.then p2) (o3.then p3) := by
  obtain ⟨a1, a2, a3⟩ := h1
  cases o1 with
  | gt => exact T3_gt_left _ _
  | lt =>
    cases o2 with
    | gt => exact T3_gt_mid _ _
    | lt => rw [a1 rfl nofun]; exact T3_lt_lt _
    | eq => rw [a1 rfl nofun]; exact T3_lt_lt _
  | eq =>
    cases o2 with
    | gt => exact T3_gt_mid _ _
    | lt => rw [a2 nofun rfl]; exact T3_lt_right _
    | eq => rw [a3 rfl rfl]; exact h2

theorem T3_compare {α : Type} [Ord α] [Std.TransOrd α] (a b c : α) :
    T3 (compare a b) (compare b c) (compare a c) := by
  refine ⟨fun h1 h2 => Std.TransCmp.lt_of_lt_of_isLE h1 (by cases h : compare b c <;> simp_all),
    fun h1 h2 => Std.TransCmp.lt_of_isLE_of_lt (by cases h : compare a b <;> simp_all) h2,
    fun h1 h2 => Std.TransCmp.eq_trans h1 h2⟩

theorem Cell.ind_both {P : Cell → Prop} {Q : List Cell → Prop}
    (src : ∀ r k, P (.src r k)) (lit : ∀ i, P (.lit i)) (app : ∀ f as, Q as → P (.app f as)) (bad : P .bad)
    (nil : Q []) (cons : ∀ a as, P a → Q as → Q (a :: as)) : (∀ a, P a) ∧ ∀ as, Q as :=
  ⟨fun a => Cell.rec (motive_1 := P) (motive_2 := Q) src lit app bad nil cons a,
   fun as => Cell.rec_1 (motive_1 := P) (motive_2 := Q) src lit app bad nil cons as⟩

theorem Cell.cmp_swap_both :
    (∀ a b : Cell, Cell.cmp b a = (Cell.cmp a b).swap) ∧
      ∀ as bs : List Cell, Cell.cmpL bs as = (Cell.cmpL as bs).swap := by
  refine Cell.ind_both (fun r k b => ?_) (fun i b => ?_) (fun f as ih b => ?_) (fun b => ?_) (fun bs => ?_)
    (fun a as iha ihas bs => ?_)
  · cases b with
    | src r' k' => simp only [Cell.cmp, Ordering.swap_then, ← Std.OrientedOrd.eq_swap]
    | _ => rfl
  · cases b with
    | lit j => simp only [Cell.cmp, ← Std.OrientedOrd.eq_swap]
    | _ => rfl
  · cases b with
    | app g bs => simp only [Cell.cmp, Ordering.swap_then, ← Std.OrientedOrd.eq_swap, ← ih bs]
    | _ => rfl
  · cases b <;> rfl
  · cases bs <;> rfl
  · cases bs with
    | nil => rfl
    | cons b bs => simp only [Cell.cmpL, Ordering.swap_then, ← iha b, ← ihas bs]

theorem Cell.cmp_swap : ∀ a b : Cell, Cell.cmp b a = (Cell.cmp a b).swap :=
  Cell.cmp_swap_both.1

theorem Cell.cmpL_swap : ∀ as bs : List Cell, Cell.cmpL bs as = (Cell.cmpL as bs).swap :=
  Cell.cmp_swap_both.2

theorem Cell.cmp_eq_both :
    (∀ a b : Cell, Cell.cmp a b = .eq → a = b) ∧ ∀ as bs : List Cell, Cell.cmpL as bs = .eq → as = bs := by
  refine Cell.ind_both (fun r k b h => ?_) (fun i b h => ?_) (fun f as ih b h => ?_) (fun b h => ?_) (fun bs h => ?_)
    (fun a as iha ihas bs h => ?_)
  · cases b with
    | src r' k' =>
      simp only [Cell.cmp, Ordering.then_eq_eq, Std.LawfulEqOrd.compare_eq_iff_eq] at h
      rw [h.1, h.2]
    | _ => nomatch h
  · cases b with
    | lit j =>
      simp only [Cell.cmp, Std.LawfulEqOrd.compare_eq_iff_eq] at h
      rw [h]
    | _ => nomatch h
  · cases b with
    | app g bs =>
      simp only [Cell.cmp, Ordering.then_eq_eq, Std.LawfulEqOrd.compare_eq_iff_eq] at h
      rw [h.1, ih bs h.2]
    | _ => nomatch h
  · cases b with
    | bad => rfl
    | _ => nomatch h
  · cases bs with
    | nil => rfl
    | cons _ _ => nomatch h
  · cases bs with
    | nil => nomatch h
    | cons b bs =>
      simp only [Cell.cmpL, Ordering.then_eq_eq] at h
      rw [iha b h.1, ihas bs h.2]

theorem Cell.cmp_eq : ∀ a b : Cell, Cell.cmp a b = .eq → a = b :=
  Cell.cmp_eq_both.1

theorem Cell.cmpL_eq : ∀ as bs : List Cell, Cell.cmpL as bs = .eq → as = bs :=
  Cell.cmp_eq_both.2

/-- Position of the constructor in the order `src < lit < app < bad` that `Cell.cmp` compares first. -/
def Cell.rank : Cell → Nat
  | .src _ _ => 0
  | .lit _ => 1
  | .app _ _ => 2
  | .bad => 3

theorem Cell.cmp_of_rank_lt : ∀ {a b : Cell}, a.rank < b.rank → Cell.cmp a b = .lt := by
  intro a b h
  cases a <;> cases b <;> first | rfl | nomatch h

theorem Cell.rank_le_of_cmp {a b : Cell} (h : Cell.cmp a b ≠ .gt) : a.rank ≤ b.rank :=
  Nat.le_of_not_lt fun hlt => h (by rw [Cell.cmp_swap b a, Cell.cmp_of_rank_lt hlt]; rfl)

/-- Three cells that do not all have the same constructor compare as their constructors do. -/
theorem Cell.cmp_T3_mixed (a b c : Cell) (h : a.rank ≠ b.rank ∨ b.rank ≠ c.rank) :
    T3 (Cell.cmp a b) (Cell.cmp b c) (Cell.cmp a c) := by
  rcases Nat.lt_trichotomy a.rank b.rank with hab | hab | hab
  · rw [Cell.cmp_of_rank_lt hab]
    have key : Cell.cmp b c ≠ .gt → Cell.cmp a c = .lt := fun hbc =>
      Cell.cmp_of_rank_lt (Nat.lt_of_lt_of_le hab (Cell.rank_le_of_cmp hbc))
    exact ⟨fun _ => key, fun _ hbc => key (by rw [hbc]; nofun), nofun⟩
  · have hbc : b.rank ≠ c.rank := h.resolve_left (fun h => h hab)
    rcases Nat.lt_or_gt_of_ne hbc with hbc | hbc
    · rw [Cell.cmp_of_rank_lt hbc, Cell.cmp_of_rank_lt (Nat.lt_of_le_of_lt (Nat.le_of_eq hab) hbc)]
      exact T3_lt_right _
    · rw [Cell.cmp_swap c b, Cell.cmp_of_rank_lt hbc]
      exact T3_gt_mid _ _
  · rw [Cell.cmp_swap b a, Cell.cmp_of_rank_lt hab]
    exact T3_gt_left _ _

theorem Cell.cmp_T3_both :
    (∀ a b c : Cell, T3 (Cell.cmp a b) (Cell.cmp b c) (Cell.cmp a c)) ∧
      ∀ as bs cs : List Cell, T3 (Cell.cmpL as bs) (Cell.cmpL bs cs) (Cell.cmpL as cs) := by
  refine Cell.ind_both (fun r k b c => ?_) (fun i b c => ?_) (fun f as ih b c => ?_) (fun b c => ?_) (fun bs cs => ?_)
    (fun a as iha ihas bs cs => ?_)
  · cases b with
    | src r' k' =>
      cases c with
      | src r'' k'' => exact T3_then _ _ _ _ _ _ (T3_compare _ _ _) (T3_compare _ _ _)
      | _ => exact Cell.cmp_T3_mixed _ _ _ (Or.inr nofun)
    | _ => exact Cell.cmp_T3_mixed _ _ _ (Or.inl nofun)
  · cases b with
    | lit j =>
      cases c with
      | lit l => exact T3_compare _ _ _
      | _ => exact Cell.cmp_T3_mixed _ _ _ (Or.inr nofun)
    | _ => exact Cell.cmp_T3_mixed _ _ _ (Or.inl nofun)
  · cases b with
    | app g bs =>
      cases c with
      | app h cs => exact T3_then _ _ _ _ _ _ (T3_compare _ _ _) (ih bs cs)
      | _ => exact Cell.cmp_T3_mixed _ _ _ (Or.inr nofun)
    | _ => exact Cell.cmp_T3_mixed _ _ _ (Or.inl nofun)
  · cases b with
    | bad =>
      cases c with
      | bad => exact ⟨nofun, nofun, fun _ _ => rfl⟩
      | _ => exact Cell.cmp_T3_mixed _ _ _ (Or.inr nofun)
    | _ => exact Cell.cmp_T3_mixed _ _ _ (Or.inl nofun)
  · cases bs with
    | nil =>
      cases cs with
      | nil => exact ⟨nofun, nofun, fun _ _ => rfl⟩
      | cons _ _ => exact T3_lt_right _
    | cons _ _ =>
      cases cs with
      | nil => exact T3_gt_mid _ _
      | cons _ _ => exact T3_lt_lt _
  · cases bs with
    | nil => exact T3_gt_left _ _
    | cons b bs =>
      cases cs with
      | nil => exact T3_gt_mid _ _
      | cons c cs => exact T3_then _ _ _ _ _ _ (iha b c) (ihas bs cs)

theorem Cell.cmp_T3 : ∀ a b c : Cell, T3 (Cell.cmp a b) (Cell.cmp b c) (Cell.cmp a c) :=
  Cell.cmp_T3_both.1

theorem Cell.cmpL_T3 : ∀ as bs cs : List Cell, T3 (Cell.cmpL as bs) (Cell.cmpL bs cs) (Cell.cmpL as cs) :=
  Cell.cmp_T3_both.2

/-- The order `sortCells` sorts by. -/
def Cell.le (a b : Cell) : Prop := Cell.cmp a b ≠ .gt

instance : DecidableRel Cell.le := fun a b => by unfold Cell.le; infer_instance

theorem Cell.le_total (a b : Cell) : Cell.le a b ∨ Cell.le b a := by
  unfold Cell.le
  rw [Cell.cmp_swap a b]
  cases Cell.cmp a b <;> simp

theorem Cell.le_trans {a b c : Cell} (h1 : Cell.le a b) (h2 : Cell.le b c) : Cell.le a c := by
  unfold Cell.le at *
  obtain ⟨t1, t2, t3⟩ := Cell.cmp_T3 a b c
  cases hab : Cell.cmp a b with
  | gt => exact absurd hab h1
  | lt => rw [t1 hab h2]; simp
  | eq =>
    cases hbc : Cell.cmp b c with
    | gt => exact absurd hbc h2
    | lt => rw [t2 h1 hbc]; simp
    | eq => rw [t3 hab hbc]; simp

theorem Cell.le_antisymm {a b : Cell} (h1 : Cell.le a b) (h2 : Cell.le b a) : a = b := by
  unfold Cell.le at *
  rw [Cell.cmp_swap a b] at h2
  apply Cell.cmp_eq
  cases h : Cell.cmp a b <;> simp_all

instance : Std.Total Cell.le := ⟨Cell.le_total⟩
instance : IsTrans Cell Cell.le := ⟨fun _ _ _ => Cell.le_trans⟩
instance : Std.Antisymm Cell.le := ⟨fun _ _ => Cell.le_antisymm⟩

theorem insertCell_eq (c : Cell) (l : List Cell) : insertCell c l = orderedInsert Cell.le c l := by
  induction l with
  | nil => rfl
  | cons d ds ih =>
    simp only [insertCell, orderedInsert_cons, Cell.le, ih]
    by_cases h : Cell.cmp c d = .gt <;> simp [h]

theorem sortCells_eq (l : List Cell) : sortCells l = insertionSort Cell.le l := by
  induction l with
  | nil => rfl
  | cons c cs ih =>
    have : sortCells (c :: cs) = insertCell c (sortCells cs) := rfl
    rw [this, ih, insertCell_eq, insertionSort_cons]

theorem sortCells_perm_self (l : List Cell) : sortCells l ~ l := by
  rw [sortCells_eq]; exact perm_insertionSort _ l

theorem sortCells_perm {l1 l2 : List Cell} (h : l1 ~ l2) : sortCells l1 = sortCells l2 := by
  rw [sortCells_eq, sortCells_eq]
  exact Perm.eq_of_pairwise' (r := Cell.le) (pairwise_insertionSort _ l1) (pairwise_insertionSort _ l2)
    ((perm_insertionSort _ l1).trans (h.trans (perm_insertionSort _ l2).symm))

theorem insertCell_map (g : Cell → Cell) (c : Cell) : ∀ l : List Cell, (∀ d ∈ l, Cell.cmp (g c) (g d) = Cell.cmp c d) →
    insertCell (g c) (l.map g) = (insertCell c l).map g
  | [], _ => rfl
  | d :: ds, h => by
    simp only [List.map_cons, insertCell, h d (List.mem_cons_self ..)]
    split
    · rfl
    · simp only [List.map_cons, insertCell_map g c ds fun x hx => h x (List.mem_cons_of_mem _ hx)]

/-- Sorting commutes with a map that keeps the order of the elements. -/
theorem sortCells_map (g : Cell → Cell) : ∀ l : List Cell, (∀ a ∈ l, ∀ b ∈ l, Cell.cmp (g a) (g b) = Cell.cmp a b) →
    sortCells (l.map g) = (sortCells l).map g
  | [], _ => rfl
  | a :: l, h => by
    have ih := sortCells_map g l fun x hx y hy => h x (List.mem_cons_of_mem _ hx) y (List.mem_cons_of_mem _ hy)
    simp only [sortCells, List.map_cons, List.foldr_cons] at ih ⊢
    rw [ih]
    exact insertCell_map g a _ fun d hd => h a (List.mem_cons_self ..) d
      (List.mem_cons_of_mem _ ((sortCells_perm_self l).mem_iff.mp hd))

theorem sortCells_length (l : List Cell) : (sortCells l).length = l.length := (sortCells_perm_self l).length_eq

theorem mkRed_of_length_ne_one (f : String) :
    ∀ {l : List Cell}, l.length ≠ 1 → mkRed f l = .app ("red:" ++ f) (sortCells l)
  | [], _ => rfl
  | [_], h => absurd rfl h
  | _ :: _ :: _, _ => rfl

theorem mkRed_perm (f : String) {l1 l2 : List Cell} (h : l1 ~ l2) : mkRed f l1 = mkRed f l2 := by
  by_cases h1 : l1.length = 1
  · obtain ⟨c, rfl⟩ := List.length_eq_one_iff.mp h1
    rw [perm_singleton.mp h.symm]
  · rw [mkRed_of_length_ne_one f h1, mkRed_of_length_ne_one f (h.length_eq ▸ h1), sortCells_perm h]

end Einx.IR
