import EinxModel.Proofs.NotationSim
/-!
# M1 Notation — lexer layer of the space-invariance proof (`segment_insert`)

The token list of `xs ++ ' ' :: ys` (a redundant space inserted between `xs` and `ys`) is the token list of `xs ++ ys`
with one additional space token; the tokens after it are shifted by one position.
-/
namespace Einx.Notation

/-! ### The literals next to a redundant space -/

theorem slotLits_literals : ∀ l ∈ afterLits ++ beforeLits,
    l ∈ literals ∧ l.head?.all (fun c => c != '>' && c != '.') = true := by
  rw [literals_eq]; decide

theorem slotLit_match {l : Str} (hl : l ∈ afterLits ∨ l ∈ beforeLits) (v : Str) :
    matchLit literals (l ++ v) = some l ∧ GoodHead (l ++ v) :=
  let ⟨hmem, hhead⟩ := slotLits_literals l (List.mem_append.mpr hl)
  lit_match hmem hhead v

theorem segment_split_after {l : Str} (hl : l ∈ afterLits) (p v : Str) (pos start : Nat) (cur : Str) :
    segment literals (p ++ l ++ v) pos start cur =
      segment literals p pos start cur ++
        ⟨l, pos + p.length, pos + p.length + l.length⟩ ::
          segment literals v (pos + (p ++ l).length) (pos + (p ++ l).length) [] :=
  let ⟨hmem, hhead⟩ := slotLits_literals l (List.mem_append.mpr (Or.inl hl))
  segment_split_lit hmem hhead p v pos start cur

theorem segment_after {l : Str} (hl : l ∈ afterLits) (p : Str) (pos start : Nat) (cur : Str) :
    segment literals (p ++ l) pos start cur =
      segment literals p pos start cur ++ [⟨l, pos + p.length, pos + p.length + l.length⟩] := by
  have := segment_split_after hl p [] pos start cur
  rw [List.append_nil, segment_nil, flush_nil] at this
  exact this

theorem segment_shift (cs : Str) (pos start : Nat) (cur : Str) :
    Forall2 (fun t t' => t'.text = t.text ∧ t'.b = t.b + 1)
      (segment literals cs pos start cur) (segment literals cs (pos + 1) (start + 1) cur) := by
  have hf : ∀ (cur : Str) (start pos : Nat), Forall2 (fun (t t' : Token) => t'.text = t.text ∧ t'.b = t.b + 1)
      (flush cur start pos) (flush cur (start + 1) (pos + 1)) := by
    intro cur start pos
    unfold flush
    split
    · exact .nil
    · exact .cons ⟨rfl, rfl⟩ .nil
  fun_induction segment literals cs pos start cur with
  | case1 pos start cur =>
    rw [segment_nil]
    exact hf cur start pos
  | case2 pos start cur c rest l hl ih =>
    rw [segment_cons_some hl, Nat.add_right_comm pos 1 l.length]
    exact Forall2.append (hf cur start pos) (.cons ⟨rfl, rfl⟩ ih)
  | case3 pos start cur c rest hl ih =>
    rw [segment_cons_none hl]
    exact ih

/-! ### The inserted space -/

theorem redundantAt_cases {xs ys : Str} (h : RedundantAt xs ys = true) :
    xs = [] ∨ ys = [] ∨ (∃ l, l ∈ afterLits ∧ ∃ p, xs = p ++ l) ∨ (∃ l, l ∈ beforeLits ∧ ∃ q, ys = l ++ q) := by
  unfold RedundantAt at h
  simp only [Bool.or_eq_true, List.isEmpty_iff, List.any_eq_true] at h
  rcases h with ((h | h) | ⟨l, hl, hs⟩) | ⟨l, hl, hp⟩
  · exact Or.inl h
  · exact Or.inr (Or.inl h)
  · obtain ⟨p, hp⟩ := List.isSuffixOf_iff_suffix.mp hs
    exact Or.inr (Or.inr (Or.inl ⟨l, hl, p, hp.symm⟩))
  · obtain ⟨q, hq⟩ := List.isPrefixOf_iff_prefix.mp hp
    exact Or.inr (Or.inr (Or.inr ⟨l, hl, q, hq.symm⟩))

theorem spaceLit_mem_afterLits : spaceLit ∈ afterLits := by simp [afterLits]

theorem segment_space_insert (xs ys : Str) :
    segment literals (xs ++ ' ' :: ys) 0 0 [] =
      segment literals xs 0 0 [] ++
        ⟨spaceLit, xs.length, xs.length + 1⟩ :: segment literals ys (xs.length + 1) (xs.length + 1) [] := by
  have := segment_split_after spaceLit_mem_afterLits xs ys 0 0 []
  simpa [spaceLit] using this

theorem segment_insert_aux (xs ys : Str)
    (hy : ys.head? ≠ some ' ' ∨ ∃ p, xs = p ++ spaceLit)
    (h : xs = [] ∨ ys = [] ∨ (∃ l, l ∈ afterLits ∧ ∃ p, xs = p ++ l) ∨ (∃ l, l ∈ beforeLits ∧ ∃ q, ys = l ++ q)) :
    ∃ (A B B' : List Token) (sp : Token) (k : Nat),
      segment literals (xs ++ ys) 0 0 [] = A ++ B ∧
      segment literals (xs ++ ' ' :: ys) 0 0 [] = A ++ sp :: B' ∧
      sp.text = spaceLit ∧
      (∀ t ∈ A, t.b < k) ∧ (∀ t ∈ B, k ≤ t.b) ∧
      Forall2 (fun t t' => t'.text = t.text ∧ t'.b = t.b + 1) B B' ∧
      SlotCond A B := by
  have hs : segment literals (xs ++ ys) 0 0 [] =
      segment literals xs 0 0 [] ++ segment literals ys xs.length xs.length [] := by
    rcases h with rfl | rfl | ⟨l, hl, p, rfl⟩ | ⟨l, hl, q, rfl⟩
    · simp [segment_nil, flush_nil]
    · simp [segment_nil, flush_nil]
    · rw [segment_split_after hl, segment_after hl]
      simp
    · have := segment_split xs (l ++ q) (slotLit_match (Or.inr hl) q).2 0 0 []
      simpa using this
  refine ⟨segment literals xs 0 0 [], segment literals ys xs.length xs.length [],
    segment literals ys (xs.length + 1) (xs.length + 1) [], ⟨spaceLit, xs.length, xs.length + 1⟩, xs.length,
    hs, segment_space_insert xs ys, rfl, ?_, ?_, ?_, ?_⟩
  · intro t ht
    have := (segment_tiles literals xs 0 0 [] (by simp)).1 t ht
    omega
  · exact fun t ht => ((segment_tiles literals ys _ _ [] (by simp)).1 t ht).1
  · exact segment_shift ys _ _ []
  · by_cases hx : ∃ a, (segment literals xs 0 0 []).getLast? = some a ∧ a.text = spaceLit
    · exact Or.inl hx
    · have hy' : ys.head? ≠ some ' ' := by
        rcases hy with hy | ⟨p, rfl⟩
        · exact hy
        · exfalso
          apply hx
          rw [segment_after spaceLit_mem_afterLits]
          exact ⟨_, List.getLast?_concat, rfl⟩
      have hb : ∀ b, (segment literals ys xs.length xs.length []).head? = some b → b.text ≠ spaceLit := by
        intro b hb ht
        have := segment_head_text ys _ _ [] b hb
        rw [ht] at this
        simp only [spaceLit, List.head?_cons, List.nil_append] at this
        exact hy' this.symm
      refine Or.inr ⟨fun a ha ht => hx ⟨a, ha, ht⟩, hb, ?_⟩
      rcases h with rfl | rfl | ⟨l, hl, p, rfl⟩ | ⟨l, hl, q, rfl⟩
      · left
        simp [segment_nil, flush_nil]
      · right; left
        simp [segment_nil, flush_nil]
      · right; right; left
        have hlast : (segment literals (p ++ l) 0 0 []).getLast? = some ⟨l, 0 + p.length, 0 + p.length + l.length⟩ := by
          rw [segment_after hl]
          exact List.getLast?_concat
        refine ⟨_, hlast, ?_⟩
        simp only [afterLits, List.mem_cons] at hl
        rcases hl with rfl | hl
        · exact absurd ⟨_, hlast, rfl⟩ hx
        · exact hl
      · right; right; right
        refine ⟨⟨l, xs.length, xs.length + l.length⟩, ?_, ?_⟩
        · rw [segment_lit q (slotLit_match (Or.inr hl) q).1]
          rfl
        · simp only [beforeLits, List.mem_cons] at hl
          rcases hl with rfl | hl
          · exact absurd rfl hy'
          · exact hl

/-- Lexer layer of the space invariance: one redundant space more in the text is one space token more in the token
    list, at a slot that `SlotCond` describes; the tokens after it move by one position. -/
theorem segment_insert (xs ys : Str) (h : RedundantAt xs ys = true) :
    ∃ (A B B' : List Token) (sp : Token) (k : Nat),
      segment literals (xs ++ ys) 0 0 [] = A ++ B ∧
      segment literals (xs ++ ' ' :: ys) 0 0 [] = A ++ sp :: B' ∧
      sp.text = spaceLit ∧
      (∀ t ∈ A, t.b < k) ∧ (∀ t ∈ B, k ≤ t.b) ∧
      Forall2 (fun t t' => t'.text = t.text ∧ t'.b = t.b + 1) B B' ∧
      SlotCond A B := by
  rcases ys with _ | ⟨c, ys'⟩
  · exact segment_insert_aux xs [] (Or.inl (by simp)) (Or.inr (Or.inl rfl))
  · by_cases hc : c = ' '
    · -- inserting in front of a space gives the same text as inserting behind it, where the left part ends with a space
      subst hc
      have e1 : xs ++ ' ' :: ys' = (xs ++ [' ']) ++ ys' := by simp
      have e2 : xs ++ ' ' :: ' ' :: ys' = (xs ++ [' ']) ++ ' ' :: ys' := by simp
      rw [e2, e1]
      exact segment_insert_aux (xs ++ [' ']) ys' (Or.inr ⟨xs, rfl⟩)
        (Or.inr (Or.inr (Or.inl ⟨spaceLit, spaceLit_mem_afterLits, xs, rfl⟩)))
    · exact segment_insert_aux xs (c :: ys') (Or.inl (by simp [hc])) (redundantAt_cases h)

end Einx.Notation
