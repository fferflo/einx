import EinxModel.Proofs.ExecSem
import EinxModel.Proofs.ExecAdapt
import EinxModel.Proofs.ExecVisit
import EinxModel.Proofs.Adapt
/-! Helper lemmas for `Props/C15Exec.lean`: the instances of `QOK` (`isConstAtom_qok`) and `Track` (`track_const`) for
constant objects (`isConstAtom`) and the tracer of the user constant.  The `CallSite` of the checker's verdict is built in
the property file (`Einx.Adapt.adapter_callSite`, `Props/C15Exec.lean`). -/
namespace Einx.Exec
open Einx.Compile

theorem modname_ne (x y s : String) (hs : s.length < 7) : ("module " ++ x ++ ":" ++ y) ≠ s := by
  intro h
  have := congrArg String.length h
  simp only [String.length_append] at this
  have h7 : "module ".length = 7 := by decide
  omega

theorem isConstAtom_qok : QOK isConstAtom where
  node := by
    intro e h
    cases e with
    | node tag a =>
      cases tag with
      | atom nm => exact ⟨nm, a, rfl⟩
      | _ => simp [isConstAtom] at h
    | _ => simp [isConstAtom] at h
  res := by intro n; simp [isConstAtom, resAtom, atom, E.mk]
  mod := by
    intro f i
    simp only [isConstAtom, modAtom, E.mk]
    have := modname_ne (f.getD "") i "const" (by decide)
    simpa using this
  clos := by intro k; simp [isConstAtom, closAtom, atom, E.mk]

theorem isConstAtom_const (n : Nat) : isConstAtom (constAtom n) = true := by
  simp [isConstAtom, constAtom, atom, E.mk]

theorem isConstAtom_in (t : Nat) : isConstAtom (inAtom t) = false := by
  simp [isConstAtom, inAtom, atom, E.mk]

theorem uses_ge_two (ag : Adapt.Graph) (c i j : Nat) (a b : Adapt.App) (hij : i ≠ j) (hi : ag.apps[i]? = some a)
    (hj : ag.apps[j]? = some b) (ha : 1 ≤ a.uses c) (hb : 1 ≤ b.uses c) : 2 ≤ ag.uses c := by
  have := add_le_sum_of_ne (ag.apps.map (Adapt.App.uses c)) i j _ _ hij
    (by rw [List.getElem?_map, hi]; rfl) (by rw [List.getElem?_map, hj]; rfl)
  simp only [Adapt.Graph.uses]
  omega

theorem toVal_var (t : Nat) : toVal (.var t) = .ref t := by simp [toVal]

/-- `callsTracer ag c` is "calls the tracer `c`", seen through `toAdapt`. -/
theorem callsTracer_iff_pcall (g : Graph) (shapes : List (Nat × List Nat)) (cv : List (Option Adapt.Val)) (ag : Adapt.Graph)
    (hag : toAdapt g shapes cv = some ag) (c j : Nat) :
    callsTracer ag c j = true ↔ PCall g (fun y => y = c) j := by
  unfold callsTracer
  rw [toAdapt_app_eq g shapes cv ag hag]
  constructor
  · intro h
    split at h
    · rename_i b hb
      obtain ⟨a, ha, rfl⟩ := Option.map_eq_some_iff.1 hb
      obtain ⟨args, kwargs, out, hb'⟩ := (Adapt.isCallOf_iff c _).1 h
      obtain ⟨fn', args', kwargs', deps', o, rfl, hfn, -⟩ := toAdaptApp_call_inv _ a _ _ _ _ hb'
      cases toVal_ref_inv fn' c hfn.symm
      exact ⟨c, args', kwargs', deps', o, ha, rfl⟩
    · cases h
  · rintro ⟨y, args, kwargs, deps, out, ha, rfl⟩
    simp [ha, toAdaptApp, Adapt.isCallOf, toVal_var]

theorem not_allowInline_of_constant (g : Graph) (aux : List TAux) (fg : Factory.Graph) (hfg : toFactory g aux = some fg)
    (hfwf : Factory.wf fg = true) (k0 : Nat) (str : String) (c : Nat) (hk0 : g.apps[k0]? = some (.constant str c)) :
    isAllowInline g (.var c) = false := by
  have hfa : fg.apps[k0]? = some (toGApp (.constant str c)) := by rw [toFactory_app g aux fg hfg, hk0]; rfl
  obtain ⟨ti, h1, h2⟩ := Factory.wf_out hfwf k0 _ hfa c (by simp [toGApp, App.out, refs_var])
  have horg := tracer_origin g aux fg hfg c
  rw [h1, Option.map_some, h2] at horg
  simp only [isAllowInline, (originOf_iff g c k0 _).2 ⟨horg.symm, hk0⟩]

theorem alias_uses (cv : Option Adapt.Val) (a : App) (c : Nat) (h : aliasOperand a = some (.var c)) :
    1 ≤ (toAdaptApp cv a).uses c := by
  cases a with
  | cast input out =>
    simp only [aliasOperand, Option.some.injEq] at h
    subst h
    simp [toAdaptApp, Adapt.App.uses, toVal_var, Adapt.Val.uses]
  | assert_ xs cond msg out =>
    simp only [aliasOperand, Option.some.injEq] at h
    subst h
    simp only [toAdaptApp]
    split <;> simp [Adapt.App.uses, toVal_var, Adapt.Val.uses, Adapt.Val.usesL] <;> omega
  | callInplace xs fn args kwargs deps out =>
    simp only [aliasOperand, Option.some.injEq] at h
    subst h
    simp [toAdaptApp, Adapt.App.uses, toVal_var, Adapt.Val.uses, Adapt.Val.usesL]
  | updateitem obj key value op out =>
    simp only [aliasOperand, Option.some.injEq] at h
    subst h
    simp [toAdaptApp, Adapt.App.uses, toVal_var, Adapt.Val.uses, Adapt.Val.usesL]
  | _ => simp [aliasOperand] at h

/-- **The tracking hypotheses for the user constant**: for a supported graph accepted by `adaptOK`, the only tracer that holds a
constant object is the tracer `c` of the user constant. -/
theorem track_const (g : Graph) (shapes : List (Nat × List Nat)) (constVals : List (Option Adapt.Val))
    (ag : Adapt.Graph) (fg : Factory.Graph) (S : Setup g fg)
    (hag : toAdapt g shapes constVals = some ag) (hfwf : Factory.wf fg = true)
    (k c i : Nat) (fn : Adapt.Val) (args : List Adapt.Val) (kws : List (String × Adapt.Val)) (out : Adapt.Val)
    (hconst : ag.apps.filter Adapt.isAnyConstant = [.constant (.obj k) c])
    (hi : ag.apps[i]? = some (.call fn args kws out)) (hpi : Adapt.isCallOf c (.call fn args kws out) = true)
    (huses : ag.uses c = 1) :
    Track g isConstAtom (fun y => y = c) (fun k' => g.top = .gref k') := by
  obtain ⟨k0, sg, htop, hsg, hins, hout⟩ := S.root
  obtain ⟨kc, hkc, _, hkuniq⟩ := filter_singleton_index Adapt.isAnyConstant _ ag.apps hconst
  obtain ⟨a0, ha0, hta0⟩ := toAdapt_app g shapes constVals ag hag kc _ hkc
  obtain ⟨str0, rfl⟩ := toAdaptApp_constant_inv _ a0 _ c hta0.symm
  have hfa0 := S.app kc _ ha0
  have hcout : c ∈ (toGApp (.constant str0 c)).out.refs := by simp [toGApp, App.out, refs_var]
  have honly : ∀ (j : Nat) (str : String) (o : Nat), g.apps[j]? = some (.constant str o) → o = c := by
    intro j str o hj
    have := toAdapt_app_fwd g shapes constVals ag hag j _ hj
    have hjk := hkuniq j _ this (by simp [toAdaptApp, Adapt.isAnyConstant])
    subst hjk
    rw [ha0] at hj
    simp only [Option.some.injEq, App.constant.injEq] at hj
    exact hj.2.symm
  refine ⟨?inp, ?const, ?alias, ?prod⟩
  case inp =>
    intro k' sg' t hk' hsg' ht
    rw [isConstAtom_in]
    constructor
    · intro h; cases h
    · intro htc
      exfalso
      rw [htop] at hk'
      simp only [E.gref.injEq] at hk'
      subst hk'
      rw [hsg] at hsg'
      cases hsg'
      subst htc
      exact Factory.wf_input_not_out hfwf t (by rw [hins]; exact ht) kc _ hfa0 hcout
  case const =>
    intro j str o hj n
    rw [isConstAtom_const]
    exact ⟨fun _ => honly j str o hj, fun _ => rfl⟩
  case alias =>
    intro j a x hj hal hx
    exfalso
    subst hx
    have hja := toAdapt_app_fwd g shapes constVals ag hag j a hj
    have h1 := alias_uses ((constVals[j]?).getD none) a x hal
    have h2 : 1 ≤ (Adapt.App.call fn args kws out).uses x := by
      obtain ⟨_, _, _, h⟩ := (Adapt.isCallOf_iff x _).1 hpi
      cases h
      simp only [Adapt.App.uses, Adapt.Val.uses, beq_self_eq_true, if_true]
      omega
    have hne : j ≠ i := by
      intro hji
      subst hji
      rw [hja] at hi
      simp only [Option.some.injEq] at hi
      obtain ⟨fn', args', kwargs', deps', o, rfl, _⟩ := toAdaptApp_call_inv _ a fn args kws out hi
      simp [aliasOperand] at hal
    have := uses_ge_two ag x j i _ _ hne hja hi h1 h2
    omega
  case prod =>
    intro j a y hj hy hyc
    subst hyc
    have hvt := S.varOuts a (List.mem_of_getElem? hj)
    have hyo : y ∈ (toGApp a).out.refs := (varTree_regKeys_iff a.out hvt y).1 hy
    have hjk := Factory.wf_producer_unique hfwf j kc _ _ (S.app j a hj) hfa0 y hyo hcout
    subst hjk
    rw [ha0] at hj
    cases hj
    exact ⟨rfl, Or.inl rfl⟩

end Einx.Exec
