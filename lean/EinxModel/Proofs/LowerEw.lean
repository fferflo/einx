import EinxModel.Generic.LowerOpsDenote
import EinxModel.Proofs.Lower
/-! Helper lemmas for `lower_elementwise_correct` (Props/C01LowerOps.lean), run side: the chain of one input
(`chainInput`), numpy broadcasting of aligned operands, the traced numpy call (`ewiseCall`), the alignment loops and
the inner function `Generic.ewInner`, as statements about the registers the emitted program computes. -/
namespace Einx.Lower
open Einx Einx.IR Einx.Generic Einx.Denote

/-- The chain of input `i`: preparation and alignment with the output expression `W` (whose axes all occur in some
input).  `P` is any condition on valuations that bounds them on the input's and on `W`'s axes. -/
theorem chain_run {inps : List (Tensor Cell)} {s : St} {regs : List (Tensor Cell)} {i : Nat} {e : List G} {W : List Ax}
    {P : (String → Nat) → Prop}
    (h : Tr inps s regs) (hi : regs[i]? = some (symInput i (gShape e)))
    (hW : (names W).Nodup) (hPe : ∀ val, P val → Bnd val (G.leavesL e)) (hPW : ∀ val, P val → Bnd val W)
    (hcons : ∀ a ∈ G.leavesL e, ∀ b ∈ W, a.name = b.name → a.len = b.len) :
    OkP (fun x => (names (G.leavesL e)).Nodup ∧ (∀ n ∈ names (squeezedExpr [] e), n ∈ names W) ∧
      x.1 = unitaryExpr i (squeezedExpr [] e) W ∧
      ∃ ext T', Run inps x.2 (regs ++ ext) T' ∧
        ReadsP P (cOf i e) T' W (presentPre (squeezedExpr [] e))) (chainInput W s i e) := by
  unfold chainInput
  refine (prep_run h hi).bind fun ⟨sq, s1⟩ _ ⟨hnd, hsq, regs1, T1, hrun1, _, hR1⟩ => ?_
  dsimp only at hsq hrun1 hR1 ⊢
  subst hsq
  have hmem : ∀ a ∈ squeezedExpr [] e, a ∈ G.leavesL e ∧ a.len ≠ 1 := fun a ha => mem_squeezedExpr_nil.mp ha
  have ov : Over P (squeezedExpr [] e) W := ⟨names_nodup_filter hnd _, fun a ha => (hmem a ha).2,
    fun val hv a ha => hPe val hv a (hmem a ha).1, hPW, fun a ha => hcons a (hmem a ha).1⟩
  exact (stbU_run hrun1 ov hW (hR1.mono hPe)).mono (fun _ h => h) fun _ ⟨hsub, he1, regs2, T2, hrun2, hR2⟩ =>
    ⟨hnd, hsub, he1, regs1 ++ regs2, T2, hrun2.assoc, hR2⟩

/-- The result of numpy's merge of two broadcast-compatible dimension lengths. -/
def mergeV (x y : Nat) : Nat := if x == y then x else if x == 1 then y else x

/-- The joint shape function of aligned operands (numpy folds from the right). -/
def joinAll : List (Ax → Nat) → Ax → Nat
  | [], _ => 1
  | p :: ps, a => mergeV (p a) (joinAll ps a)

theorem mergeV_mem (x y : Nat) : mergeV x y = x ∨ mergeV x y = y := by
  unfold mergeV
  split
  · exact Or.inl rfl
  · split
    · exact Or.inr rfl
    · exact Or.inl rfl

theorem joinAll_mask {W : List Ax} : ∀ {ps : List (Ax → Nat)}, (∀ p ∈ ps, Mask W p) → Mask W (joinAll ps)
  | [], _ => fun _ _ => Or.inr rfl
  | p :: ps, h => by
    intro a ha
    rcases mergeV_mem (p a) (joinAll ps a) with e | e
    · rw [joinAll, e]; exact h p (List.mem_cons_self ..) a ha
    · rw [joinAll, e]; exact joinAll_mask (ps := ps) (fun q hq => h q (List.mem_cons_of_mem _ hq)) a ha

theorem mergeV_eq_one {x y : Nat} (h : mergeV x y = 1) : x = 1 ∧ y = 1 := by
  unfold mergeV at h
  split at h
  · rename_i e
    have : x = y := by simpa using e
    exact ⟨h, this ▸ h⟩
  · split at h
    · rename_i e
      exact ⟨by simpa using e, h⟩
    · rename_i e
      exact absurd h (by simpa using e)

theorem joinAll_ne_one {a : Ax} : ∀ {ps : List (Ax → Nat)} {p : Ax → Nat}, p ∈ ps → p a ≠ 1 →
    joinAll ps a ≠ 1
  | [], _, h, _ => by simp at h
  | q :: qs, p, h, hp => by
    intro e
    have := mergeV_eq_one (x := q a) (y := joinAll qs a) e
    rcases List.mem_cons.mp h with rfl | h'
    · exact hp this.1
    · exact joinAll_ne_one (ps := qs) h' hp this.2

theorem merge_mask {n x y : Nat} (hx : x = n ∨ x = 1) (hy : y = n ∨ y = 1) (msg : String) :
    (if x == y then pure x else if x == 1 then pure y else if y == 1 then pure x else throw msg : IR.E Nat)
      = pure (mergeV x y) := by
  unfold mergeV
  by_cases e : x = y
  · simp [e]
  · by_cases e1 : x = 1
    · subst e1
      have : ¬ (1 = y) := e
      simp [this]
    · have hy1 : y = 1 := by
        rcases hx with hx | hx
        · rcases hy with hy | hy
          · exact absurd (hx.trans hy.symm) e
          · exact hy
        · exact absurd hx e1
      simp [e1, hy1]

theorem mapM_zip_merge (g : Nat × Nat → IR.E Nat) (W : List Ax) (p q : Ax → Nat)
    (hg : ∀ a ∈ W, g (p a, q a) = pure (mergeV (p a) (q a))) :
    (List.zip (W.map p) (W.map q)).mapM g = pure (W.map (fun a => mergeV (p a) (q a))) := by
  rw [List.zip_map', List.mapM_map]
  exact mapM_ok_map _ _ W hg

theorem broadcastShapes_rows (W : List Ax) : ∀ (ps : List (Ax → Nat)), ps ≠ [] → (∀ p ∈ ps, Mask W p) →
    broadcastShapes (ps.map (fun p => W.map p)) = .ok (W.map (joinAll ps))
  | [], h, _ => absurd rfl h
  | [p], _, hm => by
    simp only [List.map_cons, List.map_nil, broadcastShapes, pure_bind, List.length_map, List.length_nil, Nat.zero_le,
      Nat.max_eq_left, Nat.sub_self, List.replicate_zero, List.nil_append, Nat.sub_zero, List.append_nil]
    rw [← List.map_const' (l := W), mapM_zip_merge _ W p (fun _ => 1)]
    · rfl
    · intro a ha
      exact merge_mask (hm p (List.mem_cons_self ..) a ha) (Or.inr rfl) _
  | p :: q :: qs, _, hm => by
    have ih := broadcastShapes_rows W (q :: qs) (by simp) (fun r hr => hm r (List.mem_cons_of_mem _ hr))
    have hmq := joinAll_mask (W := W) (ps := q :: qs) (fun r hr => hm r (List.mem_cons_of_mem _ hr))
    rw [List.map_cons, broadcastShapes, ih]
    simp only [ok_bind, List.length_map, Nat.max_self, Nat.sub_self, List.replicate_zero, List.nil_append]
    rw [mapM_zip_merge _ W p (joinAll (q :: qs))]
    · rfl
    · intro a ha
      exact merge_mask (hm p (List.mem_cons_self ..) a ha) (hmq a ha) _

/-- What describes an aligned operand: its shape function on the output axes, and the cell it holds. -/
structure Od where
  pre : Ax → Nat
  c : (String → Nat) → Cell

/-- The traced operand `o` is a register of `regs`, aligned with `W`: a tensor over `W` with shape function `d.pre` that
holds `d.c`. -/
def Aligned (regs : List (Tensor Cell)) (W : List Ax) (P : (String → Nat) → Prop) (o : Opnd) (d : Od) : Prop :=
  ∃ T, regs[o.reg]? = some T ∧ o.shape = W.map d.pre ∧ ReadsP P d.c T W d.pre

theorem Run.aligned {inps : List (Tensor Cell)} {s : St} {regs : List (Tensor Cell)} {T : Tensor Cell} {W : List Ax}
    {P : (String → Nat) → Prop} {c : (String → Nat) → Cell} {pre : Ax → Nat} (h : Run inps s regs T)
    (hR : ReadsP P c T W pre) (e : List Ax) : Aligned regs W P ⟨e, s.reg, s.shape⟩ ⟨pre, c⟩ :=
  ⟨T, h.reg, by rw [← h.shape, hR.1], hR⟩

theorem Aligned.mono {regs : List (Tensor Cell)} {W : List Ax} {P : (String → Nat) → Prop} {o : Opnd} {d : Od}
    (h : Aligned regs W P o d) (ext : List (Tensor Cell)) : Aligned (regs ++ ext) W P o d := by
  obtain ⟨T, hT, hs, hR⟩ := h
  exact ⟨T, getElem?_append_of_some hT ext, hs, hR⟩

/-- The traced operands `os` are aligned with `W`, described one by one by `ds`. -/
inductive AlignedL (regs : List (Tensor Cell)) (W : List Ax) (P : (String → Nat) → Prop) : List Opnd → List Od → Prop
  | nil : AlignedL regs W P [] []
  | cons {o : Opnd} {d : Od} {os : List Opnd} {ds : List Od} :
    Aligned regs W P o d → AlignedL regs W P os ds → AlignedL regs W P (o :: os) (d :: ds)

theorem AlignedL.mono {regs : List (Tensor Cell)} {W : List Ax} {P : (String → Nat) → Prop} {os : List Opnd}
    {ds : List Od} (h : AlignedL regs W P os ds) (ext : List (Tensor Cell)) : AlignedL (regs ++ ext) W P os ds := by
  induction h with
  | nil => exact .nil
  | cons h1 _ ih => exact .cons (h1.mono ext) ih

theorem AlignedL.map_eq {regs : List (Tensor Cell)} {W : List Ax} {P : (String → Nat) → Prop} {os : List Opnd}
    {ds : List Od} {β : Type} {F : Opnd → β} {G : Od → β} (h : AlignedL regs W P os ds)
    (hFG : ∀ o d, d ∈ ds → Aligned regs W P o d → F o = G d) : os.map F = ds.map G := by
  induction h with
  | nil => rfl
  | cons h1 _ ih =>
    rw [List.map_cons, List.map_cons, hFG _ _ (List.mem_cons_self ..) h1,
      ih fun o d hd => hFG o d (List.mem_cons_of_mem _ hd)]

theorem filterMapM_aligned {regs : List (Tensor Cell)} {W : List Ax} {P : (String → Nat) → Prop}
    (g : Arg → IR.E (Option (List Nat)))
    (hg : ∀ o d, Aligned regs W P o d → g (.reg o.reg) = pure (some (W.map d.pre))) {os : List Opnd} {ds : List Od}
    (h : AlignedL regs W P os ds) :
    (os.map (fun o => Arg.reg o.reg)).filterMapM g = pure (ds.map (fun d => W.map d.pre)) := by
  induction h with
  | nil => rfl
  | cons h1 _ ih =>
    rw [List.map_cons, List.filterMapM_cons, hg _ _ h1]
    simp only [pure_bind]
    rw [ih]
    rfl

theorem mask_valid {W : List Ax} {J : Ax → Nat} {val : String → Nat} (hJ : Mask W J) (hb : Bnd val W) :
    Valid (W.map J) (W.map (fun a => if J a = 1 then 0 else val a.name)) := by
  induction W with
  | nil => exact Valid.nil
  | cons a W ih =>
    refine Valid.cons ?_ (ih (fun b hb' => hJ b (List.mem_cons_of_mem _ hb')) (fun b hb' => hb b (List.mem_cons_of_mem _ hb')))
    have hv := hb a (List.mem_cons_self ..)
    rcases hJ a (List.mem_cons_self ..) with h1 | h1
    · by_cases e : J a = 1
      · simp [e]
      · simp only [e, if_false]; rw [h1]; exact hv
    · simp [h1]

/-- One numpy call on aligned operands: the result is again an aligned tensor; its cell is the elementary
function applied to the operands' cells. -/
theorem ewise_run {inps : List (Tensor Cell)} {s s' : St} {regs : List (Tensor Cell)} {W : List Ax}
    {P : (String → Nat) → Prop} {f : String} {ops : List Opnd} {ds : List Od} (hne : ds ≠ []) (h : Tr inps s regs)
    (hA : AlignedL regs W P ops ds) (hmask : ∀ d ∈ ds, Mask W d.pre) (hPW : ∀ val, P val → Bnd val W)
    (hcall : ewiseCall f s ops = .ok s') :
    ∃ T', Run inps s' (regs ++ [T']) T' ∧
      ReadsP P (fun val => .app f (ds.map (fun d => d.c val))) T' W (joinAll (ds.map (·.pre))) := by
  have hmask' : ∀ p ∈ ds.map (·.pre), Mask W p := List.forall_mem_map.mpr hmask
  have hJ : Mask W (joinAll (ds.map (·.pre))) := joinAll_mask hmask'
  have hrows : ds.map (fun d => W.map d.pre) = (ds.map (·.pre)).map (fun p => W.map p) := by rw [List.map_map]; rfl
  have hbs : broadcastShapes (ops.map (·.shape)) = .ok (W.map (joinAll (ds.map (·.pre)))) := by
    rw [hA.map_eq (G := fun d => W.map d.pre) fun _ _ _ ⟨_, _, hs, _⟩ => hs, hrows]
    exact broadcastShapes_rows W _ (by simpa using hne) hmask'
  have hopsne : ops.isEmpty = false := by
    cases hA with
    | nil => exact absurd rfl hne
    | cons _ _ => rfl
  unfold ewiseCall at hcall
  simp only [hopsne, Bool.false_eq_true, if_false, hbs, bind, Except.bind, pure, Except.pure, Except.ok.injEq] at hcall
  subst hcall
  have hshapes : ∀ o d, Aligned regs W P o d → (regs.map (·.shape))[o.reg]? = some (W.map d.pre) :=
    fun o d ⟨T, hT, _, hR⟩ => by rw [shapes_getElem? hT, hR.1]
  have hpl : planInstr (regs.map (·.shape)) (.ewise f (ops.map (fun o => Arg.reg o.reg)))
      = .ok (tabulate (W.map (joinAll (ds.map (·.pre)))) (fun o =>
          .app f ((ops.map (fun o => Arg.reg o.reg)).map (fun a => match a with
            | .reg r =>
              let s := ((regs.map (·.shape))[r]?).getD []
              .src r (ravel s (broadcastIndex s (W.map (joinAll (ds.map (·.pre)))) o))
            | .lit i => .lit i)))) := by
    have hemp : (ds.map (fun d => W.map d.pre)).isEmpty = false := by
      cases ds with
      | nil => exact absurd rfl hne
      | cons d ds => rfl
    simp only [planInstr]
    rw [filterMapM_aligned _ (fun o d hod => by simp only [getShape, hshapes o d hod]; rfl) hA]
    rw [hrows] at hemp ⊢
    simp only [pure_bind, hemp, Bool.false_eq_true, if_false, broadcastShapes_rows W _ (by simpa using hne) hmask', ok_bind]
    rfl
  have hr := h.emit _ _ hpl (tabulate_length _ _)
  refine ⟨_, hr, rfl, ?_⟩
  intro val hv
  have hvalid := mask_valid hJ (hPW val hv)
  rw [runPlan_data, List.getElem?_map, tabulate_getElem? _ _ hvalid]
  simp only [Option.map_some, evalCell, evalCells_eq_map, List.map_map, symAlg, Option.some.injEq, Cell.app.injEq, true_and]
  apply hA.map_eq
  intro o d hd hod
  simp only [Function.comp, hshapes o d hod, Option.getD_some]
  obtain ⟨T, hT, _, hR⟩ := hod
  have hbi : broadcastIndex (W.map d.pre) (W.map (joinAll (ds.map (·.pre))))
      (W.map (fun a => if joinAll (ds.map (·.pre)) a = 1 then 0 else val a.name))
      = W.map (fun a => if d.pre a = 1 then 0 else val a.name) := by
    simp only [broadcastIndex, List.length_map, Nat.sub_self, List.drop_zero, List.zip_map', List.map_map]
    apply List.map_congr_left
    intro a _
    simp only [Function.comp]
    by_cases e : d.pre a = 1
    · simp [e]
    · have := joinAll_ne_one (a := a) (List.mem_map.mpr ⟨d, hd, rfl⟩) e
      simp [e, this]
  rw [hbi]
  have := hR.2 val hv
  have e2 := evalCell_src symAlg hT (ravel (W.map d.pre) (W.map (fun a => if d.pre a = 1 then 0 else val a.name)))
  simp only [symAlg] at e2
  rw [e2, this]
  rfl

def InputsAt (regs : List (Tensor Cell)) (i : Nat) (es : List (List G)) : Prop :=
  ∀ k e, es[k]? = some e → regs[i + k]? = some (symInput (i + k) (gShape e))

theorem InputsAt.head {regs : List (Tensor Cell)} {i : Nat} {e : List G} {es : List (List G)} (h : InputsAt regs i (e :: es)) :
    regs[i]? = some (symInput i (gShape e)) := by
  simpa using h 0 e rfl

theorem InputsAt.tail {regs : List (Tensor Cell)} {i : Nat} {e : List G} {es : List (List G)} (h : InputsAt regs i (e :: es))
    (ext : List (Tensor Cell)) : InputsAt (regs ++ ext) (i + 1) es := by
  intro k e' hk
  have := h (k + 1) e' (by simpa using hk)
  rw [show i + (k + 1) = i + 1 + k by omega] at this
  exact getElem?_append_of_some this ext

structure InsOK (W : List Ax) (P : (String → Nat) → Prop) (es : List (List G)) : Prop where
  bnd : ∀ e ∈ es, ∀ val, P val → Bnd val (G.leavesL e)
  cons : ∀ e ∈ es, ∀ a ∈ G.leavesL e, ∀ b ∈ W, a.name = b.name → a.len = b.len

theorem InsOK.tail {W : List Ax} {P : (String → Nat) → Prop} {e : List G} {es : List (List G)} (h : InsOK W P (e :: es)) :
    InsOK W P es :=
  ⟨fun x hx => h.bnd x (List.mem_cons_of_mem _ hx), fun x hx => h.cons x (List.mem_cons_of_mem _ hx)⟩

/-- What describes input `y.2` with expression `y.1` once it is aligned. -/
def inOd (y : List G × Nat) : Od := ⟨presentPre (squeezedExpr [] y.1), cOf y.2 y.1⟩

theorem inOd_pre (es : List (List G)) (i : Nat) :
    ((es.zipIdx i).map inOd).map (·.pre) = es.map (fun e => presentPre (squeezedExpr [] e)) := by
  rw [List.map_map]
  conv => rhs; rw [← List.zipIdx_map_fst i es, List.map_map]
  rfl

theorem alignAll_run {inps : List (Tensor Cell)} {W : List Ax} {P : (String → Nat) → Prop}
    (hW : (names W).Nodup) (hPW : ∀ val, P val → Bnd val W) :
    ∀ (es : List (List G)) (i : Nat) {s : St} {regs : List (Tensor Cell)},
    Tr inps s regs → InputsAt regs i es → InsOK W P es →
    OkP (fun x =>
      (∀ e ∈ es, (names (G.leavesL e)).Nodup ∧ ∀ n ∈ names (squeezedExpr [] e), n ∈ names W) ∧
      x.1 = (es.zipIdx i).map (fun x => unitaryExpr x.2 (squeezedExpr [] x.1) W) ∧
      ∃ ext : List (Tensor Cell), Tr inps x.2.2 (regs ++ ext) ∧ AlignedL (regs ++ ext) W P x.2.1 ((es.zipIdx i).map inOd))
      (alignAll W i s es) := by
  intro es
  induction es with
  | nil =>
    intro i s regs h _ _
    exact ExceptP.pure ⟨by simp, rfl, [], by simpa using h, .nil⟩
  | cons e es ih =>
    intro i s regs h hin hok
    unfold alignAll
    refine (chain_run h hin.head hW (hok.bnd e (List.mem_cons_self ..)) hPW (hok.cons e (List.mem_cons_self ..))).bind
      fun ⟨e1, s1⟩ _ ⟨hnd, hsub, he1, ext1, T1, hrun1, hR1⟩ => ?_
    refine (ih (i + 1) hrun1.toTr (hin.tail ext1) hok.tail).bind
      fun ⟨xs', os'', s2⟩ _ ⟨hall, hxs, ext2, htr, hA⟩ => ExceptP.pure ?_
    dsimp only at he1 hxs htr hrun1 hA ⊢
    rw [List.append_assoc] at htr hA
    refine ⟨List.forall_mem_cons.mpr ⟨⟨hnd, hsub⟩, hall⟩, by simp only [List.zipIdx_cons, List.map_cons, he1, hxs],
      ext1 ++ ext2, htr, .cons ?_ hA⟩
    rw [← List.append_assoc]
    exact (hrun1.aligned hR1 e1).mono ext2

/-- The shape function of the accumulator after the inputs `es` have been combined with it (numpy broadcasting, pairwise). -/
def foldPre (preA : Ax → Nat) (es : List (List G)) : Ax → Nat :=
  es.foldl (fun p e => joinAll [p, presentPre (squeezedExpr [] e)]) preA

theorem foldPre_mask {W : List Ax} : ∀ (es : List (List G)) {preA : Ax → Nat}, Mask W preA → Mask W (foldPre preA es)
  | [], _, h => h
  | e :: es, _, h => foldPre_mask es (joinAll_mask fun p hp => by
      simp only [List.mem_cons, List.not_mem_nil, or_false] at hp
      rcases hp with rfl | rfl
      · exact h
      · exact presentPre_mask W _)

theorem foldPre_ne_one {a : Ax} : ∀ (es : List (List G)) {preA : Ax → Nat}, preA a ≠ 1 → foldPre preA es a ≠ 1
  | [], _, h => h
  | _ :: es, _, h => foldPre_ne_one es (joinAll_ne_one (List.mem_cons_self ..) h)

theorem foldPre_ne_one_of_mem {a : Ax} : ∀ (es : List (List G)) {preA : Ax → Nat} {e : List G}, e ∈ es →
    presentPre (squeezedExpr [] e) a ≠ 1 → foldPre preA es a ≠ 1
  | x :: es, preA, e, he, h => by
    rcases List.mem_cons.mp he with rfl | he'
    · exact foldPre_ne_one es (joinAll_ne_one (ps := [preA, presentPre (squeezedExpr [] e)]) (by simp) h)
    · exact foldPre_ne_one_of_mem es he' h

theorem alignFold_run {inps : List (Tensor Cell)} {W : List Ax} {P : (String → Nat) → Prop} {f : String}
    (hW : (names W).Nodup) (hPW : ∀ val, P val → Bnd val W) :
    ∀ (es : List (List G)) (i : Nat) {s : St} {regs : List (Tensor Cell)} {Tacc : Tensor Cell}
      {preA : Ax → Nat} {cA : (String → Nat) → Cell},
    Run inps s regs Tacc → ReadsP P cA Tacc W preA → Mask W preA →
    InputsAt regs i es → InsOK W P es →
    OkP (fun x =>
      (∀ e ∈ es, (names (G.leavesL e)).Nodup ∧ ∀ n ∈ names (squeezedExpr [] e), n ∈ names W) ∧
      x.1 = (es.zipIdx i).map (fun x => unitaryExpr x.2 (squeezedExpr [] x.1) W) ∧
      ∃ (ext : List (Tensor Cell)) (T' : Tensor Cell), Run inps x.2 (regs ++ ext) T' ∧
        ReadsP P (fun val => ((es.zipIdx i).map (fun x => cOf x.2 x.1 val)).foldl (fun a d => .app f [a, d]) (cA val)) T' W
          (foldPre preA es)) (alignFold f W i s es) := by
  intro es
  induction es with
  | nil =>
    intro i s regs Tacc preA cA h hR _ _ _
    exact ExceptP.pure ⟨by simp, rfl, [], Tacc, by simpa using h, hR⟩
  | cons e es ih =>
    intro i s regs Tacc preA cA h hR hm hin hok
    unfold alignFold
    refine (chain_run h.toTr hin.head hW (hok.bnd e (List.mem_cons_self ..)) hPW (hok.cons e (List.mem_cons_self ..))).bind
      fun ⟨e1, s1⟩ _ ⟨hnd, hsub, he1, ext1, T1, hrun1, hR1⟩ => ?_
    dsimp only at he1 hrun1
    have hmasks : ∀ d ∈ [(⟨preA, cA⟩ : Od), inOd (e, i)], Mask W d.pre := by
      intro d hd
      simp only [List.mem_cons, List.not_mem_nil, or_false] at hd
      rcases hd with rfl | rfl
      · exact hm
      · exact presentPre_mask W _
    refine OkP.step fun s2 hcall => ?_
    obtain ⟨T2, hrun2, hR2⟩ := ewise_run (f := f) (by simp) hrun1.toTr
      (.cons ((h.aligned hR []).mono ext1) (.cons (hrun1.aligned hR1 e1) .nil)) hmasks hPW hcall
    have hin' : InputsAt (regs ++ ext1 ++ [T2]) (i + 1) es := by
      rw [List.append_assoc]; exact hin.tail _
    refine (ih (i + 1) hrun2 hR2 (joinAll_mask (List.forall_mem_map.mpr hmasks)) hin' hok.tail).bind
      fun ⟨xs', s3⟩ _ ⟨hall, hxs, ext3, T3, hrun3, hR3⟩ => ExceptP.pure ?_
    dsimp only at he1 hxs hrun3
    refine ⟨List.forall_mem_cons.mpr ⟨⟨hnd, hsub⟩, hall⟩, by simp only [List.zipIdx_cons, List.map_cons, he1, hxs],
      ext1 ++ [T2] ++ ext3, T3, ?_, ?_⟩
    · have e4 : regs ++ (ext1 ++ [T2] ++ ext3) = regs ++ ext1 ++ [T2] ++ ext3 := by simp [List.append_assoc]
      rw [e4]; exact hrun3
    · simpa only [List.zipIdx_cons, List.map_cons, List.foldl_cons, List.map_nil, foldPre] using hR3

theorem pickAxis_mem : ∀ {l : List Ax} {a : Ax}, pickAxis l = some a → a ∈ l
  | [], _, h => by simp [pickAxis] at h
  | x :: xs, a, h => by
    unfold pickAxis at h
    cases hp : pickAxis xs with
    | none =>
      simp only [hp, Option.some.injEq] at h
      subst h; exact List.mem_cons_self ..
    | some b =>
      simp only [hp] at h
      by_cases hb : b.len > x.len
      · simp only [hb, if_true, Option.some.injEq] at h
        subst h
        exact List.mem_cons_of_mem _ (pickAxis_mem hp)
      · simp only [hb, if_false, Option.some.injEq] at h
        subst h; exact List.mem_cons_self ..

theorem pickAxis_some : ∀ {l : List Ax}, l ≠ [] → ∃ a, pickAxis l = some a
  | [], h => absurd rfl h
  | x :: xs, _ => by
    unfold pickAxis
    cases pickAxis xs with
    | none => exact ⟨x, rfl⟩
    | some b =>
      by_cases hb : b.len > x.len
      · exact ⟨b, by simp [hb]⟩
      · exact ⟨x, by simp [hb]⟩

/-- If the static shape of the numpy result is that of the output expression without broadcast axes (none of which
has length 1), the axes chosen by `np.argmax` are exactly those of that expression. -/
theorem pickCols_eq {ρ : Type} (R : List ρ) (hR : R ≠ []) (tag : ρ → Nat) (nm : ρ → List String) :
    ∀ (W : List Ax) (k : Nat), (∀ b ∈ W, b.len ≠ 1) →
    lens (pickCols W.length (R.map (fun x => unitaryExprAux (tag x) (nm x) k W))) = lens W →
    pickCols W.length (R.map (fun x => unitaryExprAux (tag x) (nm x) k W)) = W
  | [], _, _, _ => rfl
  | b :: W, k, hne, hl => by
    have hheads : heads (R.map (fun x => unitaryExprAux (tag x) (nm x) k (b :: W)))
        = R.map (fun x => if (nm x).contains b.name then b else ⟨unnamedName (tag x) k, 1⟩) := by
      simp only [heads, unitaryExprAux, List.filterMap_map, Function.comp_def, List.head?_cons]
      induction R with
      | nil => rfl
      | cons r R' _ => simp
    have htails : tails (R.map (fun x => unitaryExprAux (tag x) (nm x) k (b :: W)))
        = R.map (fun x => unitaryExprAux (tag x) (nm x) (k + 1) W) := by
      simp only [tails, unitaryExprAux, List.map_map, Function.comp_def, List.tail_cons]
    have hne' : R.map (fun x => if (nm x).contains b.name then b else (⟨unnamedName (tag x) k, 1⟩ : Ax)) ≠ [] := by
      cases R with
      | nil => exact absurd rfl hR
      | cons r R' => simp
    obtain ⟨a, ha⟩ := pickAxis_some hne'
    have hmem := pickAxis_mem ha
    simp only [List.length_cons, pickCols, hheads, htails, ha] at hl ⊢
    simp only [List.singleton_append, lens, List.map_cons, List.cons.injEq] at hl
    have hab : a = b := by
      obtain ⟨x, _, hx⟩ := List.mem_map.mp hmem
      by_cases hc : (nm x).contains b.name = true
      · rw [if_pos hc] at hx; exact hx.symm
      · rw [if_neg hc] at hx
        have : a.len = 1 := by rw [← hx]
        exact absurd (hl.1 ▸ this) (hne b (List.mem_cons_self ..))
    rw [hab, pickCols_eq R hR tag nm W (k + 1) (fun c hc => hne c (List.mem_cons_of_mem _ hc)) hl.2]
    rfl

/-- The cell an elementwise operation computes from the cells of its operands. -/
def ewCell (f : String) : EwKind → List Cell → Cell
  | .nary, cs => foldCells f cs
  | .fixed _, cs => .app f cs

/-- The hypotheses about the output expression without broadcast axes. -/
structure WOK (W : List Ax) (P : (String → Nat) → Prop) (ins : List (List G)) : Prop where
  nodup : (names W).Nodup
  bnd : ∀ val, P val → Bnd val W
  ne1 : ∀ b ∈ W, b.len ≠ 1
  cover : ∀ b ∈ W, ∃ e ∈ ins, b.name ∈ names (squeezedExpr [] e)

theorem cover_len {W : List Ax} {P : (String → Nat) → Prop} {ins : List (List G)} (hw : WOK W P ins) {preF : Ax → Nat}
    (hm : Mask W preF) (hE : ∀ e ∈ ins, ∀ a, presentPre (squeezedExpr [] e) a ≠ 1 → preF a ≠ 1) :
    ∀ b ∈ W, preF b = b.len := by
  intro b hb
  obtain ⟨e, he, hn⟩ := hw.cover b hb
  have h1 : presentPre (squeezedExpr [] e) b = b.len := by
    simp only [presentPre]
    rw [if_pos (List.contains_iff_mem.mpr hn)]
  have := hE e he b (by rw [h1]; exact hw.ne1 b hb)
  rcases hm b hb with h2 | h2
  · exact h2
  · exact absurd h2 this

/-- `_ensure_output`: a result whose shape function `preF` is not 1 wherever some operand has the axis is a tensor over
all of `W`; and if its shape is that of the axes chosen by `np.argmax`, the chosen axes are `W`. -/
theorem ensure_output {W : List Ax} {P : (String → Nat) → Prop} {ins : List (List G)} (hw : WOK W P ins) (hne : ins ≠ [])
    {preF : Ax → Nat} (hm : Mask W preF) (hE : ∀ e ∈ ins, ∀ a, presentPre (squeezedExpr [] e) a ≠ 1 → preF a ≠ 1)
    {c : (String → Nat) → Cell} {T : Tensor Cell} (hR : ReadsP P c T W preF)
    (hsh : T.shape = lens (pickCols W.length ((ins.zipIdx 0).map (fun x => unitaryExpr x.2 (squeezedExpr [] x.1) W)))) :
    pickCols W.length ((ins.zipIdx 0).map (fun x => unitaryExpr x.2 (squeezedExpr [] x.1) W)) = W ∧ ReadsC P c T W := by
  have hlen := cover_len hw hm hE
  refine ⟨pickCols_eq (ins.zipIdx 0) (by simpa using hne) (fun x => x.2) (fun x => names (squeezedExpr [] x.1)) W 0 hw.ne1 ?_,
    (readsP_iff_readsC hw.bnd hlen).mp hR⟩
  refine hsh.symm.trans ?_
  rw [hR.1]
  exact List.map_congr_left hlen

theorem ewInner_run {inps : List (Tensor Cell)} {W : List Ax} {P : (String → Nat) → Prop} {f : String} {kind : EwKind}
    {ins : List (List G)} {s : St} {regs : List (Tensor Cell)}
    (hk : ewKindOf f = some kind) (hw : WOK W P ins) (hok : InsOK W P ins) (h : Tr inps s regs)
    (hin : ∀ k e, ins[k]? = some e → regs[k]? = some (symInput k (gShape e))) :
    OkP (fun x => x.1 = W ∧
      (∀ e ∈ ins, (names (G.leavesL e)).Nodup ∧ ∀ n ∈ names (squeezedExpr [] e), n ∈ names W) ∧
      ∃ (ext : List (Tensor Cell)) (T : Tensor Cell), Run inps x.2 (regs ++ ext) T ∧
        ReadsC P (fun val => ewCell f kind ((ins.zipIdx 0).map (fun x => cOf x.2 x.1 val))) T W)
      (Generic.ewInner f s ins W) := by
  have hin0 : InputsAt regs 0 ins := fun k e hke => by simpa using hin k e hke
  unfold Generic.ewInner
  simp only [hk, pure_bind]
  cases ins with
  | nil => cases kind <;> trivial
  | cons e es =>
    cases kind with
    | fixed n =>
      refine (alignAll_run hw.nodup hw.bnd (e :: es) 0 h hin0 hok).bind
        fun ⟨xs, os', s1⟩ _ ⟨hall, hxs, ext1, htr, hA⟩ => OkP.guard fun _ => ?_
      dsimp only at hxs htr hA ⊢
      subst hxs
      have hmask : ∀ d ∈ ((e :: es).zipIdx 0).map inOd, Mask W d.pre := fun d hd => by
        obtain ⟨y, _, rfl⟩ := List.mem_map.mp hd
        exact presentPre_mask W _
      refine OkP.step fun s2 hcall => OkP.guard fun hsh => ExceptP.pure ?_
      obtain ⟨T2, hrun2, hR2⟩ := ewise_run (f := f) (by simp) htr hA hmask hw.bnd hcall
      obtain ⟨hpick, hR3⟩ := ensure_output hw (by simp) (joinAll_mask (List.forall_mem_map.mpr hmask))
        (fun e' he' a ha' => by rw [inOd_pre]; exact joinAll_ne_one (List.mem_map_of_mem he') ha') hR2
        (by rw [hrun2.shape]; simpa using hsh)
      refine ⟨hpick, hall, ext1 ++ [T2], T2, by rw [← List.append_assoc]; exact hrun2, hR3.1, ?_⟩
      intro val hv
      have := hR3.2 val hv
      simpa only [List.map_map, Function.comp_def, inOd, ewCell] using this
    | nary =>
      refine (chain_run h hin0.head hw.nodup (hok.bnd e (List.mem_cons_self ..)) hw.bnd (hok.cons e (List.mem_cons_self ..))).bind
        fun ⟨e0, s0⟩ _ ⟨hnd, hsub, he0, ext1, T1, hrun1, hR1⟩ => ?_
      dsimp only at he0 hrun1 ⊢
      refine (alignFold_run (f := f) hw.nodup hw.bnd es 1 hrun1 hR1 (presentPre_mask W _) (hin0.tail ext1) hok.tail).bind
        fun ⟨xs, s1⟩ _ ⟨hall, hxs, ext2, T2, hrun2, hR2⟩ => OkP.guard fun hsh => ExceptP.pure ?_
      dsimp only at hxs hrun2 hsh ⊢
      have hrows : e0 :: xs = ((e :: es).zipIdx 0).map (fun x => unitaryExpr x.2 (squeezedExpr [] x.1) W) := by
        simp only [List.zipIdx_cons, List.map_cons, he0, hxs, Nat.zero_add]
      rw [hrows] at hsh ⊢
      obtain ⟨hpick, hR3⟩ := ensure_output hw (by simp) (foldPre_mask es (presentPre_mask W _))
        (fun e' he' a ha' => by
          rcases List.mem_cons.mp he' with rfl | he''
          · exact foldPre_ne_one es ha'
          · exact foldPre_ne_one_of_mem es he'' ha') hR2 (by rw [hrun2.shape]; simpa using hsh)
      refine ⟨hpick, List.forall_mem_cons.mpr ⟨⟨hnd, hsub⟩, hall⟩, ext1 ++ ext2, T2,
        by rw [← List.append_assoc]; exact hrun2, hR3.1, ?_⟩
      intro val hv
      have := hR3.2 val hv
      simpa only [ewCell, foldCells, List.zipIdx_cons, List.map_cons, Nat.zero_add, cOf] using this

theorem symInputs_length (shapes : List (List Nat)) : (symInputs shapes).length = shapes.length := by
  simp [symInputs]

theorem symInputs_getElem? (ins : List (List G)) (k : Nat) (e : List G) (h : ins[k]? = some e) :
    (symInputs (ins.map gShape))[k]? = some (symInput k (gShape e)) := by
  simp [symInputs, List.getElem?_map, List.getElem?_zipIdx, h]

/-- The flat output without broadcast axes, as `lowerElementwise` computes it. -/
def ewW (ins : List (List G)) (eout : List G) : List Ax :=
  withoutBroadcast (ins.flatMap (fun e => names (squeezedExpr [] e))) (G.leavesL eout)

theorem mem_ewW {ins : List (List G)} {eout : List G} {b : Ax} :
    b ∈ ewW ins eout ↔ b ∈ G.leavesL eout ∧ ∃ e ∈ ins, b.name ∈ names (squeezedExpr [] e) := by
  simp only [ewW, withoutBroadcast, List.mem_filter, List.contains_iff_mem, List.mem_flatMap]

theorem ewW_ok {ins : List (List G)} {eout : List G} (hout : (names (G.leavesL eout)).Nodup)
    (hcons : ∀ e ∈ ins, ∀ a ∈ G.leavesL e, ∀ b ∈ G.leavesL eout, a.name = b.name → a.len = b.len) :
    WOK (ewW ins eout) (fun val => (∀ e ∈ ins, Bnd val (G.leavesL e)) ∧ Bnd val (G.leavesL eout)) ins ∧
    InsOK (ewW ins eout) (fun val => (∀ e ∈ ins, Bnd val (G.leavesL e)) ∧ Bnd val (G.leavesL eout)) ins := by
  refine ⟨⟨names_nodup_filter hout _, fun val hv b hb => hv.2 b (mem_ewW.mp hb).1, ?_, fun b hb => (mem_ewW.mp hb).2⟩,
    ⟨fun e he val hv => hv.1 e he, fun e he a ha b hb hn => hcons e he a ha b (mem_ewW.mp hb).1 hn⟩⟩
  intro b hb
  obtain ⟨hbLo, e, he, hn⟩ := mem_ewW.mp hb
  obtain ⟨a, ha, han⟩ := List.mem_map.mp hn
  have := mem_squeezedExpr_nil.mp ha
  rw [← hcons e he a this.1 b hbLo han]
  exact this.2

theorem lowerElementwise_eq (f : String) (ins : List (List G)) (eout : List G) :
    lowerElementwise f ins eout
      = (Generic.ewInner f { reg := 0, shape := [], prog := [], next := ins.length } ins (ewW ins eout) >>= fun p =>
          stb p.2 p.1 (G.leavesL eout) >>= fun s3 => pure (reshapeW s3 (gShape eout))) := rfl

end Einx.Lower
