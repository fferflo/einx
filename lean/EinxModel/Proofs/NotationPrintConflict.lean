import EinxModel.Proofs.NotationPrintShape
import EinxModel.Proofs.Forall2
import EinxModel.Proofs.NotationFresh
/-!
# M1 Notation — the inconsistent-brackets check on a re-parsed printable expression

If `x` has the shape of a printable `t` (named axes with valid names), all numeric axes of `x` carry pairwise distinct fresh
names `unnamed.<id>`, and `t` passes the inconsistent-brackets check, then so does `x`.
-/
namespace Einx.Notation

/-- Signature of an axis occurrence: its name if it is a named axis, and whether it stands inside brackets. -/
abbrev OccSig := Option Str × Bool

mutual
def sig (m : Bool) : Expr → List OccSig
  | .axis n v _ _ => [(match v with | none => some n | some _ => none, m)]
  | .flat i _ _ => sig m i
  | .brackets i _ _ => sig true i
  | .ellipsis i _ _ _ => sig m i
  | .concat cs _ _ | .list cs _ _ | .args cs _ _ | .op cs _ _ => sigL m cs
def sigL (m : Bool) : List Expr → List OccSig
  | [] => []
  | c :: cs => sig m c ++ sigL m cs
end

theorem sigL_congr {m : Bool} {f : Expr → Expr} : ∀ {cs : List Expr}, (∀ c ∈ cs, sig m (f c) = sig m c) →
    sigL m (cs.map f) = sigL m cs
  | [], _ => rfl
  | c :: cs, h => by
    simp only [List.map_cons, sigL, h c List.mem_cons_self, sigL_congr fun c' hc' => h c' (List.mem_cons_of_mem _ hc')]

theorem sig_shape (m : Bool) (x : Expr) : sig m x.shape = sig m x := by
  induction x using Expr.memInduction generalizing m with
  | axis n v => cases v <;> simp [Expr.shape, sig]
  | flat i _ _ ih | brackets i _ _ ih | ellipsis i _ _ _ ih => simp only [Expr.shape, sig, ih]
  | concat cs _ _ ih | list cs _ _ ih | args cs _ _ ih | op cs _ _ ih =>
    simp only [Expr.shape, sig, shapeL_eq_map, sigL_congr fun c hc => ih c hc m]

theorem sigL_shape (m : Bool) : ∀ (cs : List Expr), sigL m (shapeL cs) = sigL m cs :=
  fun cs => by rw [shapeL_eq_map, sigL_congr fun c _ => sig_shape m c]

/-- An occurrence matches a signature; numeric axes have a fresh name. -/
def OccMatch (fresh : Bool) (o : Occ) (s : OccSig) : Prop :=
  o.marked = s.2 ∧ (match s.1 with | some n => o.name = n | none => fresh = true → ∃ q, o.name = unnamedName q)

theorem valuedFreshL_iff : ∀ {cs : List Expr}, ValuedFreshL cs ↔ ∀ c ∈ cs, ValuedFresh c
  | [] => by simp [ValuedFreshL]
  | c :: cs => by simp [ValuedFreshL, valuedFreshL_iff (cs := cs)]

theorem occsL_sig_of {fresh : Bool} : ∀ {cs : List Expr},
    (∀ c ∈ cs, ∀ (br : List Int) (m : Bool), PW (OccMatch fresh) (occs br m c) (sig m c)) → ∀ (br : List Int) (m : Bool),
    PW (OccMatch fresh) (occsL br m cs) (sigL m cs)
  | [], _, _, _ => PW.nil
  | c :: cs, h, br, m => by
    simp only [occsL, sigL]
    exact PW.append (h c List.mem_cons_self br m) (occsL_sig_of (fun c' hc' => h c' (List.mem_cons_of_mem _ hc')) br m)

theorem occs_sig (fresh : Bool) (x : Expr) (h : fresh = true → ValuedFresh x) (br : List Int) (m : Bool) :
    PW (OccMatch fresh) (occs br m x) (sig m x) := by
  induction x using Expr.memInduction generalizing br m with
  | axis n v =>
    simp only [occs, sig]
    refine PW.cons ⟨rfl, ?_⟩ PW.nil
    cases v with
    | none => rfl
    | some k =>
      intro hf
      have := h hf
      simp only [ValuedFresh] at this
      exact this (by simp)
  | flat i _ _ ih | ellipsis i _ _ _ ih =>
    simp only [occs, sig]
    exact ih (fun hf => by simpa only [ValuedFresh] using h hf) br m
  | brackets i _ _ ih =>
    simp only [occs, sig]
    exact ih (fun hf => by simpa only [ValuedFresh] using h hf) _ true
  | concat cs _ _ ih | list cs _ _ ih | args cs _ _ ih | op cs _ _ ih =>
    simp only [occs, sig]
    exact occsL_sig_of
      (fun c hc => ih c hc fun hf => valuedFreshL_iff.mp (by simpa only [ValuedFresh] using h hf) c hc) br m

theorem occsL_sig (fresh : Bool) : ∀ (cs : List Expr), (fresh = true → ValuedFreshL cs) → ∀ (br : List Int) (m : Bool),
    PW (OccMatch fresh) (occsL br m cs) (sigL m cs) :=
  fun _ h => occsL_sig_of fun c hc => occs_sig fresh c fun hf => valuedFreshL_iff.mp (h hf) c hc

/-- Signatures of a printable expression: names are valid axis names or the anonymous one. -/
def GoodSig (s : OccSig) : Prop :=
  match s.1 with
  | none => True
  | some n => isAxisName n = true ∨ n = anonName

theorem sigL_of_all (m : Bool) : ∀ (cs : List Expr), (∀ c ∈ cs, ∀ s ∈ sig m c, GoodSig s) → ∀ s ∈ sigL m cs, GoodSig s
  | [], _, s, hs => by simp [sigL] at hs
  | c :: cs, h, s, hs => by
    simp only [sigL, List.mem_append] at hs
    rcases hs with hs | hs
    · exact h c (by simp) s hs
    · exact sigL_of_all m cs (fun a ha => h a (List.mem_cons_of_mem _ ha)) s hs

theorem sig_PT {inBr al : Bool} {a : Expr} (h : PT inBr al a = true) : ∀ s ∈ sig inBr a, GoodSig s := by
  induction h using PT.rules with
  | named hn =>
    intro s hs
    rw [List.mem_singleton.mp hs]
    exact Or.inl hn
  | valued =>
    intro s hs
    rw [List.mem_singleton.mp hs]
    trivial
  | flat _ _ _ ih | brackets _ _ _ ih | ell _ _ _ ih => exact ih
  | dots =>
    intro s hs
    rw [List.mem_singleton.mp hs]
    exact Or.inr rfl
  | concat _ _ _ ih | list _ _ ih => exact sigL_of_all _ _ ih

theorem sig_PArgs {a : Expr} (h : PArgs a = true) : ∀ s ∈ sig false a, GoodSig s := by
  induction h using PArgs.rules with
  | args _ has => exact sigL_of_all false _ fun c hc => sig_PT (has c hc)

theorem sig_PRoot {t : Expr} (h : PRoot t = true) : ∀ s ∈ sig false t, GoodSig s := by
  induction h using PRoot.rules with
  | one hs => simpa only [sig, sigL, List.append_nil] using sig_PArgs hs
  | two h1 h2 =>
    intro s hs
    simp only [sig, sigL, List.append_nil, List.mem_append] at hs
    exact hs.elim (sig_PArgs h1 s) (sig_PArgs h2 s)

theorem sig_unwrapArgs (m : Bool) (a : Expr) : sig m (unwrapArgs a) = sig m a := by
  unfold unwrapArgs
  split
  · simp only [sig, sigL, List.append_nil]
  · rfl

theorem sigL_map_unwrapArgs (m : Bool) : ∀ cs : List Expr, sigL m (cs.map unwrapArgs) = sigL m cs
  | [] => rfl
  | c :: cs => by simp only [List.map_cons, sigL, sig_unwrapArgs, sigL_map_unwrapArgs m cs]

theorem sig_preTree (m : Bool) (t : Expr) : sig m (preTree t) = sig m t := by
  unfold preTree
  split
  · simp only [sig, sigL, List.append_nil, sig_unwrapArgs]
  · simp only [sig, sigL_map_unwrapArgs]
  · rfl

theorem conflict_free_of_shape {t x : Expr} (ht : PRoot t = true) (hx : x.shape = (preTree t).shape) (hf : ValuedFresh x)
    (hG : G true true true x = true) (hnd : (Fresh.vnames x).Nodup)
    (hc : conflictNames (occs [] false t) = []) : conflictNames (occs [] false x) = [] := by
  apply Classical.byContradiction
  intro hne
  obtain ⟨o1, ho1, o2, ho2, hn, hm1, hm2⟩ := (conflictNames_ne_nil_iff _).mp hne
  have hsig : sig false x = sig false t := by
    rw [← sig_shape, hx, sig_shape, sig_preTree]
  have hX := occs_sig true x (fun _ => hf) [] false
  have hT := occs_sig false t (fun h => by cases h) [] false
  rw [hsig] at hX
  obtain ⟨s1, hs1, hr1⟩ := PW.mem_left hX o1 ho1
  obtain ⟨s2, hs2, hr2⟩ := PW.mem_left hX o2 ho2
  have hg1 := sig_PRoot ht s1 hs1
  have hg2 := sig_PRoot ht s2 hs2
  obtain ⟨p1, hp1, hq1⟩ := PW.mem_right hT s1 hs1
  obtain ⟨p2, hp2, hq2⟩ := PW.mem_right hT s2 hs2
  obtain ⟨s1n, s1m⟩ := s1
  obtain ⟨s2n, s2m⟩ := s2
  simp only [OccMatch] at hr1 hr2 hq1 hq2
  simp only [GoodSig] at hg1 hg2
  cases s1n with
  | none =>
    -- a numeric axis inside brackets: its fresh name determines the occurrence
    simp only at hr1
    obtain ⟨q, hq⟩ := hr1.2 trivial
    have := Fresh.fresh_unique true true true x hG hnd [] false o1 ho1 o2 ho2 q hq hn.symm
    rw [this, hm2] at hm1
    cases hm1
  | some n1 =>
    simp only at hr1 hq1 hg1
    cases s2n with
    | none =>
      simp only at hr2
      obtain ⟨q, hq⟩ := hr2.2 trivial
      have : n1 = unnamedName q := by rw [← hr1.2, hn, hq]
      rcases hg1 with hg1 | hg1
      · exact isAxisName_ne_unnamed hg1 q this
      · exact anonName_ne_unnamed q (hg1 ▸ this)
    | some n2 =>
      simp only at hr2 hq2
      have hcon : Conflict (occs [] false t) :=
        ⟨p1, hp1, p2, hp2, by rw [hq1.2, hq2.2, ← hr1.2, ← hr2.2, hn], by rw [hq1.1, ← hr1.1, hm1],
          by rw [hq2.1, ← hr2.1, hm2]⟩
      exact (conflictNames_ne_nil_iff _).mpr hcon hc

end Einx.Notation
