import EinxModel.Generic.LowerOpsDenote
import EinxModel.Proofs.Stb
import EinxModel.Proofs.DenotePos
import EinxModel.Proofs.IR
/-! Run side of the lowering theorems (Props/C01Lower.lean, Props/C01LowerOps.lean): what the registers hold after the
program of a tracing state has run.  The numpy wrappers, `_squeeze_transpose_broadcast` with and without
`broadcast_to_unitary` (a tensor "over" a flat axis list: `ReadsC`, `ReadsP`), `_decompose_single` (`prep_run`) and the
common tail of the pipelines (`compose_run`). -/
namespace Einx.Lower
open Einx Einx.IR Einx.Generic Einx.Denote

/-- The program of the tracing state `s`, run on the initial registers `inps` (the inputs of the operation, or all
registers computed so far when tracing resumes after an instruction of another kind), yields the registers `regs`. -/
structure Tr (inps : List (Tensor Cell)) (s : St) (regs : List (Tensor Cell)) : Prop where
  ev : evalProg symAlg s.prog inps = .ok regs
  next : regs.length = s.next

/-- The tracing state `s` describes a run: its program yields `regs`, and the current register holds `T`, a
well-formed tensor of the traced shape. -/
structure Run (inps : List (Tensor Cell)) (s : St) (regs : List (Tensor Cell)) (T : Tensor Cell) : Prop
    extends Tr inps s regs where
  reg : regs[s.reg]? = some T
  shape : T.shape = s.shape
  len : T.data.length = prod T.shape

theorem Tr.focus {inps : List (Tensor Cell)} {s : St} {regs : List (Tensor Cell)} (h : Tr inps s regs) {r : Nat} {T : Tensor Cell}
    (hr : regs[r]? = some T) (hl : T.data.length = prod T.shape) : Run inps (s.focus r T.shape) regs T :=
  ⟨⟨h.ev, h.next⟩, hr, rfl, hl⟩

theorem Run.assoc {inps : List (Tensor Cell)} {s : St} {regs a b : List (Tensor Cell)} {T : Tensor Cell}
    (h : Run inps s ((regs ++ a) ++ b) T) : Run inps s (regs ++ (a ++ b)) T := by
  rwa [List.append_assoc] at h

theorem getElem?_append_of_some {α : Type} {l : List α} {k : Nat} {x : α} (h : l[k]? = some x) (ext : List α) :
    (l ++ ext)[k]? = some x := by
  obtain ⟨hk, _⟩ := List.getElem?_eq_some_iff.mp h
  rw [List.getElem?_append_left hk]; exact h

theorem Tr.emit {inps : List (Tensor Cell)} {s : St} {regs : List (Tensor Cell)} (h : Tr inps s regs)
    (i : Instr) (pl : Plan) (hp : planInstr (regs.map (·.shape)) i = .ok pl) (hl : pl.cells.length = prod pl.shape) :
    Run inps (s.emit i pl.shape) (regs ++ [runPlan symAlg regs pl]) (runPlan symAlg regs pl) where
  ev := by
    simp only [St.emit, evalProg_append, h.ev, bind, Except.bind, evalProg, hp, pure, Except.pure]
  next := by simp [St.emit, h.next]
  reg := by
    simp only [St.emit, ← h.next]
    exact List.getElem?_concat_length
  shape := rfl
  len := by rw [runPlan_data]; simpa [runPlan] using hl

theorem read_all {regs : List (Tensor Cell)} {x : Nat} {T : Tensor Cell} (hx : regs[x]? = some T) (n : Nat)
    (hn : n = T.data.length) : (List.range n).map (fun k => evalCell symAlg regs (.src x k)) = T.data := by
  subst hn
  apply List.ext_getElem?
  intro k
  by_cases hk : k < T.data.length
  · simp [evalCell_src symAlg hx, hk]
  · have h1 : T.data.length ≤ k := by omega
    rw [List.getElem?_eq_none h1, List.getElem?_eq_none (by simpa using h1)]

/-- `classical_from_numpy.reshape`: same data, new shape. -/
theorem reshapeW_run {inps : List (Tensor Cell)} {s : St} {regs : List (Tensor Cell)} {T : Tensor Cell} (h : Run inps s regs T)
    (target : List Nat) (hp : prod s.shape = prod target) :
    ∃ ext T', Run inps (reshapeW s target) (regs ++ ext) T' ∧ T'.shape = target ∧ T'.data = T.data := by
  unfold reshapeW
  split
  · rename_i heq
    exact ⟨[], T, by simpa using h, by rw [h.shape]; exact eq_of_beq heq, rfl⟩
  · have hpl : planInstr (regs.map (·.shape)) (.reshape s.reg target)
        = .ok ⟨target, (List.range (prod target)).map (fun k => Cell.src s.reg k)⟩ :=
      (planInstr_reshape_eq (shapes_getElem? h.reg) target).trans (if_pos (by rw [h.shape, hp]))
    have hr := h.toTr.emit _ _ hpl (by simp)
    refine ⟨[_], _, hr, rfl, ?_⟩
    rw [runPlan_data]
    simp only [List.map_map, Function.comp_def]
    exact read_all h.reg _ (by rw [h.len, h.shape, hp])

theorem tabulate_length (s : List Nat) (f : List Nat → Cell) : (tabulate s f).cells.length = prod s := by
  simp [tabulate]

/-- `classical_from_numpy.transpose`: the result read at a permuted index is the operand read at the index. -/
theorem transposeW_run {inps : List (Tensor Cell)} {s : St} {regs : List (Tensor Cell)} {T : Tensor Cell} (h : Run inps s regs T)
    (perm : List Nat) (hperm : isPermOf perm s.shape.length = true) :
    ∃ ext T', Run inps (transposeW s perm) (regs ++ ext) T' ∧ T'.shape = permShape perm T.shape ∧
      ∀ p c, Valid T.shape p → T.data[ravel T.shape p]? = some c →
        T'.data[ravel (permShape perm T.shape) (perm.map (fun a => p.getD a 0))]? = some c := by
  obtain ⟨hisp, hlen, hall, hlt⟩ := isPermOf_spec hperm
  rw [← h.shape] at hlen hall hlt hisp
  unfold transposeW
  split
  · rename_i heq
    have hpr : perm = List.range T.shape.length := by
      have : perm = List.range perm.length := by simpa using heq
      rw [hlen] at this; exact this
    refine ⟨[], T, by simpa using h, ?_, ?_⟩
    · rw [hpr, permShape, map_getD_range]
    · intro p c hv hc
      have hpl : p.length = T.shape.length := valid_length hv
      have h2 : (List.range T.shape.length).map (fun a => p.getD a 0) = p := by
        rw [← hpl]; exact map_getD_range p 0
      rw [hpr, permShape, map_getD_range, h2]; exact hc
  · have hpl : planInstr (regs.map (·.shape)) (.transpose s.reg perm)
        = .ok (tabulate (permShape perm T.shape) (fun o =>
            Cell.src s.reg (ravel T.shape (gatherIdx perm T.shape.length o)))) :=
      (planInstr_transpose_eq (shapes_getElem? h.reg) perm).trans (if_pos hisp)
    have hr := h.toTr.emit _ _ hpl (tabulate_length _ _)
    have hsh : (tabulate (permShape perm T.shape) (fun o =>
        Cell.src s.reg (ravel T.shape (gatherIdx perm T.shape.length o)))).shape
        = perm.map (fun p => s.shape.getD p 0) := by rw [← h.shape]; rfl
    rw [hsh] at hr
    refine ⟨[_], _, hr, rfl, ?_⟩
    intro p c hv hc
    have hv' := valid_permute hv perm hlt
    rw [runPlan_data, List.getElem?_map, tabulate_getElem? _ _ hv',
      unpermute perm p T.shape.length (valid_length hv) hall]
    simp [evalCell_src symAlg h.reg, hc]

/-- `classical_from_numpy.broadcast_to`: the result read at `o` is the operand read at the clamped index. -/
theorem broadcastW_run {inps : List (Tensor Cell)} {s : St} {regs : List (Tensor Cell)} {T : Tensor Cell} (h : Run inps s regs T)
    (target : List Nat) (hb : broadcastable s.shape target = true) :
    ∃ ext T', Run inps (broadcastW s target) (regs ++ ext) T' ∧ T'.shape = target ∧
      ∀ o c, Valid target o → T.data[ravel T.shape (broadcastIndex T.shape target o)]? = some c →
        T'.data[ravel target o]? = some c := by
  unfold broadcastW
  split
  · rename_i heq
    have hst : T.shape = target := by rw [h.shape]; exact eq_of_beq heq
    refine ⟨[], T, by simpa using h, hst, ?_⟩
    intro o c hv hc
    rw [hst, broadcastIndex_self hv] at hc
    exact hc
  · have hpl : planInstr (regs.map (·.shape)) (.broadcastTo s.reg target)
        = .ok (tabulate target (fun o => Cell.src s.reg (ravel T.shape (broadcastIndex T.shape target o)))) :=
      (planInstr_broadcastTo_eq (shapes_getElem? h.reg) target).trans (if_pos (h.shape ▸ hb))
    have hr := h.toTr.emit _ _ hpl (tabulate_length _ _)
    refine ⟨[_], _, hr, rfl, ?_⟩
    intro o c hv hc
    rw [runPlan_data, List.getElem?_map, tabulate_getElem? _ _ hv]
    simp [evalCell_src symAlg h.reg, hc]

/-- The multi-index of a flat axis list under a valuation of the axis names. -/
def idx (L : List Ax) (val : String → Nat) : List Nat := L.map (fun a => val a.name)

/-- The valuation is in range on the axes of `L`. -/
def Bnd (val : String → Nat) (L : List Ax) : Prop := ∀ a ∈ L, val a.name < a.len

theorem valid_idx {val : String → Nat} {L : List Ax} (h : Bnd val L) : Valid (lens L) (idx L val) := by
  induction L with
  | nil => exact Valid.nil
  | cons a L ih =>
    exact Valid.cons (h a (List.mem_cons_self ..)) (ih (fun b hb => h b (List.mem_cons_of_mem _ hb)))

theorem Bnd.filter {val : String → Nat} {L : List Ax} (h : Bnd val L) (p : Ax → Bool) : Bnd val (L.filter p) :=
  fun a ha => h a (List.mem_filter.mp ha).1

theorem prod_map_filter {α : Type} (g : α → Nat) (p : α → Bool) (L : List α)
    (h : ∀ a ∈ L, p a = false → g a = 1) : prod (L.map g) = prod ((L.filter p).map g) := by
  induction L with
  | nil => rfl
  | cons a L ih =>
    have ih' := ih (fun b hb => h b (List.mem_cons_of_mem _ hb))
    by_cases hp : p a = true
    · simp only [List.map_cons, List.filter_cons, hp, if_true, prod, ih']
    · have hp' : p a = false := by simpa using hp
      simp only [List.map_cons, List.filter_cons, hp', prod, ih', h a (List.mem_cons_self ..) hp', Nat.one_mul]
      simp

/-- Dimensions of length 1 that are read at index 0 do not change the flat position. -/
theorem ravel_map_filter {α : Type} (g hh : α → Nat) (p : α → Bool) (L : List α)
    (h : ∀ a ∈ L, p a = false → g a = 1 ∧ hh a = 0) :
    ravel (L.map g) (L.map hh) = ravel ((L.filter p).map g) ((L.filter p).map hh) := by
  induction L with
  | nil => rfl
  | cons a L ih =>
    have hL : ∀ b ∈ L, p b = false → g b = 1 ∧ hh b = 0 := fun b hb => h b (List.mem_cons_of_mem _ hb)
    have ih' := ih hL
    have hpr := prod_map_filter g p L (fun b hb hpb => (hL b hb hpb).1)
    by_cases hp : p a = true
    · simp only [List.map_cons, List.filter_cons, hp, if_true, ravel, ih', hpr]
    · have hp' : p a = false := by simpa using hp
      simp only [List.map_cons, List.filter_cons, hp', ravel, ih', (h a (List.mem_cons_self ..) hp').2, Nat.zero_mul,
        Nat.zero_add]
      simp

theorem noDup_iff (l : List String) : noDup l = true ↔ l.Nodup := by
  induction l with
  | nil => simp [noDup]
  | cons x xs ih => simp [noDup, ih, List.nodup_cons]

theorem idsAux_of_nodup : ∀ (ns seen : List String), (∀ n ∈ ns, n ∉ seen) → ns.Nodup →
    idsAux seen ns = ns.map (fun n => (n, 0))
  | [], _, _, _ => rfl
  | n :: ns, seen, hs, hn => by
    have ⟨hnn, hnd⟩ := List.nodup_cons.mp hn
    have hc : seen.count n = 0 := List.count_eq_zero.mpr (hs n (List.mem_cons_self ..))
    simp only [idsAux, List.map_cons, hc]
    rw [idsAux_of_nodup ns (n :: seen) ?_ hnd]
    intro m hm
    simp only [List.mem_cons, not_or]
    exact ⟨fun e => hnn (e ▸ hm), hs m (List.mem_cons_of_mem _ hm)⟩

theorem idsOf_of_nodup (ns : List String) (h : ns.Nodup) : idsOf ns = ns.map (fun n => (n, 0)) :=
  idsAux_of_nodup ns [] (fun _ _ => by simp) h

theorem contains_pair (l : List String) (m : String) :
    (l.map (fun n => (n, 0))).contains (m, 0) = l.contains m := by
  induction l with
  | nil => rfl
  | cons x xs ih => simp

theorem idxOf_pair (l : List String) (m : String) :
    (l.map (fun n => (n, 0))).idxOf (m, 0) = l.idxOf m := by
  induction l with
  | nil => rfl
  | cons x xs ih =>
    simp only [List.map_cons, List.idxOf_cons, ih]
    have : ((x, 0) == (m, 0)) = (x == m) := by
      by_cases h : x = m
      · subst h; simp
      · have h1 : (x == m) = false := by simpa using h
        rw [h1]; simpa using h
    rw [this]

theorem names_filter (L : List Ax) (q : String → Bool) :
    names (L.filter (fun b => q b.name)) = (names L).filter q := by
  simp only [names, List.filter_map]
  rfl

/-- What `transposeStep` does on expressions without repeated names: every input name occurs in the output,
and the permutation lists, for every output axis that the input has, its position in the input. -/
theorem transposeStep_spec {s r : St} {sq Lo : List Ax} (hsq : (names sq).Nodup) (hLo : (names Lo).Nodup)
    (h : transposeStep s sq Lo = .ok r) :
    (∀ n ∈ names sq, n ∈ names Lo) ∧
      r = transposeW s ((Lo.filter (fun b => (names sq).contains b.name)).map (fun b => (names sq).idxOf b.name)) := by
  unfold transposeStep at h
  simp only [idsOf_of_nodup _ hsq, idsOf_of_nodup _ hLo] at h
  split at h
  · rename_i hset
    constructor
    · intro n hn
      simp only [setEq, Bool.and_eq_true, List.all_eq_true] at hset
      have := hset.2 (n, 0) (List.mem_map.mpr ⟨n, hn, rfl⟩)
      have := (List.mem_filter.mp (List.contains_iff_mem.mp this)).1
      obtain ⟨m, hm, he⟩ := List.mem_map.mp this
      simp only [Prod.mk.injEq, and_true] at he
      exact he ▸ hm
    · have hperm : (((names Lo).map (fun n => (n, 0))).filter
            (fun o => ((names sq).map (fun n => (n, 0))).contains o)).map
            (fun o => ((names sq).map (fun n => (n, 0))).idxOf o)
          = (Lo.filter (fun b => (names sq).contains b.name)).map (fun b => (names sq).idxOf b.name) := by
        rw [List.filter_map, List.map_map]
        simp only [Function.comp_def, contains_pair, idxOf_pair]
        simp only [names, List.filter_map, List.map_map, Function.comp_def]
      rw [hperm] at h
      exact (Except.ok.inj h).symm
  · cases h

theorem getD_idxOf_name {β : Type} (L : List Ax) (n : String) (hn : n ∈ names L) :
    ∃ a ∈ L, a.name = n ∧ ∀ (f : Ax → β) (d : β), (L.map f).getD ((names L).idxOf n) d = f a := by
  induction L with
  | nil => simp [names] at hn
  | cons a L ih =>
    by_cases ha : a.name = n
    · refine ⟨a, List.mem_cons_self .., ha, ?_⟩
      intro f d
      simp [names, ha]
    · have hn' : n ∈ names L := by
        simp only [names, List.map_cons, List.mem_cons] at hn
        rcases hn with h | h
        · exact absurd h.symm ha
        · exact h
      obtain ⟨a', ha', hna, hf⟩ := ih hn'
      refine ⟨a', List.mem_cons_of_mem _ ha', hna, ?_⟩
      intro f d
      have hb : (a.name == n) = false := by simpa using ha
      have := hf f d
      simp only [names] at this
      simp only [names, List.map_cons, List.idxOf_cons, hb, cond_false, List.getD_cons_succ, this]

theorem idxOf?_getElem_nodup {α : Type} [BEq α] [LawfulBEq α] {l : List α} (h : l.Nodup) (i : Nat) (hi : i < l.length) :
    l.idxOf? l[i] = some i := by
  rw [List.idxOf?_eq_some_iff]
  refine ⟨hi, rfl, ?_⟩
  intro j hj he
  have := (List.getElem_inj (h₀ := by omega) (h₁ := hi) h).mp he
  omega

theorem perm_isPermOf {sq Lo : List Ax} (hsq : (names sq).Nodup) (hLo : (names Lo).Nodup)
    (hsub : ∀ n ∈ names sq, n ∈ names Lo) :
    isPermOf ((Lo.filter (fun b => (names sq).contains b.name)).map (fun b => (names sq).idxOf b.name)) sq.length
      = true := by
  have hnl : (names sq).length = sq.length := by simp [names]
  have hmemf : ∀ b ∈ Lo.filter (fun b => (names sq).contains b.name), b.name ∈ names sq := by
    intro b hb
    exact List.contains_iff_mem.mp (List.mem_filter.mp hb).2
  have hlen : (Lo.filter (fun b => (names sq).contains b.name)).length = sq.length := by
    have e : (Lo.filter (fun b => (names sq).contains b.name)).length
        = ((names Lo).filter (fun n => (names sq).contains n)).length := by
      rw [← names_filter]; simp [names]
    rw [e, ← hnl]
    apply Nat.le_antisymm
    · apply (hLo.sublist List.filter_sublist).length_le_of_subset
      intro x hx
      exact List.contains_iff_mem.mp (List.mem_filter.mp hx).2
    · apply hsq.length_le_of_subset
      intro x hx
      exact List.mem_filter.mpr ⟨hsub x hx, List.contains_iff_mem.mpr hx⟩
  simp only [isPermOf, isPerm, Bool.and_eq_true, beq_iff_eq, List.all_eq_true, List.mem_range,
    List.contains_iff_mem, decide_eq_true_eq, List.length_map]
  refine ⟨⟨hlen, ?_⟩, ?_⟩
  · intro i hi
    have hi' : i < (names sq).length := by omega
    have hmem : (names sq)[i] ∈ names Lo := hsub _ (List.getElem_mem hi')
    obtain ⟨b, hb, hbn⟩ := List.mem_map.mp hmem
    refine List.mem_map.mpr ⟨b, List.mem_filter.mpr ⟨hb, ?_⟩, ?_⟩
    · rw [hbn]; exact List.contains_iff_mem.mpr (List.getElem_mem hi')
    · rw [hbn]; exact hsq.idxOf_getElem i hi'
  · intro a ha
    obtain ⟨b, hb, rfl⟩ := List.mem_map.mp ha
    rw [← hnl]
    exact List.idxOf_lt_length_of_mem (hmemf b hb)

theorem perm_map_getD {β : Type} (sq Lf : List Ax) (f g : Ax → β) (d : β)
    (hmem : ∀ b ∈ Lf, b.name ∈ names sq) (hfg : ∀ b ∈ Lf, ∀ a ∈ sq, a.name = b.name → f a = g b) :
    (Lf.map (fun b => (names sq).idxOf b.name)).map (fun a => (sq.map f).getD a d) = Lf.map g := by
  rw [List.map_map]
  apply List.map_congr_left
  intro b hb
  obtain ⟨a, ha, hna, hf⟩ := getD_idxOf_name (β := β) sq b.name (hmem b hb)
  simp only [Function.comp]
  rw [hf f d]
  exact hfg b hb a ha hna

/-- `T` is a tensor over the flat axis list `L`: read at the index that a valuation `val` satisfying `P` gives to
`L`, it holds the cell `c val`. -/
def ReadsC (P : (String → Nat) → Prop) (c : (String → Nat) → Cell) (T : Tensor Cell) (L : List Ax) : Prop :=
  T.shape = lens L ∧ ∀ val, P val → T.data[ravel (lens L) (idx L val)]? = some (c val)

/-- `T` is a tensor over the axis list `Lo` in which the axes with `pre a = 1` are (or have been made) unit
dimensions: read at the index that `val` gives to the other axes (and 0 at the unit dimensions) it holds `c val`.
This is the shape numpy broadcasting consumes (`broadcastIndex`). -/
def ReadsP (P : (String → Nat) → Prop) (c : (String → Nat) → Cell) (T : Tensor Cell) (Lo : List Ax) (pre : Ax → Nat) : Prop :=
  T.shape = Lo.map pre ∧ ∀ val, P val →
    T.data[ravel (Lo.map pre) (Lo.map (fun a => if pre a = 1 then 0 else val a.name))]? = some (c val)

theorem ReadsC.mono {P P' : (String → Nat) → Prop} {c : (String → Nat) → Cell} {T : Tensor Cell} {L : List Ax}
    (h : ReadsC P c T L) (hp : ∀ val, P' val → P val) : ReadsC P' c T L :=
  ⟨h.1, fun val hv => h.2 val (hp val hv)⟩

theorem ReadsP.mono {P P' : (String → Nat) → Prop} {c : (String → Nat) → Cell} {T : Tensor Cell} {L : List Ax} {pre : Ax → Nat}
    (h : ReadsP P c T L pre) (hp : ∀ val, P' val → P val) : ReadsP P' c T L pre :=
  ⟨h.1, fun val hv => h.2 val (hp val hv)⟩

theorem readsP_iff_readsC {T : Tensor Cell} {Lo : List Ax} {P : (String → Nat) → Prop} {c : (String → Nat) → Cell}
    {pre : Ax → Nat} (hPLo : ∀ val, P val → Bnd val Lo) (hpre : ∀ a ∈ Lo, pre a = a.len) :
    ReadsP P c T Lo pre ↔ ReadsC P c T Lo := by
  have e1 : Lo.map pre = lens Lo := List.map_congr_left hpre
  have e2 : ∀ val, P val → Lo.map (fun a => if pre a = 1 then 0 else val a.name) = idx Lo val := by
    intro val hP
    apply List.map_congr_left
    intro a ha
    rw [hpre a ha]
    have := hPLo val hP a ha
    by_cases h1 : a.len = 1
    · simp [h1]; omega
    · simp [h1]
  unfold ReadsP ReadsC
  rw [e1]
  constructor
  · rintro ⟨h1, h2⟩; exact ⟨h1, fun val hP => by rw [← e2 val hP]; exact h2 val hP⟩
  · rintro ⟨h1, h2⟩; exact ⟨h1, fun val hP => by rw [e2 val hP]; exact h2 val hP⟩

/-- A shape function on `W`: every axis at its length or as a unit dimension. -/
def Mask (W : List Ax) (p : Ax → Nat) : Prop := ∀ a ∈ W, p a = a.len ∨ p a = 1

/-- The shape function of an operand over `sq` aligned with an output: unit dimensions where `sq` lacks the axis. -/
def presentPre (sq : List Ax) : Ax → Nat := fun a => if (names sq).contains a.name then a.len else 1

theorem presentPre_mask (W sq : List Ax) : Mask W (presentPre sq) := by
  intro a _
  simp only [presentPre]
  by_cases h : (names sq).contains a.name = true
  · left; rw [if_pos h]
  · right; rw [if_neg h]

theorem squeezeStep_none (s : St) (sq Lo : List Ax) (hne : ∀ a ∈ sq, a.len ≠ 1) : squeezeStep s sq Lo = (sq, s) := by
  have : sq.filter (fun a => a.len == 1) = [] := by
    rw [List.filter_eq_nil_iff]
    intro a ha
    simpa using hne a ha
  simp [squeezeStep, this, names]

/-- What `_squeeze_transpose_broadcast` needs to carry a tensor over the axes `sq`, read at the valuations that satisfy
`P`, to one over `Lo`: `sq` names each axis once and has no unit axis (nothing to squeeze), `P` keeps a valuation in range
on both lists, and an axis that both lists name has one length. -/
structure Over (P : (String → Nat) → Prop) (sq Lo : List Ax) : Prop where
  nodup : (names sq).Nodup
  ne1 : ∀ a ∈ sq, a.len ≠ 1
  bndSq : ∀ val, P val → Bnd val sq
  bndOut : ∀ val, P val → Bnd val Lo
  cons : ∀ a ∈ sq, ∀ b ∈ Lo, a.name = b.name → a.len = b.len

/-- The transposition of `_squeeze_transpose_broadcast` (no unit axis to squeeze): the result is a tensor over the
output axes that the input has, in output order. -/
theorem stbT_run {inps : List (Tensor Cell)} {s r : St} {regs : List (Tensor Cell)} {T : Tensor Cell} {Lo sq : List Ax}
    {P : (String → Nat) → Prop} {c : (String → Nat) → Cell}
    (h : Run inps s regs T) (ov : Over P sq Lo) (hLo : (names Lo).Nodup)
    (hR : ReadsC P c T sq) (ht : transposeStep s sq Lo = .ok r) :
    (∀ n ∈ names sq, n ∈ names Lo) ∧ ∃ ext T', Run inps r (regs ++ ext) T' ∧
      ReadsC P c T' (Lo.filter (fun b => (names sq).contains b.name)) := by
  obtain ⟨hsub, hs2⟩ := transposeStep_spec ov.nodup hLo ht
  subst hs2
  refine ⟨hsub, ?_⟩
  have hmemf : ∀ b ∈ Lo.filter (fun b => (names sq).contains b.name), b.name ∈ names sq := by
    intro b hb
    exact List.contains_iff_mem.mp (List.mem_filter.mp hb).2
  have hshl : s.shape.length = sq.length := by rw [← h.shape, hR.1]; simp [lens]
  obtain ⟨regs2, T2, hrun2, hsh2, hread2⟩ := transposeW_run h _ (by rw [hshl]; exact perm_isPermOf ov.nodup hLo hsub)
  have hlensf : permShape ((Lo.filter (fun b => (names sq).contains b.name)).map (fun b => (names sq).idxOf b.name))
        T.shape = lens (Lo.filter (fun b => (names sq).contains b.name)) := by
    rw [hR.1]
    exact perm_map_getD sq _ (fun a => a.len) (fun a => a.len) 0 hmemf
      (fun b hb a ha hn => ov.cons a ha b (List.mem_filter.mp hb).1 hn)
  refine ⟨regs2, T2, hrun2, by rw [hsh2, hlensf], ?_⟩
  intro val hP
  have hvsq : Bnd val sq := ov.bndSq val hP
  have hv : Valid T.shape (idx sq val) := by rw [hR.1]; exact valid_idx hvsq
  have hc := hR.2 val hP
  rw [← hR.1] at hc
  have := hread2 (idx sq val) _ hv hc
  rw [hlensf] at this
  have hidx : ((Lo.filter (fun b => (names sq).contains b.name)).map (fun b => (names sq).idxOf b.name)).map
      (fun a => (idx sq val).getD a 0) = idx (Lo.filter (fun b => (names sq).contains b.name)) val :=
    perm_map_getD sq _ (fun a => val a.name) (fun a => val a.name) 0 hmemf (fun b _ a _ hn => by rw [hn])
  rw [hidx] at this
  exact this

theorem bc_contains (sq Lo : List Ax) : ∀ a ∈ Lo, ((names Lo).filter (fun n => !(names sq).contains n)).contains a.name
    = !(names sq).contains a.name := by
  intro a ha
  rw [Bool.eq_iff_iff, List.contains_iff_mem, List.mem_filter]
  constructor
  · exact fun h => h.2
  · exact fun h => ⟨List.mem_map.mpr ⟨a, ha, rfl⟩, h⟩

/-- Inserting the missing output axes as unit dimensions (`classical.reshape(tensor, pre_broadcast_shape)`). -/
theorem unsqueeze_run {inps : List (Tensor Cell)} {s : St} {regs : List (Tensor Cell)} {T : Tensor Cell} {Lo : List Ax}
    {P : (String → Nat) → Prop} {c : (String → Nat) → Cell} (keep : Ax → Bool) (pre : Ax → Nat)
    (h : Run inps s regs T) (hPLo : ∀ val, P val → Bnd val Lo)
    (hg1 : ∀ a ∈ Lo, keep a = false → pre a = 1) (hg2 : ∀ a ∈ Lo.filter keep, pre a = a.len)
    (hR : ReadsC P c T (Lo.filter keep)) :
    ∃ ext T', Run inps (reshapeW s (Lo.map pre)) (regs ++ ext) T' ∧ ReadsP P c T' Lo pre := by
  have hprod : prod s.shape = prod (Lo.map pre) := by
    rw [← h.shape, hR.1, prod_map_filter _ keep Lo hg1]
    congr 1
    exact (List.map_congr_left hg2).symm
  obtain ⟨regs3, T3, hrun3, hsh3, hdata3⟩ := reshapeW_run h _ hprod
  refine ⟨regs3, T3, hrun3, hsh3, ?_⟩
  intro val hP
  rw [hdata3, ravel_map_filter _ _ keep Lo (fun a ha hp => ⟨hg1 a ha hp, by rw [hg1 a ha hp]; simp⟩)]
  exact ((readsP_iff_readsC (fun v hv => (hPLo v hv).filter keep) hg2).mpr hR).2 val hP

/-- `classical.broadcast_to(tensor, expr_out.shape)` of a tensor with unit dimensions. -/
theorem bcast_run {inps : List (Tensor Cell)} {s : St} {regs : List (Tensor Cell)} {T : Tensor Cell} {Lo : List Ax}
    {P : (String → Nat) → Prop} {c : (String → Nat) → Cell} (pre : Ax → Nat)
    (h : Run inps s regs T) (hPLo : ∀ val, P val → Bnd val Lo) (hpre : Mask Lo pre)
    (hR : ReadsP P c T Lo pre) :
    ∃ ext T', Run inps (broadcastW s (lens Lo)) (regs ++ ext) T' ∧ ReadsC P c T' Lo := by
  have hbr : broadcastable s.shape (lens Lo) = true := by
    rw [← h.shape, hR.1]
    simp only [broadcastable, lens, List.length_map, Nat.le_refl, Nat.sub_self, List.drop_zero, List.zip_map',
      List.all_map, decide_true, Bool.true_and, List.all_eq_true, Function.comp]
    intro a ha
    rcases hpre a ha with hb | hb
    · rw [hb]; simp
    · rw [hb]; simp
  obtain ⟨regs4, T4, hrun4, hsh4, hread4⟩ := broadcastW_run h (lens Lo) hbr
  refine ⟨regs4, T4, hrun4, hsh4, ?_⟩
  intro val hP
  apply hread4 _ _ (valid_idx (hPLo val hP))
  rw [hR.1]
  have hbi : broadcastIndex (Lo.map pre) (lens Lo) (idx Lo val)
      = Lo.map (fun a => if pre a = 1 then 0 else val a.name) := by
    simp [broadcastIndex, lens, idx, List.zip_map']
  rw [hbi]
  exact hR.2 val hP

theorem all_present {sq Lo : List Ax} (hbc : ¬ ((names Lo).filter (fun n => !(names sq).contains n)).length > 0) :
    ∀ a ∈ Lo, (names sq).contains a.name = true := by
  intro a ha
  have hnil : (names Lo).filter (fun n => !(names sq).contains n) = [] := by
    apply List.eq_nil_of_length_eq_zero; omega
  rw [List.filter_eq_nil_iff] at hnil
  have := hnil a.name (List.mem_map.mpr ⟨a, ha, rfl⟩)
  simpa using this

/-- Third part with `broadcast_to_unitary=True`: the output axes that the input lacks become unit dimensions. -/
theorem unitary_run {inps : List (Tensor Cell)} {s : St} {regs : List (Tensor Cell)} {T : Tensor Cell} {W sq : List Ax}
    {P : (String → Nat) → Prop} {c : (String → Nat) → Cell}
    (h : Run inps s regs T) (hPW : ∀ val, P val → Bnd val W)
    (hR : ReadsC P c T (W.filter (fun b => (names sq).contains b.name))) :
    ∃ ext T', Run inps (broadcastStepU s sq W) (regs ++ ext) T' ∧ ReadsP P c T' W (presentPre sq) := by
  unfold broadcastStepU
  simp only []
  split
  · have hpre : W.map (fun a => if ((names W).filter (fun n => !(names sq).contains n)).contains a.name then 1 else a.len)
        = W.map (presentPre sq) := by
      apply List.map_congr_left
      intro a ha
      simp only [presentPre, bc_contains sq W a ha]
      cases (names sq).contains a.name <;> rfl
    rw [hpre]
    refine unsqueeze_run (fun b => (names sq).contains b.name) (presentPre sq) h hPW ?_ ?_ hR
    · intro a _ hp
      simp only [presentPre, hp, Bool.false_eq_true, if_false]
    · intro a ha
      simp only [presentPre, (List.mem_filter.mp ha).2, if_true]
  · rename_i hbc
    have hall := all_present hbc
    rw [List.filter_eq_self.mpr hall] at hR
    refine ⟨[], T, by simpa using h, (readsP_iff_readsC hPW ?_).mpr hR⟩
    intro a ha
    simp only [presentPre, hall a ha, if_true]

/-- `_squeeze_transpose_broadcast(…, broadcast_to_unitary=True)` of a tensor over `sq` (no unit axes) to the output
axes `W`: a tensor over `W` with unit dimensions where `sq` lacks an axis. -/
theorem stbU_run {inps : List (Tensor Cell)} {s : St} {regs : List (Tensor Cell)} {T : Tensor Cell} {W sq : List Ax}
    {P : (String → Nat) → Prop} {c : (String → Nat) → Cell} {tag : Nat}
    (h : Run inps s regs T) (ov : Over P sq W) (hW : (names W).Nodup) (hR : ReadsC P c T sq) :
    OkP (fun x => (∀ n ∈ names sq, n ∈ names W) ∧ x.1 = unitaryExpr tag sq W ∧
      ∃ ext T', Run inps x.2 (regs ++ ext) T' ∧ ReadsP P c T' W (presentPre sq)) (stbU tag s sq W) := by
  rw [stbU_eq, squeezeStep_none s sq W ov.ne1]
  refine OkP.step fun s2 ht => ExceptP.pure ?_
  obtain ⟨hsub, regs2, T2, hrun2, hR2⟩ := stbT_run h ov hW hR ht
  obtain ⟨regs3, T3, hrun3, hR3⟩ := unitary_run hrun2 ov.bndOut hR2
  exact ⟨hsub, rfl, regs2 ++ regs3, T3, hrun3.assoc, hR3⟩

theorem broadcastStep_eq (s : St) (ein eout : List Ax) :
    broadcastStep s ein eout = if ((names eout).filter (fun n => !(names ein).contains n)).length > 0
      then broadcastW (broadcastStepU s ein eout) (lens eout) else broadcastStepU s ein eout := by
  unfold broadcastStep broadcastStepU
  simp only []
  split <;> rfl

/-- `_squeeze_transpose_broadcast` of a tensor over `sq` (no unit axes) to the output axes `Lo`: a tensor over `Lo`. -/
theorem stb_run {inps : List (Tensor Cell)} {s : St} {regs : List (Tensor Cell)} {T : Tensor Cell} {Lo sq : List Ax}
    {P : (String → Nat) → Prop} {c : (String → Nat) → Cell}
    (h : Run inps s regs T) (ov : Over P sq Lo) (hLo : (names Lo).Nodup) (hR : ReadsC P c T sq) :
    OkP (fun r => (∀ n ∈ names sq, n ∈ names Lo) ∧ ∃ ext T', Run inps r (regs ++ ext) T' ∧ ReadsC P c T' Lo)
      (stb s sq Lo) := by
  rw [stb_eq, squeezeStep_none s sq Lo ov.ne1]
  refine OkP.step fun s2 ht => ExceptP.pure ?_
  obtain ⟨hsub, regs2, T2, hrun2, hR2⟩ := stbT_run h ov hLo hR ht
  obtain ⟨regs3, T3, hrun3, hR3⟩ := unitary_run hrun2 ov.bndOut hR2
  refine ⟨hsub, ?_⟩
  rw [broadcastStep_eq]
  split
  · obtain ⟨regs4, T4, hrun4, hR4⟩ := bcast_run (presentPre sq) hrun3 ov.bndOut (presentPre_mask Lo sq) hR3
    exact ⟨regs2 ++ (regs3 ++ regs4), T4, hrun4.assoc.assoc, hR4⟩
  · rename_i hbc
    refine ⟨regs2 ++ regs3, T3, hrun3.assoc, (readsP_iff_readsC ov.bndOut ?_).mp hR3⟩
    intro a ha
    simp only [presentPre, all_present hbc a ha, if_true]

theorem decompose_run {inps : List (Tensor Cell)} : ∀ (fuel : Nat) (s : St) (e : List G) (regs : List (Tensor Cell))
    (T : Tensor Cell), Run inps s regs T → s.shape = gShape e →
    ∃ ext T', Run inps (decompose fuel s e).1 (regs ++ ext) T' ∧ T'.data = T.data ∧
      (decompose fuel s e).1.shape = gShape (decompose fuel s e).2 ∧
      G.leavesL (decompose fuel s e).2 = G.leavesL e
  | 0, s, e, regs, T, h, hs => ⟨[], T, by rw [List.append_nil]; exact h, rfl, hs, rfl⟩
  | fuel + 1, s, e, regs, T, h, hs => by
    unfold decompose
    split
    · obtain ⟨regs1, T1, hrun1, _, hd1⟩ := reshapeW_run h (gShape (unflatten1 e))
        (by rw [hs, prod_gShape, prod_gShape, sizeL_unflatten1])
      obtain ⟨regs2, T2, hrun2, hd2, hsh2, hl2⟩ :=
        decompose_run fuel _ (unflatten1 e) (regs ++ regs1) T1 hrun1 (reshapeW_shape _ _)
      exact ⟨regs1 ++ regs2, T2, hrun2.assoc, by rw [hd2, hd1], hsh2, by rw [hl2, leavesL_unflatten1]⟩
    · exact ⟨[], T, by rw [List.append_nil]; exact h, rfl, hs, rfl⟩

theorem names_nodup_filter {L : List Ax} (h : (names L).Nodup) (p : Ax → Bool) : (names (L.filter p)).Nodup := by
  simp only [names] at h ⊢
  exact List.Pairwise.sublist (List.Sublist.map _ List.filter_sublist) h

theorem eq_of_name_eq : ∀ {L : List Ax} {a b : Ax}, (names L).Nodup → a ∈ L → b ∈ L → a.name = b.name → a = b
  | [], _, _, _, ha, _, _ => by simp at ha
  | x :: L, a, b, h, ha, hb, hn => by
    simp only [names, List.map_cons, List.nodup_cons] at h
    rcases List.mem_cons.mp ha with rfl | ha' <;> rcases List.mem_cons.mp hb with rfl | hb'
    · rfl
    · exact absurd (List.mem_map.mpr ⟨b, hb', hn.symm⟩) h.1
    · exact absurd (List.mem_map.mpr ⟨a, ha', hn⟩) h.1
    · exact eq_of_name_eq (L := L) h.2 ha' hb' hn

theorem mem_squeezedExpr {m : List String} {e : List G} {a : Ax} :
    a ∈ squeezedExpr m e ↔ a ∈ G.leavesL e ∧ (a.len ≠ 1 ∨ m.contains a.name = true) := by
  simp only [squeezedExpr, List.mem_filter, Bool.not_eq_eq_eq_not, Bool.not_true, Bool.and_eq_false_imp, beq_iff_eq,
    Bool.not_eq_eq_eq_not, Bool.not_false]
  constructor
  · rintro ⟨h1, h2⟩
    refine ⟨h1, ?_⟩
    by_cases e : a.len = 1
    · exact Or.inr (h2 e)
    · exact Or.inl e
  · rintro ⟨h1, h2⟩
    refine ⟨h1, ?_⟩
    intro e
    rcases h2 with h2 | h2
    · exact absurd e h2
    · exact h2

theorem mem_squeezedExpr_nil {e : List G} {a : Ax} : a ∈ squeezedExpr [] e ↔ a ∈ G.leavesL e ∧ a.len ≠ 1 := by
  simp [mem_squeezedExpr]

theorem prod_squeezed (m : List String) (e : List G) : prod (lens (squeezedExpr m e)) = prod (lens (G.leavesL e)) :=
  (prod_map_filter _ _ _ (fun a _ hp => by
    simp only [Bool.not_eq_eq_eq_not, Bool.not_false, Bool.and_eq_true, beq_iff_eq] at hp
    exact hp.1)).symm

theorem ravel_squeezed (m : List String) (e : List G) {w : String → Nat}
    (hw : ∀ a ∈ G.leavesL e, m.contains a.name = false → w a.name < a.len) :
    ravel (lens (squeezedExpr m e)) (idx (squeezedExpr m e) w) = ravel (lens (G.leavesL e)) (idx (G.leavesL e) w) :=
  (ravel_map_filter _ _ _ _ (fun a ha hp => by
    simp only [Bool.not_eq_eq_eq_not, Bool.not_false, Bool.and_eq_true, beq_iff_eq, Bool.not_eq_eq_eq_not,
      Bool.not_true] at hp
    have := hw a ha hp.2
    exact ⟨hp.1, by omega⟩)).symm

/-- The element of input `i` (with leaf axes `G.leavesL e`) that a valuation addresses. -/
def cOf (i : Nat) (e : List G) : (String → Nat) → Cell :=
  fun val => .src i (ravel (lens (G.leavesL e)) (idx (G.leavesL e) val))

/-- The decomposer's preparation of input `i` (held in register `i`, the symbolic input of shape `gShape e`): the
result is a tensor over the squeezed flat expression that holds, at the index a valuation gives to it, the input
element at the index the valuation gives to the input's leaf axes. -/
theorem prep_run {inps : List (Tensor Cell)} {s : St} {regs : List (Tensor Cell)} {marked : List String} {i : Nat}
    {e : List G} (h : Tr inps s regs) (hi : regs[i]? = some (symInput i (gShape e))) :
    OkP (fun x => (names (G.leavesL e)).Nodup ∧ x.1 = squeezedExpr marked e ∧
      ∃ ext T, Run inps x.2 (regs ++ ext) T ∧ T.data = (symInput i (gShape e)).data ∧
        ReadsC (fun val => Bnd val (G.leavesL e)) (cOf i e) T x.1) (prepInput marked s i e) := by
  unfold prepInput
  refine OkP.guard fun hnd => ?_
  have hin : (names (G.leavesL e)).Nodup := (noDup_iff _).mp (by simpa using hnd)
  have hrun0 : Run inps (s.focus i (gShape e)) regs (symInput i (gShape e)) :=
    h.focus (T := symInput i (gShape e)) hi (by simp [symInput])
  obtain ⟨regs1, T1, hrun1, hd1, hsh1, hl1⟩ := decompose_run (G.depthL e) _ e _ _ hrun0 rfl
  generalize decompose (G.depthL e) (s.focus i (gShape e)) e = d at *
  obtain ⟨s1, e1⟩ := d
  dsimp only at hrun1 hsh1 hl1 ⊢
  rw [hl1]
  refine ExceptP.pure ⟨hin, rfl, ?_⟩
  show ∃ ext T, Run inps (reshapeW s1 (lens (squeezedExpr marked e))) (regs ++ ext) T ∧ T.data = _ ∧
    ReadsC _ (cOf i e) T (squeezedExpr marked e)
  obtain ⟨regs2, T2, hrun2, hsh2, hd2⟩ := reshapeW_run hrun1 (lens (squeezedExpr marked e))
    (by rw [hsh1, prod_gShape_leaves, hl1, prod_squeezed])
  refine ⟨regs1 ++ regs2, T2, hrun2.assoc, by rw [hd2, hd1], hsh2, ?_⟩
  intro val hvi
  rw [ravel_squeezed marked e (fun a ha _ => hvi a ha), hd2, hd1]
  have hlt := ravel_lt (valid_idx hvi)
  rw [← prod_gShape_leaves] at hlt
  simp [symInput, hlt, cOf]

/-- `_squeeze_transpose_broadcast` of the inner function's result (a tensor over `sq`) to the flat output, then
`_compose_next`'s reshape to the grouped output. -/
theorem compose_run {inps : List (Tensor Cell)} {s r : St} {regs : List (Tensor Cell)} {T : Tensor Cell} {sq : List Ax}
    {eout : List G} {P : (String → Nat) → Prop} {c : (String → Nat) → Cell}
    (h : Run inps s regs T) (ov : Over P sq (G.leavesL eout)) (hout : (names (G.leavesL eout)).Nodup)
    (hR : ReadsC P c T sq) (hstb : stb s sq (G.leavesL eout) = .ok r) :
    (∀ n ∈ names sq, n ∈ names (G.leavesL eout)) ∧ r.shape = lens (G.leavesL eout) ∧
    ∃ ext T', Run inps (reshapeW r (gShape eout)) (regs ++ ext) T' ∧ T'.shape = gShape eout ∧
      ∀ val, P val → T'.data[ravel (lens (G.leavesL eout)) (idx (G.leavesL eout) val)]? = some (c val) := by
  obtain ⟨hsub, ext3, T3, hrun3, hR3⟩ := (stb_run h ov hout hR).ok hstb
  have hsh : r.shape = lens (G.leavesL eout) := by rw [← hrun3.shape, hR3.1]
  obtain ⟨ext4, T4, hrun4, hsh4, hd4⟩ := reshapeW_run hrun3 (gShape eout) (by rw [hsh, prod_gShape_leaves])
  exact ⟨hsub, hsh, ext3 ++ ext4, T4, hrun4.assoc, hsh4, fun val hP => by rw [hd4]; exact hR3.2 val hP⟩

theorem bind_stb_ok {x : Except String (List Ax × St)} {Lo : List Ax} {sh : List Nat} {s : St}
    (h : (x >>= fun p => stb p.2 p.1 Lo >>= fun s3 => pure (reshapeW s3 sh)) = .ok s) :
    ∃ sq s1 s3, x = .ok (sq, s1) ∧ stb s1 sq Lo = .ok s3 ∧ s = reshapeW s3 sh := by
  obtain ⟨p, hx, h⟩ := bind_ok.mp h
  obtain ⟨s3, hstb, h⟩ := bind_ok.mp h
  exact ⟨p.1, p.2, s3, hx, hstb, (pure_ok.mp h).symm⟩

theorem lowerId_eq (ein eout : List G) :
    lowerId ein eout = (prepInput [] { reg := 0, shape := gShape ein, prog := [], next := 1 } 0 ein >>= fun p =>
      stb p.2 p.1 (G.leavesL eout) >>= fun s3 => pure (reshapeW s3 (gShape eout))) := by
  unfold lowerId prepInput
  simp only [List.contains_nil, Bool.not_false, Bool.and_true]
  split
  · rfl
  · simp only [St.focus, pure_bind]

theorem consistentLens_spec {Li Lo : List Ax} (h : consistentLens Li Lo = true) :
    ∀ a ∈ Li, ∀ b ∈ Lo, a.name = b.name → a.len = b.len := by
  intro a ha b hb hn
  simp only [consistentLens, List.all_eq_true, Bool.or_eq_true, bne_iff_ne, ne_eq, beq_iff_eq] at h
  rcases h a ha b hb with h | h
  · exact absurd hn h
  · exact h

end Einx.Lower
