import EinxModel.Notation.Lexer
/-!
# M1 Notation — the lexer in the form the proofs use

`matchLit` on the extracted literal table; `segment` one step at a time, and on a concatenation whose second part starts a token of
its own; its tokens tile the text, spell it and are as long as their texts; the two outcomes of `lex`.
-/
namespace Einx.Notation

theorem literals_eq :
    literals = [['-', '>'], [','], ['+'], [' '], ['('], ['['], [')'], [']'], ['.', '.', '.']] := by
  simp [literals, Einx.Extracted.literals]

theorem literals_prefixFree : ∀ a ∈ literals, ∀ b ∈ literals, a.isPrefixOf b = true → a = b := by
  rw [literals_eq]; decide

theorem literals_ne_nil : [] ∉ literals := by
  rw [literals_eq]; decide

theorem literals_tail : ∀ l ∈ literals, ∀ c ∈ l.tail, c = '>' ∨ c = '.' := by
  rw [literals_eq]; decide

theorem digit_ranges_decimal : Einx.Extracted.digitRanges = Einx.Extracted.decimalRanges := by decide

theorem isDigit_isDecimal (c : Char) : isDecimalChar c = isDigitChar c := by
  simp only [isDecimalChar, isDigitChar, digit_ranges_decimal]

theorem isDigitStr_all_decimal {s : Str} (h : isDigitStr s = true) : s.all isDecimalChar = true :=
  List.all_eq_true.mpr fun c hc => (isDigit_isDecimal c).trans (List.all_eq_true.mp (Bool.and_eq_true_iff.mp h).2 c hc)

theorem matchLit_isPrefix {ls : List Str} {cs l : Str} (h : matchLit ls cs = some l) : l <+: cs := by
  induction ls with
  | nil => simp [matchLit] at h
  | cons a as ih =>
    simp only [matchLit] at h
    split at h
    · rename_i hc
      cases h
      simp only [Bool.and_eq_true] at hc
      exact List.isPrefixOf_iff_prefix.mp hc.2
    · exact ih h

theorem matchLit_prefix {ls : List Str} {cs l : Str} (h : matchLit ls cs = some l) : l.length ≤ cs.length :=
  (matchLit_isPrefix h).length_le

theorem matchLit_of_mem {ls : List Str} (hpf : ∀ a ∈ ls, ∀ b ∈ ls, a.isPrefixOf b = true → a = b) (hne : [] ∉ ls)
    {l : Str} (hl : l ∈ ls) (v : Str) : matchLit ls (l ++ v) = some l := by
  induction ls with
  | nil => cases hl
  | cons a as ih =>
    simp only [matchLit]
    by_cases ha : a.isPrefixOf (l ++ v) = true
    · -- `a` and `l` are prefixes of the same text, hence comparable, hence equal
      have hal : a = l := by
        rcases List.prefix_or_prefix_of_prefix (List.isPrefixOf_iff_prefix.mp ha) (List.prefix_append l v) with h | h
        · exact hpf a List.mem_cons_self l hl (List.isPrefixOf_iff_prefix.mpr h)
        · exact (hpf l hl a List.mem_cons_self (List.isPrefixOf_iff_prefix.mpr h)).symm
      subst hal
      have hne' : a.isEmpty = false := by
        cases a with
        | nil => exact absurd List.mem_cons_self hne
        | cons _ _ => rfl
      rw [if_pos (by rw [hne', ha]; rfl)]
    · rw [if_neg (by rw [Bool.and_eq_true]; exact fun h => ha h.2)]
      have hl' : l ∈ as := by
        rcases List.mem_cons.mp hl with rfl | h
        · exact absurd (List.isPrefixOf_iff_prefix.mpr (List.prefix_append _ _)) ha
        · exact h
      exact ih (fun a' ha' b hb => hpf a' (List.mem_cons_of_mem _ ha') b (List.mem_cons_of_mem _ hb))
        (fun h => hne (List.mem_cons_of_mem _ h)) hl'

/-- A literal that crosses the boundary between `u` and `v` has the head of `v` behind its first character. -/
theorem isPrefixOf_append_left {l u v : Str} (hu : u ≠ []) (hv : ∀ c ∈ l.tail, v.head? ≠ some c) :
    l.isPrefixOf (u ++ v) = l.isPrefixOf u := by
  rw [Bool.eq_iff_iff, List.isPrefixOf_iff_prefix, List.isPrefixOf_iff_prefix]
  refine ⟨fun h => ?_, fun h => h.trans (List.prefix_append u v)⟩
  rcases List.prefix_or_prefix_of_prefix h (List.prefix_append u v) with h1 | ⟨w, rfl⟩
  · exact h1
  · match w, (List.prefix_append_right_inj u).mp h with
    | [], _ => simp
    | c :: w', hw =>
      obtain ⟨r, rfl⟩ := hw
      match u, hu with
      | a :: u', _ => exact absurd rfl (hv c (by simp))

theorem matchLit_append_left_of {ls : List Str} {u v : Str} (hu : u ≠ [])
    (hv : ∀ l ∈ ls, ∀ c ∈ l.tail, v.head? ≠ some c) : matchLit ls (u ++ v) = matchLit ls u := by
  induction ls with
  | nil => rfl
  | cons a as ih =>
    simp only [matchLit, isPrefixOf_append_left hu (hv a List.mem_cons_self),
      ih fun l hl => hv l (List.mem_cons_of_mem _ hl)]

theorem matchLit_lit {l : Str} (h : literals.contains l = true) (rest : Str) :
    matchLit literals (l ++ rest) = some l :=
  matchLit_of_mem literals_prefixFree literals_ne_nil (List.contains_iff_mem.mp h) rest

theorem matchLit_append_left (u v : Str) (hu : u ≠ []) (hv : ∀ c, v.head? = some c → c ≠ '>' ∧ c ≠ '.') :
    matchLit literals (u ++ v) = matchLit literals u :=
  matchLit_append_left_of hu fun l hl c hc h => by
    rcases literals_tail l hl c hc with rfl | rfl
    · exact (hv _ h).1 rfl
    · exact (hv _ h).2 rfl

/-! ### `segment`, step by step -/

theorem mem_flush_iff {cur : Str} {start pos : Nat} {t : Token} :
    t ∈ flush cur start pos ↔ cur ≠ [] ∧ t = ⟨cur, start, pos⟩ := by
  unfold flush
  cases cur <;> simp

theorem flush_nil (start pos : Nat) : flush [] start pos = [] := by simp [flush]

theorem segment_nil {lits : List Str} (pos start : Nat) (cur : Str) : segment lits [] pos start cur = flush cur start pos := by
  rw [segment]

theorem segment_cons_some {lits : List Str} {c : Char} {rest l : Str} (h : matchLit lits (c :: rest) = some l)
    (pos start : Nat) (cur : Str) :
    segment lits (c :: rest) pos start cur =
      flush cur start pos ++
        (⟨l, pos, pos + l.length⟩ :: segment lits ((c :: rest).drop l.length) (pos + l.length) (pos + l.length) []) := by
  rw [segment]
  split
  · rename_i l' hl'
    rw [h] at hl'
    cases hl'
    rfl
  · rename_i hl'
    rw [h] at hl'
    cases hl'

theorem segment_cons_none {lits : List Str} {c : Char} {rest : Str} (h : matchLit lits (c :: rest) = none)
    (pos start : Nat) (cur : Str) :
    segment lits (c :: rest) pos start cur = segment lits rest (pos + 1) start (cur ++ [c]) := by
  rw [segment]
  split
  · rename_i l' hl'
    rw [h] at hl'
    cases hl'
  · rfl

theorem segment_lit {l : Str} (v : Str) (hl : matchLit literals (l ++ v) = some l) (q : Nat) :
    segment literals (l ++ v) q q [] =
      ⟨l, q, q + l.length⟩ :: segment literals v (q + l.length) (q + l.length) [] := by
  have hne := matchLit_ne_nil hl
  rcases l with _ | ⟨c, l'⟩
  · exact absurd rfl hne
  · rw [List.cons_append] at hl ⊢
    rw [segment_cons_some hl, flush_nil, ← List.cons_append, List.drop_left]
    rfl

theorem segment_tiles (lits : List Str) (cs : Str) (pos start : Nat) (cur : Str) (h : start + cur.length = pos) :
    (∀ t ∈ segment lits cs pos start cur, start ≤ t.b ∧ t.b < t.e ∧ t.e ≤ pos + cs.length) ∧
      (segment lits cs pos start cur).Pairwise (fun s t => s.e ≤ t.b) := by
  have hflush : ∀ {cur : Str} {start pos : Nat}, start + cur.length = pos →
      (∀ t ∈ flush cur start pos, t.b = start ∧ start < pos ∧ t.e = pos) ∧
        (flush cur start pos).Pairwise (fun s t => s.e ≤ t.b) := by
    intro cur start pos h
    refine ⟨fun t ht => ?_, by unfold flush; split <;> simp⟩
    obtain ⟨hc, rfl⟩ := mem_flush_iff.mp ht
    have := List.length_pos_iff.mpr hc
    exact ⟨rfl, by omega, rfl⟩
  fun_induction segment lits cs pos start cur with
  | case1 pos start cur =>
    refine ⟨fun t ht => ?_, (hflush h).2⟩
    obtain ⟨h1, h2, h3⟩ := (hflush h).1 t ht
    simp only [List.length_nil]
    omega
  | case2 pos start cur c rest l hl ih =>
    have hlen := matchLit_prefix hl
    have hl0 : 0 < l.length := List.length_pos_iff.mpr (matchLit_ne_nil hl)
    obtain ⟨ih1, ih2⟩ := ih (by simp)
    simp only [List.length_drop] at ih1
    constructor
    · intro t ht
      rcases List.mem_append.mp ht with ht | ht
      · obtain ⟨h1, h2, h3⟩ := (hflush h).1 t ht
        omega
      · rcases List.mem_cons.mp ht with rfl | ht
        · dsimp only; omega
        · have := ih1 t ht
          omega
    · rw [List.pairwise_append, List.pairwise_cons]
      refine ⟨(hflush h).2, ⟨fun t ht => (ih1 t ht).1, ih2⟩, fun s hs t ht => ?_⟩
      obtain ⟨_, _, h3⟩ := (hflush h).1 s hs
      rcases List.mem_cons.mp ht with rfl | ht
      · dsimp only; omega
      · have := ih1 t ht
        omega
  | case3 pos start cur c rest hl ih =>
    obtain ⟨ih1, ih2⟩ := ih (by simp only [List.length_append, List.length_singleton]; omega)
    refine ⟨fun t ht => ?_, ih2⟩
    have := ih1 t ht
    simp only [List.length_cons]
    omega

/-! ### A concatenation whose second part starts a token of its own -/

/-- The text is empty, or starts with a literal whose first character cannot continue `->` / `...`. -/
def GoodHead (v : Str) : Prop :=
  v = [] ∨ ∃ c v' l, v = c :: v' ∧ c ≠ '>' ∧ c ≠ '.' ∧ matchLit literals v = some l

theorem GoodHead.head {v : Str} (h : GoodHead v) : ∀ c, v.head? = some c → c ≠ '>' ∧ c ≠ '.' := by
  intro c hc
  rcases h with rfl | ⟨c', v', l, rfl, h1, h2, _⟩
  · simp at hc
  · simp only [List.head?_cons, Option.some.injEq] at hc
    subst hc
    exact ⟨h1, h2⟩

theorem segment_match_flush {v l : Str} (h : matchLit literals v = some l) (pos start : Nat) (cur : Str) :
    segment literals v pos start cur = flush cur start pos ++ segment literals v pos pos [] := by
  rcases v with _ | ⟨c, v'⟩
  · have hp := matchLit_prefix h
    have hne := matchLit_ne_nil h
    exact absurd (List.length_eq_zero_iff.mp (Nat.le_zero.mp hp)) hne
  · rw [segment_cons_some h, segment_cons_some h, flush_nil]
    rfl

theorem segment_goodHead {v : Str} (h : GoodHead v) (pos start : Nat) (cur : Str) :
    segment literals v pos start cur = flush cur start pos ++ segment literals v pos pos [] := by
  rcases h with rfl | ⟨c, v', l, rfl, _, _, hl⟩
  · simp [segment_nil, flush_nil]
  · exact segment_match_flush hl pos start cur

theorem segment_split (u v : Str) (hv : GoodHead v) (pos start : Nat) (cur : Str) :
    segment literals (u ++ v) pos start cur =
      segment literals u pos start cur ++ segment literals v (pos + u.length) (pos + u.length) [] := by
  fun_induction segment literals u pos start cur with
  | case1 pos start cur =>
    simp only [List.nil_append, List.length_nil, Nat.add_zero]
    exact segment_goodHead hv pos start cur
  | case2 pos start cur c rest l hl ih =>
    have hm : matchLit literals ((c :: rest) ++ v) = some l := by
      rw [matchLit_append_left _ _ (by simp) hv.head]; exact hl
    have hlen := matchLit_prefix hl
    rw [List.cons_append] at hm ⊢
    rw [segment_cons_some hm]
    have hd : (c :: (rest ++ v)).drop l.length = (c :: rest).drop l.length ++ v := by
      rw [← List.cons_append, List.drop_append_of_le_length hlen]
    rw [hd, ih, List.append_assoc]
    have hp : pos + l.length + ((c :: rest).drop l.length).length = pos + (c :: rest).length := by
      rw [List.length_drop]; omega
    rw [hp]
    rfl
  | case3 pos start cur c rest hl ih =>
    have hm : matchLit literals ((c :: rest) ++ v) = none := by
      rw [matchLit_append_left _ _ (by simp) hv.head]; exact hl
    rw [List.cons_append] at hm ⊢
    rw [segment_cons_none hm, ih]
    have hp : pos + 1 + rest.length = pos + (c :: rest).length := by
      rw [List.length_cons]; omega
    rw [hp]

theorem lit_match {l : Str} (hl : l ∈ literals) (hh : l.head?.all (fun c => c != '>' && c != '.') = true) (v : Str) :
    matchLit literals (l ++ v) = some l ∧ GoodHead (l ++ v) := by
  have hm := matchLit_of_mem literals_prefixFree literals_ne_nil hl v
  match l, hh, ne_of_mem_of_not_mem hl literals_ne_nil with
  | c :: l', hh, _ =>
    simp only [List.head?_cons, Option.all_some, Bool.and_eq_true, bne_iff_ne, ne_eq] at hh
    exact ⟨hm, Or.inr ⟨c, l' ++ v, _, rfl, hh.1, hh.2, hm⟩⟩

theorem segment_split_lit {l : Str} (hl : l ∈ literals) (hh : l.head?.all (fun c => c != '>' && c != '.') = true)
    (p v : Str) (pos start : Nat) (cur : Str) :
    segment literals (p ++ l ++ v) pos start cur =
      segment literals p pos start cur ++
        ⟨l, pos + p.length, pos + p.length + l.length⟩ ::
          segment literals v (pos + (p ++ l).length) (pos + (p ++ l).length) [] := by
  have hm := lit_match hl hh v
  rw [List.append_assoc, segment_split p (l ++ v) hm.2, segment_lit v hm.1]
  rw [List.length_append, Nat.add_assoc]

/-! ### The tokens of `segment`: what they are made of, and how long they are -/

theorem flush_text (cur : Str) (start pos : Nat) : (flush cur start pos).flatMap (·.text) = cur := by
  cases cur <;> simp [flush]

theorem matchLit_mem {ls : List Str} {v l : Str} (h : matchLit ls v = some l) : l ∈ ls := by
  induction ls with
  | nil => cases h
  | cons a as ih =>
    simp only [matchLit] at h
    split at h
    · cases h; exact List.mem_cons_self
    · exact List.mem_cons_of_mem _ (ih h)

theorem segment_tokens (lits : List Str) (cs : Str) (pos start : Nat) (cur : Str) (P : Char → Prop)
    (hP : ∀ c rest, matchLit lits (c :: rest) = none → P c) (hcur : ∀ c ∈ cur, P c) :
    ∀ t ∈ segment lits cs pos start cur, t.text ∈ lits ∨ ∀ c ∈ t.text, P c := by
  fun_induction segment lits cs pos start cur with
  | case1 pos start cur =>
    intro t ht
    rw [(mem_flush_iff.mp ht).2]
    exact Or.inr hcur
  | case2 pos start cur c0 rest l hl ih =>
    intro t ht
    rcases List.mem_append.mp ht with ht | ht
    · rw [(mem_flush_iff.mp ht).2]
      exact Or.inr hcur
    · rcases List.mem_cons.mp ht with rfl | ht
      · exact Or.inl (matchLit_mem hl)
      · exact ih (fun c hc => nomatch hc) t ht
  | case3 pos start cur c0 rest hl ih =>
    intro t ht
    refine ih (fun c hc => ?_) t ht
    rcases List.mem_append.mp hc with hc | hc
    · exact hcur c hc
    · rw [List.mem_singleton.mp hc]
      exact hP _ _ hl

theorem segment_concat (lits : List Str) (cs : Str) (pos start : Nat) (cur : Str) :
    (segment lits cs pos start cur).flatMap (·.text) = cur ++ cs := by
  fun_induction segment lits cs pos start cur with
  | case1 pos start cur => rw [flush_text, List.append_nil]
  | case2 pos start cur c0 rest l hl ih =>
    obtain ⟨r, hr⟩ := matchLit_isPrefix hl
    rw [List.flatMap_append, List.flatMap_cons, flush_text, ih, ← hr, List.drop_left, List.nil_append]
  | case3 pos start cur c0 rest hl ih => rw [ih, List.append_assoc, List.singleton_append]

theorem flush_len {cur : Str} {start pos : Nat} (h : start + cur.length = pos) :
    ∀ t ∈ flush cur start pos, t.e = t.b + t.text.length := by
  intro t ht
  obtain ⟨_, rfl⟩ := mem_flush_iff.mp ht
  exact h.symm

theorem segment_len (lits : List Str) (cs : Str) (pos start : Nat) (cur : Str) (h : start + cur.length = pos) :
    ∀ t ∈ segment lits cs pos start cur, t.e = t.b + t.text.length := by
  fun_induction segment lits cs pos start cur with
  | case1 pos start cur => exact flush_len h
  | case2 pos start cur c rest l hl ih =>
    intro t ht
    simp only [List.mem_append, List.mem_cons] at ht
    rcases ht with ht | ht | ht
    · exact flush_len h t ht
    · subst ht; rfl
    · exact ih (by simp) t ht
  | case3 pos start cur c rest hl ih =>
    refine ih ?_
    simp only [List.length_append, List.length_singleton]; omega

theorem segment_head_text (cs : Str) (pos start : Nat) (cur : Str) :
    ∀ b, (segment literals cs pos start cur).head? = some b → b.text.head? = (cur ++ cs).head? := by
  fun_induction segment literals cs pos start cur with
  | case1 pos start cur =>
    intro b hb
    unfold flush at hb
    split at hb
    · simp at hb
    · simp only [List.head?_cons, Option.some.injEq] at hb
      subst hb
      simp
  | case2 pos start cur c rest l hl ih =>
    intro b hb
    rcases cur with _ | ⟨d, cur⟩
    · rw [flush_nil, List.nil_append, List.head?_cons, Option.some.injEq] at hb
      subst hb
      have hp := matchLit_isPrefix hl
      have hne := matchLit_ne_nil hl
      rcases l with _ | ⟨c', l'⟩
      · exact absurd rfl hne
      · rw [List.cons_prefix_cons] at hp
        simp [hp.1]
    · simp only [flush, List.isEmpty_cons, Bool.false_eq_true, if_false, List.cons_append, List.nil_append,
        List.head?_cons, Option.some.injEq] at hb
      subst hb
      simp
  | case3 pos start cur c rest hl ih =>
    intro b hb
    rw [ih b hb, List.append_assoc]
    rfl

theorem lex_def (text : Str) : lex text =
    match (segment literals text 0 0 []).find? (fun t => !validToken t.text) with
    | some t => .error (.syntax .invalidToken (posRange (Int.ofNat t.b) (Int.ofNat t.e)) [])
    | none => .ok (segment literals text 0 0 []) := rfl

theorem lex_elim {motive : Res (List Token) → Prop} (text : Str)
    (invalid : ∀ t ∈ segment literals text 0 0 [], validToken t.text = false →
      motive (.error (.syntax .invalidToken (posRange (Int.ofNat t.b) (Int.ofNat t.e)) [])))
    (ok : (∀ t ∈ segment literals text 0 0 [], validToken t.text = true) → motive (.ok (segment literals text 0 0 []))) :
    motive (lex text) := by
  rw [lex_def]
  split
  · rename_i t ht
    exact invalid t (List.mem_of_find?_eq_some ht) (by simpa using List.find?_some ht)
  · rename_i hf
    exact ok fun t ht => by simpa using List.find?_eq_none.mp hf t ht

theorem lex_ok_tokens {text : Str} {toks : List Token} (h : lex text = .ok toks) :
    toks = segment literals text 0 0 [] ∧ ∀ t ∈ toks, validToken t.text = true :=
  lex_elim (motive := fun r => r = .ok toks → toks = segment literals text 0 0 [] ∧ ∀ t ∈ toks, validToken t.text = true) text
    (fun _ _ _ h => nomatch h) (fun hv h => Except.ok.inj h ▸ ⟨rfl, hv⟩) h

end Einx.Notation
