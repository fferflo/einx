import EinxModel.Cache.Concurrent
import EinxModel.Proofs.Sched
/-! Invariant of the interleaving model of the compiled-function cache and its preservation (property theorems are
in `Props/C10Cache.lean`). -/
namespace Einx.Cache.Conc
open Einx.Cache

theorem zip_filter_map {α β : Type} (g : α → β) (q : α → Bool) : ∀ l : List α,
    ((l.zip (l.map g)).filter (fun e => q e.1)).map (·.2) = (l.filter q).map g
  | [] => rfl
  | a :: l => by
    simp only [List.map_cons, List.zip_cons_cons, List.filter_cons]
    cases q a <;> simp [zip_filter_map g q l]

variable {K V : Type}

/-! ### The invariant -/

/-- What holds of thread `i` at any time. -/
structure ThreadInv (f : K → Outcome V) (progs : List (List K)) (i : Nat) (th : Thread K V) : Prop where
  /-- finished calls followed by the remaining ones are the thread's program -/
  prog : progs[i]? = some (th.served ++ th.prog)
  /-- every finished call returned what the function returns for its key -/
  outs : th.outs = th.served.map f
  /-- a value waiting to be stored is the function's value for the key of the call in progress -/
  pend : ∀ v, th.pc = .computed v → ∃ k rest, th.prog = k :: rest ∧ f k = .ok v

structure Inv (f : K → Outcome V) (progs : List (List K)) (c : Conf K V) : Prop where
  len : c.threads.length = progs.length
  /-- every stored value is the function's value for its key -/
  sound : ∀ k v, (k, v) ∈ c.cache → f k = .ok v
  /-- only requested keys are stored -/
  req : ∀ k v, (k, v) ∈ c.cache → k ∈ progs.flatten
  thr : ∀ i th, c.threads[i]? = some th → ThreadInv f progs i th

theorem inv_init (f : K → Outcome V) (progs : List (List K)) : Inv f progs (init progs : Conf K V) := by
  refine ⟨by simp [init], by simp [init], by simp [init], ?_⟩
  intro i th h
  simp only [init, List.getElem?_map, Option.map_eq_some_iff] at h
  obtain ⟨p, hp, rfl⟩ := h
  exact ⟨by simp [hp], by simp, by simp⟩

theorem mem_flatten_of_prog {progs : List (List K)} {i : Nat} {a : List K} {k : K} {rest : List K}
    (h : progs[i]? = some (a ++ k :: rest)) : k ∈ progs.flatten :=
  List.mem_flatten.mpr ⟨_, List.mem_of_getElem? h, List.mem_append_right a (List.mem_cons_self ..)⟩

theorem Inv.finished_thread {f : K → Outcome V} {progs : List (List K)} {c : Conf K V} (h : Inv f progs c)
    (hfin : c.finished = true) {i : Nat} {p : List K} (hp : progs[i]? = some p) :
    ∃ th, c.threads[i]? = some th ∧ th.served = p ∧ th.outs = p.map f := by
  have hlt : i < c.threads.length := by rw [h.len]; exact (List.getElem?_eq_some_iff.mp hp).1
  have hi : c.threads[i]? = some c.threads[i] := List.getElem?_eq_getElem hlt
  have t := h.thr i _ hi
  have hd : c.threads[i].done = true := List.all_eq_true.mp hfin _ (List.getElem_mem hlt)
  simp only [Thread.done, List.isEmpty_iff] at hd
  have hprog := t.prog
  rw [hd, List.append_nil, hp] at hprog
  have hs : c.threads[i].served = p := (Option.some.inj hprog).symm
  exact ⟨_, hi, hs, by rw [t.outs, hs]⟩

theorem Inv.finished_outs {f : K → Outcome V} {progs : List (List K)} {c : Conf K V} (h : Inv f progs c)
    (hfin : c.finished = true) : c.threads.map (·.outs) = progs.map (·.map f) := by
  apply List.ext_getElem?
  intro i
  cases hp : progs[i]? with
  | none =>
    have : c.threads.length ≤ i := by rw [h.len]; exact List.getElem?_eq_none_iff.mp hp
    simp only [List.getElem?_map, hp, List.getElem?_eq_none this, Option.map_none]
  | some p =>
    obtain ⟨th, hi, _, ho⟩ := h.finished_thread hfin hp
    simp only [List.getElem?_map, hi, hp, ho, Option.map_some]

/-- The thread after its call in progress (key `k`, `rest` the calls after it) has returned `o`. -/
def Thread.finish (th : Thread K V) (k : K) (rest : List K) (o : Outcome V) : Thread K V :=
  { pc := .idle, prog := rest, outs := th.outs ++ [o], served := th.served ++ [k] }

theorem threadInv_finish {f : K → Outcome V} {progs : List (List K)} {i : Nat} {th : Thread K V} (t : ThreadInv f progs i th)
    (k : K) (rest : List K) (hp : th.prog = k :: rest) (o : Outcome V) (ho : f k = o) :
    ThreadInv f progs i (th.finish k rest o) := by
  refine ⟨?_, ?_, by simp [Thread.finish]⟩
  · have := t.prog
    rw [hp] at this
    simpa [Thread.finish] using this
  · simp [Thread.finish, t.outs, ho]

theorem ThreadInv.pending {f : K → Outcome V} {progs : List (List K)} {i : Nat} {th : Thread K V} (t : ThreadInv f progs i th)
    {k : K} {rest : List K} (hp : th.prog = k :: rest) {v : V} (hpc : th.pc = .computed v) : f k = .ok v := by
  obtain ⟨k', rest', hp', hv⟩ := t.pend v hpc
  rw [hp] at hp'
  rw [(List.cons.inj hp').1]
  exact hv

variable [DecidableEq K]

/-! ### The dictionary -/

theorem Store.mem_put : ∀ (m : Store K V) (k : K) (v : V) (e : K × V), e ∈ m.put k v → e = (k, v) ∨ e ∈ m
  | [], k, v, e, h => by simp [Store.put] at h; exact .inl h
  | (k', v') :: r, k, v, e, h => by
    simp only [Store.put] at h
    split at h
    · rename_i hk
      rcases List.mem_cons.mp h with h | h
      · exact .inl (by rw [h, hk])
      · exact .inr (List.mem_cons_of_mem _ h)
    · rcases List.mem_cons.mp h with h | h
      · exact .inr (by rw [h]; exact List.mem_cons_self ..)
      · rcases Store.mem_put r k v e h with h | h
        · exact .inl h
        · exact .inr (List.mem_cons_of_mem _ h)

theorem Store.get_put_self : ∀ (m : Store K V) (k : K) (v : V), (m.put k v).get k = some v
  | [], k, v => by simp [Store.put, Store.get]
  | (k', v') :: r, k, v => by
    simp only [Store.put]
    split
    · rename_i hk; simp [Store.get, hk]
    · rename_i hk; simp [Store.get, hk, Store.get_put_self r k v]

theorem Store.get_put_other : ∀ (m : Store K V) (k k' : K) (v : V), k' ≠ k → (m.put k v).get k' = m.get k'
  | [], k, k', v, h => by
    have : ¬ k = k' := fun e => h e.symm
    simp [Store.put, Store.get, this]
  | (k0, v0) :: r, k, k', v, h => by
    simp only [Store.put]
    split
    · rename_i hk
      subst hk
      have : ¬ k0 = k' := fun e => h e.symm
      simp [Store.get, this]
    · simp only [Store.get]
      split
      · rfl
      · exact Store.get_put_other r k k' v h

theorem Store.get_some_mem : ∀ (m : Store K V) (k : K) (v : V), m.get k = some v → (k, v) ∈ m
  | [], _, _, h => by simp [Store.get] at h
  | (k', v') :: r, k, v, h => by
    simp only [Store.get] at h
    split at h
    · rename_i hk
      cases h
      rw [hk]; exact List.mem_cons_self ..
    · exact List.mem_cons_of_mem _ (Store.get_some_mem r k v h)

theorem Store.mem_get : ∀ (m : Store K V) (k : K) (v : V), (k, v) ∈ m → ∃ v', m.get k = some v'
  | [], _, _, h => by cases h
  | (k', v') :: r, k, v, h => by
    simp only [Store.get]
    split
    · exact ⟨v', rfl⟩
    · rename_i hk
      rcases List.mem_cons.mp h with h | h
      · cases h; exact absurd rfl hk
      · exact Store.mem_get r k v h

theorem Store.keys_put_nodup : ∀ (m : Store K V) (k : K) (v : V), m.keys.Nodup → (m.put k v).keys.Nodup
  | [], k, v, _ => by simp [Store.put, Store.keys]
  | (k', v') :: r, k, v, h => by
    simp only [Store.put]
    split
    · simpa [Store.keys] using h
    · rename_i hk
      simp only [Store.keys, List.map_cons, List.nodup_cons] at h ⊢
      refine ⟨?_, Store.keys_put_nodup r k v h.2⟩
      intro hm
      obtain ⟨e, he, hek⟩ := List.mem_map.mp hm
      rcases Store.mem_put r k v e he with h' | h'
      · rw [h'] at hek; exact hk hek.symm
      · exact h.1 (List.mem_map.mpr ⟨e, h', hek⟩)

/-- Without eviction: the value of every finished successful call is (still) stored, and the keys are pairwise different. -/
structure Complete (f : K → Outcome V) (c : Conf K V) : Prop where
  stored : ∀ (i : Nat) (th : Thread K V), c.threads[i]? = some th → ∀ k ∈ th.served, ∀ v, f k = .ok v → c.cache.get k = some v
  nodup : c.cache.keys.Nodup

theorem complete_init (f : K → Outcome V) (progs : List (List K)) : Complete f (init progs : Conf K V) := by
  refine ⟨?_, by simp [init, Store.keys]⟩
  intro i th h
  simp only [init, List.getElem?_map, Option.map_eq_some_iff] at h
  obtain ⟨p, _, rfl⟩ := h
  simp

/-! ### Preservation -/

/-- What one step of thread `i` (state `th`, call in progress for key `k`) makes of the thread and of the cache. -/
inductive Micro (comp : Comp K V) (trim : Store K V → Store K V) (c : Conf K V) (i : Nat) (th : Thread K V) (k : K)
    (rest : List K) : Thread K V → Store K V → Prop
  | hit {v : V} : th.pc = .idle → c.cache.get k = some v → Micro comp trim c i th k rest (th.finish k rest (.ok v)) c.cache
  | miss : th.pc = .idle → c.cache.get k = none → Micro comp trim c i th k rest { th with pc := .missed } c.cache
  | computed {v : V} : th.pc = .missed → comp i c.clock c.cache k = .ok v →
      Micro comp trim c i th k rest { th with pc := .computed v } c.cache
  | raised {e : String} : th.pc = .missed → comp i c.clock c.cache k = .raised e →
      Micro comp trim c i th k rest (th.finish k rest (.raised e)) c.cache
  | store {v : V} : th.pc = .computed v → Micro comp trim c i th k rest (th.finish k rest (.ok v)) (trim (c.cache.put k v))

/-- A step of `stepThread` is a micro step of the scheduled thread; the other threads stay. -/
theorem stepThread_eq_some {comp : Comp K V} {trim : Store K V → Store K V} {c c' : Conf K V} {i : Nat}
    (hs : stepThread comp trim c i = some c') :
    ∃ th k rest th' m' cs', c.threads[i]? = some th ∧ th.prog = k :: rest ∧ Micro comp trim c i th k rest th' m' ∧
      c' = { cache := m', threads := c.threads.set i th', clock := c.clock + 1, computes := cs' } := by
  unfold stepThread at hs
  cases hi : c.threads[i]? with
  | none => simp [hi] at hs
  | some th =>
    obtain ⟨pc, prog, outs, served⟩ := th
    simp only [hi] at hs
    cases prog with
    | nil => simp at hs
    | cons k rest =>
      refine ⟨⟨pc, k :: rest, outs, served⟩, k, rest, ?_⟩
      cases pc with
      | idle =>
        simp only at hs
        cases hg : c.cache.get k with
        | some v => simp only [hg, Option.some.injEq] at hs; exact ⟨_, _, _, rfl, rfl, .hit rfl hg, hs.symm⟩
        | none => simp only [hg, Option.some.injEq] at hs; exact ⟨_, _, _, rfl, rfl, .miss rfl hg, hs.symm⟩
      | missed =>
        simp only at hs
        cases hf : comp i c.clock c.cache k with
        | ok v => simp only [hf, Option.some.injEq] at hs; exact ⟨_, _, _, rfl, rfl, .computed rfl hf, hs.symm⟩
        | raised e => simp only [hf, Option.some.injEq] at hs; exact ⟨_, _, _, rfl, rfl, .raised rfl hf, hs.symm⟩
      | computed v => simp only [Option.some.injEq] at hs; exact ⟨_, _, _, rfl, rfl, .store rfl, hs.symm⟩

theorem inv_step {comp : Comp K V} {f : K → Outcome V} (hdet : Deterministic comp f)
    {trim : Store K V → Store K V} (htrim : ∀ m e, e ∈ trim m → e ∈ m)
    {progs : List (List K)} {c c' : Conf K V} (h : Inv f progs c) (i : Nat) (hs : stepThread comp trim c i = some c') :
    Inv f progs c' := by
  obtain ⟨th, k, rest, th', m', cs', hi, hp, hm, rfl⟩ := stepThread_eq_some hs
  have t := h.thr i th hi
  have hprog : progs[i]? = some (th.served ++ k :: rest) := hp ▸ t.prog
  have t' : ThreadInv f progs i th' := by
    cases hm with
    | hit _ hg => exact threadInv_finish t k rest hp _ (h.sound k _ (Store.get_some_mem _ _ _ hg))
    | miss _ _ => exact ⟨t.prog, t.outs, fun _ hv => by cases hv⟩
    | computed _ hf =>
      refine ⟨t.prog, t.outs, fun v' hv' => ⟨k, rest, hp, ?_⟩⟩
      rw [← hdet i c.clock c.cache k, hf, PC.computed.inj hv']
    | raised _ hf => exact threadInv_finish t k rest hp _ (by rw [← hdet i c.clock c.cache k, hf])
    | store hpc => exact threadInv_finish t k rest hp _ (t.pending hp hpc)
  have hcache : ∀ e, e ∈ m' → e ∈ c.cache ∨ (e.1 = k ∧ f k = .ok e.2) := by
    intro e he
    cases hm with
    | hit _ _ | miss _ _ | computed _ _ | raised _ _ => exact .inl he
    | store hpc =>
      rcases Store.mem_put _ _ _ _ (htrim _ _ he) with rfl | he
      · exact .inr ⟨rfl, t.pending hp hpc⟩
      · exact .inl he
  refine ⟨by simpa using h.len, ?_, ?_, ?_⟩
  · intro k0 v0 hm0
    rcases hcache _ hm0 with he | ⟨rfl, hv⟩
    · exact h.sound k0 v0 he
    · exact hv
  · intro k0 v0 hm0
    rcases hcache _ hm0 with he | ⟨rfl, _⟩
    · exact h.req k0 v0 he
    · exact mem_flatten_of_prog hprog
  · intro j thj hj
    rcases Sched.getElem?_set_cases _ _ _ _ _ hj with ⟨rfl, rfl⟩ | ⟨_, hj'⟩
    · exact t'
    · exact h.thr j thj hj'

theorem inv_run {comp : Comp K V} {f : K → Outcome V} (hdet : Deterministic comp f)
    {trim : Store K V → Store K V} (htrim : ∀ m e, e ∈ trim m → e ∈ m)
    {progs : List (List K)} (sched : List Nat) {c : Conf K V} (h : Inv f progs c) : Inv f progs (run comp trim c sched) :=
  Sched.inv_run (fun _ i _ h hs => inv_step hdet htrim h i hs) sched h

/-- Without eviction the stored values of finished calls stay. -/
theorem complete_step {comp : Comp K V} {f : K → Outcome V} (hdet : Deterministic comp f)
    {progs : List (List K)} {c c' : Conf K V} (h : Inv f progs c) (hc : Complete f c) (i : Nat)
    (hs : stepThread comp id c i = some c') : Complete f c' := by
  obtain ⟨th, k, rest, th', m', cs', hi, hp, hm, rfl⟩ := stepThread_eq_some hs
  have t := h.thr i th hi
  have keep : (∀ k0 v0, f k0 = .ok v0 → c.cache.get k0 = some v0 → m'.get k0 = some v0) ∧ m'.keys.Nodup := by
    cases hm with
    | hit _ _ | miss _ _ | computed _ _ | raised _ _ => exact ⟨fun _ _ _ hg => hg, hc.nodup⟩
    | store hpc =>
      refine ⟨fun k0 v0 hv0 hg => ?_, Store.keys_put_nodup _ _ _ hc.nodup⟩
      -- a stored value for a key can only be overwritten by the same value
      by_cases hk : k0 = k
      · subst hk
        rw [t.pending hp hpc] at hv0
        cases hv0
        exact Store.get_put_self _ _ _
      · exact (Store.get_put_other _ _ _ _ hk).trans hg
  have fin : th'.served = th.served ∨ (th'.served = th.served ++ [k] ∧ ∀ v0, f k = .ok v0 → m'.get k = some v0) := by
    cases hm with
    | miss _ _ | computed _ _ => exact .inl rfl
    | hit _ hg =>
      refine .inr ⟨rfl, fun v0 hv0 => ?_⟩
      rw [h.sound _ _ (Store.get_some_mem _ _ _ hg)] at hv0
      cases hv0
      exact hg
    | raised _ hf =>
      refine .inr ⟨rfl, fun v0 hv0 => ?_⟩
      rw [← hdet i c.clock c.cache k, hf] at hv0
      cases hv0
    | store hpc =>
      refine .inr ⟨rfl, fun v0 hv0 => ?_⟩
      rw [t.pending hp hpc] at hv0
      cases hv0
      exact Store.get_put_self _ _ _
  refine ⟨?_, keep.2⟩
  intro j thj hj k0 hk0 v0 hv0
  rcases Sched.getElem?_set_cases _ _ _ _ _ hj with ⟨rfl, rfl⟩ | ⟨_, hj'⟩
  · have old : k0 ∈ th.served → m'.get k0 = some v0 := fun hm0 => keep.1 k0 v0 hv0 (hc.stored j th hi k0 hm0 v0 hv0)
    rcases fin with e | ⟨e, hnew⟩
    · exact old (e ▸ hk0)
    · rcases List.mem_append.mp (e ▸ hk0) with hm0 | hm0
      · exact old hm0
      · obtain rfl := List.mem_singleton.mp hm0
        exact hnew v0 hv0
  · exact keep.1 k0 v0 hv0 (hc.stored j thj hj' k0 hk0 v0 hv0)

theorem complete_run {comp : Comp K V} {f : K → Outcome V} (hdet : Deterministic comp f)
    {progs : List (List K)} (sched : List Nat) {c : Conf K V} (h : Inv f progs c) (hc : Complete f c) :
    Complete f (run comp id c sched) :=
  (Sched.inv_run (P := fun c => Inv f progs c ∧ Complete f c)
    (fun _ i _ h hs => ⟨inv_step hdet (fun _ _ he => he) h.1 i hs, complete_step hdet h.1 h.2 i hs⟩) sched ⟨h, hc⟩).2

/-! ### Progress -/

theorem step_measure_lt {comp : Comp K V} {trim : Store K V → Store K V} {c c' : Conf K V} (i : Nat)
    (hs : stepThread comp trim c i = some c') : c'.measure < c.measure := by
  obtain ⟨th, k, rest, th', m', cs', hi, hp, hm, rfl⟩ := stepThread_eq_some hs
  refine Sched.sum_set_lt Thread.measure _ i th th' hi ?_
  cases hm <;> simp [Thread.measure, Thread.finish, *] <;> omega

/-- A thread with calls left is enabled (there is no lock to wait for). -/
theorem enabled_of_prog {comp : Comp K V} {trim : Store K V → Store K V} {c : Conf K V} {i : Nat} {th : Thread K V}
    (hi : c.threads[i]? = some th) (hp : th.prog ≠ []) : (stepThread comp trim c i).isSome = true := by
  unfold stepThread
  simp only [hi]
  cases hprog : th.prog with
  | nil => exact absurd hprog hp
  | cons k rest =>
    simp only
    cases th.pc with
    | idle => simp only; cases c.cache.get k <;> simp
    | missed => simp only; cases comp i c.clock c.cache k <;> simp
    | computed v => simp

end Einx.Cache.Conc
