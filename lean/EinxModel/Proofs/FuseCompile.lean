import EinxModel.Proofs.FuseEmit
import EinxModel.Proofs.FuseScope
import EinxModel.Proofs.FuseText
import EinxModel.Proofs.CompileClosed
/-!
C04, name re-use: the output of `compile` is `Emitted` (what `fuseAll_safe` and `fuseAll_text_safe` assume) and its name groups
are those of `fuseAll`; the groups are safe in text order, block by block.
-/
namespace Einx.Compile

theorem compile_grp {cfg : UCfg} {fc : FCfg} {g : Graph} {comp : Compiled} (h : compile cfg fc g = .ok comp) :
    comp.grp = fuseAll fc comp.st comp.nblocks :=
  let ⟨_, _, _, _, _, _, _, _, _, _, hgrp, _⟩ := compile_ok h
  hgrp

/-- The generator's side of the contract: single definitions (`emitAll_sd`), closedness (`emit_closed_of_noSelfRef`), block
numbers (`goodBlk_lt`); the statement that binds the compiled object keeps all four. -/
theorem compile_emitted (cfg : UCfg) (fc : FCfg) (g : Graph) (comp : Compiled) (hwf : g.WF = true)
    (h : compile cfg fc g = .ok comp) : Emitted comp.st comp.nblocks := by
  obtain ⟨scopes, order, st, obj, hs, ho, he, hc, -, hnb, -, hst⟩ := compile_ok h
  obtain ⟨fvs, ex, hsd⟩ := emitAll_sd _ order {} st [] [] (SD.init _) (visitOrder_matched g order ho)
    (visitOrder_nodup_of_wf g hwf order ho) (by simp) he
  obtain ⟨hns, hpend⟩ := visitOrder_noSelfRef_of_wf g hwf order ho
  obtain ⟨hcl0, hCL⟩ := emit_closed_of_noSelfRef _ order st he hns
  rw [hpend] at hCL
  have hblk : ∀ p ∈ st.body, p.1 < scopes.scopes.length := fun p hp =>
    goodBlk_lt { g := g, cfg := cfg, counts := (usageRec g cfg g.fuel g.top {}).counts, scopes := scopes } g g.fuel hs p.1
      (hsd.blk (p.1, p.2.stmt) (List.mem_map.2 ⟨p, hp, rfl⟩))
  rw [hnb]
  rcases hst with hst | hst
  · rw [hst]
    exact ⟨hsd.nd, hcl0, hblk, hsd.info⟩
  · have hp : comp.st.program = st.program ++ [.assign st.vars.length obj false] := by rw [hst, program_push]; rfl
    rw [hst] at hp ⊢
    refine ⟨?_, ?_, ?_, ?_⟩
    · rw [hp, outsOf_append, List.nodup_append]
      refine ⟨hsd.nd, by simp [outsOf, Stmt.outputVars], ?_⟩
      intro a ha b hb hab
      simp only [outsOf, List.flatMap_cons, List.flatMap_nil, Stmt.outputVars, List.append_nil, List.mem_singleton] at hb
      have := hsd.lt a ha
      omega
    · -- the compiled object only mentions variables that are bound: no graph is open at the end
      rw [hp]
      apply List.eq_nil_iff_forall_not_mem.2
      intro v hv
      rcases (mem_liveIn_append _ _ v).1 hv with h1 | ⟨h1, h2⟩
      · rw [hcl0] at h1
        cases h1
      · simp only [liveIn, Stmt.reads, List.filter_nil, List.append_nil] at h1
        exact h2 (hCL.src (G := g.top.grefsOf) (by simp) v (convTop_vars _ _ _ hc v h1))
    · intro p hp
      simp only [GState.push, List.map_cons, List.map_nil, List.mem_append, List.mem_singleton] at hp
      rcases hp with hp | rfl
      · exact hblk p hp
      · exact (getScopes_inv g g.fuel scopes hs).1
    · intro p hp
      rw [bodyS_push] at hp
      show InfoOK (st.vars ++ [{ block := 0, reuse := false }]) p
      rcases List.mem_append.1 hp with hp | hp
      · have hp' : p ∈ st.bodyS := hp
        exact (hsd.info p hp').append _ (fun o ho => hsd.lt o (mem_bodyS_outs hp' o ho))
      · cases List.mem_singleton.1 hp
        intro o ho
        cases List.mem_singleton.1 ho
        exact ⟨fun _ => blockOfV_last _ _, by simp [Stmt.isImport]⟩

theorem header_props (st : GState) (hinfo : ∀ p ∈ st.bodyS, InfoOK st.vars p) (b : Nat) :
    ∀ s ∈ (st.header b).map (·.stmt), s.reads = [] ∧ ∀ o ∈ s.outputVars, reuseV st.vars o = false := by
  intro s hs
  constructor
  · apply List.eq_nil_iff_forall_not_mem.2
    intro w hw
    have := Stmt.reads_sub_inputVars s w hw
    rw [header_noinputs st b s hs] at this
    simp at this
  · obtain ⟨x, hx, rfl⟩ := List.mem_map.1 hs
    rcases mem_header hx with ⟨c, rfl⟩ | ⟨p, hp, hi, rfl⟩
    · intro o ho
      cases ho
    · intro o ho
      exact (hinfo (p.1, p.2.stmt) (List.mem_map.2 ⟨p, hp, rfl⟩) o ho).2 hi

theorem fuseAll_text_safe (fc : FCfg) (hL : fc.checkLater = true) (hB : fc.checkBlock = true) (st : GState) (n : Nat)
    (hem : Emitted st n) (b : Nat) :
    fuseSafe (fun v => (fuseAll fc st n)[v]?.getD v) ((st.block b).map (·.stmt)) = true ∧
    entrySafe (fun v => (fuseAll fc st n)[v]?.getD v) ((st.block b).map (·.stmt)) = true := by
  rw [block_stmts]
  have hP := bodyS_program st
  exact text_safe st.bodyS (blockOfV st.vars) (reuseV st.vars) n (fuseAll fc st n) (fuseAll_finv fc hL hB st n hem)
    (by rw [hP]; exact hem.nd) (by rw [hP]; exact hem.closed) hem.info b _ (header_props st hem.info b)

end Einx.Compile
