import EinxModel.Proofs.NotationNFMoveUp
/-!
# M1 Notation — normal form, layer 3: the redundant-bracket pass; the three layers assembled

On a tree of the grammar `G false false` (no `Op`/`Args` below), `traverse inBr` returns a tree of the grammar `N inBr` with the
same `ndim`.  With the two layers before it: every tree that `parseOp` returns satisfies `NRoot` and passes the bracket check.
-/
namespace Einx.Notation

namespace NF

theorem notList_of_axisOrFlat {x : Expr} (h : isAxisOrFlat x = true) : x.isList = false := by
  cases x <;> first | rfl | (simp [isAxisOrFlat, Expr.isAxis, Expr.isFlat] at h)

theorem mem_flattenOne_N {inBr al : Bool} {y : Expr} (h : N inBr al y = true) : ∀ z ∈ flattenOne y, N inBr false z = true := by
  by_cases hl : y.isList = false
  · rw [flattenOne_notList hl]
    exact fun z hz => List.mem_singleton.mp hz ▸ N_notList h hl
  · induction h using N.rules with
    | list _ hcs => rw [flattenOne, flattenAll_notList fun z hz => N_false_notList (hcs z hz)]; exact hcs
    | _ => exact (hl rfl).elim

theorem mem_flattenAll_N {inBr : Bool} {ys : List Expr} (h : ∀ y ∈ ys, N inBr true y = true) :
    ∀ z ∈ flattenAll ys, N inBr false z = true := fun z hz =>
  let ⟨y, hy, hzy⟩ := mem_flattenAll.mp hz
  mem_flattenOne_N (h y hy) z hzy

theorem N_mkList {inBr : Bool} {ys : List Expr} (b e : Int) (h : ∀ y ∈ ys, N inBr true y = true) :
    N inBr true (mkList ys b e) = true := by
  have hm := mem_flattenAll_N h
  refine mkList_elim (motive := fun r => N inBr true r = true) (fun c hc => ?_) fun hne => ?_
  · have := hm c (hc ▸ List.mem_singleton_self c)
    exact N_notList this (N_false_notList this)
  · simp only [N, Bool.true_and, Bool.and_eq_true, bne_iff_ne, ne_eq]
    exact ⟨hne, NL_iff.mpr hm⟩

theorem notBrackets_of_N {al : Bool} {x : Expr} (h : N true al x = true) : x.isBrackets = false := by
  cases x <;> first | rfl | simp [N] at h

theorem N_mkFlat {inBr : Bool} {a : Expr} (b e : Int) (h : N inBr true a = true) : N inBr true (mkFlat a b e) = true :=
  mkFlat_elim (motive := fun r => N inBr true r = true) (fun _ => h) fun hf => by simp only [N, hf, h]; rfl

theorem traverse_N {al : Bool} (x : Expr) (inBr : Bool) (h : G false false al x = true) :
    N inBr true (traverse inBr x) = true ∧ (traverse inBr x).ndim = x.ndim ∧
      (isAxisOrFlat x = true → isAxisOrFlat (traverse inBr x) = true) := by
  induction h using G.rules generalizing inBr with
  | axis hax =>
    simp only [traverse]
    exact ⟨by simpa only [N] using hax, trivial, fun hx => hx⟩
  | @flat _ i b e _ ih =>
    simp only [traverse]
    exact ⟨N_mkFlat b e (ih inBr).1, by rw [ndim_of_isFlat (mkFlat_isFlat ..)]; rfl, fun _ => isAxisOrFlat_mkFlat ..⟩
  | @brackets _ i b e hn _ ih =>
    have ih := ih true
    simp only [traverse]
    cases inBr with
    | true =>
      simp only [if_true]
      exact ⟨ih.1, by rw [ih.2.1]; simp [Expr.ndim], fun hx => (by cases hx)⟩
    | false =>
      simp only [Bool.false_eq_true, if_false]
      have hnb := notBrackets_of_N ih.1
      have hnd : ((traverse true i).ndim != some 0) = true := by rw [ih.2.1]; exact hn
      rw [mkBrackets_nf b e hnb hnd]
      refine ⟨?_, by simp only [Expr.ndim, ih.2.1], fun hx => (by cases hx)⟩
      simp only [N, Bool.not_false, Bool.true_and, Bool.and_eq_true, Bool.not_eq_true']
      exact ⟨⟨hnb, hnd⟩, ih.1⟩
  | @dots _ bi ei d b e =>
    simp only [traverse]
    rw [mkEllipsis_nf (i := .axis anonName none bi ei) b e d rfl]
    exact ⟨by simp only [N, isAnonAxisNone_anon, Bool.true_or], rfl, fun hx => (by cases hx)⟩
  | @ellipsis _ i d b e hn _ _ ih =>
    have ih := ih inBr
    simp only [traverse]
    have hnd : ((traverse inBr i).ndim != some 0) = true := by rw [ih.2.1]; exact hn
    rw [mkEllipsis_nf b e d hnd]
    refine ⟨?_, by simp only [Expr.ndim, ih.2.1], fun hx => (by cases hx)⟩
    simp only [N, Bool.or_eq_true, Bool.and_eq_true]
    exact Or.inr ⟨hnd, ih.1⟩
  | @concat _ cs b e h2 hax _ _ ih =>
    simp only [traverse, traverseL_eq_map]
    have h2' : 2 ≤ (cs.map (traverse inBr)).length := by rw [List.length_map]; exact h2
    have hax' : (cs.map (traverse inBr)).all isAxisOrFlat = true := by
      rw [List.all_map, List.all_eq_true]
      exact fun c hc => (ih c hc inBr).2.2 (List.all_eq_true.mp hax c hc)
    rw [mkConcat_two b e h2']
    refine ⟨?_, by simp [Expr.ndim], fun hx => (by cases hx)⟩
    simp only [N, Bool.and_eq_true, decide_eq_true_eq]
    refine ⟨⟨h2', hax'⟩, NL_iff.mpr fun y hy => ?_⟩
    obtain ⟨c, hc, rfl⟩ := List.mem_map.mp hy
    exact N_notList (ih c hc inBr).1 (notList_of_axisOrFlat (List.all_eq_true.mp hax' _ hy))
  | @list cs b e _ _ ih =>
    simp only [traverse, traverseL_eq_map]
    refine ⟨N_mkList b e fun y hy => ?_, ?_, fun hx => (by cases hx)⟩
    · obtain ⟨c, hc, rfl⟩ := List.mem_map.mp hy
      exact (ih c hc inBr).1
    · rw [mkList_ndim, ndimSum_map_congr fun c hc => (ih c hc inBr).2.1]
      simp only [Expr.ndim]
  | args haa => cases haa
  | op hao => cases hao

theorem side_NArgs {item axf : Bool} {o : Expr} (h : UpOK .args (ao := false) (aa := true) item axf o) :
    NArgs (traverse false o) = true := by
  obtain ⟨alts, b, e, rfl, hne, ha⟩ := h
  simp only [Lift.wrap, traverse, traverseL_eq_map, NArgs, Bool.and_eq_true, Bool.not_eq_true', List.isEmpty_eq_false_iff,
    List.all_eq_true, ne_eq, List.map_eq_nil_iff]
  refine ⟨hne, fun y hy => ?_⟩
  obtain ⟨a, haa, rfl⟩ := List.mem_map.mp hy
  exact (traverse_N a false (ha a haa).gram).1

theorem finish_NRoot (arrows : List Int) (x : Expr) (h : G true true true x = true) :
    OkP (fun t => NRoot t = true ∧ conflictNames (occs [] false t) = []) (finish arrows x) := by
  unfold finish
  refine (moveUp_G .op arrows true true x h).elim (fun _ _ => trivial) fun _ _ ⟨alts, b, e, hy, hne, ha⟩ => ?_
  subst hy
  simp only [Lift.wrap]
  have hups := moveUpL_ups (item := false) (fun h => by cases h) fun a haa => moveUp_G .args arrows false true a (ha a haa).gram
  refine hups.elim (fun _ _ => trivial) fun cs2 _ ⟨hl2, h2⟩ => ?_
  simp only [traverse, traverseL_eq_map, Expr.children, List.length_map]
  split
  · trivial
  · rename_i hlen
    match hcb : checkBrackets (.op (cs2.map (traverse false)) b e) with
    | .error _ => trivial
    | .ok t =>
      obtain ⟨rfl, hconf⟩ := checkBrackets_eq_ok_iff.mp hcb
      refine ⟨?_, hconf⟩
      have hpos : 1 ≤ alts.length := List.length_pos_iff.mpr hne
      simp only [NRoot, List.length_map, Bool.and_eq_true, Bool.or_eq_true, beq_iff_eq, List.all_eq_true]
      refine ⟨by omega, fun y hy => ?_⟩
      obtain ⟨o, ho, rfl⟩ := List.mem_map.mp hy
      exact side_NArgs (h2 o ho)

/-- **The normal form of `parse_op`'s output**: every returned tree is `NRoot` and has no axis name both inside and outside
    brackets. -/
theorem parseOp_NRoot (text : Str) (t : Expr) (h : parseOp text = .ok t) :
    NRoot t = true ∧ conflictNames (occs [] false t) = [] := by
  obtain ⟨_, tree, x, _, _, hp, hf⟩ := parseOp_ok_inv h
  exact (finish_NRoot _ x ((parse_G tree 0 (lastEnd tree 0) false).ok hp)).ok hf

end NF

/-! ### The root is `Op[Args]` or `Op[Args, Args]`

`_parse_op` reads `op.children[0].children` and `op.children[1].children` without a check; `parse_args` asserts
`isinstance(op.children[0], Args)`.  Both are safe: `root_of_NRoot` reads the two shapes off the Boolean `NRoot`. -/

theorem eq_args_of_NArgs {a : Expr} (h : NArgs a = true) : ∃ cs b e, a = .args cs b e := by
  cases a with
  | args cs b e => exact ⟨cs, b, e, rfl⟩
  | _ => cases h

theorem root_of_NRoot {x : Expr} (h : NRoot x = true) :
    (∃ ins b1 e1 b e, x = .op [.args ins b1 e1] b e) ∨
    (∃ ins b1 e1 outs b2 e2 b e, x = .op [.args ins b1 e1, .args outs b2 e2] b e) := by
  cases x with
  | op cs b e =>
    simp only [NRoot, Bool.and_eq_true, Bool.or_eq_true, beq_iff_eq, List.all_eq_true] at h
    obtain ⟨h1 | h2, ha⟩ := h
    · obtain ⟨a1, rfl⟩ := List.length_eq_one_iff.mp h1
      obtain ⟨ins, b1, e1, rfl⟩ := eq_args_of_NArgs (ha a1 List.mem_cons_self)
      exact Or.inl ⟨ins, b1, e1, b, e, rfl⟩
    · match cs, h2, ha with
      | [a1, a2], _, ha =>
        obtain ⟨ins, b1, e1, rfl⟩ := eq_args_of_NArgs (ha a1 List.mem_cons_self)
        obtain ⟨outs, b2, e2, rfl⟩ := eq_args_of_NArgs (ha a2 (List.mem_cons_of_mem _ List.mem_cons_self))
        exact Or.inr ⟨ins, b1, e1, outs, b2, e2, b, e, rfl⟩
  | axis | flat | brackets | ellipsis | concat | list | args => cases h

theorem parseOp_root (text : Str) (x : Expr) (h : parseOp text = .ok x) :
    (∃ ins b1 e1 b e, x = .op [.args ins b1 e1] b e) ∨
    (∃ ins b1 e1 outs b2 e2 b e, x = .op [.args ins b1 e1, .args outs b2 e2] b e) :=
  root_of_NRoot (NF.parseOp_NRoot text x h).1

end Einx.Notation
