import EinxModel.Proofs.NotationEqns
import EinxModel.Proofs.Forall2
import Std.Data.String.ToNat
/-!
# M1 Notation — similarity "up to positions and fresh ids" (the relations of the space-invariance proof)

`parse_op` draws `uuid4()` for every numeric axis (`unnamed.<uuid>`) and every ellipsis; the model uses the begin position
of the token that causes the draw.  Two parses of texts that differ by a redundant space therefore differ in every position
and in those names/ids.  `ESim φ x y`: `y` is `x` with arbitrary positions, every fresh name `unnamed.p` renamed to
`unnamed.(φ p)` and every ellipsis id `d` replaced by `φ d`.  With `φ` injective this is "equal up to positions and a
renumbering of the fresh ids".

Lists are related pointwise (`Forall2 R` of Proofs/Forall2.lean) and results by `ExceptR ErrSim R`: both values in `R` or both
errors raised at the same site.  The relations that the statements name (`ESimL`, `TSimL`; `RSim`, `TreeRel`) are these two, by
`esimL_iff`, `tsimL_iff`, `rsim_iff`, `treeRel_iff`; proofs cross over and use the rules of `Forall2` and of `ExceptR`.
-/
namespace Einx.Notation

/-- `n'` is `n` with a fresh name `unnamed.p` renumbered to `unnamed.(φ p)`; other names are unchanged. -/
def NameRel (φ : Nat → Nat) (n n' : Str) : Prop :=
  (n = n' ∧ ∀ p, n ≠ unnamedName p) ∨ ∃ p, n = unnamedName p ∧ n' = unnamedName (φ p)

theorem natStr_inj {a b : Nat} (h : natStr a = natStr b) : a = b := by
  unfold natStr at h
  exact Nat.repr_injective (String.toList_inj.mp h)

theorem unnamedName_inj {a b : Nat} (h : unnamedName a = unnamedName b) : a = b := by
  unfold unnamedName at h
  exact natStr_inj (List.append_cancel_left h)

theorem NameRel.eq_iff {φ : Nat → Nat} (hφ : Function.Injective φ) {a b a' b' : Str}
    (h : NameRel φ a b) (h' : NameRel φ a' b') : a = a' ↔ b = b' := by
  rcases h with ⟨rfl, hn⟩ | ⟨p, rfl, rfl⟩ <;> rcases h' with ⟨rfl, hn'⟩ | ⟨p', rfl, rfl⟩
  · exact Iff.rfl
  · exact ⟨fun h => absurd h (hn p'), fun h => absurd h (hn (φ p'))⟩
  · exact ⟨fun h => absurd h.symm (hn' p), fun h => absurd h.symm (hn' (φ p))⟩
  · constructor
    · intro h; rw [unnamedName_inj h]
    · intro h; rw [hφ (unnamedName_inj h)]

theorem unnamedName_mem_dot (p : Nat) : '.' ∈ unnamedName p := by
  simp [unnamedName, lit]

theorem isAxisName_not_dot {s : Str} (h : isAxisName s = true) : '.' ∉ s := by
  cases s with
  | nil => simp [isAxisName] at h
  | cons c cs =>
    simp only [isAxisName, Bool.and_eq_true, List.all_eq_true] at h
    intro hm
    rcases List.mem_cons.mp hm with hm | hm
    · subst hm
      have := h.1
      revert this; decide
    · have := h.2 _ hm; revert this; decide

theorem isAxisName_ne_unnamed {s : Str} (h : isAxisName s = true) (p : Nat) : s ≠ unnamedName p :=
  fun hp => isAxisName_not_dot h (hp ▸ unnamedName_mem_dot p)

theorem NameRel.of_axisName (φ : Nat → Nat) {s : Str} (h : isAxisName s = true) : NameRel φ s s :=
  Or.inl ⟨rfl, isAxisName_ne_unnamed h⟩

theorem NameRel.anon (φ : Nat → Nat) : NameRel φ anonName anonName :=
  Or.inl ⟨rfl, anonName_ne_unnamed⟩

theorem NameRel.unnamed (φ : Nat → Nat) (p : Nat) : NameRel φ (unnamedName p) (unnamedName (φ p)) :=
  Or.inr ⟨p, rfl, rfl⟩

mutual
inductive ESim (φ : Nat → Nat) : Expr → Expr → Prop
  | axis {n n' : Str} {v : Option Nat} {b e b' e' : Int} : NameRel φ n n' → (v = none → n = n') →
      ESim φ (.axis n v b e) (.axis n' v b' e')
  | flat {i i' : Expr} {b e b' e' : Int} : ESim φ i i' → ESim φ (.flat i b e) (.flat i' b' e')
  | brackets {i i' : Expr} {b e b' e' : Int} : ESim φ i i' → ESim φ (.brackets i b e) (.brackets i' b' e')
  | ellipsis {i i' : Expr} {d : Nat} {b e b' e' : Int} : ESim φ i i' → ESim φ (.ellipsis i d b e) (.ellipsis i' (φ d) b' e')
  | concat {cs cs' : List Expr} {b e b' e' : Int} : ESimL φ cs cs' → ESim φ (.concat cs b e) (.concat cs' b' e')
  | list {cs cs' : List Expr} {b e b' e' : Int} : ESimL φ cs cs' → ESim φ (.list cs b e) (.list cs' b' e')
  | args {cs cs' : List Expr} {b e b' e' : Int} : ESimL φ cs cs' → ESim φ (.args cs b e) (.args cs' b' e')
  | op {cs cs' : List Expr} {b e b' e' : Int} : ESimL φ cs cs' → ESim φ (.op cs b e) (.op cs' b' e')
inductive ESimL (φ : Nat → Nat) : List Expr → List Expr → Prop
  | nil : ESimL φ [] []
  | cons {a a' : Expr} {as as' : List Expr} : ESim φ a a' → ESimL φ as as' → ESimL φ (a :: as) (a' :: as')
end

/-- The recursor of `ESim` and `ESimL`; structural recursion over the two mutually inductive relations is dear to compile. -/
theorem ESim.induct {φ : Nat → Nat} {P : Expr → Expr → Prop} {Q : List Expr → List Expr → Prop}
    (axis : ∀ {n n' : Str} {v : Option Nat} {b e b' e' : Int}, NameRel φ n n' → (v = none → n = n') →
      P (.axis n v b e) (.axis n' v b' e'))
    (flat : ∀ {i i' : Expr} {b e b' e' : Int}, ESim φ i i' → P i i' → P (.flat i b e) (.flat i' b' e'))
    (brackets : ∀ {i i' : Expr} {b e b' e' : Int}, ESim φ i i' → P i i' → P (.brackets i b e) (.brackets i' b' e'))
    (ellipsis : ∀ {i i' : Expr} {d : Nat} {b e b' e' : Int}, ESim φ i i' → P i i' →
      P (.ellipsis i d b e) (.ellipsis i' (φ d) b' e'))
    (concat : ∀ {cs cs' : List Expr} {b e b' e' : Int}, ESimL φ cs cs' → Q cs cs' → P (.concat cs b e) (.concat cs' b' e'))
    (list : ∀ {cs cs' : List Expr} {b e b' e' : Int}, ESimL φ cs cs' → Q cs cs' → P (.list cs b e) (.list cs' b' e'))
    (args : ∀ {cs cs' : List Expr} {b e b' e' : Int}, ESimL φ cs cs' → Q cs cs' → P (.args cs b e) (.args cs' b' e'))
    (op : ∀ {cs cs' : List Expr} {b e b' e' : Int}, ESimL φ cs cs' → Q cs cs' → P (.op cs b e) (.op cs' b' e'))
    (nil : Q [] [])
    (cons : ∀ {a a' : Expr} {as as' : List Expr}, ESim φ a a' → ESimL φ as as' → P a a' → Q as as' →
      Q (a :: as) (a' :: as')) :
    (∀ {x y : Expr}, ESim φ x y → P x y) ∧ (∀ {cs cs' : List Expr}, ESimL φ cs cs' → Q cs cs') :=
  ⟨fun h => ESim.rec (motive_1 := fun x y _ => P x y) (motive_2 := fun cs cs' _ => Q cs cs')
      axis flat brackets ellipsis concat list args op nil cons h,
    fun h => ESimL.rec (motive_1 := fun x y _ => P x y) (motive_2 := fun cs cs' _ => Q cs cs')
      axis flat brackets ellipsis concat list args op nil cons h⟩

theorem esimL_iff {φ : Nat → Nat} {cs cs' : List Expr} : ESimL φ cs cs' ↔ Forall2 (ESim φ) cs cs' := by
  constructor
  · exact (ESim.induct (φ := φ) (P := fun _ _ => True) (Q := Forall2 (ESim φ)) (fun _ _ => trivial) (fun _ _ => trivial)
      (fun _ _ => trivial) (fun _ _ => trivial) (fun _ _ => trivial) (fun _ _ => trivial) (fun _ _ => trivial)
      (fun _ _ => trivial) .nil (fun h1 _ _ ih => .cons h1 ih)).2
  · intro h
    induction h with
    | nil => exact .nil
    | cons h1 _ ih => exact .cons h1 ih

theorem ESim.induct1 {φ : Nat → Nat} {P : Expr → Expr → Prop}
    (axis : ∀ {n n' : Str} {v : Option Nat} {b e b' e' : Int}, NameRel φ n n' → (v = none → n = n') →
      P (.axis n v b e) (.axis n' v b' e'))
    (flat : ∀ {i i' : Expr} {b e b' e' : Int}, ESim φ i i' → P i i' → P (.flat i b e) (.flat i' b' e'))
    (brackets : ∀ {i i' : Expr} {b e b' e' : Int}, ESim φ i i' → P i i' → P (.brackets i b e) (.brackets i' b' e'))
    (ellipsis : ∀ {i i' : Expr} {d : Nat} {b e b' e' : Int}, ESim φ i i' → P i i' →
      P (.ellipsis i d b e) (.ellipsis i' (φ d) b' e'))
    (concat : ∀ {cs cs' : List Expr} {b e b' e' : Int}, Forall2 (fun c c' => ESim φ c c' ∧ P c c') cs cs' →
      P (.concat cs b e) (.concat cs' b' e'))
    (list : ∀ {cs cs' : List Expr} {b e b' e' : Int}, Forall2 (fun c c' => ESim φ c c' ∧ P c c') cs cs' →
      P (.list cs b e) (.list cs' b' e'))
    (args : ∀ {cs cs' : List Expr} {b e b' e' : Int}, Forall2 (fun c c' => ESim φ c c' ∧ P c c') cs cs' →
      P (.args cs b e) (.args cs' b' e'))
    (op : ∀ {cs cs' : List Expr} {b e b' e' : Int}, Forall2 (fun c c' => ESim φ c c' ∧ P c c') cs cs' →
      P (.op cs b e) (.op cs' b' e')) {x y : Expr} (h : ESim φ x y) : P x y :=
  (ESim.induct (φ := φ) (P := P) (Q := Forall2 (fun c c' => ESim φ c c' ∧ P c c')) axis flat brackets ellipsis
    (fun _ ih => concat ih) (fun _ ih => list ih) (fun _ ih => args ih) (fun _ ih => op ih) .nil
    (fun h1 _ ih1 ih2 => .cons ⟨h1, ih1⟩ ih2)).1 h

/-- Same raise site (for `SyntaxError`s: same message kind; caret positions may differ). -/
def ErrSim : Err → Err → Prop
  | .syntax k _ _, .syntax k' _ _ => k = k'
  | .internal k, .internal k' => k = k'
  | _, _ => False

/-- Results equal up to positions and fresh ids: both trees (`ESim`) or both errors of the same kind. -/
def RSim (φ : Nat → Nat) : Res Expr → Res Expr → Prop
  | .ok x, .ok y => ESim φ x y
  | .error a, .error b => ErrSim a b
  | _, _ => False

theorem rsim_iff {φ : Nat → Nat} {r r' : Res Expr} : RSim φ r r' ↔ ExceptR ErrSim (ESim φ) r r' := by
  cases r <;> cases r' <;> exact Iff.rfl

theorem ErrSim.refl (a : Err) : ErrSim a a := by cases a <;> simp [ErrSim]

mutual
/-- Same texts; atoms' begin positions (the source of fresh ids) are related by `φ`. -/
inductive TSim (φ : Nat → Nat) : Tok → Tok → Prop
  | atom {t t' : Token} : t'.text = t.text → t'.b = φ t.b → TSim φ (.atom t) (.atom t')
  | group {o c o' c' : Token} {inner inner' : List Tok} : o'.text = o.text → TSimL φ inner inner' →
      TSim φ (.group o c inner) (.group o' c' inner')
inductive TSimL (φ : Nat → Nat) : List Tok → List Tok → Prop
  | nil : TSimL φ [] []
  | cons {t t' : Tok} {ts ts' : List Tok} : TSim φ t t' → TSimL φ ts ts' → TSimL φ (t :: ts) (t' :: ts')
end

section
variable {φ : Nat → Nat}

theorem tsimL_iff {ts ts' : List Tok} : TSimL φ ts ts' ↔ Forall2 (TSim φ) ts ts' := by
  constructor
  · intro h
    exact TSimL.rec (motive_1 := fun _ _ _ => True) (motive_2 := fun ts ts' _ => Forall2 (TSim φ) ts ts')
      (fun _ _ => trivial) (fun _ _ _ => trivial) .nil (fun h1 _ _ ih => .cons h1 ih) h
  · intro h
    induction h with
    | nil => exact .nil
    | cons h1 _ ih => exact .cons h1 ih

theorem TSimL.append : ∀ {as as' bs bs' : List Tok}, TSimL φ as as' → TSimL φ bs bs' → TSimL φ (as ++ bs) (as' ++ bs') :=
  fun ha hb => tsimL_iff.mpr ((tsimL_iff.mp ha).append (tsimL_iff.mp hb))

end

mutual
/-- `ts'` is `ts` (up to `TSim`) with ONE additional space atom that stands directly after or directly before an
    atom `->`, `,`, `+` of this list, or (recursively, `Ins`) inside one group of this list. -/
inductive InsT (φ : Nat → Nat) : List Tok → List Tok → Prop
  | afterOp {a a' sp : Tok} {R R' : List Tok} : TSim φ a a' → a.isOp3 = true → sp.isSpace = true → TSimL φ R R' →
      InsT φ (a :: R) (a' :: sp :: R')
  | beforeOp {a a' sp : Tok} {R R' : List Tok} : sp.isSpace = true → TSim φ a a' → a.isOp3 = true → TSimL φ R R' →
      InsT φ (a :: R) (sp :: a' :: R')
  | inside {o c o' c' : Token} {inner inner' R R' : List Tok} : o'.text = o.text → Ins φ inner inner' → TSimL φ R R' →
      InsT φ (.group o c inner :: R) (.group o' c' inner' :: R')
  | cons {t t' : Tok} {R R' : List Tok} : TSim φ t t' → InsT φ R R' → InsT φ (t :: R) (t' :: R')
/-- `InsT`, or the additional space atom is the first or the last element of the list (string start/end, directly
    after an opening or before a closing delimiter, first/last token of an operand). -/
inductive Ins (φ : Nat → Nat) : List Tok → List Tok → Prop
  | lead {sp : Tok} {R R' : List Tok} : sp.isSpace = true → TSimL φ R R' → Ins φ R (sp :: R')
  | trail {sp : Tok} {L L' ts' : List Tok} : sp.isSpace = true → TSimL φ L L' → ts' = L' ++ [sp] → Ins φ L ts'
  | tight {ts ts' : List Tok} : InsT φ ts ts' → Ins φ ts ts'
end

/- The relations between two token lists of which the second has the one additional space, each contained in the next:
   `InsT` ⊆ `Mk` = lead ∨ `InsT` (NotationTree: a level of the stack to which tokens are still appended) ⊆ `Ins` = lead ∨ trail ∨ `InsT`.
   With `TSimL` (no space at this level) as a further alternative, for the operands of `parse` (NotationParseSim):
   `OpRelT` = `TSimL` ∨ `InsT` ⊆ `HeadRel` = `TSimL` ∨ `InsT` ∨ trail (an operand to which tokens are still prepended)
   ⊆ `OpRel` = `TSimL` ∨ `Ins`, which is also what `TreeRel` says of two token trees. -/

/-- The recursor of `InsT`, not descending into the derivation of `Ins` in the case `inside`; structural recursion over the
    two mutually inductive relations is dear to compile. -/
theorem InsT.induct {φ : Nat → Nat} {P : ∀ X X', InsT φ X X' → Prop}
    (afterOp : ∀ {a a' sp : Tok} {R R' : List Tok} (ha : TSim φ a a') (hop : a.isOp3 = true) (hsp : sp.isSpace = true)
      (hR : TSimL φ R R'), P _ _ (.afterOp ha hop hsp hR))
    (beforeOp : ∀ {a a' sp : Tok} {R R' : List Tok} (hsp : sp.isSpace = true) (ha : TSim φ a a') (hop : a.isOp3 = true)
      (hR : TSimL φ R R'), P _ _ (.beforeOp hsp ha hop hR))
    (inside : ∀ {o c o' c' : Token} {inner inner' R R' : List Tok} (ho : o'.text = o.text) (hin : Ins φ inner inner')
      (hR : TSimL φ R R'), P _ _ (.inside (c := c) (c' := c') ho hin hR))
    (cons : ∀ {t t' : Tok} {R R' : List Tok} (ht : TSim φ t t') (hR : InsT φ R R'), P _ _ hR → P _ _ (.cons ht hR)) :
    ∀ {X X' : List Tok} (h : InsT φ X X'), P X X' h :=
  fun h => InsT.rec (motive_1 := P) (motive_2 := fun _ _ _ => True) afterOp beforeOp
    (fun ho hin hR _ => inside ho hin hR) cons (fun _ _ => trivial) (fun _ _ _ => trivial) (fun _ _ => trivial) h

/-- Relation between the two token trees of a text without / with one redundant space. -/
def TreeRel (φ : Nat → Nat) : Res (List Tok) → Res (List Tok) → Prop
  | .ok T, .ok T' => TSimL φ T T' ∨ Ins φ T T'
  | .error a, .error b => ErrSim a b
  | _, _ => False

theorem treeRel_iff {φ : Nat → Nat} {r r' : Res (List Tok)} :
    TreeRel φ r r' ↔ ExceptR ErrSim (fun T T' => TSimL φ T T' ∨ Ins φ T T') r r' := by
  cases r <;> cases r' <;> exact Iff.rfl

/-! ### Token lists (interface between the lexer layer and the tree layer) -/

def TokRel (φ : Nat → Nat) (t t' : Token) : Prop := t'.text = t.text ∧ t'.b = φ t.b

/-- Texts directly after which a space is redundant (besides a space): opening delimiters and `,`, `+`, `->`. -/
def afterOps : List Str := [lit "(", lit "[", lit ",", lit "+", lit "->"]
/-- Texts directly before which a space is redundant (besides a space): closing delimiters and `,`, `+`, `->`. -/
def beforeOps : List Str := [lit ")", lit "]", lit ",", lit "+", lit "->"]

/-- Where the additional space token stands between the token lists `A` (before it) and `B` (after it):
    directly after a space token, or next to no space and at the begin/end or next to a delimiter/operator as above. -/
def SlotCond (A B : List Token) : Prop :=
  (∃ a, A.getLast? = some a ∧ a.text = spaceLit) ∨
  ((∀ a, A.getLast? = some a → a.text ≠ spaceLit) ∧ (∀ b, B.head? = some b → b.text ≠ spaceLit) ∧
    (A = [] ∨ B = [] ∨ (∃ a, A.getLast? = some a ∧ a.text ∈ afterOps) ∨ (∃ b, B.head? = some b ∧ b.text ∈ beforeOps)))

/-! ### Redundant spaces in a string -/

/-- Literals directly after which a space is redundant. -/
def afterLits : List Str := spaceLit :: afterOps
/-- Literals directly before which a space is redundant. -/
def beforeLits : List Str := spaceLit :: beforeOps

/-- A space between `xs` and `ys` (text `xs ++ ' ' :: ys`) is *redundant*: at the beginning or end of the text, adjacent
    to another space, directly after `(` `[` or directly before `)` `]`, or adjacent to `,`, `+`, `->`.
    (Not: a space before `...` or before an opening / after a closing delimiter — those separate tokens.) -/
def RedundantAt (xs ys : Str) : Bool :=
  xs.isEmpty || ys.isEmpty || afterLits.any (fun l => l.isSuffixOf xs) || beforeLits.any (fun l => l.isPrefixOf ys)

end Einx.Notation
