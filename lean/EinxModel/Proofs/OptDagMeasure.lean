import EinxModel.Proofs.OptDagMeasureA
/-!
**The measure decreases**: a pass of the traversal over a single-output store never increases the unfolded size of the graph
output, a pass that reports `changed` strictly decreases it (`pass_m`), and the new store is single-output again.
Invariant (`MInv`): every memo entry `old ↦ new` satisfies "unfolded size of `new` over the new nodes ≤ unfolded size of `old`
over the old store", and every new node has one output; the step property carries the strictness: the size of the result plus
1-if-`changed`-was-set-during-the-step is at most the size of the argument.
-/
namespace Einx.OptDag

/-- 1 iff `changed` went from `false` to `true`. -/
def chgB (b b' : Bool) : Nat := if !b && b' then 1 else 0

theorem chgB_tri (a b c : Bool) : chgB a c ≤ chgB a b + chgB b c := by
  cases a <;> cases b <;> cases c <;> simp [chgB]

theorem chgB_self (a : Bool) : chgB a a = 0 := by cases a <;> rfl

theorem chgB_le_one (a b : Bool) : chgB a b ≤ 1 := by cases a <;> cases b <;> simp [chgB]

def singleNode (n : Node) : Bool :=
  match n.origin with
  | .none => true
  | .app a => a.out == [.ref 0]
  | .proj _ _ => false

structure MInv (tblO : List Nat) (st : St) : Prop where
  memo : ∀ o v, st.memoT.lookup o = some v → toksSize (sizes st.nodes) v ≤ tokSize tblO (.ref o)
  single : ∀ n ∈ st.nodes, singleNode n = true

theorem szN_ext {st st' : St} (hE : Ext st st') (v : List Tok) (hv : toksLt st.nodes.length v = true) :
    toksSize (sizes st'.nodes) v = toksSize (sizes st.nodes) v := by
  obtain ⟨e, he⟩ := hE
  obtain ⟨e', h1, _⟩ := sizes_append st.nodes e
  rw [he, h1]
  exact toksSize_ext _ _ v (by rw [sizes_length]; exact hv)

theorem MInv.extend {tblO : List Nat} {st st' : St} (hM : MInv tblO st) (hI : SInv st) (ext : List Node) (entries : List (Nat × List Tok))
    (hn : st'.nodes = st.nodes ++ ext) (hm : st'.memoT = entries ++ st.memoT) (hs : ∀ n ∈ ext, singleNode n = true)
    (hl : ∀ o v, entries.lookup o = some v → toksSize (sizes st'.nodes) v ≤ tokSize tblO (.ref o)) : MInv tblO st' where
  memo := by
    intro o v hv
    rw [hm, List.lookup_append, Option.or_eq_some_iff] at hv
    rcases hv with hv | ⟨_, hv⟩
    · exact hl o v hv
    · rw [szN_ext ⟨ext, hn⟩ v (hI.memo o v hv)]
      exact hM.memo o v hv
  single := by
    intro n hmem
    rw [hn] at hmem
    exact (List.mem_append.1 hmem).elim (hM.single n) (hs n)

theorem MInv.push {tblO : List Nat} {st : St} (hM : MInv tblO st) (hI : SInv st) (n : Node) (hn : singleNode n = true) :
    MInv tblO (st.pushNode n) :=
  hM.extend hI [n] [] rfl rfl (fun _ hm => List.mem_singleton.1 hm ▸ hn) (fun _ _ h => nomatch h)

theorem MInv.setMemo {tblO : List Nat} {st : St} (hM : MInv tblO st) (hI : SInv st) (o : Nat) (w : List Tok)
    (hw : toksSize (sizes st.nodes) w ≤ tokSize tblO (.ref o)) (c : Bool) :
    MInv tblO { st with memoT := (o, w) :: st.memoT, changed := c } :=
  hM.extend hI [] [(o, w)] (List.append_nil _).symm rfl (fun _ h => nomatch h) (by
    intro o' v hv
    obtain ⟨rfl, rfl⟩ := lookup_single hv
    exact hw)

theorem size_appended (nodes : List Node) (n : Node) : tokSize (sizes (nodes ++ [n])) (.ref nodes.length) = nodeSize (sizes nodes) n := by
  rw [sizes_snoc, tokSize, ← sizes_length nodes, List.getElem?_concat_length]
  rfl

def GM (tblO : List Nat) (g : Tok → St → R (List Tok × St)) : Prop :=
  ∀ ⦃t : Tok⦄ ⦃st : St⦄ ⦃v : List Tok⦄ ⦃st' : St⦄ ⦃n : Nat⦄, g t st = .ok (v, st') → toksLt n [t] = true → SInv st → MInv tblO st →
    MInv tblO st' ∧ toksSize (sizes st'.nodes) v + chgB st.changed st'.changed ≤ tokSize tblO t

def VM (tblO : List Nat) (h : List Tok → St → R (List Tok × St)) : Prop :=
  ∀ ⦃toks : List Tok⦄ ⦃st : St⦄ ⦃v : List Tok⦄ ⦃st' : St⦄ ⦃n : Nat⦄, h toks st = .ok (v, st') → toksLt n toks = true → SInv st → MInv tblO st →
    MInv tblO st' ∧ toksSize (sizes st'.nodes) v + chgB st.changed st'.changed ≤ toksSize tblO toks

/-- Steps that do not increase the size, one after the other: the sizes add up, and the sum is strictly smaller if one of the
steps sets `changed`. -/
theorem Thread.m {α : Type} {P : α → St → List Tok → St → Prop} {pre : α → Prop} {μ : α → Nat} {tblO : List Nat}
    (hok : ∀ x st y st', P x st y st' → pre x → SInv st → Res st st' ∧ toksLt st'.nodes.length y = true)
    (hm : ∀ x st y st', P x st y st' → pre x → SInv st → MInv tblO st →
      MInv tblO st' ∧ toksSize (sizes st'.nodes) y + chgB st.changed st'.changed ≤ μ x)
    {xs : List α} {st : St} {ys : List (List Tok)} {st' : St} (h : Thread P xs st ys st') :
    (∀ x ∈ xs, pre x) → SInv st → MInv tblO st →
      MInv tblO st' ∧ opsSize (sizes st'.nodes) ys + chgB st.changed st'.changed ≤ (xs.map μ).sum := by
  induction h with
  | nil st => exact fun _ _ hM => ⟨hM, by simp [opsSize, chgB_self]⟩
  | cons hp ht ih =>
    rename_i x xs st y st1 ys st2
    intro hpre hI hM
    have hpre' : ∀ x ∈ xs, pre x := fun x hx => hpre x (List.mem_cons_of_mem _ hx)
    obtain ⟨r1, l1⟩ := hok _ _ _ _ hp (hpre _ List.mem_cons_self) hI
    obtain ⟨M1, s1⟩ := hm _ _ _ _ hp (hpre _ List.mem_cons_self) hI hM
    obtain ⟨r2, _⟩ := ht.ok hok hpre' r1.inv
    obtain ⟨M2, s2⟩ := ih hpre' r1.inv M1
    refine ⟨M2, ?_⟩
    rw [opsSize_cons, szN_ext r2.ext y l1, List.map_cons, List.sum_cons]
    have := chgB_tri st.changed st1.changed st2.changed
    omega

theorem mapToks_m (tblO : List Nat) (g : Tok → St → R (List Tok × St)) (hg : GOK g) (hm : GM tblO g) : VM tblO (mapToks g) := by
  intro toks st v st' n h hlt hI hM
  obtain ⟨vs, ht, rfl⟩ := mapToks_thread h
  have := ht.m (pre := fun t => toksLt n [t] = true) (μ := tokSize tblO) (fun _ _ _ _ hp => hg hp)
    (fun _ _ _ _ hp => hm hp) (toksLt_mem hlt) hI hM
  rwa [← toksSize_flatten] at this

theorem rebuild_m (S : Store) (tblO : List Nat) (h : List Tok → St → R (List Tok × St)) (hh : VOK h) (hm : VM tblO h) (a : App) (base : Nat)
    (st st' : St) (n : Nat) (ha : a.operandsLt n = true) (hout : a.out = [.ref 0]) (hsz : a.size tblO ≤ tokSize tblO (.ref base))
    (hr : rebuild S h a base st = .ok st') (hI : SInv st) (hM : MInv tblO st) :
    MInv tblO st' ∧ ∃ nb, st'.memoT.lookup base = some [.ref nb] ∧
      tokSize (sizes st'.nodes) (.ref nb) + chgB st.changed st'.changed ≤ tokSize tblO (.ref base) := by
  obtain ⟨pre, st1, args, st2, kwargs, st3, deps, st4, ty, tys, h1, h2, h3, h4, _, hlen, hn, hmemo, _, hch⟩ := (rebuild_spec _ _ _ _ _).ok hr
  have hpre : ∀ v ∈ a.operands, toksLt n v = true := fun v hv => operand_lt ha v hv
  have ht := operands_thread h1 h2 h3 h4
  obtain ⟨r, _⟩ := ht.ok (pre := fun v => toksLt n v = true) (fun _ _ _ _ hp => hh hp) hpre hI
  obtain ⟨M4, s4⟩ := ht.m (pre := fun v => toksLt n v = true) (μ := toksSize tblO) (fun _ _ _ _ hp => hh hp)
    (fun _ _ _ _ hp => hm hp) hpre hI hM
  -- one output: no projection nodes, one memo entry
  rw [nOut_single hout] at hlen hmemo
  cases tys with
  | cons _ _ => simp at hlen
  | nil =>
    have hfin : tokSize (sizes st'.nodes) (.ref st4.nodes.length) + chgB st.changed st'.changed ≤ tokSize tblO (.ref base) := by
      rw [hn, projNodes, size_appended, hch]
      simp only [nodeSize, App.size, opsSize] at hsz s4 ⊢
      omega
    simp only [List.range_one, List.map_cons, List.map_nil, Nat.add_zero] at hmemo
    refine ⟨M4.extend r.inv _ _ hn hmemo ?_ ?_, st4.nodes.length, by rw [hmemo]; simp, hfin⟩
    · intro nd hnd
      rw [projNodes, List.mem_singleton] at hnd
      rw [hnd, singleNode, App.withOperands, hout]
      rfl
    intro o v hv
    obtain ⟨rfl, rfl⟩ := lookup_single hv
    rw [toksSize_single]
    omega

theorem single_app (S : Store) (hS : S.single = true) (i : Nat) (ty : Ty) (a : App) (hn : S.nodes[i]? = some ⟨ty, .app a⟩) : a.out = [.ref 0] := by
  simp only [Store.single, List.all_eq_true] at hS
  have := hS _ (List.mem_of_getElem? hn)
  simpa using this

theorem single_proj (S : Store) (hS : S.single = true) (i : Nat) (ty : Ty) (s k : Nat) (hn : S.nodes[i]? = some ⟨ty, .proj s k⟩) : False := by
  simp only [Store.single, List.all_eq_true] at hS
  have := hS _ (List.mem_of_getElem? hn)
  simp at this

theorem single_appOf (S : Store) (hS : S.single = true) {i : Nat} {a : App} {base k : Nat} (h : S.appOf i = some (a, base, k)) :
    ∃ ty, S.nodes[i]? = some ⟨ty, .app a⟩ ∧ base = i ∧ a.out = [.ref 0] := by
  rcases appOf_cases h with ⟨ty, hn, rfl, _⟩ | ⟨ty, _, hn, _⟩
  · exact ⟨ty, hn, rfl, single_app S hS _ ty a hn⟩
  · exact (single_proj S hS i ty base k hn).elim

/-- **The traversal never increases the unfolded size**, and decreases it strictly when it sets `changed`. -/
theorem optTok_m (pats : List Pattern) (S : Store) (hT : S.topo = true) (hS : S.single = true) : ∀ fuel, GM (sizes S.nodes) (optTok pats S fuel)
  | 0 => fun _ _ _ _ _ h => nomatch h
  | fuel + 1 => by
    have ihG := optTok_ok pats S hT fuel
    have ihV := mapToks_ok _ ihG
    have ihM := mapToks_m (sizes S.nodes) _ ihG (optTok_m pats S hT hS fuel)
    intro t st v st' n h hlt hI hM
    cases t with
    | gref k => simp [toksLt] at hlt
    | atom a | open_ c m =>
      obtain ⟨rfl, rfl⟩ := optTok_lit h (fun _ => nofun) (fun _ => nofun)
      exact ⟨hM, by simp [toksSize, tokSize, chgB_self]⟩
    | ref i =>
      refine (optTok_ref_spec (motive := fun v st' => MInv (sizes S.nodes) st' ∧
        toksSize (sizes st'.nodes) v + chgB st.changed st'.changed ≤ tokSize (sizes S.nodes) (.ref i)) ?hit ?fwd ?merge ?input ?app).ok h
      case hit =>
        intro w hw
        have := hM.memo i _ hw
        exact ⟨hM, by rw [chgB_self]; omega⟩
      case fwd =>
        intro v1 new st1 _ hm h1
        have hlt1 : toksLt i v1 = true := firstMatch_lt hT hm
        have hsm : toksSize (sizes S.nodes) v1 + 1 ≤ tokSize (sizes S.nodes) (.ref i) := firstMatch_small hT hm
        obtain ⟨r1, _⟩ := ihV h1 hlt1 hI
        obtain ⟨M1, s1⟩ := ihM h1 hlt1 hI hM
        have := chgB_le_one st.changed true
        exact ⟨M1.setMemo r1.inv i new (by omega) true, by simp only; omega⟩
      case merge =>
        intro fn x lit fn' st1 x' st2 _ hm h1 h2 hfree
        obtain ⟨a1, a2⟩ := firstMatch_lt hT hm
        have hsm : toksSize (sizes S.nodes) fn + toksSize (sizes S.nodes) x + 2 ≤ tokSize (sizes S.nodes) (.ref i) :=
          firstMatch_small hT hm
        obtain ⟨r1, l1⟩ := ihV h1 a1 hI
        obtain ⟨M1, s1⟩ := ihM h1 a1 hI hM
        obtain ⟨r2, l2⟩ := ihV h2 a2 r1.inv
        obtain ⟨M2, s2⟩ := ihM h2 a2 r1.inv M1
        have hnew : nodeSize (sizes st2.nodes) ⟨.value, .app (mergedApp fn' x' lit)⟩
            = 1 + (toksSize (sizes st1.nodes) fn' + toksSize (sizes st2.nodes) x') := by
          simp only [nodeSize, App.size, mergedApp, App.operands, List.map_nil, List.append_nil, List.cons_append, List.nil_append,
            opsSize_cons, toksSize_refFree _ lit hfree, szN_ext r2.ext fn' l1]
          simp [opsSize]
        have hle : toksSize (sizes (st2.pushNode ⟨.value, .app (mergedApp fn' x' lit)⟩).nodes) [.ref st2.nodes.length] + 1
            ≤ tokSize (sizes S.nodes) (.ref i) := by
          rw [toksSize_single, St.pushNode, size_appended, hnew]
          have := chgB_tri st.changed st1.changed st2.changed
          omega
        have hnode := nodeOK_merged (toksLt_mono r2.ext.le _ l1) l2 hfree
        have := chgB_le_one st.changed true
        exact ⟨(M2.push r2.inv _ rfl).setMemo (r2.inv.push _ hnode) i _ (by omega) true, by simp only; omega⟩
      case input =>
        intro ty _ hn
        refine ⟨hM.push hI _ rfl, ?_⟩
        rw [toksSize_single, St.pushNode, size_appended, size_node hT hn]
        simp [nodeSize, chgB_self]
      case app =>
        intro a base k st1 w _ ha h1 hw
        obtain ⟨ty, hn, rfl, hout⟩ := single_appOf S hS ha
        have hsz : a.size (sizes S.nodes) ≤ tokSize (sizes S.nodes) (.ref base) := by
          rw [size_node hT hn]; exact Nat.le_refl _
        obtain ⟨M1, nb, hlk, hs⟩ := rebuild_m S (sizes S.nodes) _ ihV ihM a base st st1 base (topo_app hT hn) hout hsz h1 hI hM
        rw [hlk] at hw
        cases hw
        exact ⟨M1, by rw [toksSize_single]; exact hs⟩

theorem newInputs_m (S : Store) (hT : S.topo = true) (is : List Nat) (st : St) (js : List Nat) (st1 : St)
    (h : Thread (InputStep S) is st js st1) : SInv st → MInv (sizes S.nodes) st → MInv (sizes S.nodes) st1 := by
  induction h with
  | nil st => exact fun _ hM => hM
  | @cons i is st j st' js st2 hp _ ih =>
    obtain ⟨nd, hn, rfl, rfl⟩ := hp
    intro hI hM
    have hI0 := hI.push ⟨nd.ty, .none⟩ rfl
    refine ih (hI0.setMemo i [Tok.ref st.nodes.length] (toksLt_pushed _ _) st.changed)
      ((hM.push hI _ rfl).setMemo hI0 i [Tok.ref st.nodes.length] ?_ st.changed)
    rw [toksSize_single, St.pushNode, size_appended, size_node hT hn]
    obtain ⟨ty, o⟩ := nd
    cases o <;> simp [nodeSize, App.size] <;> omega

theorem measureOK_iff {p : Prog} : p.measureOK = true ↔ p.topoOK = true ∧ p.store.single = true := by
  rw [Prog.measureOK, Bool.and_eq_true]

/-- **A pass never increases the weight, a pass that reports `changed` strictly decreases it**, and the new store is
single-output again. -/
theorem pass_m (pats : List Pattern) (fuel : Nat) (p p' : Prog) (ch : Bool) (ht : p.measureOK = true)
    (hni : noTopInline pats p = true) (hp : pass pats fuel p = .ok (p', ch)) :
    p'.weight + (if ch then 1 else 0) ≤ p.weight ∧ p'.store.single = true := by
  obtain ⟨ht, hS⟩ := measureOK_iff.1 ht
  obtain ⟨hT, k, g, htop, hg, ht⟩ := topoOK_cases ht
  obtain ⟨fuel', ins, sta, out, stb, rfl, h3, h4, rfl, rfl⟩ := (pass_spec pats fuel p k g htop hg).ok hp hni
  obtain ⟨a1, _, _, a4, _, _⟩ := newInputs_ok p.store g.inputs {} ins sta ((newInputs_spec _ _ _).ok h3) SInv.empty
  have hMa := newInputs_m p.store hT g.inputs {} ins sta ((newInputs_spec _ _ _).ok h3) SInv.empty ⟨fun _ _ h => (nomatch h), fun _ h => (nomatch h)⟩
  obtain ⟨M, s⟩ := mapToks_m (sizes p.store.nodes) _ (optTok_ok pats p.store hT fuel') (optTok_m pats p.store hT hS fuel')
    h4 ht a1 hMa
  have hch : sta.changed = false := a4
  refine ⟨?_, List.all_eq_true.2 M.single⟩
  simp only [Prog.weight, htop, hg, List.getElem?_concat_length]
  rw [hch] at s
  cases hc : stb.changed <;> simpa [hc, chgB] using s

theorem noInlineRun_succ {pats : List Pattern} {n : Nat} {p : Prog} : noInlineRun pats (n + 1) p = true ↔
    noTopInline pats p = true ∧ ∀ p', pass pats p.fuel p = .ok (p', true) → noInlineRun pats n p' = true := by
  rw [noInlineRun, Bool.and_eq_true]
  exact and_congr_right fun _ => afterChange_iff

end Einx.OptDag
