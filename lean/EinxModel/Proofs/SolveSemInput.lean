import EinxModel.Proofs.SolveSem
/-!
The value system of a whole input, read semantically: `σ` solves `valueSystem inp ρ` iff it is a semantic solution
`SemSat inp ρ σ` on the axis variables and holds the value of every node.  The direction from a semantic solution builds the
node values and needs the name hygiene `namesOK`.
-/
namespace Einx.Solve

/-- The value system of `inp` for counts `ρ`, said without node variables. -/
structure SemSat (inp : Input) (ρ τ : Var → Nat) : Prop where
  axesPos : ∀ t ∈ inp.tensors, ∀ a ∈ axesOf ρ [] t.expr, 1 ≤ τ a.2.2
  nodesPos : ∀ t ∈ inp.tensors, ∀ v ∈ nodeValues ρ τ [] t.expr, 1 ≤ v
  roots : ∀ t ∈ inp.tensors, ∀ dims, t.shape = some dims → evalItems ρ τ [] t.expr = dims
  constraints : ∀ c ∈ inp.constraints, ∀ t ∈ inp.tensors, ∀ a ∈ axesOf ρ [] t.expr, a.1 = c.name →
      constraintValue c a.2.1 = some (τ a.2.2)

/-- The fields of `SemSat` as a conjunction, for `simp` to open the structure with; nothing more is in it. -/
theorem semSat_iff (inp : Input) (ρ τ : Var → Nat) : SemSat inp ρ τ ↔
    (∀ t ∈ inp.tensors, ∀ a ∈ axesOf ρ [] t.expr, 1 ≤ τ a.2.2) ∧
    (∀ t ∈ inp.tensors, ∀ v ∈ nodeValues ρ τ [] t.expr, 1 ≤ v) ∧
    (∀ t ∈ inp.tensors, ∀ dims, t.shape = some dims → evalItems ρ τ [] t.expr = dims) ∧
    (∀ c ∈ inp.constraints, ∀ t ∈ inp.tensors, ∀ a ∈ axesOf ρ [] t.expr, a.1 = c.name →
      constraintValue c a.2.1 = some (τ a.2.2)) :=
  ⟨fun h => ⟨h.1, h.2, h.3, h.4⟩, fun ⟨a, b, c, d⟩ => ⟨a, b, c, d⟩⟩

theorem semSat_congr {inp : Input} {ρ σ τ : Var → Nat}
    (h : ∀ t ∈ inp.tensors, ∀ a ∈ axesOf ρ [] t.expr, σ a.2.2 = τ a.2.2) : SemSat inp ρ σ ↔ SemSat inp ρ τ := by
  simp only [semSat_iff]
  exact and_congr (forall₂_congr fun t ht => forall₂_congr fun a ha => by rw [h t ht a ha])
    (and_congr (forall₂_congr fun t ht => by rw [nodeValues_congr ρ σ τ t.expr [] (h t ht)])
    (and_congr (forall₂_congr fun t ht => by rw [evalItems_congr ρ σ τ t.expr [] (h t ht)])
    (forall₂_congr fun c _ => forall₂_congr fun t ht => forall₂_congr fun a ha => by rw [h t ht a ha])))

/-- The tensor shapes, semantically. -/
def semShapes (inp : Input) (ρ τ : Var → Nat) : List (List Nat) :=
  inp.tensors.map (fun t => evalItems ρ τ [] t.expr)

theorem semShapes_map (inp : Input) (T : Expr → Expr) (cs : List Constraint) (ρ ρ' σ σ' : Var → Nat)
    (h : ∀ t ∈ inp.tensors, evalItems ρ' σ' [] (T t.expr) = evalItems ρ σ [] t.expr) :
    semShapes ⟨inp.tensors.map (fun t => ⟨T t.expr, t.shape⟩), cs⟩ ρ' σ' = semShapes inp ρ σ := by
  unfold semShapes
  rw [List.map_map]
  exact List.map_congr_left h

theorem toFun_tabulate (ρ : Var → Nat) (ids : List Var) (id : Var) (h : id ∈ ids) :
    toFun (tabulate ids ρ) id = ρ id := by
  induction ids with
  | nil => cases h
  | cons i ids ih =>
    simp only [toFun, tabulate, List.map_cons, List.lookup_cons]
    by_cases hi : id = i
    · simp [hi]
    · rw [beq_false_of_ne hi]; exact ih ((List.mem_cons.mp h).resolve_left hi)

theorem gens_congr (inp : Input) (ρ ρ' : Var → Nat) (h : ∀ id ∈ inp.ellIds, ρ id = ρ' id) :
    gens inp ρ = gens inp ρ' := by
  unfold gens
  apply List.map_congr_left
  intro p hp
  have ht : p.1 ∈ inp.tensors := (List.of_mem_zip hp).1
  rw [expand_congr ρ ρ' p.1.expr _ [] (fun id hid => h id (List.mem_flatMap.mpr ⟨p.1, ht, hid⟩))]

theorem gens_tabulate (inp : Input) (ρ : Var → Nat) :
    gens inp (toFun (tabulate inp.ellIds ρ)) = gens inp ρ :=
  gens_congr inp _ _ (fun id hid => toFun_tabulate ρ inp.ellIds id hid)

theorem mem_gens {inp : Input} {ρ : Var → Nat} {p : Tensor × Gen} (h : p ∈ gens inp ρ) :
    p.1 ∈ inp.tensors ∧ ∃ i : Nat, (p.1, i) ∈ inp.tensors.zip (List.range inp.tensors.length) ∧
      p.2 = expand ρ ("#" ++ toString i) [] p.1.expr := by
  unfold gens at h
  obtain ⟨q, hq, rfl⟩ := List.mem_map.mp h
  exact ⟨(List.of_mem_zip hq).1, q.2, hq, rfl⟩

theorem gens_fst (inp : Input) (ρ : Var → Nat) : (gens inp ρ).map (·.1) = inp.tensors := by
  unfold gens
  rw [List.map_map]
  exact List.map_fst_zip (by simp)

theorem inputAxes_eq (inp : Input) (ρ : Var → Nat) :
    inp.axes ρ = inp.tensors.flatMap (fun t => axesOf ρ [] t.expr) := by
  unfold Input.axes
  rw [← gens_fst inp ρ, List.flatMap_map]
  exact flatMap_congr fun p hp => by obtain ⟨_, i, _, hg⟩ := mem_gens hp; rw [hg, expand_axes]

theorem mem_inputAxes {inp : Input} {ρ : Var → Nat} {a : String × List Nat × Var} :
    a ∈ inp.axes ρ ↔ ∃ t ∈ inp.tensors, a ∈ axesOf ρ [] t.expr := by
  rw [inputAxes_eq, List.mem_flatMap]

theorem holds_varConst (σ : Var → Nat) (x : Var) (v : Nat) : holds σ (varConst x v) ↔ σ x = v := by
  simp [holds, varConst, evalPoly, evalMono, prodVars]

theorem not_holds_contra (σ : Var → Nat) : ¬ holds σ contraEqn := by
  simp [holds, contraEqn, evalPoly, evalMono, prodVars]

theorem zipRoot_holds (σ : Var → Nat) : ∀ (items : List Term) (dims : List Nat), items.length = dims.length →
    ((∀ q ∈ (items.zip dims).map (fun p => (⟨[termMono p.1], [⟨p.2, []⟩]⟩ : Eqn)), holds σ q) ↔
      items.map (tval σ) = dims) :=
  forall_zip_iff_map_eq fun t d => by
    simp only [holds, evalPoly_single, evalMono_termMono]
    simp [evalMono, prodVars]

theorem rootEqns_holds (σ : Var → Nat) (t : Tensor) (g : Gen) :
    (∀ q ∈ rootEqns t g, holds σ q) ↔ ∀ dims, t.shape = some dims → g.items.map (tval σ) = dims := by
  unfold rootEqns
  cases hs : t.shape with
  | none => simp
  | some dims =>
    simp only [Option.some.injEq, forall_eq']
    by_cases hl : dims.length = g.items.length
    · simp only [hl, ↓reduceIte]
      exact zipRoot_holds σ g.items dims hl.symm
    · simp only [hl, ↓reduceIte, List.forall_mem_cons, List.not_mem_nil, false_imp_iff, implies_true, and_true]
      constructor
      · intro h; exact absurd h (not_holds_contra σ)
      · intro h; exfalso; apply hl; rw [← h]; simp

theorem constraintValueEqns_holds (σ : Var → Nat) (axes : List (String × List Nat × Var)) (c : Constraint) :
    (∀ q ∈ constraintValueEqns axes c, holds σ q) ↔
      ∀ a ∈ axes, a.1 = c.name → constraintValue c a.2.1 = some (σ a.2.2) := by
  unfold constraintValueEqns
  simp only [List.forall_mem_map, List.mem_filter, beq_iff_eq, and_imp]
  constructor
  · intro h a ha hn
    have := h a ha hn
    cases hv : constraintValue c a.2.1 with
    | none => rw [hv] at this; exact absurd this (not_holds_contra σ)
    | some v => rw [hv] at this; rw [(holds_varConst σ _ v).mp this]
  · intro h a ha hn
    rw [h a ha hn]
    exact (holds_varConst σ _ _).mpr rfl

theorem sat_valueSystem_iff (inp : Input) (ρ σ : Var → Nat) :
    Sat (valueSystem inp ρ) σ ↔
      (∀ p ∈ gens inp ρ, (∀ x ∈ p.2.vars, 1 ≤ σ x) ∧ (∀ q ∈ p.2.eqns, holds σ q) ∧
          (∀ dims, p.1.shape = some dims → p.2.items.map (tval σ) = dims)) ∧
      (∀ c ∈ inp.constraints, ∀ a ∈ inp.axes ρ, a.1 = c.name → constraintValue c a.2.1 = some (σ a.2.2)) := by
  unfold valueSystem valueSystemA Sat
  simp only [gens_tabulate]
  simp only [List.forall_mem_map, List.forall_mem_flatMap, List.forall_mem_append]
  constructor
  · rintro ⟨hb, ⟨he, hr⟩, hc⟩
    refine ⟨fun p hp => ⟨hb p hp, he p hp, (rootEqns_holds σ p.1 p.2).mp (hr p hp)⟩, ?_⟩
    intro c hc'
    exact (constraintValueEqns_holds σ _ c).mp (hc c hc')
  · rintro ⟨hg, hc⟩
    refine ⟨fun p hp => (hg p hp).1, ⟨fun p hp => (hg p hp).2.1, fun p hp => (rootEqns_holds σ p.1 p.2).mpr (hg p hp).2.2⟩, ?_⟩
    intro c hc'
    exact (constraintValueEqns_holds σ _ c).mpr (hc c hc')

theorem expand_sat_iff (ρ τ σ : Var → Nat) (e : Expr) (path : String) (idx : List Nat) (P : List Nat → Prop)
    (hA : ∀ a ∈ axesOf ρ idx e, σ a.2.2 = τ a.2.2) :
    ((∀ x ∈ (expand ρ path idx e).vars, 1 ≤ σ x) ∧ (∀ q ∈ (expand ρ path idx e).eqns, holds σ q) ∧
      P ((expand ρ path idx e).items.map (tval σ))) ↔
    ((∀ a ∈ axesOf ρ idx e, 1 ≤ τ a.2.2) ∧ (∀ v ∈ nodeValues ρ τ idx e, 1 ≤ v) ∧ P (evalItems ρ τ idx e)) ∧
      ∀ p ∈ nodeVals ρ τ path idx e, σ p.1 = p.2 := by
  rw [expand_eqns_iff ρ τ σ e path idx hA, ← and_assoc, and_right_comm]
  refine and_congr_left fun hT => ?_
  rw [expand_items ρ τ σ e path idx hT hA, ← and_assoc]
  refine and_congr_left fun _ => ?_
  -- a variable of `expand` is an axis variable or a node key; the node keys/values are the two halves of `nodeVals`
  simp only [expand_vars, ← nodeVals_keys ρ τ e path idx, ← nodeVals_values ρ τ e path idx, List.mem_map,
    or_imp, forall_and, forall_exists_index, and_imp, forall_apply_eq_imp_iff₂]
  exact and_congr (forall₂_congr fun a ha => by rw [hA a ha]) (forall₂_congr fun p hp => by rw [hT p hp])

/-- node variable ↦ value, for all tensors -/
def Input.nodeTable (inp : Input) (ρ τ : Var → Nat) : List (Var × Nat) :=
  (inp.tensors.zip (List.range inp.tensors.length)).flatMap
    (fun p => nodeVals ρ τ ("#" ++ toString p.2) [] p.1.expr)

theorem nodeTable_keys (inp : Input) (ρ τ : Var → Nat) :
    (inp.nodeTable ρ τ).map (·.1) = inp.nodeKeys ρ := by
  unfold Input.nodeTable Input.nodeKeys
  rw [List.map_flatMap]
  apply flatMap_congr
  intro p _
  exact nodeVals_keys ρ τ p.1.expr _ []

theorem sat_valueSystem_sem (inp : Input) (ρ τ σ : Var → Nat) (hA : ∀ a ∈ inp.axes ρ, σ a.2.2 = τ a.2.2) :
    Sat (valueSystem inp ρ) σ ↔ SemSat inp ρ τ ∧ ∀ p ∈ inp.nodeTable ρ τ, σ p.1 = p.2 := by
  rw [sat_valueSystem_iff, gens, List.forall_mem_map]
  -- tensor by tensor `expand_sat_iff`, the property of the root dimensions being "they are the given shape"
  refine (and_congr_left fun _ => forall₂_congr fun p hp =>
    expand_sat_iff ρ τ σ p.1.expr ("#" ++ toString p.2) [] (fun l => ∀ dims, p.1.shape = some dims → l = dims)
      fun a ha => hA a (mem_inputAxes.mpr ⟨p.1, (List.of_mem_zip hp).1, ha⟩)).trans ?_
  -- the same conjuncts, grouped by numbered tensor on the left and by field of `SemSat` on the right
  constructor
  · rintro ⟨hg, hc⟩
    have hs := (forall_zip_range inp.tensors fun t => (∀ a ∈ axesOf ρ [] t.expr, 1 ≤ τ a.2.2) ∧
      (∀ v ∈ nodeValues ρ τ [] t.expr, 1 ≤ v) ∧ ∀ dims, t.shape = some dims → evalItems ρ τ [] t.expr = dims).mp
      fun p hp => (hg p hp).1
    exact ⟨⟨fun t ht => (hs t ht).1, fun t ht => (hs t ht).2.1, fun t ht => (hs t ht).2.2, fun c hc' t ht a ha hn =>
      have hm := mem_inputAxes.mpr ⟨t, ht, ha⟩; hA a hm ▸ hc c hc' a hm hn⟩,
      fun q hq => let ⟨p, hp, hq⟩ := List.mem_flatMap.mp hq; (hg p hp).2 q hq⟩
  · rintro ⟨hs, hT⟩
    exact ⟨fun p hp => have ht := (List.of_mem_zip hp).1
      ⟨⟨hs.axesPos p.1 ht, hs.nodesPos p.1 ht, hs.roots p.1 ht⟩, fun q hq => hT q (List.mem_flatMap.mpr ⟨p, hp, hq⟩)⟩,
      fun c hc a ha hn => let ⟨t, ht, ha'⟩ := mem_inputAxes.mp ha; (hA a ha).symm ▸ hs.constraints c hc t ht a ha' hn⟩

theorem shapes_of_table (inp : Input) (ρ τ σ : Var → Nat) (hA : ∀ a ∈ inp.axes ρ, σ a.2.2 = τ a.2.2)
    (hT : ∀ p ∈ inp.nodeTable ρ τ, σ p.1 = p.2) : shapesOf inp ρ σ = semShapes inp ρ τ := by
  unfold shapesOf semShapes
  rw [← gens_fst inp ρ, List.map_map]
  refine List.map_congr_left fun p hp => ?_
  obtain ⟨ht, i, hi, hg⟩ := mem_gens hp
  rw [hg]
  exact expand_items ρ τ σ _ _ [] (fun q hq => hT q (List.mem_flatMap.mpr ⟨(p.1, i), hi, hq⟩))
    (fun a ha => hA a (mem_inputAxes.mpr ⟨p.1, ht, ha⟩))

/-- **Soundness of the semantic reading**: every solution of the value system is a semantic
solution (no hypothesis on names). -/
theorem sat_sem (inp : Input) (ρ σ : Var → Nat) (h : Sat (valueSystem inp ρ) σ) : SemSat inp ρ σ :=
  ((sat_valueSystem_sem inp ρ σ σ fun _ _ => rfl).mp h).1

theorem shapes_of_sat (inp : Input) (ρ σ : Var → Nat) (h : Sat (valueSystem inp ρ) σ) :
    shapesOf inp ρ σ = semShapes inp ρ σ :=
  shapes_of_table inp ρ σ σ (fun _ _ => rfl) ((sat_valueSystem_sem inp ρ σ σ fun _ _ => rfl).mp h).2

/-- The extension of `τ` by the node table. -/
def extend (inp : Input) (ρ τ : Var → Nat) : Var → Nat :=
  fun x => match (inp.nodeTable ρ τ).lookup x with
    | some v => v
    | none => τ x

theorem namesOK_iff (inp : Input) (ρ : Var → Nat) :
    namesOK inp ρ = true ↔ (inp.nodeKeys ρ).Nodup ∧ ∀ k ∈ inp.nodeKeys ρ, ∀ a ∈ inp.axes ρ, a.2.2 ≠ k := by
  unfold namesOK
  simp only [Bool.and_eq_true, decide_eq_true_eq, List.all_eq_true, Bool.not_eq_eq_eq_not, Bool.not_true,
    List.any_eq_false, beq_iff_eq]

/-- **Completeness of the semantic reading** (needs the name hygiene): a semantic solution extends,
without changing any axis variable, to a solution of the value system, with the same shapes. -/
theorem sem_sat (inp : Input) (ρ τ : Var → Nat) (hn : namesOK inp ρ = true) (h : SemSat inp ρ τ) :
    Sat (valueSystem inp ρ) (extend inp ρ τ) ∧
    (∀ a ∈ inp.axes ρ, extend inp ρ τ a.2.2 = τ a.2.2) ∧
    shapesOf inp ρ (extend inp ρ τ) = semShapes inp ρ τ := by
  rw [namesOK_iff] at hn
  have hkeys := nodeTable_keys inp ρ τ
  -- `extend` reads the table on node variables (pairwise different) and `τ` on axis variables (no node variables)
  have hax : ∀ a ∈ inp.axes ρ, extend inp ρ τ a.2.2 = τ a.2.2 := fun a ha => by
    simp only [extend, lookup_none_of_not_key (hkeys ▸ fun hk => hn.2 _ hk a ha rfl)]
  have htab : ∀ p ∈ inp.nodeTable ρ τ, extend inp ρ τ p.1 = p.2 := fun p hp => by
    simp only [extend, lookup_of_nodup (hkeys ▸ hn.1) hp]
  exact ⟨(sat_valueSystem_sem inp ρ τ _ hax).mpr ⟨h, htab⟩, hax, shapes_of_table inp ρ τ _ hax htab⟩

theorem sols_of_semSat {inp inp' : Input} {ρ ρ' σ τ : Var → Nat} (hs : Sat (valueSystem inp ρ) σ)
    (hr : Sat (rankSystem true inp') ρ') (hn : namesOK inp' ρ' = true) (hsem : SemSat inp' ρ' τ)
    (hsh : semShapes inp' ρ' τ = semShapes inp ρ σ) :
    ∃ σ', Sols inp' ρ' σ' ∧ (∀ a ∈ inp'.axes ρ', σ' a.2.2 = τ a.2.2) ∧
      shapesOf inp' ρ' σ' = shapesOf inp ρ σ := by
  obtain ⟨h1, h2, h3⟩ := sem_sat inp' ρ' τ hn hsem
  exact ⟨_, ⟨hr, h1⟩, h2, by rw [h3, hsh, shapes_of_sat inp ρ σ hs]⟩

end Einx.Solve
