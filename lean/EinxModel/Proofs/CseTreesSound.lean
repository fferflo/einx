import EinxModel.Proofs.CseTreesBasic
/-!
**A step that its events account for preserves the solution set** (`sols_of_events`).  The step from `rs` to `out` is seen
only through a list of events `evs` and the two facts `Accounts evs rs out` about them (values, declarations); under the
side conditions `TraceFacts evs` a solution before, extended to the new axes, is a solution after, and a solution after
comes from a solution before.  No walk, no candidates, no identities occur here.
-/
namespace Einx.Solve.CseT
open Einx.Solve

/-! ### the meaning of `forestSys` -/

/-- "same root values" on the values: paired entries that are both present are equal -/
def ValsOK (vs : List (Option (List Nat))) : Prop :=
  ∀ p ∈ List.zip (vs.take (vs.length / 2)) (vs.drop (vs.length / 2)), ∀ a b, p = (some a, some b) → a = b

theorem zipEqns_hold (σ : Var → Nat) (xs ys : List VExpr) (h : xs.length = ys.length) :
    (∀ e ∈ List.zipWith (fun p q => (⟨polyOf p, polyOf q⟩ : Eqn)) xs ys, evalPoly σ e.lhs = evalPoly σ e.rhs) ↔
      evalVL σ xs = evalVL σ ys := by
  induction xs generalizing ys with
  | nil => cases ys <;> simp [evalVL] at h ⊢
  | cons x xs ih =>
    cases ys with
    | nil => simp at h
    | cons y ys =>
      simp only [List.zipWith_cons_cons, List.mem_cons, forall_eq_or_imp, evalPoly_polyOf, evalVL, List.cons.injEq,
        ih ys (by simpa using h)]

theorem pairEqns_hold (σ : Var → Nat) (a b : Option VExpr) :
    (∀ e ∈ pairEqns a b, evalPoly σ e.lhs = evalPoly σ e.rhs) ↔
      (∀ x y, rootVals σ a = some x → rootVals σ b = some y → x = y) := by
  cases a with
  | none => simp [pairEqns, rootVals]
  | some x =>
    cases b with
    | none => simp [pairEqns, rootVals]
    | some y =>
      have hsimp : (∀ a b : List Nat, rootVals σ (some x) = some a → rootVals σ (some y) = some b → a = b) ↔
          evalVL σ (items x) = evalVL σ (items y) := by
        simp only [rootVals, Option.some.injEq]
        exact ⟨fun h => h _ _ rfl rfl, fun h a b ha hb => by rw [← ha, ← hb, h]⟩
      rw [hsimp]
      simp only [pairEqns]
      split
      · rename_i hl
        exact zipEqns_hold σ _ _ hl
      · rename_i hl
        constructor
        · intro h
          have := h contraEqn (List.mem_singleton.mpr rfl)
          simp [contraEqn, evalPoly, evalMono, prodVars] at this
        · intro h
          exfalso; apply hl
          have := congrArg List.length h
          simpa [evalVL_length] using this

theorem mem_zipWith_iff {α β γ : Type} (f : α → β → γ) (l₁ : List α) (l₂ : List β) (c : γ) :
    c ∈ List.zipWith f l₁ l₂ ↔ ∃ p ∈ List.zip l₁ l₂, c = f p.1 p.2 := by
  simp only [← List.map_uncurry_zip_eq_zipWith, List.mem_map, Function.uncurry, eq_comm]

theorem forestSys_eqns_iff (σ : Var → Nat) (rs : List (Option VExpr)) :
    (∀ e ∈ (forestSys rs).eqns, evalPoly σ e.lhs = evalPoly σ e.rhs) ↔ ValsOK (rs.map (rootVals σ)) := by
  simp only [forestSys, List.mem_flatten, mem_zipWith_iff, ValsOK, List.length_map]
  rw [← List.map_take, ← List.map_drop, List.zip_map, List.forall_mem_map]
  constructor
  · intro h p hp a b hab
    simp only [Prod.map, Prod.mk.injEq] at hab
    have := (pairEqns_hold σ p.1 p.2).mp (fun e he => h e ⟨_, ⟨p, hp, rfl⟩, he⟩)
    exact this a b hab.1 hab.2
  · rintro h e ⟨l, ⟨p, hp, rfl⟩, he⟩
    refine (pairEqns_hold σ p.1 p.2).mpr (fun x y hx hy => ?_) e he
    exact h p hp x y (by simp [Prod.map, hx, hy])

theorem sat_forestSys_iff (σ : Var → Nat) (rs : List (Option VExpr)) :
    Sat (forestSys rs) σ ↔ (∀ p ∈ rootDecls rs, p.2 ≤ σ p.1) ∧ ValsOK (rs.map (rootVals σ)) := by
  unfold Sat
  rw [forestSys_eqns_iff]
  simp [forestSys]

/-! ### the assignment to the new axes, and the side conditions on the events -/

def cseEntry (σ : Var → Nat) : Ev → Option (String × Nat)
  | .used k e _ _ => if (valueOf e).isNone then some (cseName k, evalV σ e) else none
  | .surv _ _ => none

def cseTable (σ : Var → Nat) (evs : List Ev) : List (String × Nat) := evs.filterMap (cseEntry σ)

/-- `σ` extended to the new axes: `cse.<k>` gets the value of the (first) sub-expression it replaces -/
def extend (σ : Var → Nat) (evs : List Ev) : Var → Nat := fun x => ((cseTable σ evs).lookup x).getD (σ x)

theorem mem_cseTable {σ : Var → Nat} {evs : List Ev} {x : String} {v : Nat} (h : (x, v) ∈ cseTable σ evs) :
    ∃ k e len r, Ev.used k e len r ∈ evs ∧ valueOf e = none ∧ x = cseName k ∧ v = evalV σ e := by
  simp only [cseTable, List.mem_filterMap] at h
  obtain ⟨ev, hev, hc⟩ := h
  cases ev with
  | surv n m => simp [cseEntry] at hc
  | used k e len r =>
    simp only [cseEntry] at hc
    split at hc
    · rename_i hn
      simp only [Option.some.injEq, Prod.mk.injEq] at hc
      exact ⟨k, e, len, r, hev, by simpa using hn, hc.1.symm, hc.2.symm⟩
    · cases hc

structure TraceFacts (evs : List Ev) : Prop where
  filt : ∀ ev ∈ evs, FiltOK ev
  used : ∀ ev ∈ evs, usedOK ev = true
  pair : ∀ a ∈ evs, ∀ b ∈ evs, pairOK a b = true

theorem traceOK_facts {evs : List Ev} (h : traceOK evs = true) (hfilt : ∀ ev ∈ evs, FiltOK ev) : TraceFacts evs := by
  simp only [traceOK, Bool.and_eq_true, List.all_eq_true] at h
  exact ⟨hfilt, h.1, h.2⟩

theorem TraceFacts.used_spec {evs : List Ev} (hf : TraceFacts evs) {k : Nat} {e : VExpr} {len : Nat} {r : Bool}
    (hev : Ev.used k e len r ∈ evs) :
    0 < len ∧ (∃ m ub, valueRange e = some (m, ub) ∧ (valueOf e = none → ub = true)) ∧
      hasRepeatedAxis e = false ∧ (∀ p ∈ freeAxes e, 1 ≤ p.2) ∧ (r = true → ndim e = 1) := by
  have h := hf.used _ hev
  simp only [usedOK, Bool.and_eq_true, decide_eq_true_eq, Bool.or_eq_true, Bool.not_eq_true', List.all_eq_true,
    beq_iff_eq] at h
  obtain ⟨⟨h4, h5⟩, h6⟩ := h
  obtain ⟨h1, hrep⟩ := hf.filt _ hev
  refine ⟨h1, ?_, hrep.2, h4, ?_⟩
  · obtain ⟨m, ub, hr⟩ := hrep.range
    exact ⟨m, ub, hr, fun hv => by simpa [hv, hr] using h5⟩
  · intro hr
    cases h6 with
    | inl h => simp [hr] at h
    | inr h => exact h

/-! ### forward: a solution before CSE, extended, is a solution after CSE -/

theorem good_forward {evs : List Ev} (hf : TraceFacts evs) (σ : Var → Nat) :
    ∀ ev ∈ evs, GoodEv σ (extend σ evs) ev := by
  intro ev hev
  cases ev with
  | surv n m =>
    show extend σ evs n = σ n
    have : (cseTable σ evs).lookup n = none := by
      rw [List.lookup_eq_none_iff]
      intro p hp
      obtain ⟨k, e, len, r, hu, _, hx, _⟩ := mem_cseTable (x := p.1) (v := p.2) hp
      have := hf.pair _ hev _ hu
      simp only [pairOK, Bool.and_eq_true] at this
      rw [hx]; exact this.1
    simp [extend, this]
  | used k e len r =>
    obtain ⟨hlen, _, _, _, hroot⟩ := hf.used_spec hev
    refine ⟨hlen, fun hv => ?_, hroot⟩
    have hmem : (cseName k, evalV σ e) ∈ cseTable σ evs := by
      simp only [cseTable, List.mem_filterMap]
      exact ⟨_, hev, by simp [cseEntry, hv]⟩
    obtain ⟨v', h1⟩ := lookup_isSome_of_mem hmem
    obtain ⟨k', e', len', r', hu, _, hx, hv'⟩ := mem_cseTable (mem_of_lookup h1)
    have := hf.pair _ hev _ hu
    simp only [pairOK, hx, beq_self_eq_true, if_true] at this
    have heq := (sameShape_spec this σ).1
    simp only [extend, h1, Option.getD_some, hv', heq]

/-! ### backward: a solution after CSE comes from a solution before CSE -/

/-- names of the unknown axes inside the replaced parts -/
def innerNames (evs : List Ev) : List String :=
  evs.flatMap (fun ev => match ev with | .used _ e _ _ => freeNamesB e | .surv _ _ => [])

theorem mem_innerNames {evs : List Ev} {x : String} :
    x ∈ innerNames evs ↔ ∃ k e len r, Ev.used k e len r ∈ evs ∧ x ∈ freeNamesB e := by
  simp only [innerNames, List.mem_flatMap]
  constructor
  · rintro ⟨ev, hev, hx⟩
    cases ev with
    | surv n m => simp at hx
    | used k e len r => exact ⟨k, e, len, r, hev, hx⟩
  · rintro ⟨k, e, len, r, hev, hx⟩
    exact ⟨_, hev, hx⟩

theorem innerNames_surv (n : String) (m : Nat) (L : List Ev) : innerNames (.surv n m :: L) = innerNames L := rfl

theorem innerNames_used (k : Nat) (e : VExpr) (len : Nat) (r : Bool) (L : List Ev) :
    innerNames (.used k e len r :: L) = freeNamesB e ++ innerNames L := rfl

theorem disjointNames_spec {a b : List String} (h : disjointNames a b = true) : ∀ x ∈ a, x ∉ b := by
  simp only [disjointNames, List.all_eq_true, Bool.not_eq_true', List.contains_eq_mem, decide_eq_false_iff_not] at h
  exact h

/-- The assignment before CSE is built event by event: the unknown axes inside a replaced part are chosen such that
the part takes the value of its `cse.<k>` axis (surjectivity of `valueRange`), parts of the same shape get the same
choice, parts of different candidates have disjoint axes. -/
theorem build_before {evs : List Ev} (hf : TraceFacts evs) (σ' : Var → Nat)
    (hdecl : ∀ k e len r m ub, Ev.used k e len r ∈ evs → valueOf e = none → valueRange e = some (m, ub) →
      m ≤ σ' (cseName k))
    (L : List Ev) (hL : ∀ ev ∈ L, ev ∈ evs) :
      ∃ σ : Var → Nat, (∀ x, x ∉ innerNames L → σ x = σ' x) ∧
        ∀ k e len r, Ev.used k e len r ∈ L →
          (valueOf e = none → evalV σ e = σ' (cseName k)) ∧ (∀ p ∈ freeAxes e, p.2 ≤ σ p.1) := by
  induction L with
  | nil => exact ⟨σ', fun _ _ => rfl, fun k e len r h => by cases h⟩
  | cons ev L ih =>
    obtain ⟨σ1, hfr, hinv⟩ := ih (fun ev hev => hL ev (List.mem_cons_of_mem _ hev))
    cases ev with
    | surv n m =>
      refine ⟨σ1, fun x hx => hfr x (innerNames_surv n m L ▸ hx), fun k e len r h => ?_⟩
      cases h with
      | tail _ h => exact hinv k e len r h
    | used k e len r =>
      have hev : Ev.used k e len r ∈ evs := hL _ List.mem_cons_self
      obtain ⟨_, ⟨m, ub, hrange, hub⟩, hnorep, hminpos, _⟩ := hf.used_spec hev
      cases hv : valueOf e with
      | some v =>
        have hfree := valueOf_some_free e v hv
        refine ⟨σ1, fun x hx => hfr x fun hx' => hx (innerNames_used .. ▸ List.mem_append_right _ hx'), fun k0 e0 len0 r0 h => ?_⟩
        · cases h with
          | head => exact ⟨fun h => by simp [hv] at h, by simp [hfree]⟩
          | tail _ h => exact hinv k0 e0 len0 r0 h
      | none =>
        have hubt : ub = true := hub hv
        subst hubt
        have htarget : okT (m, true) (σ' (cseName k)) := okT_true.mpr (hdecl k e len r m true hev hv hrange)
        obtain ⟨σ2, h21, h22, h23⟩ := valueRange_onto hrange hnorep hminpos σ1 (σ' (cseName k)) htarget
        refine ⟨σ2, fun x hx => ?_, fun k0 e0 len0 r0 h => ?_⟩
        · rw [innerNames_used, List.mem_append, not_or] at hx
          rw [h21 x hx.1, hfr x hx.2]
        · cases h with
          | head => exact ⟨fun _ => h23, h22⟩
          | tail _ h =>
            have hev0 : Ev.used k0 e0 len0 r0 ∈ evs := hL _ (List.mem_cons_of_mem _ h)
            obtain ⟨i1, i2⟩ := hinv k0 e0 len0 r0 h
            have hp := hf.pair _ hev _ hev0
            simp only [pairOK] at hp
            split at hp
            · rename_i hname
              have hname' : cseName k = cseName k0 := by simpa using hname
              obtain ⟨s1, s2⟩ := sameShape_spec hp σ2
              exact ⟨fun _ => by rw [← s1, h23, hname'], by rw [← s2]; exact h22⟩
            · have hdis := disjointNames_spec hp
              have hagree : ∀ p ∈ freeAxes e0, σ2 p.1 = σ1 p.1 := by
                intro p hp0
                apply h21
                intro hx
                exact hdis p.1 hx (List.mem_map_of_mem hp0)
              refine ⟨fun hv0 => ?_, fun p hp0 => ?_⟩
              · rw [(evalV_congr σ2 σ1).1 e0 hagree]; exact i1 hv0
              · rw [hagree p hp0]; exact i2 p hp0

theorem surv_not_inner {evs : List Ev} (hf : TraceFacts evs) {x : String} {m : Nat} (hx : Ev.surv x m ∈ evs) :
    x ∉ innerNames evs := by
  intro hin
  obtain ⟨k, e, len, r, hu, hxe⟩ := mem_innerNames.mp hin
  have := hf.pair _ hx _ hu
  simp only [pairOK, Bool.and_eq_true, Bool.not_eq_true', List.contains_eq_mem, decide_eq_false_iff_not] at this
  exact this.2 hxe

theorem good_backward {evs : List Ev} (hf : TraceFacts evs) (σ σ' : Var → Nat)
    (hfr : ∀ x, x ∉ innerNames evs → σ x = σ' x)
    (hinv : ∀ k e len r, Ev.used k e len r ∈ evs → (valueOf e = none → evalV σ e = σ' (cseName k))) :
    ∀ ev ∈ evs, GoodEv σ σ' ev := by
  intro ev hev
  cases ev with
  | surv n m => exact (hfr n (surv_not_inner hf hev)).symm
  | used k e len r =>
    obtain ⟨hlen, _, _, _, hroot⟩ := hf.used_spec hev
    exact ⟨hlen, fun hv => (hinv k e len r hev hv).symm, hroot⟩

/-- **A step accounted for by its events preserves the solution set**, whatever produced the events, once they satisfy the
side conditions:
(a) a solution before, extended by `cse.<k> :=` value of the replaced part, is a solution after;
(b) a solution after comes from a solution before that differs from it only on the unknown axes inside the replaced
parts, and under which every replaced part with an unknown value has the value of its axis. -/
theorem sols_of_events {evs : List Ev} {rs out : List (Option VExpr)} (hacc : Accounts evs rs out) (hf : TraceFacts evs) :
    (∀ σ, Sat (forestSys rs) σ → Sat (forestSys out) (extend σ evs)) ∧
    (∀ σ', Sat (forestSys out) σ' →
      ∃ σ, Sat (forestSys rs) σ ∧ (∀ x, x ∉ innerNames evs → σ x = σ' x) ∧
        ∀ k e len r, Ev.used k e len r ∈ evs → valueOf e = none → evalV σ e = σ' (cseName k)) := by
  obtain ⟨hvals, hdo, hdi⟩ := hacc
  constructor
  · intro σ hσ
    rw [sat_forestSys_iff] at hσ ⊢
    obtain ⟨hb, he⟩ := hσ
    have hgood := good_forward hf σ
    have hvals := hvals σ _ hgood
    refine ⟨?_, by rw [hvals]; exact he⟩
    intro p hp
    rw [hdo] at hp
    obtain ⟨ev, hev, hpe⟩ := List.mem_flatMap.mp hp
    cases ev with
    | surv n m =>
      simp only [outDecls, List.mem_singleton] at hpe
      subst hpe
      have h1 : extend σ evs n = σ n := hgood _ hev
      show m ≤ extend σ evs n
      rw [h1]
      exact hb (n, m) (by rw [hdi]; exact List.mem_flatMap.mpr ⟨_, hev, by simp [inDecls]⟩)
    | used k e len r =>
      obtain ⟨_, ⟨m, ub, hrange, hub⟩, hnorep, hminpos, _⟩ := hf.used_spec hev
      cases hv : valueOf e with
      | some v => simp [outDecls, hv] at hpe
      | none =>
        simp only [outDecls, hv, hrange, List.mem_singleton] at hpe
        subst hpe
        have hubt := hub hv
        subst hubt
        have h1 : extend σ evs (cseName k) = evalV σ e := (hgood _ hev).2.1 hv
        have hadm : ∀ q ∈ freeAxes e, q.2 ≤ σ q.1 := fun q hq =>
          hb q (by rw [hdi]; exact List.mem_flatMap.mpr ⟨_, hev, by simpa [inDecls] using hq⟩)
        have := valueRange_lower hrange hnorep hminpos σ hadm
        show m ≤ extend σ evs (cseName k)
        rw [h1]; exact okT_true.mp this
  · intro σ' hσ'
    rw [sat_forestSys_iff] at hσ'
    obtain ⟨hb, he⟩ := hσ'
    have hdecl : ∀ k e len r m ub, Ev.used k e len r ∈ evs → valueOf e = none →
        valueRange e = some (m, ub) → m ≤ σ' (cseName k) := by
      intro k e len r m ub hev hv hrange
      exact hb (cseName k, m) (by rw [hdo]; exact List.mem_flatMap.mpr ⟨_, hev, by simp [outDecls, hv, hrange]⟩)
    obtain ⟨σ, hfr, hinv⟩ := build_before hf σ' hdecl evs (fun _ h => h)
    have hgood := good_backward hf σ σ' hfr (fun k e len r h => (hinv k e len r h).1)
    have hvals := hvals σ σ' hgood
    refine ⟨σ, ?_, hfr, fun k e len r h => (hinv k e len r h).1⟩
    rw [sat_forestSys_iff]
    refine ⟨?_, by rw [← hvals]; exact he⟩
    intro p hp
    rw [hdi] at hp
    obtain ⟨ev, hev, hpe⟩ := List.mem_flatMap.mp hp
    cases ev with
    | surv n m =>
      simp only [inDecls, List.mem_singleton] at hpe
      subst hpe
      have h1 : σ' n = σ n := hgood _ hev
      show m ≤ σ n
      rw [← h1]
      exact hb (n, m) (by rw [hdo]; exact List.mem_flatMap.mpr ⟨_, hev, by simp [outDecls]⟩)
    | used k e len r => exact (hinv k e len r hev).2 p (by simpa [inDecls] using hpe)

end Einx.Solve.CseT
