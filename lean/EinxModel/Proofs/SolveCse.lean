import EinxModel.Solve.Cse
import EinxModel.Solve.Tree
import EinxModel.Proofs.Solve
/-!
The value theory of one CSE replacement (`Solve/Cse.lean`).  The sum rule and the product rule of `_value_range` are exact
(`OkTs rs ts`: the targets `ts` are admissible values of children with ranges `rs`), so the value of an expression is bounded
below by, and *surjective* onto, its range: the assignment is exhibited child by child (no name repeats, so children have
disjoint axes) and changes only the unknown axes `freeNames e`.  `CseStep` is the situation after a replacement, of which
`Props/C02.lean` states that the solutions are preserved.  Also: the induction principles `VExpr.induct`, `VExpr.induct₂` of
stage-2 expressions, which the `CseTrees*` proofs use as well; evaluation of `mulPoly`, `polyOf`, `substPoly`.
-/
namespace Einx.Solve

/-- `t` is a value a child with range `r` may take: `>= minimum` if unbounded, `= minimum` else. -/
def okT (r : Nat × Bool) (t : Nat) : Prop := if r.2 = true then r.1 ≤ t else t = r.1

def OkTs : List (Nat × Bool) → List Nat → Prop
  | [], [] => True
  | r :: rs, t :: ts => okT r t ∧ OkTs rs ts
  | _, _ => False

theorem okT_true {m t : Nat} : okT (m, true) t ↔ m ≤ t := by simp [okT]

theorem okT_false {m t : Nat} : okT (m, false) t ↔ t = m := by simp [okT]

theorem okT_le {m t : Nat} : ∀ {ub : Bool}, okT (m, ub) t → m ≤ t
  | true, h => okT_true.mp h
  | false, h => Nat.le_of_eq (okT_false.mp h).symm

theorem unb_cons_true (m : Nat) (rs : List (Nat × Bool)) :
    unboundedMins ((m, true) :: rs) = m :: unboundedMins rs := by simp [unboundedMins]
theorem unb_cons_false (m : Nat) (rs : List (Nat × Bool)) :
    unboundedMins ((m, false) :: rs) = unboundedMins rs := by simp [unboundedMins]
theorem fix_cons_true (m : Nat) (rs : List (Nat × Bool)) :
    fixedMins ((m, true) :: rs) = fixedMins rs := by simp [fixedMins]
theorem fix_cons_false (m : Nat) (rs : List (Nat × Bool)) :
    fixedMins ((m, false) :: rs) = m :: fixedMins rs := by simp [fixedMins]

theorem OkTs.induction {motive : (rs : List (Nat × Bool)) → (ts : List Nat) → OkTs rs ts → Prop}
    (nil : motive [] [] trivial)
    (unb : ∀ m t rs ts (hm : m ≤ t) (h : OkTs rs ts), motive rs ts h →
      motive ((m, true) :: rs) (t :: ts) ⟨okT_true.mpr hm, h⟩)
    (fix : ∀ m rs ts (h : OkTs rs ts), motive rs ts h →
      motive ((m, false) :: rs) (m :: ts) ⟨okT_false.mpr rfl, h⟩) :
    ∀ rs ts (h : OkTs rs ts), motive rs ts h
  | [], [] => fun _ => nil
  | (m, true) :: rs, t :: ts => fun h => unb m t rs ts (okT_true.mp h.1) h.2 (OkTs.induction nil unb fix rs ts h.2)
  | (m, false) :: rs, t :: ts => fun h => by
    cases okT_false.mp h.1
    exact fix m rs ts h.2 (OkTs.induction nil unb fix rs ts h.2)
  | [], _ :: _ => fun h => h.elim
  | _ :: _, [] => fun h => h.elim

theorem okTs_mins : ∀ rs : List (Nat × Bool), OkTs rs (rs.map (·.1))
  | [] => trivial
  | (_, true) :: rs => ⟨okT_true.mpr (Nat.le_refl _), okTs_mins rs⟩
  | (_, false) :: rs => ⟨okT_false.mpr rfl, okTs_mins rs⟩

theorem okTs_fixed {rs : List (Nat × Bool)} {ts : List Nat} (h : OkTs rs ts) :
    unboundedMins rs = [] → ts = fixedMins rs := by
  induction rs, ts, h using OkTs.induction with
  | nil => intro _; rfl
  | unb m t rs ts _ _ _ => intro hu; rw [unb_cons_true] at hu; cases hu
  | fix m rs ts _ ih => intro hu; rw [unb_cons_false] at hu; rw [fix_cons_false, ih hu]

/-! #### Sum rule -/

theorem sum_lower {rs : List (Nat × Bool)} {ts : List Nat} (h : OkTs rs ts) :
    (unboundedMins rs).sum + (fixedMins rs).sum ≤ ts.sum := by
  induction rs, ts, h using OkTs.induction with
  | nil => exact Nat.le_refl _
  | unb m t rs ts hm _ ih => rw [unb_cons_true, fix_cons_true]; simp only [List.sum_cons]; omega
  | fix m rs ts _ ih => rw [unb_cons_false, fix_cons_false]; simp only [List.sum_cons]; omega

theorem sum_min_exists : ∀ rs : List (Nat × Bool),
    ∃ ts, OkTs rs ts ∧ ts.sum = (unboundedMins rs).sum + (fixedMins rs).sum
  | [] => ⟨[], trivial, rfl⟩
  | (m, true) :: rs => by
    obtain ⟨ts, h1, h2⟩ := sum_min_exists rs
    refine ⟨m :: ts, ⟨okT_true.mpr (Nat.le_refl _), h1⟩, ?_⟩
    rw [unb_cons_true, fix_cons_true]; simp only [List.sum_cons]; omega
  | (m, false) :: rs => by
    obtain ⟨ts, h1, h2⟩ := sum_min_exists rs
    refine ⟨m :: ts, ⟨okT_false.mpr rfl, h1⟩, ?_⟩
    rw [unb_cons_false, fix_cons_false]; simp only [List.sum_cons]; omega

/-- The first unbounded child takes the excess `d` over the bound, all other children their minimum. -/
theorem sum_exists : ∀ {rs : List (Nat × Bool)}, unboundedMins rs ≠ [] → ∀ d,
    ∃ ts, OkTs rs ts ∧ ts.sum = (unboundedMins rs).sum + (fixedMins rs).sum + d
  | [] => fun hu _ => absurd rfl hu
  | (m, true) :: rs => fun _ d => by
    obtain ⟨ts, h1, h2⟩ := sum_min_exists rs
    refine ⟨(m + d) :: ts, ⟨okT_true.mpr (Nat.le_add_right m d), h1⟩, ?_⟩
    rw [unb_cons_true, fix_cons_true]; simp only [List.sum_cons]; omega
  | (m, false) :: rs => fun hu d => by
    rw [unb_cons_false] at hu
    obtain ⟨ts, h1, h2⟩ := sum_exists hu d
    refine ⟨m :: ts, ⟨okT_false.mpr rfl, h1⟩, ?_⟩
    rw [unb_cons_false, fix_cons_false]; simp only [List.sum_cons]; omega

/-! #### Product rule -/

theorem listMax_le_of_forall {l : List Nat} {b : Nat} (h : ∀ x ∈ l, x ≤ b) : listMax l ≤ b := by
  induction l with
  | nil => simp [listMax]
  | cons x xs ih =>
    simp only [listMax]
    have h1 := h x List.mem_cons_self
    have h2 := ih (fun y hy => h y (List.mem_cons_of_mem _ hy))
    omega

theorem le_listMax {l : List Nat} {x : Nat} (h : x ∈ l) : x ≤ listMax l := by
  induction l with
  | nil => cases h
  | cons y ys ih =>
    simp only [listMax]
    cases h with
    | head => omega
    | tail _ h' => have := ih h'; omega

/-- All factors are positive, so each is below the product. -/
theorem prod_lower {rs : List (Nat × Bool)} {ts : List Nat} (h : OkTs rs ts) :
    (∀ v ∈ fixedMins rs, v = 1) → (∀ m ∈ unboundedMins rs, 1 ≤ m) →
    1 ≤ natProd ts ∧ listMax (unboundedMins rs) ≤ natProd ts := by
  induction rs, ts, h using OkTs.induction with
  | nil => intro _ _; exact ⟨Nat.le_refl _, Nat.zero_le _⟩
  | unb m t rs ts hm _ ih =>
    intro hf hpos
    rw [fix_cons_true] at hf; rw [unb_cons_true] at hpos ⊢
    obtain ⟨i1, i2⟩ := ih hf (fun m' hm' => hpos m' (List.mem_cons_of_mem _ hm'))
    have ht : 1 ≤ t := Nat.le_trans (hpos m List.mem_cons_self) hm
    have e1 : t ≤ t * natProd ts := Nat.le_mul_of_pos_right t i1
    have e2 : natProd ts ≤ t * natProd ts := Nat.le_mul_of_pos_left (natProd ts) ht
    simp only [natProd, listMax]
    exact ⟨by omega, by omega⟩
  | fix m rs ts _ ih =>
    intro hf hpos
    rw [fix_cons_false] at hf; rw [unb_cons_false] at hpos ⊢
    rw [hf m List.mem_cons_self]
    simp only [natProd, Nat.one_mul]
    exact ih (fun v hv => hf v (List.mem_cons_of_mem _ hv)) hpos

theorem prod_ones : ∀ {rs : List (Nat × Bool)}, (∀ v ∈ fixedMins rs, v = 1) →
    (unboundedMins rs).filter (fun v => decide (v > 1)) = [] → ∃ ts, OkTs rs ts ∧ natProd ts = 1
  | [] => fun _ _ => ⟨[], trivial, rfl⟩
  | (m, true) :: rs => fun hf hc => by
    rw [fix_cons_true] at hf
    rw [unb_cons_true, List.filter_cons] at hc
    by_cases hm : m > 1
    · simp [hm] at hc
    · simp only [hm, decide_false, Bool.false_eq_true, if_false] at hc
      obtain ⟨ts, h1, h2⟩ := prod_ones hf hc
      exact ⟨1 :: ts, ⟨okT_true.mpr (by omega), h1⟩, by simp only [natProd, h2, Nat.mul_one]⟩
  | (m, false) :: rs => fun hf hc => by
    rw [fix_cons_false] at hf; rw [unb_cons_false] at hc
    obtain ⟨ts, h1, h2⟩ := prod_ones (fun v hv => hf v (List.mem_cons_of_mem _ hv)) hc
    exact ⟨1 :: ts, ⟨okT_false.mpr (hf m List.mem_cons_self).symm, h1⟩, by simp only [natProd, h2, Nat.mul_one]⟩

/-- All constants are 1 and at most one unbounded child has a minimum above 1: give `n` to that child (or to the
first unbounded one) and 1 to the others. -/
theorem prod_exists : ∀ {rs : List (Nat × Bool)}, (∀ v ∈ fixedMins rs, v = 1) →
    ((unboundedMins rs).filter (fun v => decide (v > 1))).length ≤ 1 →
    (∀ m ∈ unboundedMins rs, 1 ≤ m) → unboundedMins rs ≠ [] → ∀ n,
    listMax (unboundedMins rs) ≤ n → ∃ ts, OkTs rs ts ∧ natProd ts = n
  | [] => fun _ _ _ hu _ _ => absurd rfl hu
  | (m, true) :: rs => fun hf hc hpos _ n hn => by
    rw [fix_cons_true] at hf; rw [unb_cons_true] at hc hpos hn
    simp only [listMax] at hn
    rw [List.filter_cons] at hc
    by_cases hm : m > 1
    · -- this child takes `n`; no other minimum exceeds 1
      simp only [hm, decide_true, if_true, List.length_cons] at hc
      obtain ⟨ts, h1, h2⟩ := prod_ones hf (List.eq_nil_of_length_eq_zero (by omega))
      exact ⟨n :: ts, ⟨okT_true.mpr (by omega), h1⟩, by simp only [natProd, h2, Nat.mul_one]⟩
    · simp only [hm, decide_false, Bool.false_eq_true, if_false] at hc
      by_cases hu : unboundedMins rs = []
      · obtain ⟨ts, h1, h2⟩ := prod_ones hf (by rw [hu]; rfl)
        exact ⟨n :: ts, ⟨okT_true.mpr (by omega), h1⟩, by simp only [natProd, h2, Nat.mul_one]⟩
      · obtain ⟨ts, h1, h2⟩ :=
          prod_exists hf hc (fun m' hm' => hpos m' (List.mem_cons_of_mem _ hm')) hu n (by omega)
        have := hpos m List.mem_cons_self
        exact ⟨1 :: ts, ⟨okT_true.mpr (by omega), h1⟩, by simp only [natProd, h2, Nat.one_mul]⟩
  | (m, false) :: rs => fun hf hc hpos hu n hn => by
    rw [fix_cons_false] at hf; rw [unb_cons_false] at hc hpos hn hu
    obtain ⟨ts, h1, h2⟩ := prod_exists (fun v hv => hf v (List.mem_cons_of_mem _ hv)) hc hpos hu n hn
    exact ⟨1 :: ts, ⟨okT_false.mpr (hf m List.mem_cons_self).symm, h1⟩, by simp only [natProd, h2, Nat.one_mul]⟩

theorem ranges_all_some : ∀ {ranges : List (Option (Nat × Bool))},
    ranges.any (fun r => r.isNone) = false → ∃ rs : List (Nat × Bool), ranges = rs.map some
  | [] => fun _ => ⟨[], rfl⟩
  | none :: _ => fun h => by simp at h
  | some v :: ranges => fun h => by
    simp only [List.any_cons, Option.isNone_some, Bool.false_or] at h
    obtain ⟨rs, e⟩ := ranges_all_some h
    exact ⟨v :: rs, by rw [e]; rfl⟩

theorem combine_isSome {isConcat : Bool} {ranges : List (Option (Nat × Bool))} {r : Nat × Bool}
    (h : combineRanges isConcat ranges = some r) : ∃ rs : List (Nat × Bool), ranges = rs.map some := by
  unfold combineRanges at h
  split at h
  · cases h
  · rename_i hany
    exact ranges_all_some ((Bool.not_eq_true _).mp hany)

theorem unboundedMins_pos {rs : List (Nat × Bool)} (hpos : ∀ r ∈ rs, r.2 = true → 1 ≤ r.1) :
    ∀ m ∈ unboundedMins rs, 1 ≤ m := by
  intro m hm
  simp only [unboundedMins, List.mem_map, List.mem_filter] at hm
  obtain ⟨r, ⟨hr, hr2⟩, rfl⟩ := hm
  exact hpos r hr hr2

def aggregate (isConcat : Bool) (ts : List Nat) : Nat := if isConcat then ts.sum else natProd ts

/-- **Sum rule and product rule are exact.**  If the children have the ranges `rs` (positive minima
where unbounded) and the rule answers `(m, ub)`, then the values of the node, as the children range
over their admissible values, are exactly the values admissible for `(m, ub)`. -/
theorem combine_spec {isConcat : Bool} {rs : List (Nat × Bool)} {m : Nat} {ub : Bool}
    (h : combineRanges isConcat (rs.map some) = some (m, ub)) (hpos : ∀ r ∈ rs, r.2 = true → 1 ≤ r.1) :
    (ub = true → 1 ≤ m) ∧ (∀ ts, OkTs rs ts → okT (m, ub) (aggregate isConcat ts)) ∧
    (∀ t, okT (m, ub) t → ∃ ts, OkTs rs ts ∧ aggregate isConcat ts = t) := by
  have hposU := unboundedMins_pos hpos
  have hsome : (rs.map some).filterMap id = rs := by simp [List.filterMap_map]
  have hany : ¬ (rs.map some).any (fun r => r.isNone) = true := by simp
  simp only [combineRanges, hany, hsome] at h
  by_cases hu : unboundedMins rs = []
  · -- no unbounded child: a single value
    have hm : (m, ub) = (aggregate isConcat (fixedMins rs), false) := by
      cases isConcat <;> simpa [hu, aggregate, eq_comm] using h
    injection hm with hm hub
    subst hm hub
    refine ⟨nofun, fun ts hts => ?_, fun t ht => ?_⟩
    · rw [okT_false, okTs_fixed hts hu]
    · rw [okT_false] at ht
      exact ⟨_, okTs_mins rs, by rw [ht, okTs_fixed (okTs_mins rs) hu]⟩
  · have hlen : ¬ (unboundedMins rs).length = 0 := fun h0 => hu (List.eq_nil_of_length_eq_zero h0)
    cases isConcat with
    | true =>
      have hm : (m, ub) = ((unboundedMins rs).sum + (fixedMins rs).sum, true) := by
        simpa [Nat.pos_of_ne_zero hlen, eq_comm] using h
      injection hm with hm hub
      subst hm hub
      refine ⟨fun _ => ?_, fun ts hts => okT_true.mpr (sum_lower hts), fun t ht => ?_⟩
      · cases hl : unboundedMins rs with
        | nil => exact absurd hl hu
        | cons y ys => have := hposU y (hl ▸ List.mem_cons_self); simp only [List.sum_cons]; omega
      · obtain ⟨d, rfl⟩ := Nat.exists_eq_add_of_le (okT_true.mp ht)
        exact sum_exists hu d
    | false =>
      simp only [Bool.false_eq_true, if_false, hlen] at h
      split at h
      · rename_i hcond
        simp only [Bool.and_eq_true, List.all_eq_true, beq_iff_eq, decide_eq_true_eq] at hcond
        injection h with h
        injection h with hm hub
        subst hm hub
        refine ⟨fun _ => ?_, fun ts hts => okT_true.mpr (prod_lower hts hcond.1 hposU).2, fun t ht => ?_⟩
        · obtain ⟨x, hx⟩ := List.exists_mem_of_ne_nil _ hu
          exact Nat.le_trans (hposU x hx) (le_listMax hx)
        · exact prod_exists hcond.1 hcond.2 hposU hu t (okT_true.mp ht)
      · cases h

/-- Induction over stage-2 expressions with one motive: a list of children is the node `.list cs`, so the statement
about the list function (`freeAxesL`, `itemsL`, …) is the statement about the expression function at `.list cs`. -/
theorem VExpr.induct {P : VExpr → Prop} (axis : ∀ n v m, P (.axis n v m)) (flat : ∀ e, P e → P (.flat e))
    (brackets : ∀ e, P e → P (.brackets e)) (concat : ∀ cs, P (.list cs) → P (.concat cs))
    (nil : P (.list [])) (cons : ∀ c cs, P c → P (.list cs) → P (.list (c :: cs))) (e : VExpr) : P e :=
  VExpr.rec (motive_2 := fun cs => P (.list cs)) axis (fun _ ih => ih) flat concat brackets nil cons e

/-- Induction over stage-2 expressions and their lists of children, for statements whose list half carries a state of
its own.  What is known of the children is given by the kind of the node, with the node a variable: a proof may
split on something else before it looks at the node (the replacement walk asks the search at `id` first). -/
theorem VExpr.induct₂ {P : VExpr → Prop} {PL : List VExpr → Prop}
    (node : ∀ t, (match t with | .flat e | .brackets e => P e | .list cs | .concat cs => PL cs | .axis .. => True) → P t)
    (nil : PL []) (cons : ∀ c cs, P c → PL cs → PL (c :: cs)) : (∀ t, P t) ∧ ∀ l, PL l :=
  have hP : ∀ t, P t := VExpr.rec (fun _ _ _ => node _ trivial) (fun cs => node (.list cs)) (fun e => node (.flat e))
    (fun cs => node (.concat cs)) (fun e => node (.brackets e)) nil cons
  ⟨hP, fun l => l.rec nil fun c cs => cons c cs (hP c)⟩

theorem evalV_congr (σ τ : Var → Nat) :
    (∀ e : VExpr, (∀ p ∈ freeAxes e, σ p.1 = τ p.1) → evalV σ e = evalV τ e) ∧
    ∀ cs : List VExpr, (∀ p ∈ freeAxesL cs, σ p.1 = τ p.1) → evalVL σ cs = evalVL τ cs := by
  apply VExpr.induct₂
  case node =>
    intro e ih h
    cases e with
    | axis n v m =>
      cases v with
      | none => exact h (n, m) List.mem_cons_self
      | some _ => rfl
    | flat e | brackets e => exact ih h
    | list cs => exact congrArg natProd (ih h)
    | concat cs => exact congrArg List.sum (ih h)
  case nil => exact fun _ => rfl
  case cons =>
    intro c cs ihc ihcs h
    simp only [freeAxesL, List.forall_mem_append] at h
    simp only [evalVL]
    rw [ihc h.1, ihcs h.2]

theorem freeAxes_names (e : VExpr) : ∀ p ∈ freeAxes e, p.1 ∈ axisNames e := by
  induction e using VExpr.induct with
  | axis n v m => cases v with
    | none => intro p hp; simp [freeAxes] at hp; simp [axisNames, hp]
    | some v => intro p hp; simp [freeAxes] at hp
  | flat _ ih | brackets _ ih | concat _ ih => exact ih
  | nil => intro p hp; simp [freeAxes, freeAxesL] at hp
  | cons c cs ihc ihcs =>
    intro p hp
    simp only [freeAxes, freeAxesL, List.mem_append] at hp
    simp only [axisNames, axisNamesL, List.mem_append]
    exact hp.imp (ihc p) (ihcs p)

theorem freeAxesL_names (cs : List VExpr) : ∀ p ∈ freeAxesL cs, p.1 ∈ axisNamesL cs :=
  freeAxes_names (.list cs)

def freeNames (e : VExpr) : List Var := (freeAxes e).map (·.1)

theorem mem_freeNames {e : VExpr} {p : Var × Nat} (h : p ∈ freeAxes e) : p.1 ∈ freeNames e :=
  List.mem_map_of_mem h

/-! ### The specification of `valueRange`

`mutual` and not `VExpr.induct₂`, which goes through as well: the two statements are long, and this way each is written
once, under its name, and not a second time inside a conjunction. -/

mutual
theorem valueRange_spec_aux : ∀ (e : VExpr) (m : Nat) (ub : Bool), valueRange e = some (m, ub) →
    (axisNames e).Nodup → (∀ p ∈ freeAxes e, 1 ≤ p.2) →
    (ub = true → 1 ≤ m) ∧
    (∀ σ : Var → Nat, (∀ p ∈ freeAxes e, p.2 ≤ σ p.1) → okT (m, ub) (evalV σ e)) ∧
    (∀ (σ₀ : Var → Nat) (t : Nat), okT (m, ub) t →
      ∃ σ : Var → Nat, (∀ x, x ∉ (freeAxes e).map (·.1) → σ x = σ₀ x) ∧
        (∀ p ∈ freeAxes e, p.2 ≤ σ p.1) ∧ evalV σ e = t)
  | .axis n none mn => fun m ub h _ hpos => by
    cases h
    refine ⟨fun _ => hpos (n, mn) List.mem_cons_self, fun σ hσ => okT_true.mpr (hσ (n, mn) List.mem_cons_self),
      fun σ₀ t ht => ⟨update σ₀ n t, fun x hx => ?_, fun p hp => ?_, ?_⟩⟩
    · simp only [freeAxes, List.map_cons, List.map_nil, List.mem_singleton] at hx
      simp only [update, hx, if_false]
    · cases List.mem_singleton.mp hp
      simpa only [update, if_true] using okT_true.mp ht
    · simp only [evalV, update, if_true]
  | .axis _ (some v) _ => fun m ub h _ _ => by
    cases h
    exact ⟨nofun, fun σ _ => okT_false.mpr rfl,
      fun σ₀ t ht => ⟨σ₀, fun _ _ => rfl, nofun, (okT_false.mp ht).symm⟩⟩
  | .flat e => valueRange_spec_aux e
  | .brackets e => valueRange_spec_aux e
  | .list cs => fun m ub h hnd hpos => by
    have h : combineRanges false (valueRanges cs) = some (m, ub) := h
    obtain ⟨rs, hrs⟩ := combine_isSome h
    obtain ⟨hge, hlow, hex⟩ := valueRangeL_spec_aux cs rs hrs hnd hpos
    obtain ⟨h1, h2, h3⟩ := combine_spec (hrs ▸ h) hge
    refine ⟨h1, fun σ hσ => h2 _ (hlow σ hσ), fun σ₀ t ht => ?_⟩
    obtain ⟨ts, ho, hp⟩ := h3 t ht
    obtain ⟨σ, a, b, c⟩ := hex σ₀ ts ho
    exact ⟨σ, a, b, (congrArg natProd c).trans hp⟩
  | .concat cs => fun m ub h hnd hpos => by
    have h : combineRanges true (valueRanges cs) = some (m, ub) := h
    obtain ⟨rs, hrs⟩ := combine_isSome h
    obtain ⟨hge, hlow, hex⟩ := valueRangeL_spec_aux cs rs hrs hnd hpos
    obtain ⟨h1, h2, h3⟩ := combine_spec (hrs ▸ h) hge
    refine ⟨h1, fun σ hσ => h2 _ (hlow σ hσ), fun σ₀ t ht => ?_⟩
    obtain ⟨ts, ho, hp⟩ := h3 t ht
    obtain ⟨σ, a, b, c⟩ := hex σ₀ ts ho
    exact ⟨σ, a, b, (congrArg List.sum c).trans hp⟩
theorem valueRangeL_spec_aux : ∀ (cs : List VExpr) (rs : List (Nat × Bool)), valueRanges cs = rs.map some →
    (axisNamesL cs).Nodup → (∀ p ∈ freeAxesL cs, 1 ≤ p.2) →
    (∀ r ∈ rs, r.2 = true → 1 ≤ r.1) ∧
    (∀ σ : Var → Nat, (∀ p ∈ freeAxesL cs, p.2 ≤ σ p.1) → OkTs rs (evalVL σ cs)) ∧
    (∀ (σ₀ : Var → Nat) (ts : List Nat), OkTs rs ts →
      ∃ σ : Var → Nat, (∀ x, x ∉ (freeAxesL cs).map (·.1) → σ x = σ₀ x) ∧
        (∀ p ∈ freeAxesL cs, p.2 ≤ σ p.1) ∧ evalVL σ cs = ts)
  | [] => fun rs h _ _ => by
    cases rs with
    | cons _ _ => cases h
    | nil =>
      refine ⟨nofun, fun _ _ => trivial, fun σ₀ ts ht => ?_⟩
      cases ts with
      | nil => exact ⟨σ₀, fun _ _ => rfl, nofun, rfl⟩
      | cons _ _ => exact ht.elim
  | c :: cs => fun rs h hnd hpos => by
    cases rs with
    | nil => cases h
    | cons r rs =>
      obtain ⟨hc, hcs⟩ := List.cons.inj h
      obtain ⟨hnd1, hnd2, hdisj⟩ := List.nodup_append.mp hnd
      rw [freeAxesL, List.forall_mem_append] at hpos
      obtain ⟨g1, l1, x1⟩ := valueRange_spec_aux c r.1 r.2 hc hnd1 hpos.1
      obtain ⟨g2, l2, x2⟩ := valueRangeL_spec_aux cs rs hcs hnd2 hpos.2
      refine ⟨List.forall_mem_cons.mpr ⟨g1, g2⟩, fun σ hσ => ?_, fun σ₀ ts ht => ?_⟩
      · rw [freeAxesL, List.forall_mem_append] at hσ
        exact ⟨l1 σ hσ.1, l2 σ hσ.2⟩
      · cases ts with
        | nil => exact ht.elim
        | cons t ts =>
          -- first the tail, then the head on top of it; the head's axes do not occur in the tail
          obtain ⟨σ₁, a1, b1, c1⟩ := x2 σ₀ ts ht.2
          obtain ⟨σ, a2, b2, c2⟩ := x1 σ₁ t ht.1
          have hkeep : ∀ p ∈ freeAxesL cs, σ p.1 = σ₁ p.1 := fun p hp => a2 _ fun hmem => by
            obtain ⟨q, hq, hqe⟩ := List.mem_map.mp hmem
            exact hdisj _ (freeAxes_names c q hq) _ (freeAxesL_names cs p hp) hqe
          refine ⟨σ, fun x hx => ?_, ?_, ?_⟩
          · rw [freeAxesL, List.map_append, List.mem_append, not_or] at hx
            rw [a2 x hx.1, a1 x hx.2]
          · rw [freeAxesL, List.forall_mem_append]
            exact ⟨b2, fun p hp => hkeep p hp ▸ b1 p hp⟩
          · rw [evalVL, c2, (evalV_congr σ σ₁).2 cs hkeep, c1]
end

theorem hasDup_false_iff (l : List String) : hasDup l = false ↔ l.Nodup := by
  induction l with
  | nil => simp [hasDup]
  | cons x xs ih =>
    simp only [hasDup, Bool.or_eq_false_iff, List.nodup_cons, ih]
    simp

theorem valueRange_lower {e : VExpr} {m : Nat} {ub : Bool} (h : valueRange e = some (m, ub))
    (hrep : hasRepeatedAxis e = false) (hpos : MinPos e) (σ : Var → Nat) (hσ : Admissible e σ) : okT (m, ub) (evalV σ e) :=
  (valueRange_spec_aux e m ub h ((hasDup_false_iff _).mp hrep) hpos).2.1 σ hσ

/-- The frame (`σ` differs from `σ₀` only on the unknown axes of `e`) is what lets a solution of the system after CSE be extended to
one before CSE. -/
theorem valueRange_onto {e : VExpr} {m : Nat} {ub : Bool} (h : valueRange e = some (m, ub))
    (hrep : hasRepeatedAxis e = false) (hpos : MinPos e) (σ₀ : Var → Nat) (t : Nat) (ht : okT (m, ub) t) :
    ∃ σ, (∀ x, x ∉ freeNames e → σ x = σ₀ x) ∧ Admissible e σ ∧ evalV σ e = t :=
  (valueRange_spec_aux e m ub h ((hasDup_false_iff _).mp hrep) hpos).2.2 σ₀ t ht

/-- The values `e` takes over its admissible assignments are exactly those admissible for the range `_value_range`
computes. -/
theorem valueRange_values {e : VExpr} {m : Nat} {ub : Bool} (h : valueRange e = some (m, ub))
    (hrep : hasRepeatedAxis e = false) (hpos : MinPos e) (n : Nat) :
    (∃ σ, Admissible e σ ∧ evalV σ e = n) ↔ okT (m, ub) n :=
  ⟨fun ⟨σ, hσ, hn⟩ => hn ▸ valueRange_lower h hrep hpos σ hσ,
    fun hn => let ⟨σ, _, h2, h3⟩ := valueRange_onto h hrep hpos (fun _ => 0) n hn; ⟨σ, h2, h3⟩⟩

/-! ### Polynomials -/

theorem prodVars_append (σ : Var → Nat) (xs ys : List Var) :
    prodVars σ (xs ++ ys) = prodVars σ xs * prodVars σ ys := by
  induction xs with
  | nil => simp [prodVars]
  | cons x xs ih => simp [prodVars, ih, Nat.mul_assoc]

theorem evalMono_mul (σ : Var → Nat) (a b : Mono) :
    evalMono σ (mulMono a b) = evalMono σ a * evalMono σ b := by
  simp only [evalMono, mulMono, prodVars_append]
  rw [Nat.mul_mul_mul_comm]

theorem evalPoly_mapMul (σ : Var → Nat) (a : Mono) (q : Poly) :
    evalPoly σ (q.map (mulMono a)) = evalMono σ a * evalPoly σ q := by
  induction q with
  | nil => simp [evalPoly]
  | cons b bs ih => simp [evalPoly, evalMono_mul, ih, Nat.mul_add]

theorem evalPoly_mulPoly (σ : Var → Nat) (p q : Poly) :
    evalPoly σ (mulPoly p q) = evalPoly σ p * evalPoly σ q := by
  induction p with
  | nil => simp [mulPoly, evalPoly]
  | cons a as ih =>
    have : mulPoly (a :: as) q = q.map (mulMono a) ++ mulPoly as q := by simp [mulPoly]
    rw [this, evalPoly_append, evalPoly_mapMul, ih]
    simp [evalPoly, Nat.add_mul]

mutual
theorem evalPoly_polyOf (σ : Var → Nat) : ∀ e : VExpr, evalPoly σ (polyOf e) = evalV σ e
  | .axis n none _ => by simp [polyOf, evalV, evalPoly, evalMono, prodVars]
  | .axis _ (some v) _ => by simp [polyOf, evalV, evalPoly, evalMono, prodVars]
  | .flat e => evalPoly_polyOf σ e
  | .brackets e => evalPoly_polyOf σ e
  | .list cs => evalPoly_polyProdL σ cs
  | .concat cs => evalPoly_polySumL σ cs
theorem evalPoly_polyProdL (σ : Var → Nat) : ∀ cs : List VExpr, evalPoly σ (polyProdL cs) = natProd (evalVL σ cs)
  | [] => rfl
  | c :: cs => by
    simp only [polyProdL, evalVL, natProd, evalPoly_mulPoly]
    rw [evalPoly_polyOf σ c, evalPoly_polyProdL σ cs]
theorem evalPoly_polySumL (σ : Var → Nat) : ∀ cs : List VExpr, evalPoly σ (polySumL cs) = (evalVL σ cs).sum
  | [] => rfl
  | c :: cs => by
    simp only [polySumL, evalVL, List.sum_cons, evalPoly_append]
    rw [evalPoly_polyOf σ c, evalPoly_polySumL σ cs]
end

theorem evalPoly_substVars (σ : Var → Nat) (c : Var) (q : Poly) (xs : List Var) :
    evalPoly σ (substVars c q xs) = prodVars (update σ c (evalPoly σ q)) xs := by
  induction xs with
  | nil => simp [substVars, prodVars, evalPoly, evalMono]
  | cons x xs ih =>
    simp only [substVars, prodVars, evalPoly_mulPoly, ih]
    by_cases hx : x = c
    · simp [hx, update]
    · simp [hx, update, evalPoly, evalMono, prodVars]

theorem evalPoly_substPoly (σ : Var → Nat) (c : Var) (q : Poly) (p : Poly) :
    evalPoly σ (substPoly c q p) = evalPoly (update σ c (evalPoly σ q)) p := by
  induction p with
  | nil => simp [substPoly, evalPoly]
  | cons m ms ih =>
    have : substPoly c q (m :: ms) = substMono c q m ++ substPoly c q ms := by simp [substPoly]
    rw [this, evalPoly_append, ih]
    simp only [evalPoly, substMono, evalPoly_mulPoly, evalPoly_substVars, evalMono, prodVars]
    simp

/-! ### The situation of one CSE replacement -/

/-- `sys'` is a value system *after* CSE replaced the sub-expression `e` by the axis `c`:
* `e` passed the filter of `cse` (`_value_range(e) = (m, ub)`, no repeated axis) and its lower
  bounds are positive;
* the replacement axis `c` is declared with lower bound `m` (`min_value=_value_range(e)[0]`,
  enforced by stage3/solve.py), and, if `e` has a single value, `c` carries that value
  (`Axis(f"cse.{idx}", expr.value, …)` — stage 3 then states `c = m`);
* the unknown axes of `e` occur nowhere in `sys'` (`axes_used_only_in_this_subexpression`: every
  occurrence of these axes was inside an occurrence of `e`, and all of those were replaced).
The system *before* CSE is `instantiate sys' c e`. -/
structure CseStep (sys' : System) (c : Var) (e : VExpr) (m : Nat) (ub : Bool) : Prop where
  range : valueRange e = some (m, ub)
  norep : hasRepeatedAxis e = false
  minpos : MinPos e
  decl : (c, m) ∈ sys'.vars
  only : ∀ p ∈ sys'.vars, p.1 = c → p.2 ≤ m
  fixed : ub = false → varConst c m ∈ sys'.eqns
  outside : ∀ x ∈ freeNames e, x ∉ sys'.allVars

end Einx.Solve
