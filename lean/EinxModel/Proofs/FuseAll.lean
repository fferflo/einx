import EinxModel.Proofs.FuseLoop
import EinxModel.Proofs.Compile
/-!
C04, name re-use: `fuseAll` (numbering of the statements of all blocks, the loop over the blocks) satisfies the hypotheses of
`fuseBlock_block`, for every generator state that is `Emitted`: its statements define every variable at most once, read no
variable before its definition and lie in blocks `< nblocks`.
-/
namespace Einx.Compile

theorem zipIdx_filter_fst {α : Type} (p : α → Bool) : ∀ (l : List α) (k : Nat),
    ((l.zipIdx k).filter (fun x => p x.1)).map (·.1) = l.filter p
  | [], _ => rfl
  | a :: l, k => by
    rw [List.zipIdx_cons]
    by_cases h : p a = true
    · rw [List.filter_cons_of_pos (by simpa using h), List.filter_cons_of_pos h, List.map_cons, zipIdx_filter_fst p l (k + 1)]
    · rw [List.filter_cons_of_neg (by simpa using h), List.filter_cons_of_neg h, zipIdx_filter_fst p l (k + 1)]

/-- The numbered statements of block `b`, as the loop over the blocks hands them to `fuseBlock`. -/
def Lb (all : List ((Nat × Stmt) × Nat)) (b : Nat) : List (Nat × Stmt) :=
  (all.filter (·.1.1 == b)).map (fun ((_, s), i) => (i, s))

theorem Lb_mem (all : List ((Nat × Stmt) × Nat)) (b : Nat) (q : Nat × Stmt) (h : q ∈ Lb all b) : ((b, q.2), q.1) ∈ all := by
  obtain ⟨x, hx, rfl⟩ := List.mem_map.1 h
  obtain ⟨hx1, hx2⟩ := List.mem_filter.1 hx
  obtain ⟨⟨b', s⟩, i⟩ := x
  simp only [beq_iff_eq] at hx2
  subst hx2
  exact hx1

theorem Lb_nodup (A : List (Nat × Stmt)) (b : Nat) : ((Lb A.zipIdx b).map (·.1)).Nodup := by
  have e : (Lb A.zipIdx b).map (·.1) = (A.zipIdx.filter (·.1.1 == b)).map Prod.snd := by
    unfold Lb; rw [List.map_map]; rfl
  rw [e]
  refine List.Nodup.sublist (List.Sublist.map _ List.filter_sublist) ?_
  rw [List.zipIdx_map_snd]
  exact List.nodup_range'

theorem Lb_stmts (A : List (Nat × Stmt)) (b : Nat) : (Lb A.zipIdx b).map (·.2) = (A.filter (·.1 == b)).map (·.2) := by
  have e : (Lb A.zipIdx b).map (·.2) = ((A.zipIdx.filter (fun x => (fun (y : Nat × Stmt) => y.1 == b) x.1)).map (·.1)).map (·.2) := by
    unfold Lb; rw [List.map_map, List.map_map]; rfl
  rw [e, zipIdx_filter_fst (fun (y : Nat × Stmt) => y.1 == b) A 0]

theorem flatMap_range_filter (F : Nat → List (Nat × Stmt)) (hF : ∀ b' x, x ∈ F b' → x.1 = b') (b : Nat) :
    ∀ n, ((List.range n).flatMap F).filter (·.1 == b) = if b < n then F b else []
  | 0 => by simp
  | n + 1 => by
    have hn : (F n).filter (·.1 == b) = if n = b then F n else [] := by
      split
      · exact List.filter_eq_self.2 (fun x hx => by rw [hF n x hx]; simpa)
      · exact List.filter_eq_nil_iff.2 (fun x hx => by rw [hF n x hx]; simpa)
    rw [List.range_succ, List.flatMap_append, List.filter_append, flatMap_range_filter F hF b n]
    simp only [List.flatMap_cons, List.flatMap_nil, List.append_nil]
    rw [hn]
    rcases Nat.lt_trichotomy b n with h | h | h
    · rw [if_pos h, if_neg (by omega), if_pos (by omega), List.append_nil]
    · subst h
      rw [if_neg (Nat.lt_irrefl _), if_pos rfl, if_pos (Nat.lt_succ_self _), List.nil_append]
    · rw [if_neg (by omega), if_neg (by omega), if_neg (by omega), List.append_nil]

/-- The recorded block of the output variable of a statement that appears in the text is the block of the statement; the variable
of an import does not allow re-use. -/
def InfoOK (vars : List VarInfo) (p : Nat × Stmt) : Prop :=
  ∀ o ∈ p.2.outputVars, (p.2.isParam = false → blockOfV vars o = p.1) ∧ (p.2.isImport = true → reuseV vars o = false)

/-- A block number the generator obtained from the scope map (or the root block). -/
def GoodBlk (c : Ctx) (b : Nat) : Prop := b = 0 ∨ ∃ x, c.blockFor x = .ok b

/-- What the `fuse` loop assumes about the statements it is run on: every variable is defined once and before it is read, every
statement lies in a block the loop visits, and the recorded block and re-use flag of an output variable fit its statement.
The generator delivers it (`compile_emitted`). -/
structure Emitted (st : GState) (n : Nat) : Prop where
  nd : (outsOf st.program).Nodup
  closed : liveIn st.program = []
  blk : ∀ p ∈ st.body, p.1 < n
  info : ∀ p ∈ st.bodyS, InfoOK st.vars p

/-- The header of the root block: comments and the hoisted imports. -/
def GState.header (st : GState) (b : Nat) : List SStmt :=
  if b == 0 then st.comments.map (fun c => ⟨.comment c, none⟩) ++ ((st.body.filter (·.2.stmt.isImport)).map (·.2)).reverse else []

theorem mem_header {st : GState} {b : Nat} {x : SStmt} (hx : x ∈ st.header b) :
    (∃ c, x = ⟨.comment c, none⟩) ∨ ∃ p ∈ st.body, p.2.stmt.isImport = true ∧ x = p.2 := by
  unfold GState.header at hx
  split at hx
  · rcases List.mem_append.1 hx with h | h
    · obtain ⟨c, _, rfl⟩ := List.mem_map.1 h
      exact Or.inl ⟨c, rfl⟩
    · obtain ⟨p, hp, rfl⟩ := List.mem_map.1 (List.mem_reverse.1 h)
      exact Or.inr ⟨p, (List.mem_filter.1 hp).1, (List.mem_filter.1 hp).2, rfl⟩
  · cases hx

theorem header_noinputs (st : GState) (b : Nat) : ∀ s ∈ (st.header b).map (·.stmt), s.inputVars = [] := by
  intro s hs
  obtain ⟨x, hx, rfl⟩ := List.mem_map.1 hs
  rcases mem_header hx with ⟨c, rfl⟩ | ⟨p, _, hi, rfl⟩
  · rfl
  · cases hst : p.2.stmt <;> simp [hst, Stmt.isImport] at hi
    rfl

theorem block_stmts (st : GState) (b : Nat) :
    (st.block b).map (·.stmt) = (st.header b).map (·.stmt) ++ (st.bodyS.filter (pb b)).map (·.2) := by
  unfold GState.block GState.header GState.bodyS
  rw [List.map_append, List.filter_map, List.map_map, List.map_map]
  rfl

theorem Lb_allStmts (st : GState) (n b : Nat) (hb : b < n) :
    (Lb (st.allStmts n).zipIdx b).map (·.2) = (st.header b).map (·.stmt) ++ (st.bodyS.filter (pb b)).map (·.2) := by
  rw [Lb_stmts]
  unfold GState.allStmts
  rw [flatMap_range_filter (fun b => (st.block b).map (fun s => (b, s.stmt))) (by
    intro b' x hx
    obtain ⟨s, _, rfl⟩ := List.mem_map.1 hx
    rfl) b n, if_pos hb, List.map_map]
  exact block_stmts st b

theorem allStmts_complete (st : GState) (n : Nat) (hblk : ∀ p ∈ st.body, p.1 < n) :
    ∀ x ∈ st.bodyS, x.2.inputVars ≠ [] → ∃ i, (x, i) ∈ (st.allStmts n).zipIdx := by
  intro x hx hin
  obtain ⟨p, hp, rfl⟩ := List.mem_map.1 hx
  have hkind : p.2.stmt.isImport = false ∧ p.2.stmt.isParam = false := by
    cases hl : p.2.stmt.inputVars with
    | nil => exact absurd hl hin
    | cons v _ => exact Stmt.inputVars_kind p.2.stmt v (by rw [hl]; simp)
  have hmem : (p.1, p.2.stmt) ∈ st.allStmts n := by
    unfold GState.allStmts
    refine List.mem_flatMap.2 ⟨p.1, List.mem_range.2 (hblk p hp), List.mem_map.2 ⟨p.2, ?_, rfl⟩⟩
    unfold GState.block
    refine List.mem_append_right _ (List.mem_map.2 ⟨p, List.mem_filter.2 ⟨hp, ?_⟩, rfl⟩)
    simp [hkind.1, hkind.2]
  obtain ⟨i, hi⟩ := List.getElem?_of_mem hmem
  exact ⟨i, List.mk_mem_zipIdx_iff_getElem?.2 hi⟩

/-- The name groups after the loop has handled the blocks below `k`. -/
def groupsUpTo (fc : FCfg) (st : GState) (n k : Nat) : List Nat :=
  (List.range k).foldl (fun grp b =>
    fuseBlock fc st.vars (depsOf (st.allStmts n).zipIdx) (Lb (st.allStmts n).zipIdx b) [] grp) (List.range st.vars.length)

theorem groupsUpTo_succ (fc : FCfg) (st : GState) (n k : Nat) :
    groupsUpTo fc st n (k + 1) =
      fuseBlock fc st.vars (depsOf (st.allStmts n).zipIdx) (Lb (st.allStmts n).zipIdx k) [] (groupsUpTo fc st n k) := by
  simp only [groupsUpTo, List.range_succ, List.foldl_append, List.foldl_cons, List.foldl_nil]

theorem fuseAll_eq (fc : FCfg) (st : GState) (n : Nat) : fuseAll fc st n = groupsUpTo fc st n n := rfl

theorem fuseAll_inv (fc : FCfg) (hL : fc.checkLater = true) (hB : fc.checkBlock = true) (st : GState) (n : Nat)
    (hem : Emitted st n) :
    ∀ k, k ≤ n → FInv st.bodyS (blockOfV st.vars) (reuseV st.vars) k [] (groupsUpTo fc st n k) ∧
      (groupsUpTo fc st n k).length = st.vars.length
  | 0, _ => ⟨FInv.init _ _ _ _, List.length_range⟩
  | k + 1, hk => by
    obtain ⟨ih, ihlen⟩ := fuseAll_inv fc hL hB st n hem k (by omega)
    rw [groupsUpTo_succ]
    refine ⟨?_, by rw [fuseBlock_length fc hL hB]; exact ihlen⟩
    have hP := bodyS_program st
    have := fuseBlock_block fc hL hB st.vars (st.allStmts n).zipIdx st.bodyS (by rw [hP]; exact hem.nd) (by rw [hP]; exact hem.closed)
      (allStmts_complete st n hem.blk) k (Lb (st.allStmts n).zipIdx k) ((st.header k).map (·.stmt)) (header_noinputs st k)
      (Lb_allStmts st n k (by omega)) (Lb_mem _ k) (Lb_nodup _ k) _ ihlen ih
    exact this.next

theorem fuseAll_finv (fc : FCfg) (hL : fc.checkLater = true) (hB : fc.checkBlock = true) (st : GState) (n : Nat)
    (hem : Emitted st n) :
    FInv st.bodyS (blockOfV st.vars) (reuseV st.vars) n [] (fuseAll fc st n) := by
  rw [fuseAll_eq]
  exact (fuseAll_inv fc hL hB st n hem n (Nat.le_refl _)).1

theorem fuseAll_safe (fc : FCfg) (hL : fc.checkLater = true) (hB : fc.checkBlock = true) (st : GState) (n : Nat)
    (hem : Emitted st n) :
    fuseSafe (fun v => (fuseAll fc st n)[v]?.getD v) st.program = true := by
  have hord := (fuseAll_finv fc hL hB st n hem).ord
  rw [bodyS_program] at hord
  exact safe_of_ordered st.program _ hem.nd hem.closed hord

end Einx.Compile
