import EinxModel.Cache.KeyEq
/-!
The four comparisons of the cache model – `pyEq`, `typedEq`, `keyEq T`, `exactEq` – are one structural equality that
differs in two places only: which kinds two equal numbers may have, and how the `concrete` of two `ConvertibleTensor`
placeholders are compared.  `eqWith kind conv` leaves these two open.  What relates the comparisons to one another
(forgetting kinds, tagging numbers, freezing the `concrete` of placeholders) is proved here once, for `eqWith`.
-/
namespace Einx.Cache

mutual
/-- Structural equality of Python values: numbers of kinds `k`, `k'` are equal if `kind k k'` and the values agree;
two `ConvertibleTensor` placeholders if `conv` holds of their `concrete` and the shapes agree. -/
def eqWith (kind : NumKind → NumKind → Bool) (conv : PyVal → PyVal → Bool) : PyVal → PyVal → Bool
  | .num k a, .num k' b => kind k k' && a == b
  | .str a, .str b => a == b
  | .none, .none => true
  | .cls a, .cls b => a == b
  | .obj a, .obj b => a == b
  | .tuple xs, .tuple ys => eqWithList kind conv xs ys
  | .list xs, .list ys => eqWithList kind conv xs ys
  | .dict a, .dict b => a.length == b.length && eqWithSub kind conv a b
  | .ns a, .ns b => a.length == b.length && eqWithSub kind conv a b
  | .param n d a k, .param n' d' a' k' => n == n' && k == k' && eqWith kind conv d d' && eqWith kind conv a a'
  | .tensor s, .tensor s' => s == s'
  | .conv c s, .conv c' s' => conv c c' && s == s'
  | _, _ => false
def eqWithList (kind : NumKind → NumKind → Bool) (conv : PyVal → PyVal → Bool) : List PyVal → List PyVal → Bool
  | [], [] => true
  | x :: xs, y :: ys => eqWith kind conv x y && eqWithList kind conv xs ys
  | _, _ => false
def eqWithSub (kind : NumKind → NumKind → Bool) (conv : PyVal → PyVal → Bool) : KVs → KVs → Bool
  | [], _ => true
  | (k, v) :: r, b => (match lookupKV b k with
      | some w => eqWith kind conv v w
      | Option.none => false) && eqWithSub kind conv r b
end

variable {kind kind' : NumKind → NumKind → Bool} {conv conv' : PyVal → PyVal → Bool}

/-- `eqWith kind conv` as an inductively generated relation. -/
theorem eqWith_induct {R : PyVal → PyVal → Prop} {RS : KVs → KVs → Prop} {RL : List PyVal → List PyVal → Prop}
    (num : ∀ k k' a, kind k k' = true → R (.num k a) (.num k' a))
    (str : ∀ s, R (.str s) (.str s))
    (none : R .none .none)
    (cls : ∀ s, R (.cls s) (.cls s))
    (obj : ∀ i, R (.obj i) (.obj i))
    (tuple : ∀ xs ys, RL xs ys → R (.tuple xs) (.tuple ys))
    (list : ∀ xs ys, RL xs ys → R (.list xs) (.list ys))
    (dict : ∀ a b, a.length = b.length → RS a b → R (.dict a) (.dict b))
    (ns : ∀ a b, a.length = b.length → RS a b → R (.ns a) (.ns b))
    (param : ∀ n k d d' a a', R d d' → R a a' → R (.param n d a k) (.param n d' a' k))
    (tensor : ∀ s, R (.tensor s) (.tensor s))
    (cnv : ∀ c c' s, conv c c' = true → R (.conv c s) (.conv c' s))
    (nil : RL [] [])
    (cons : ∀ x y xs ys, R x y → RL xs ys → RL (x :: xs) (y :: ys))
    (subNil : ∀ b, RS [] b)
    (subCons : ∀ k v w r b, lookupKV b k = some w → R v w → RS r b → RS ((k, v) :: r) b) :
    (∀ x y, eqWith kind conv x y = true → R x y) ∧ (∀ a b, eqWithSub kind conv a b = true → RS a b) ∧
      (∀ xs ys, eqWithList kind conv xs ys = true → RL xs ys) := by
  -- the cases of the functional induction principle are the clauses of `eqWith`, `eqWithList`, `eqWithSub` in order
  apply eqWith.mutual_induct
  case case1 =>
    intro k a k' b h
    simp only [eqWith, Bool.and_eq_true, beq_iff_eq] at h
    rw [h.2]
    exact num _ _ _ h.1
  case case2 =>
    intro a b h
    simp only [eqWith, beq_iff_eq] at h
    rw [h]
    exact str _
  case case3 => intro _; exact none
  case case4 =>
    intro a b h
    simp only [eqWith, beq_iff_eq] at h
    rw [h]
    exact cls _
  case case5 =>
    intro a b h
    simp only [eqWith, beq_iff_eq] at h
    rw [h]
    exact obj _
  case case6 => intro xs ys ih h; exact tuple _ _ (ih (by simpa only [eqWith] using h))
  case case7 => intro xs ys ih h; exact list _ _ (ih (by simpa only [eqWith] using h))
  case case8 =>
    intro a b ih h
    simp only [eqWith, Bool.and_eq_true, beq_iff_eq] at h
    exact dict _ _ h.1 (ih h.2)
  case case9 =>
    intro a b ih h
    simp only [eqWith, Bool.and_eq_true, beq_iff_eq] at h
    exact ns _ _ h.1 (ih h.2)
  case case10 =>
    intro n d a k n' d' a' k' ihd iha h
    simp only [eqWith, Bool.and_eq_true, beq_iff_eq] at h
    rw [← h.1.1.1, ← h.1.1.2]
    exact param _ _ _ _ _ _ (ihd h.1.2) (iha h.2)
  case case11 =>
    intro a b h
    simp only [eqWith, beq_iff_eq] at h
    rw [h]
    exact tensor _
  case case12 =>
    intro c s c' s' h
    simp only [eqWith, Bool.and_eq_true, beq_iff_eq] at h
    rw [h.2]
    exact cnv _ _ _ h.1
  case case13 =>
    -- the catch-all clause: no two constructors match, so the values are not equal
    intro t x h1 h2 h3 h4 h5 h6 h7 h8 h9 h10 h11 h12 h
    rw [eqWith.eq_13 _ _ t x h1 h2 h3 h4 h5 h6 h7 h8 h9 h10 h11 h12] at h
    cases h
  case case14 => intro _; exact nil
  case case15 =>
    intro x xs y ys ih ihs h
    simp only [eqWithList, Bool.and_eq_true] at h
    exact cons _ _ _ _ (ih h.1) (ihs h.2)
  case case16 =>
    intro t x h1 h2 h
    rw [eqWithList.eq_3 _ _ t x h1 h2] at h
    cases h
  case case17 => intro b _; exact subNil b
  case case18 =>
    intro k v r b ih ihr h
    simp only [eqWithSub, Bool.and_eq_true] at h
    cases hl : lookupKV b k with
    | none => rw [hl] at h; cases h.1
    | some w => rw [hl] at h; exact subCons _ _ _ _ _ hl (ih w h.1) (ihr h.2)

/-- Induction over pairs of values along the clauses of the comparisons; the pairs with different head constructors
(`PyVal.ctorIdx`) are one case. -/
theorem PyVal.pair_induct {R : PyVal → PyVal → Prop} {RS : KVs → KVs → Prop} {RL : List PyVal → List PyVal → Prop}
    (num : ∀ k a k' b, R (.num k a) (.num k' b))
    (str : ∀ a b, R (.str a) (.str b))
    (none : R .none .none)
    (cls : ∀ a b, R (.cls a) (.cls b))
    (obj : ∀ a b, R (.obj a) (.obj b))
    (tuple : ∀ xs ys, RL xs ys → R (.tuple xs) (.tuple ys))
    (list : ∀ xs ys, RL xs ys → R (.list xs) (.list ys))
    (ndarray : ∀ d x d' y, R (.ndarray d x) (.ndarray d' y))
    (dict : ∀ a b, RS a b → R (.dict a) (.dict b))
    (ns : ∀ a b, RS a b → R (.ns a) (.ns b))
    (param : ∀ n d a k n' d' a' k', R d d' → R a a' → R (.param n d a k) (.param n' d' a' k'))
    (tensor : ∀ s s', R (.tensor s) (.tensor s'))
    (cnv : ∀ c s c' s', R (.conv c s) (.conv c' s'))
    (off : ∀ x y, x.ctorIdx ≠ y.ctorIdx → R x y)
    (nil : RL [] [])
    (cons : ∀ x xs y ys, R x y → RL xs ys → RL (x :: xs) (y :: ys))
    (nilCons : ∀ y ys, RL [] (y :: ys))
    (consNil : ∀ x xs, RL (x :: xs) [])
    (subNil : ∀ b, RS [] b)
    (subCons : ∀ k v r b, (∀ w, R v w) → RS r b → RS ((k, v) :: r) b) :
    (∀ x y, R x y) ∧ (∀ a b, RS a b) ∧ (∀ xs ys, RL xs ys) :=
  ⟨val, sub, lst⟩
where
  val : ∀ x y, R x y
    | .num k a, y => if h : y.ctorIdx = 0 then PyVal.num.elim (motive_1 := R _) y h (num k a) else off _ _ (Ne.symm h)
    | .str a, y => if h : y.ctorIdx = 1 then PyVal.str.elim (motive_1 := R _) y h (str a) else off _ _ (Ne.symm h)
    | .none, y => if h : y.ctorIdx = 2 then PyVal.none.elim (motive_1 := R _) y h none else off _ _ (Ne.symm h)
    | .cls a, y => if h : y.ctorIdx = 3 then PyVal.cls.elim (motive_1 := R _) y h (cls a) else off _ _ (Ne.symm h)
    | .obj a, y => if h : y.ctorIdx = 4 then PyVal.obj.elim (motive_1 := R _) y h (obj a) else off _ _ (Ne.symm h)
    | .tuple xs, y =>
      if h : y.ctorIdx = 5 then PyVal.tuple.elim (motive_1 := R _) y h fun ys => tuple xs ys (lst xs ys)
      else off _ _ (Ne.symm h)
    | .list xs, y =>
      if h : y.ctorIdx = 6 then PyVal.list.elim (motive_1 := R _) y h fun ys => list xs ys (lst xs ys)
      else off _ _ (Ne.symm h)
    | .ndarray d x, y =>
      if h : y.ctorIdx = 7 then PyVal.ndarray.elim (motive_1 := R _) y h (ndarray d x) else off _ _ (Ne.symm h)
    | .dict a, y =>
      if h : y.ctorIdx = 8 then PyVal.dict.elim (motive_1 := R _) y h fun b => dict a b (sub a b)
      else off _ _ (Ne.symm h)
    | .ns a, y =>
      if h : y.ctorIdx = 9 then PyVal.ns.elim (motive_1 := R _) y h fun b => ns a b (sub a b)
      else off _ _ (Ne.symm h)
    | .param n d a k, y =>
      if h : y.ctorIdx = 10 then PyVal.param.elim (motive_1 := R _) y h fun n' d' a' k' =>
        param n d a k n' d' a' k' (val d d') (val a a')
      else off _ _ (Ne.symm h)
    | .tensor s, y => if h : y.ctorIdx = 11 then PyVal.tensor.elim (motive_1 := R _) y h (tensor s) else off _ _ (Ne.symm h)
    | .conv c s, y => if h : y.ctorIdx = 12 then PyVal.conv.elim (motive_1 := R _) y h (cnv c s) else off _ _ (Ne.symm h)
  lst : ∀ xs ys, RL xs ys
    | [], [] => nil
    | [], _ :: _ => nilCons ..
    | _ :: _, [] => consNil ..
    | x :: xs, y :: ys => cons _ _ _ _ (val x y) (lst xs ys)
  sub : ∀ a b, RS a b
    | [], b => subNil b
    | (k, v) :: r, b => subCons k v r b (fun w => val v w) (sub r b)

theorem PyVal.eq_num_of_ctorIdx {x : PyVal} (h : x.ctorIdx = 0) : ∃ k a, x = .num k a :=
  PyVal.num.elim (motive_1 := fun x => ∃ k a, x = .num k a) x h fun k a => ⟨k, a, rfl⟩

theorem PyVal.eq_tuple_of_ctorIdx {x : PyVal} (h : x.ctorIdx = 5) : ∃ xs, x = .tuple xs :=
  PyVal.tuple.elim (motive_1 := fun x => ∃ xs, x = .tuple xs) x h fun xs => ⟨xs, rfl⟩

/-- Equal values have the same head constructor. -/
theorem eqWith_ctorIdx {x y : PyVal} (h : eqWith kind conv x y = true) : x.ctorIdx = y.ctorIdx :=
  (eqWith_induct (kind := kind) (conv := conv) (R := fun x y => x.ctorIdx = y.ctorIdx) (RS := fun _ _ => True)
    (RL := fun _ _ => True) (fun _ _ _ _ => rfl) (fun _ => rfl) rfl (fun _ => rfl) (fun _ => rfl) (fun _ _ _ => rfl)
    (fun _ _ _ => rfl) (fun _ _ _ _ => rfl) (fun _ _ _ _ => rfl) (fun _ _ _ _ _ _ _ _ => rfl) (fun _ => rfl)
    (fun _ _ _ _ => rfl) trivial (fun _ _ _ _ _ _ => trivial) (fun _ => trivial) (fun _ _ _ _ _ _ _ _ => trivial)).1 x y h

theorem eqWith_eq_false {x y : PyVal} (h : x.ctorIdx ≠ y.ctorIdx) : eqWith kind conv x y = false :=
  Bool.eq_false_iff.mpr fun e => h (eqWith_ctorIdx e)

/-- The clauses of `eqWith kind conv` determine it.  The hypotheses have the shape of the equation lemmas `f.eq_1`, … that
Lean generates for a function defined by the same clauses (`off`, `offL`: the catch-all clauses), so that the four
comparisons of the model are instances by listing their own equations. -/
theorem eqWith_unique (g : PyVal → PyVal → Bool) (gs : KVs → KVs → Bool) (gl : List PyVal → List PyVal → Bool)
    (num : ∀ k a k' b, g (.num k a) (.num k' b) = (kind k k' && a == b))
    (str : ∀ a b, g (.str a) (.str b) = (a == b))
    (none : g .none .none = true)
    (cls : ∀ a b, g (.cls a) (.cls b) = (a == b))
    (obj : ∀ a b, g (.obj a) (.obj b) = (a == b))
    (tuple : ∀ xs ys, g (.tuple xs) (.tuple ys) = gl xs ys)
    (list : ∀ xs ys, g (.list xs) (.list ys) = gl xs ys)
    (dict : ∀ a b, g (.dict a) (.dict b) = (a.length == b.length && gs a b))
    (ns : ∀ a b, g (.ns a) (.ns b) = (a.length == b.length && gs a b))
    (param : ∀ n d a k n' d' a' k', g (.param n d a k) (.param n' d' a' k') = (n == n' && k == k' && g d d' && g a a'))
    (tensor : ∀ s s', g (.tensor s) (.tensor s') = (s == s'))
    (cnv : ∀ c s c' s', g (.conv c s) (.conv c' s') = (conv c c' && s == s'))
    (off : ∀ x y, (∀ k a k' b, x = .num k a → y = .num k' b → False) → (∀ a b, x = .str a → y = .str b → False) →
      (x = .none → y = .none → False) → (∀ a b, x = .cls a → y = .cls b → False) → (∀ a b, x = .obj a → y = .obj b → False) →
      (∀ xs ys, x = .tuple xs → y = .tuple ys → False) → (∀ xs ys, x = .list xs → y = .list ys → False) →
      (∀ a b, x = .dict a → y = .dict b → False) → (∀ a b, x = .ns a → y = .ns b → False) →
      (∀ n d a k n' d' a' k', x = .param n d a k → y = .param n' d' a' k' → False) →
      (∀ s s', x = .tensor s → y = .tensor s' → False) → (∀ c s c' s', x = .conv c s → y = .conv c' s' → False) →
      g x y = false)
    (nil : gl [] [] = true)
    (cons : ∀ x xs y ys, gl (x :: xs) (y :: ys) = (g x y && gl xs ys))
    (offL : ∀ xs ys, (xs = [] → ys = [] → False) → (∀ x xs' y ys', xs = x :: xs' → ys = y :: ys' → False) → gl xs ys = false)
    (subNil : ∀ b, gs [] b = true)
    (subCons : ∀ b k v r, gs ((k, v) :: r) b = ((match lookupKV b k with | some w => g v w | Option.none => false) && gs r b)) :
    (∀ x y, g x y = eqWith kind conv x y) ∧ (∀ a b, gs a b = eqWithSub kind conv a b) ∧
      (∀ xs ys, gl xs ys = eqWithList kind conv xs ys) := by
  apply eqWith.mutual_induct
  case case13 =>
    intro t x h1 h2 h3 h4 h5 h6 h7 h8 h9 h10 h11 h12
    rw [off t x h1 h2 h3 h4 h5 h6 h7 h8 h9 h10 h11 h12, eqWith.eq_13 _ _ t x h1 h2 h3 h4 h5 h6 h7 h8 h9 h10 h11 h12]
  case case16 => intro t x h1 h2; rw [offL t x h1 h2, eqWithList.eq_3 _ _ t x h1 h2]
  case case18 =>
    intro k v r b ih ihr
    rw [subCons, eqWithSub, ihr]
    cases lookupKV b k with
    | none => rfl
    | some w => simp only [ih w]
  all_goals intros; simp only [eqWith, eqWithList, eqWithSub, *]

/-! ### The four comparisons -/

theorem pyEq_eqWith :
    (∀ x y, pyEq x y = eqWith (fun _ _ => true) pyEq x y) ∧
    (∀ a b, pyEqSub a b = eqWithSub (fun _ _ => true) pyEq a b) ∧
    (∀ xs ys, pyEqList xs ys = eqWithList (fun _ _ => true) pyEq xs ys) :=
  eqWith_unique pyEq pyEqSub pyEqList pyEq.eq_1 pyEq.eq_2 pyEq.eq_3 pyEq.eq_4 pyEq.eq_5 pyEq.eq_6 pyEq.eq_7 pyEq.eq_8 pyEq.eq_9
    pyEq.eq_10 pyEq.eq_11 pyEq.eq_12 pyEq.eq_13 pyEqList.eq_1 pyEqList.eq_2 pyEqList.eq_3 pyEqSub.eq_1 pyEqSub.eq_2

theorem typedEq_eqWith :
    (∀ x y, typedEq x y = eqWith (fun k k' => k.cls == k'.cls) pyEq x y) ∧
    (∀ a b, typedEqSub a b = eqWithSub (fun k k' => k.cls == k'.cls) pyEq a b) ∧
    (∀ xs ys, typedEqList xs ys = eqWithList (fun k k' => k.cls == k'.cls) pyEq xs ys) :=
  eqWith_unique typedEq typedEqSub typedEqList typedEq.eq_1 typedEq.eq_2 typedEq.eq_3 typedEq.eq_4 typedEq.eq_5 typedEq.eq_6
    typedEq.eq_7 typedEq.eq_8 typedEq.eq_9 typedEq.eq_10 typedEq.eq_11 typedEq.eq_12 typedEq.eq_13 typedEqList.eq_1
    typedEqList.eq_2 typedEqList.eq_3 typedEqSub.eq_1 typedEqSub.eq_2

theorem keyEq_eqWith (T : Table) :
    (∀ x y, keyEq T x y = eqWith (fun _ _ => true) (fun c c' => pyEq (freeze T c) (freeze T c')) x y) ∧
    (∀ a b, keyEqSub T a b = eqWithSub (fun _ _ => true) (fun c c' => pyEq (freeze T c) (freeze T c')) a b) ∧
    (∀ xs ys, keyEqList T xs ys = eqWithList (fun _ _ => true) (fun c c' => pyEq (freeze T c) (freeze T c')) xs ys) :=
  eqWith_unique (keyEq T) (keyEqSub T) (keyEqList T) (keyEq.eq_1 T) (keyEq.eq_2 T) (keyEq.eq_3 T) (keyEq.eq_4 T) (keyEq.eq_5 T)
    (keyEq.eq_6 T) (keyEq.eq_7 T) (keyEq.eq_8 T) (keyEq.eq_9 T) (keyEq.eq_10 T) (keyEq.eq_11 T) (keyEq.eq_12 T) (keyEq.eq_13 T)
    (keyEqList.eq_1 T) (keyEqList.eq_2 T) (keyEqList.eq_3 T) (keyEqSub.eq_1 T) (keyEqSub.eq_2 T)

theorem exactEq_eqWith :
    (∀ x y, exactEq x y = eqWith (· == ·) exactEq x y) ∧
    (∀ a b, exactEqSub a b = eqWithSub (· == ·) exactEq a b) ∧
    (∀ xs ys, exactEqList xs ys = eqWithList (· == ·) exactEq xs ys) :=
  eqWith_unique exactEq exactEqSub exactEqList exactEq.eq_1 exactEq.eq_2 exactEq.eq_3 exactEq.eq_4 exactEq.eq_5 exactEq.eq_6
    exactEq.eq_7 exactEq.eq_8 exactEq.eq_9 exactEq.eq_10 exactEq.eq_11 exactEq.eq_12 exactEq.eq_13 exactEqList.eq_1
    exactEqList.eq_2 exactEqList.eq_3 exactEqSub.eq_1 exactEqSub.eq_2

/-- The exact comparison is the finest of the four (also inside placeholders, where `eqWith` does not look). -/
theorem exactEq_pyEq :
    (∀ x y, exactEq x y = true → pyEq x y = true) ∧
    (∀ a b, exactEqSub a b = true → pyEqSub a b = true) ∧
    (∀ xs ys, exactEqList xs ys = true → pyEqList xs ys = true) := by
  apply exactEq.mutual_induct
  case case18 =>
    intro k v r b ih ihr h
    simp only [exactEqSub, Bool.and_eq_true] at h
    cases hl : lookupKV b k with
    | none => rw [hl] at h; cases h.1
    | some w => rw [hl] at h; simp only [pyEqSub, hl, ih w h.1, ihr h.2, Bool.and_self]
  case case13 =>
    intro t x h1 h2 h3 h4 h5 h6 h7 h8 h9 h10 h11 h12 h
    rw [exactEq.eq_13 t x h1 h2 h3 h4 h5 h6 h7 h8 h9 h10 h11 h12] at h
    cases h
  case case16 =>
    intro t x h1 h2 h
    rw [exactEqList.eq_3 t x h1 h2] at h
    cases h
  all_goals intros; simp_all only [exactEq, exactEqList, exactEqSub, pyEq, pyEqList, pyEqSub, Bool.and_eq_true, and_self]

theorem eqWith_mono (hk : ∀ k k', kind k k' = true → kind' k k' = true) (hc : ∀ c c', conv c c' = true → conv' c c' = true) :
    (∀ x y, eqWith kind conv x y = true → eqWith kind' conv' x y = true) ∧
    (∀ a b, eqWithSub kind conv a b = true → eqWithSub kind' conv' a b = true) ∧
    (∀ xs ys, eqWithList kind conv xs ys = true → eqWithList kind' conv' xs ys = true) := by
  apply eqWith_induct
  case num => intro k k' a h; simp only [eqWith, hk k k' h, beq_self_eq_true, Bool.and_self]
  case cnv => intro c c' s h; simp only [eqWith, hc c c' h, beq_self_eq_true, Bool.and_self]
  all_goals intros; simp only [eqWith, eqWithList, eqWithSub, beq_self_eq_true, Bool.and_self, *]

/-- The comparison of placeholders matters only at the placeholders of the left value. -/
theorem eqWith_congr (p : PyVal → Bool) (hc : ∀ c c', p c = true → conv c c' = conv' c c') :
    (∀ x y, allConv p x = true → eqWith kind conv x y = eqWith kind conv' x y) ∧
    (∀ a b, allConvKVs p a = true → eqWithSub kind conv a b = eqWithSub kind conv' a b) ∧
    (∀ xs ys, allConvList p xs = true → eqWithList kind conv xs ys = eqWithList kind conv' xs ys) := by
  apply PyVal.pair_induct
  case off =>
    intro x y h _
    rw [eqWith_eq_false h, eqWith_eq_false h]
  case cnv =>
    intro c s c' s' h
    simp only [allConv] at h
    simp only [eqWith, hc c c' h]
  case param =>
    intro n d a k n' d' a' k' ihd iha h
    simp only [allConv, Bool.and_eq_true] at h
    simp only [eqWith, ihd h.1, iha h.2]
  case cons =>
    intro x xs y ys ih ihs h
    simp only [allConvList, Bool.and_eq_true] at h
    simp only [eqWithList, ih h.1, ihs h.2]
  case subCons =>
    intro k v r b ih ihr h
    simp only [allConvKVs, Bool.and_eq_true] at h
    simp only [eqWithSub, ihr h.2]
    cases lookupKV b k with
    | none => rfl
    | some w => simp only [ih w h.1]
  all_goals intros; simp_all only [allConv, eqWith, eqWithList, eqWithSub]

theorem eqWith_noConv :
    (∀ x y, noConv x = true → eqWith kind conv x y = eqWith kind conv' x y) ∧
    (∀ a b, allConvKVs (fun _ => false) a = true → eqWithSub kind conv a b = eqWithSub kind conv' a b) ∧
    (∀ xs ys, allConvList (fun _ => false) xs = true → eqWithList kind conv xs ys = eqWithList kind conv' xs ys) :=
  eqWith_congr (fun _ => false) (fun _ _ h => nomatch h)

/-! ### Tagged values -/

theorem NumKind.mem_all (k : NumKind) : k ∈ NumKind.all := by
  cases k <;> decide

/-- The thirteen type names are pairwise different (one evaluation of the whole table). -/
theorem typeName_beq (k k' : NumKind) : (k.typeName == k'.typeName) = (k == k') := by
  have h : (NumKind.all.all fun k => NumKind.all.all fun k' => (k.typeName == k'.typeName) == (k == k')) = true := by
    decide +kernel
  exact eq_of_beq (List.all_eq_true.mp (List.all_eq_true.mp h k (NumKind.mem_all k)) k' (NumKind.mem_all k'))

/-- A tagged value is never a number. -/
theorem ctorIdx_tagNums_ne_zero (x : PyVal) : (tagNums x).ctorIdx ≠ 0 := by
  cases x <;> exact Nat.succ_ne_zero _

/-- Tagging changes the head constructor of numbers only (to that of a tuple). -/
theorem ctorIdx_tagNums {x : PyVal} (h : x.ctorIdx ≠ 0) : (tagNums x).ctorIdx = x.ctorIdx := by
  cases x with
  | num => exact absurd rfl h
  | _ => rfl

theorem eqWith_num_tagNums (k : NumKind) (a : Dy) (y : PyVal) : eqWith kind conv (.num k a) (tagNums y) = false :=
  eqWith_eq_false fun e => ctorIdx_tagNums_ne_zero y e.symm

theorem eqWith_tagNums_num (k : NumKind) (a : Dy) (x : PyVal) : eqWith kind conv (tagNums x) (.num k a) = false :=
  eqWith_eq_false (ctorIdx_tagNums_ne_zero x)

theorem eqWithList_tagged_left (c : PyVal) (k : NumKind) (a : Dy) :
    ∀ ys, eqWithList kind conv [c, .num k a] (tagNumsList ys) = false
  | [] => rfl
  | [_] | _ :: _ :: _ :: _ => by simp only [tagNumsList, eqWithList, Bool.and_false]
  | [_, y] => by simp only [tagNumsList, eqWithList, eqWith_num_tagNums, Bool.and_false, Bool.false_and]

theorem eqWithList_tagged_right (c : PyVal) (k : NumKind) (a : Dy) :
    ∀ xs, eqWithList kind conv (tagNumsList xs) [c, .num k a] = false
  | [] => rfl
  | [_] | _ :: _ :: _ :: _ => by simp only [tagNumsList, eqWithList, Bool.and_false]
  | [_, x] => by simp only [tagNumsList, eqWithList, eqWith_tagNums_num, Bool.and_false, Bool.false_and]

theorem tagNumsKVs_length : ∀ kvs : KVs, (tagNumsKVs kvs).length = kvs.length
  | [] => rfl
  | (_, _) :: r => by simp only [tagNumsKVs, List.length_cons, tagNumsKVs_length r]

theorem lookup_tagNumsKVs : ∀ (b : KVs) (q : String), lookupKV (tagNumsKVs b) q = (lookupKV b q).map tagNums
  | [], _ => rfl
  | (k, v) :: r, q => by
    simp only [tagNumsKVs, lookupKV]
    split
    · rfl
    · exact lookup_tagNumsKVs r q

theorem eqWith_tagNums :
    (∀ x y, eqWith kind conv (tagNums x) (tagNums y) = eqWith (fun k k' => k == k' && kind k k') conv x y) ∧
    (∀ a b, eqWithSub kind conv (tagNumsKVs a) (tagNumsKVs b) = eqWithSub (fun k k' => k == k' && kind k k') conv a b) ∧
    (∀ xs ys, eqWithList kind conv (tagNumsList xs) (tagNumsList ys) =
      eqWithList (fun k k' => k == k' && kind k k') conv xs ys) := by
  apply PyVal.pair_induct
  case num => intro k a k' b; simp only [tagNums, tagged, eqWith, eqWithList, typeName_beq, Bool.and_true, Bool.and_assoc]
  case off =>
    -- tagging gives two values with different head constructors the same one only if they are a number and a tuple;
    -- the tagged number is a pair whose second component is a number, which no tagged value is
    intro x y h
    rw [eqWith_eq_false h]
    by_cases hx : x.ctorIdx = 0
    · obtain ⟨k, a, rfl⟩ := PyVal.eq_num_of_ctorIdx hx
      by_cases hy : y.ctorIdx = 5
      · obtain ⟨ys, rfl⟩ := PyVal.eq_tuple_of_ctorIdx hy
        simp only [tagNums, tagged, eqWith, eqWithList_tagged_left]
      · exact eqWith_eq_false (by rw [ctorIdx_tagNums (Ne.symm h)]; exact Ne.symm hy)
    · by_cases hy : y.ctorIdx = 0
      · obtain ⟨k, a, rfl⟩ := PyVal.eq_num_of_ctorIdx hy
        by_cases hx5 : x.ctorIdx = 5
        · obtain ⟨xs, rfl⟩ := PyVal.eq_tuple_of_ctorIdx hx5
          simp only [tagNums, tagged, eqWith, eqWithList_tagged_right]
        · exact eqWith_eq_false (by rw [ctorIdx_tagNums hx]; exact hx5)
      · exact eqWith_eq_false (by rw [ctorIdx_tagNums hx, ctorIdx_tagNums hy]; exact h)
  case subCons =>
    intro k v r b ih ihr
    simp only [tagNumsKVs, eqWithSub, lookup_tagNumsKVs, ihr]
    cases lookupKV b k with
    | none => rfl
    | some w => simp only [Option.map_some, ih w]
  all_goals intros; simp only [tagNums, tagNumsList, tagNumsKVs, eqWith, eqWithList, eqWithSub, tagNumsKVs_length, *]

theorem normConvKVs_length (T : Table) : ∀ kvs : KVs, (normConvKVs T kvs).length = kvs.length
  | [] => rfl
  | (_, _) :: r => by simp only [normConvKVs, List.length_cons, normConvKVs_length T r]

theorem lookup_normConvKVs (T : Table) : ∀ (b : KVs) (q : String),
    lookupKV (normConvKVs T b) q = (lookupKV b q).map (normConv T)
  | [], _ => rfl
  | (k, v) :: r, q => by
    simp only [normConvKVs, lookupKV]
    split
    · rfl
    · exact lookup_normConvKVs T r q

theorem ctorIdx_normConv (T : Table) (x : PyVal) : (normConv T x).ctorIdx = x.ctorIdx := by
  cases x <;> rfl

theorem eqWith_normConv (T : Table) :
    (∀ x y, eqWith kind conv (normConv T x) (normConv T y) = eqWith kind (fun c c' => conv (freeze T c) (freeze T c')) x y) ∧
    (∀ a b, eqWithSub kind conv (normConvKVs T a) (normConvKVs T b) =
      eqWithSub kind (fun c c' => conv (freeze T c) (freeze T c')) a b) ∧
    (∀ xs ys, eqWithList kind conv (normConvList T xs) (normConvList T ys) =
      eqWithList kind (fun c c' => conv (freeze T c) (freeze T c')) xs ys) := by
  apply PyVal.pair_induct
  case off =>
    intro x y h
    rw [eqWith_eq_false h, eqWith_eq_false (by rwa [ctorIdx_normConv, ctorIdx_normConv])]
  case subCons =>
    intro k v r b ih ihr
    simp only [normConvKVs, eqWithSub, lookup_normConvKVs, ihr]
    cases lookupKV b k with
    | none => rfl
    | some w => simp only [Option.map_some, ih w]
  all_goals intros; simp only [normConv, normConvList, normConvKVs, eqWith, eqWithList, eqWithSub, normConvKVs_length, *]

end Einx.Cache
