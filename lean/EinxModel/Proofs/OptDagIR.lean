import EinxModel.Optimize.DagSem
import EinxModel.Proofs.Optimize
/-!
The IR instance of the DAG semantics satisfies the laws the patterns rely on (`irSem_laws`).  A call of one of the
four functions is one `step` on the register file that holds its operands, so every
law is the corresponding rule lemma of C05 on that register file.
-/
namespace Einx.OptDag
open Einx Einx.IR Einx.Optimize

variable {α : Type}

/-- The four functions are different objects. -/
def NpFns.distinct (fns : NpFns) : Bool :=
  fns.reshape.obj != fns.transpose.obj && fns.reshape.obj != fns.broadcastTo.obj && fns.reshape.obj != fns.concatenate.obj &&
  fns.transpose.obj != fns.broadcastTo.obj && fns.transpose.obj != fns.concatenate.obj && fns.broadcastTo.obj != fns.concatenate.obj

theorem unlit_lits {V : Type} : ∀ v : List Tok, unlit (lits v : List (RTok V)) = some v
  | [] => rfl
  | t :: ts => congrArg (Option.map (t :: ·)) (unlit_lits (V := V) ts)

theorem seqNatsR_lits {V : Type} (v : List Tok) : seqNatsR (lits v : List (RTok V)) = seqNats v := by
  rw [seqNatsR, unlit_lits]; rfl

theorem seqNats_natsToks (p : List Nat) : seqNats (natsToks p) = some p := by
  simp only [natsToks, seqNats, List.length_map, beq_self_eq_true, if_true]
  refine mapM_eq_some.2 ?_
  rw [List.map_map]
  exact List.map_congr_left fun n _ => by simp

theorem tensorsOf_eq_some : ∀ (es : List (RTok (PV α))) (ts : List (Tensor α)),
    tensorsOf es = some ts ↔ es = ts.map (fun t => .val (.tensor t))
  | [], ts => by cases ts <;> simp [tensorsOf]
  | .lit _ :: _, ts => by cases ts <;> simp [tensorsOf]
  | .val (.obj _) :: _, ts => by cases ts <;> simp [tensorsOf]
  | .val (.tensor t) :: rest, ts => by
    cases ts with
    | nil => simp [tensorsOf]
    | cons t' ts =>
      simp only [tensorsOf, Option.map_eq_some_iff, List.cons.injEq, List.map_cons, RTok.val.injEq, PV.tensor.injEq]
      constructor
      · rintro ⟨ts', h, rfl, rfl⟩
        exact ⟨rfl, (tensorsOf_eq_some rest ts').1 h⟩
      · rintro ⟨rfl, h⟩
        exact ⟨ts, (tensorsOf_eq_some rest ts).2 h, rfl, rfl⟩

section
variable (A : Alg α) (O : EApp (PV α) → Except String (PV α)) (fns : NpFns)

theorem shapeOf_tensor (t : Tensor α) (s : List Nat) :
    (irSem A O fns).shapeOf (.tensor t) = some s ↔ t.data.length = prod t.shape ∧ t.shape = s := by
  show (if t.data.length = prod t.shape then some t.shape else none) = some s ↔ _
  split <;> simp [*]

theorem app_import (ea : EApp (PV α)) (i : String) (f a : Option String) (hh : ea.head = .import_ i f a) :
    (irSem A O fns).app ea = .ok (.obj (.imp i f a)) := by
  obtain ⟨_, _, _, _, _⟩ := ea; subst hh; rfl

theorem app_getattr (ea : EApp (PV α)) (key : String) (o : PyObj) (hh : ea.head = .getattr key)
    (hp : ea.pre = [[.val (.obj o)]]) : (irSem A O fns).app ea = .ok (.obj (.attr o key)) := by
  obtain ⟨_, _, _, _, _⟩ := ea; subst hh hp; rfl

theorem app_cast (ea : EApp (PV α)) (v : PV α) (hh : ea.head = .cast) (hp : ea.pre = [[.val v]])
    (ho : ea.out = [.ref 0]) : (irSem A O fns).app ea = .ok v := by
  obtain ⟨_, _, _, _, _⟩ := ea; subst hh hp ho; rfl

theorem app_call (ea : EApp (PV α)) (o : PyObj) (hh : ea.head = .call) (hp : ea.pre = [[.val (.obj o)]]) :
    (irSem A O fns).app ea =
      if o = fns.reshape.obj then unaryCall A ea (.reshape 0)
      else if o = fns.transpose.obj then unaryCall A ea (.transpose 0)
      else if o = fns.broadcastTo.obj then unaryCall A ea (.broadcastTo 0)
      else if o = fns.concatenate.obj then concatCall A ea
      else O ea := by
  obtain ⟨_, _, _, _, _⟩ := ea; subst hh hp; rfl

theorem isFn_obj (pat : FnPat) : ∀ (rpath : List String) (f : PV α), IsFn (irSem A O fns) pat rpath f → f = .obj (pat.robj rpath)
  | [], f, ⟨ea, hh, ha⟩ => by
    rw [app_import A O fns ea _ _ _ hh] at ha
    exact (Except.ok.inj ha).symm
  | k :: rest, f, ⟨m, ea, hm, hh, hp, ha⟩ => by
    rw [isFn_obj pat rest m hm] at hp
    rw [app_getattr A O fns ea k _ hh hp] at ha
    exact (Except.ok.inj ha).symm

theorem isCall_pre (pat : FnPat) (ea : EApp (PV α)) (h : IsCall (irSem A O fns) pat ea) :
    ea.head = .call ∧ ea.pre = [[.val (.obj pat.obj)]] := by
  obtain ⟨hh, f, hp, hf⟩ := h
  rw [isFn_obj A O fns pat _ f hf] at hp
  exact ⟨hh, hp⟩

theorem unaryCall_ok (ea : EApp (PV α)) (mk : List Nat → Instr) (r : PV α) :
    unaryCall A ea mk = .ok r ↔ ∃ t lit s t', ea.args = [[.val (.tensor t)], lit] ∧ ea.kwargs = [] ∧
      seqNatsR lit = some s ∧ step A [t] (mk s) = .ok t' ∧ r = .tensor t' := by
  unfold unaryCall
  split
  · rename_i t lit ha hk
    split
    · rename_i s hs
      constructor
      · intro h
        obtain ⟨t', h1, h⟩ := bind_ok.1 h
        exact ⟨t, lit, s, t', ha, hk, hs, h1, (Except.ok.inj h).symm⟩
      · rintro ⟨t0, lit0, s0, t', ha0, -, hs0, h1, rfl⟩
        cases ha.symm.trans ha0
        cases hs.symm.trans hs0
        exact bind_ok.2 ⟨t', h1, rfl⟩
    · rename_i hs
      constructor
      · intro h; cases h
      · rintro ⟨t0, lit0, s0, t', ha0, -, hs0, -⟩
        cases ha.symm.trans ha0
        cases hs.symm.trans hs0
  · rename_i hne
    constructor
    · intro h; cases h
    · rintro ⟨t0, lit0, s0, t', ha0, hk0, -⟩
      exact absurd hk0 (hne t0 lit0 ha0)

theorem unaryCall_lits {ea : EApp (PV α)} {mk : List Nat → Instr} {r : PV α} {xE : List (RTok (PV α))} {lit : List Tok}
    (h : unaryCall A ea mk = .ok r) (h0 : ea.args[0]? = some xE) (h1 : ea.args[1]? = some (lits lit)) :
    ∃ t s t', xE = [.val (.tensor t)] ∧ seqNats lit = some s ∧ step A [t] (mk s) = .ok t' ∧ r = .tensor t' := by
  obtain ⟨t, lit', s, t', ha, -, hs, hst, hr⟩ := (unaryCall_ok A ea mk r).1 h
  rw [ha] at h0 h1
  cases h0
  cases h1
  exact ⟨t, s, t', rfl, (seqNatsR_lits lit).symm.trans hs, hst, hr⟩

theorem unaryCall_merged (f : PV α) (t : Tensor α) (lit : List Tok) (s : List Nat) (mk : List Nat → Instr) (t' : Tensor α)
    (hs : seqNats lit = some s) (h : step A [t] (mk s) = .ok t') :
    unaryCall A (mergedCall f [.val (.tensor t)] lit) mk = .ok (.tensor t') :=
  (unaryCall_ok A _ mk _).2 ⟨t, lits lit, s, t', rfl, rfl, (seqNatsR_lits lit).trans hs, h, rfl⟩

theorem concatCall_ok (ea : EApp (PV α)) (r : PV α) (c : CKind) (n : Nat) (es : List (RTok (PV α)))
    (h0 : ea.args[0]? = some (.lit (.open_ c n) :: es)) (h : concatCall A ea = .ok r) :
    ∃ ts k t', es = ts.map (fun t => .val (.tensor t)) ∧ ts.length = n ∧ (∀ t ∈ ts, t.data.length = prod t.shape) ∧
      step A ts (.concat (List.range n) k) = .ok t' ∧ r = .tensor t' := by
  unfold concatCall at h
  split at h
  · rename_i c' n' es' k ha hk
    rw [ha] at h0
    cases h0
    split at h
    · split at h
      · rename_i ts hts
        split at h
        · rename_i hl
          obtain ⟨t', hst, h⟩ := bind_ok.1 h
          simp only [Bool.and_eq_true, beq_iff_eq, List.all_eq_true] at hl
          exact ⟨ts, k.toNat, t', (tensorsOf_eq_some es ts).1 hts, hl.1, hl.2, hst, (Except.ok.inj h).symm⟩
        · cases h
      · cases h
    · cases h
  · cases h

theorem unaryCall_noop {ea : EApp (PV α)} {mk : List Nat → Instr} {x r : PV α} {lit : List Tok} {n s : List Nat}
    (h : unaryCall A ea mk = .ok r) (h0 : ea.args[0]? = some [.val x]) (h1 : ea.args[1]? = some (lits lit))
    (hn : seqNats lit = some n) (hx : (irSem A O fns).shapeOf x = some s)
    (same : ∀ t : Tensor α, t.data.length = prod t.shape → t.shape = s → step A [t] (mk n) = .ok t) : r = x := by
  obtain ⟨t, n', t', e0, hn', hst, rfl⟩ := unaryCall_lits A h h0 h1
  cases e0
  cases hn.symm.trans hn'
  obtain ⟨hwf, hs⟩ := (shapeOf_tensor A O fns t s).1 hx
  rw [same t hwf hs] at hst
  rw [Except.ok.inj hst]

theorem app_isCall (hd : fns.distinct = true) :
    (∀ pat, Pattern.skipReshape pat ∈ fns.patterns → ∀ ea, IsCall (irSem A O fns) pat ea →
      (irSem A O fns).app ea = unaryCall A ea (.reshape 0)) ∧
    (∀ pat, Pattern.skipTranspose pat ∈ fns.patterns → ∀ ea, IsCall (irSem A O fns) pat ea →
      (irSem A O fns).app ea = unaryCall A ea (.transpose 0)) ∧
    (∀ pat, Pattern.skipBroadcastTo pat ∈ fns.patterns → ∀ ea, IsCall (irSem A O fns) pat ea →
      (irSem A O fns).app ea = unaryCall A ea (.broadcastTo 0)) ∧
    ∀ pat, Pattern.skipConcatenate pat ∈ fns.patterns → ∀ ea, IsCall (irSem A O fns) pat ea →
      (irSem A O fns).app ea = concatCall A ea := by
  simp only [NpFns.distinct, Bool.and_eq_true, bne_iff_ne, ne_eq] at hd
  obtain ⟨⟨⟨⟨⟨d1, d2⟩, d3⟩, d4⟩, d5⟩, d6⟩ := hd
  refine ⟨?_, ?_, ?_, ?_⟩
  all_goals
    intro pat hp ea hc
    obtain ⟨hh, hpre⟩ := isCall_pre A O fns pat ea hc
    rw [app_call A O fns ea _ hh hpre]
    obtain rfl : pat = _ := by simpa [NpFns.patterns] using hp
  · rw [if_pos rfl]
  · rw [if_neg (Ne.symm d1), if_pos rfl]
  · rw [if_neg (Ne.symm d2), if_neg (Ne.symm d4), if_pos rfl]
  · rw [if_neg (Ne.symm d3), if_neg (Ne.symm d5), if_neg (Ne.symm d6), if_pos rfl]

end

/-- **The IR semantics satisfies the laws** the patterns of a backend rely on (the four functions being different objects). -/
theorem irSem_laws (A : Alg α) (O : EApp (PV α) → Except String (PV α)) (fns : NpFns) (hd : fns.distinct = true) :
    (irSem A O fns).Laws fns.patterns := by
  obtain ⟨reshape_call, transpose_call, broadcast_call, concat_call⟩ := app_isCall A O fns hd
  refine ⟨?_, ?_, ?_, ?_, ?_, ?_, ?_⟩
  · -- cast_id
    intro ea v r hh hp ho h
    rw [app_cast A O fns ea v hh hp ho] at h
    exact (Except.ok.inj h).symm
  · -- reshape_noop
    intro pat hp ea x r shape s hc h0 h1 hs hx h
    rw [reshape_call pat hp ea hc] at h
    exact unaryCall_noop A O fns h h0 h1 hs hx fun t hwf e => e ▸ reshape_same_step A rfl hwf
  · -- reshape_merge
    intro pat hp ea1 ea2 f xE y z shape hc1 h10 happ1 hh2 hp2 hf2 h20 h21 happ2
    rw [reshape_call pat hp ea1 hc1] at happ1
    rw [reshape_call pat hp ea2 ⟨hh2, f, hp2, hf2⟩] at happ2
    obtain ⟨t, lit1, s1, ty, ha1, -, -, hst1, rfl⟩ := (unaryCall_ok A ea1 _ y).1 happ1
    obtain ⟨ty', s2, tz, e20, hs2, hst2, rfl⟩ := unaryCall_lits A happ2 h20 h21
    rw [ha1] at h10
    cases h10
    cases e20
    rw [reshape_call pat hp _ ⟨rfl, f, rfl, hf2⟩]
    exact unaryCall_merged A f t shape s2 _ tz hs2 (reshape_reshape_step A rfl hst1 rfl hst2)
  · -- transpose_noop
    intro pat hp ea x r perm p s hc h0 h1 hs hx hn h
    rw [transpose_call pat hp ea hc] at h
    rw [transposeNoop_sound p _ hn] at hs
    exact unaryCall_noop A O fns h h0 h1 hs hx fun t hwf e => e ▸ transpose_id_step A rfl hwf
  · -- transpose_merge
    intro pat hp ea1 ea2 f xE y z perm1 perm2 p1 p2 p hc1 h10 h11 happ1 hh2 hp2 hf2 h20 h21 happ2 hs1 hs2 hc
    rw [transpose_call pat hp ea1 hc1] at happ1
    rw [transpose_call pat hp ea2 ⟨hh2, f, hp2, hf2⟩] at happ2
    obtain ⟨t, q1, ty, rfl, hq1, hst1, rfl⟩ := unaryCall_lits A happ1 h10 h11
    obtain ⟨ty', q2, tz, e20, hq2, hst2, rfl⟩ := unaryCall_lits A happ2 h20 h21
    cases e20
    cases hs1.symm.trans hq1
    cases hs2.symm.trans hq2
    rw [transpose_call pat hp _ ⟨rfl, f, rfl, hf2⟩]
    exact unaryCall_merged A f t (natsToks p) p _ tz (seqNats_natsToks p)
      (transpose_transpose_step A rfl hst1 rfl hst2 hc)
  · -- broadcast_noop
    intro pat hp ea x r shape s hc h0 h1 hs hx h
    rw [broadcast_call pat hp ea hc] at h
    exact unaryCall_noop A O fns h h0 h1 hs hx fun t hwf e => e ▸ broadcast_same_step A rfl hwf
  · -- concat_noop: one operand, and a call that ran has a valid axis
    intro pat hp ea r c es hc h0 _ h
    rw [concat_call pat hp ea hc] at h
    obtain ⟨ts, k, t', rfl, hl, hwf, hst, rfl⟩ := concatCall_ok A ea r c 1 es h0 h
    match ts, hl with
    | [t], _ =>
      rw [concat_singleton_step A (x := 0) rfl (hwf t (List.mem_singleton.2 rfl)) hst]
      rfl

end Einx.OptDag
