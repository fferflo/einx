import EinxModel.Solve.Tree
/-!
Unique decoding of the variable names the solving model generates (`Solve/Tree.lean:expand`):

* node variables `#t/k(+/k….i.j` — `"#" ++ toString t`, then steps `"/" ++ toString k`, `"("`, `"+"`,
  then `idxSuffix idx`;
* axis variables `name.i.j` — `name ++ idxSuffix idx`.

Everything is done on `List Char` (`String.toList` is injective and a homomorphism for `++`).
`span_unique` is the one combinatorial fact: a list splits in exactly one way into a prefix whose
elements satisfy `p` and a rest that is empty or starts with an element failing `p`.
-/
namespace Einx.Solve

theorem span_unique {α : Type} (p : α → Prop) : ∀ (a a' r r' : List α), (∀ c ∈ a, p c) → (∀ c ∈ a', p c) →
    (∀ c, r.head? = some c → ¬ p c) → (∀ c, r'.head? = some c → ¬ p c) → a ++ r = a' ++ r' → a = a' ∧ r = r'
  | [], [] => fun _ _ _ _ _ _ h => ⟨rfl, by simpa using h⟩
  | [], c :: t => fun r r' _ h2 h3 _ h => by
    simp only [List.nil_append, List.cons_append] at h
    exact absurd (h2 c (by simp)) (h3 c (by rw [h]; rfl))
  | c :: t, [] => fun r r' h1 _ _ h4 h => by
    simp only [List.nil_append, List.cons_append] at h
    exact absurd (h1 c (by simp)) (h4 c (by rw [← h]; rfl))
  | c :: t, c' :: t' => fun r r' h1 h2 h3 h4 h => by
    simp only [List.cons_append, List.cons.injEq] at h
    obtain ⟨rfl, h⟩ := h
    obtain ⟨rfl, rfl⟩ := span_unique p t t' r r' (fun d hd => h1 d (by simp [hd])) (fun d hd => h2 d (by simp [hd])) h3 h4 h
    exact ⟨rfl, rfl⟩

theorem last_split_unique {α : Type} (x : α) (A A' d d' : List α) (hd : x ∉ d) (hd' : x ∉ d')
    (h : A ++ x :: d = A' ++ x :: d') : A = A' ∧ d = d' := by
  have hr := congrArg List.reverse h
  simp only [List.reverse_append, List.reverse_cons, List.append_assoc, List.singleton_append] at hr
  obtain ⟨h1, h2⟩ := span_unique (fun c => c ≠ x) d.reverse d'.reverse (x :: A.reverse) (x :: A'.reverse)
    (fun c hc he => hd (he ▸ List.mem_reverse.mp hc)) (fun c hc he => hd' (he ▸ List.mem_reverse.mp hc))
    (fun c hc => by simp only [List.head?_cons, Option.some.injEq] at hc; simp [hc])
    (fun c hc => by simp only [List.head?_cons, Option.some.injEq] at hc; simp [hc]) hr
  simp only [List.cons.injEq, true_and] at h2
  exact ⟨List.reverse_inj.mp h2, List.reverse_inj.mp h1⟩

/-- the characters of `toString k` -/
def digs (k : Nat) : List Char := Nat.toDigits 10 k

theorem toString_toList (k : Nat) : (toString k).toList = digs k := by simp [digs]

theorem digs_isDigit {k : Nat} {c : Char} (h : c ∈ digs k) : c.isDigit = true :=
  Nat.isDigit_of_mem_toDigits (by decide) (by decide) h

theorem digs_ne_nil (k : Nat) : digs k ≠ [] := Nat.toDigits_ne_nil

theorem digs_inj {k k' : Nat} (h : digs k = digs k') : k = k' := by
  have h1 : Nat.ofDigitChars 10 (digs k) 0 = k := Nat.ofDigitChars_ten_toDigits
  have h2 : Nat.ofDigitChars 10 (digs k') 0 = k' := Nat.ofDigitChars_ten_toDigits
  rw [← h1, ← h2, h]

theorem not_mem_digs {c : Char} (hc : c.isDigit = false) (k : Nat) : c ∉ digs k := fun h => by
  rw [digs_isDigit h] at hc
  cases hc

theorem dot_not_mem_digs (k : Nat) : '.' ∉ digs k := not_mem_digs (by decide) k

theorem digs_decode {k k' : Nat} {r r' : List Char} (hr : ∀ c, r.head? = some c → c.isDigit = false)
    (hr' : ∀ c, r'.head? = some c → c.isDigit = false) (h : digs k ++ r = digs k' ++ r') : k = k' ∧ r = r' := by
  obtain ⟨h1, h2⟩ := span_unique (fun c => c.isDigit = true) (digs k) (digs k') r r' (fun _ => digs_isDigit)
    (fun _ => digs_isDigit) (fun c hc => by simp [hr c hc]) (fun c hc => by simp [hr' c hc]) h
  exact ⟨digs_inj h1, h2⟩

/-- the characters of `idxSuffix idx` -/
def sufL (idx : List Nat) : List Char := (idxSuffix idx).toList

theorem sufL_nil : sufL [] = [] := rfl

theorem sufL_cons (i : Nat) (l : List Nat) : sufL (i :: l) = '.' :: digs i ++ sufL l := by
  simp [sufL, idxSuffix, digs]

theorem sufL_append (l l' : List Nat) : sufL (l ++ l') = sufL l ++ sufL l' := by
  induction l with
  | nil => simp [sufL_nil]
  | cons i l ih => simp only [List.cons_append, sufL_cons, ih, List.append_assoc]

theorem sufL_snoc (l : List Nat) (i : Nat) : sufL (l ++ [i]) = sufL l ++ '.' :: digs i := by
  rw [sufL_append, sufL_cons, sufL_nil, List.append_nil]

theorem hash_not_mem_sufL (l : List Nat) : '#' ∉ sufL l := by
  induction l with
  | nil => simp [sufL_nil]
  | cons i l ih =>
    simp only [sufL_cons, List.cons_append, List.mem_cons, List.mem_append, not_or]
    exact ⟨by decide, not_mem_digs (by decide) i, ih⟩

/-- A name whose expanded variables `name.i.j` decode uniquely: it does not end in `.digits`
(sufficient: it contains no dot, or its last character is not a digit). -/
def GoodTail (s : List Char) : Prop := '.' ∈ s → ∀ c, s.getLast? = some c → c.isDigit = false

theorem not_goodTail_snoc (m : List Char) (t : List Nat) (i : Nat) : ¬ GoodTail (m ++ sufL t ++ '.' :: digs i) := by
  intro hg
  obtain ⟨c, hc⟩ : ∃ c, (digs i).getLast? = some c := by
    cases h : (digs i).getLast? with
    | none => exact absurd (List.getLast?_eq_none_iff.mp h) (digs_ne_nil i)
    | some c => exact ⟨c, rfl⟩
  have hlast : (m ++ sufL t ++ '.' :: digs i).getLast? = some c := by
    rw [List.getLast?_append, List.getLast?_cons, hc]
    rfl
  have := hg (by simp) c hlast
  rw [digs_isDigit (List.mem_of_getLast? hc)] at this
  cases this

theorem axisVar_decode_rev : ∀ (rl rl' : List Nat) (n m : List Char), GoodTail n → GoodTail m →
    n ++ sufL rl.reverse = m ++ sufL rl'.reverse → n = m ∧ rl = rl'
  | [], [] => fun n m _ _ h => by simpa [sufL_nil] using h
  | [], i :: t => fun n m hn _ h => by
    simp only [List.reverse_nil, sufL_nil, List.append_nil, List.reverse_cons, sufL_snoc] at h
    rw [← List.append_assoc] at h
    exact absurd (h ▸ hn) (not_goodTail_snoc m t.reverse i)
  | i :: t, [] => fun n m _ hm h => by
    simp only [List.reverse_nil, sufL_nil, List.append_nil, List.reverse_cons, sufL_snoc] at h
    rw [← List.append_assoc] at h
    exact absurd (h ▸ hm) (not_goodTail_snoc n t.reverse i)
  | i :: t, i' :: t' => fun n m hn hm h => by
    simp only [List.reverse_cons, sufL_snoc] at h
    rw [← List.append_assoc, ← List.append_assoc] at h
    obtain ⟨h1, h2⟩ := last_split_unique '.' _ _ _ _ (dot_not_mem_digs i) (dot_not_mem_digs i') h
    obtain ⟨rfl, rfl⟩ := axisVar_decode_rev t t' n m hn hm h1
    rw [digs_inj h2]
    exact ⟨rfl, rfl⟩

theorem axisVar_decode {n m : List Char} {l l' : List Nat} (hn : GoodTail n) (hm : GoodTail m)
    (h : n ++ sufL l = m ++ sufL l') : n = m ∧ l = l' := by
  have := axisVar_decode_rev l.reverse l'.reverse n m hn hm (by simpa using h)
  exact ⟨this.1, List.reverse_inj.mp this.2⟩

theorem goodTail_of_dotfree {w : List Char} (hw : '.' ∉ w) : GoodTail w := fun h => absurd h hw

theorem dotfree_decode {w w' : List Char} {l l' : List Nat} (hw : '.' ∉ w) (hw' : '.' ∉ w')
    (h : w ++ sufL l = w' ++ sufL l') : w = w' ∧ l = l' :=
  axisVar_decode (goodTail_of_dotfree hw) (goodTail_of_dotfree hw') h

end Einx.Solve
