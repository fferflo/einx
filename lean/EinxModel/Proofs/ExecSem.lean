import EinxModel.Proofs.ExecTrace
/-! Helper lemmas for `Props/C13Exec.lean` / `Props/C15Exec.lean`: which values of the reference evaluation `evalGraph` are a
*tracked atom* (the object of a graph input, a constant object), and which call events have such a value as function term.

Generic in a predicate `q` on terms (the tracked atoms) and a predicate `P` on tracers (the tracers that may hold one),
as far as `Track` can be met: its field `const` lets `q` hold of all constant objects or of none. -/
namespace Einx.Exec
open Einx.Compile

/-- `q` only holds for atoms that are neither event results, modules nor closures. -/
structure QOK (q : E → Bool) : Prop where
  node : ∀ e, q e = true → ∃ nm a, e = .node (.atom nm) a
  res : ∀ n, q (resAtom n) = false
  mod : ∀ f i, q (modAtom f i) = false
  clos : ∀ k, q (closAtom k) = false

theorem QOK.not_tag {q : E → Bool} (hq : QOK q) (tag : Tag) (a : E) (h : ∀ nm, tag ≠ .atom nm) : q (.node tag a) = false := by
  cases hqe : q (.node tag a) with
  | false => rfl
  | true =>
    obtain ⟨nm, a', he⟩ := hq.node _ hqe
    simp only [E.node.injEq] at he
    exact absurd he.1 (h nm)

theorem QOK.not_mk {q : E → Bool} (hq : QOK q) (tag : Tag) (l : List E) (h : ∀ nm, tag ≠ .atom nm) : q (E.mk tag l) = false :=
  hq.not_tag tag _ h

theorem QOK.not_lit {q : E → Bool} (hq : QOK q) (s : String) : q (.lit s) = false := by
  cases hqe : q (.lit s) with
  | false => rfl
  | true => obtain ⟨nm, a', he⟩ := hq.node _ hqe; cases he

/-- The operand whose value an application's output aliases. -/
def aliasOperand : App → Option E
  | .cast input _ => some input
  | .assert_ xs _ _ _ => some xs
  | .callInplace xs _ _ _ _ _ => some xs
  | .updateitem obj _ _ _ _ => some obj
  | _ => none

def isConstantApp : App → Bool
  | .constant .. => true
  | _ => false

/-- What the graph has to satisfy for the tracked atoms `q` and the tracers `P`.  `entered` bounds the graphs the order enters;
every user takes `fun k => g.top = .gref k` (`visitOrder_enters`). -/
structure Track (g : Graph) (q : E → Bool) (P : Nat → Prop) (entered : Nat → Prop) : Prop where
  inp : ∀ (k : Nat) (sg : SubGraph) (t : Nat), entered k → g.graphs[k]? = some sg → t ∈ sg.inputs → (q (inAtom t) = true ↔ P t)
  /-- `n` is not tied to `j` (the reference evaluation numbers the constants by a counter the graph does not give): the
  `n`-th constant object is tracked iff the output of EVERY `Constant` node is a `P` tracer.  With two `Constant` nodes
  no `q` that tracks one of them meets this; it serves "every constant" (C15, where `adaptOK` admits one) and "none" (C13). -/
  const : ∀ (j : Nat) (str : String) (o : Nat), g.apps[j]? = some (App.constant str o) → ∀ n, (q (constAtom n) = true ↔ P o)
  alias : ∀ (j : Nat) (a : App) (x : Nat), g.apps[j]? = some a → aliasOperand a = some (.var x) → P x → ∃ y, a.out = .var y ∧ P y
  prod : ∀ (j : Nat) (a : App) (y : Nat), g.apps[j]? = some a → E.var y ∈ regKeys a.out → P y →
    a.out = .var y ∧ (isConstantApp a = true ∨ ∃ x, aliasOperand a = some (.var x) ∧ P x)

/-- The memo of the reference evaluation: a tracked atom is only held by a `P` tracer, and a `P` tracer only holds tracked atoms. -/
structure MemoInv (q : E → Bool) (P : Nat → Prop) (vals : List (E × E)) : Prop where
  sound : ∀ p ∈ vals, q p.2 = true → ∃ y, p.1 = .var y ∧ P y
  compl : ∀ p ∈ vals, ∀ y, p.1 = .var y → P y → q p.2 = true

theorem MemoInv.nil (q : E → Bool) (P : Nat → Prop) : MemoInv q P [] := ⟨by simp, by simp⟩

theorem regKeysL_mem (a v k : E) (hv : v ∈ a.toList) (hk : k ∈ regKeys v) : k ∈ regKeys.regKeysL a := by
  induction a with
  | cons h t _ iht =>
    simp only [E.toList, List.mem_cons] at hv
    simp only [regKeys.regKeysL, List.mem_append]
    rcases hv with rfl | hv
    · exact Or.inl hk
    · exact Or.inr (iht hv)
  | _ => simp [E.toList] at hv

theorem keyOf_mem_regKeys (obj k : E) (h : keyOf obj = some k) : k ∈ regKeys obj := by
  cases obj with
  | node tag a => cases tag <;> simp_all [regKeys, keyOf]
  | _ => simp_all [regKeys, keyOf]

/-- The entries `setCache` appends: the object's own key with the given value, and element keys with element-access terms. -/
theorem setCache_new (fuel : Nat) (cache : List (E × E)) (obj e : E) (cache' : List (E × E))
    (h : setCache fuel cache obj e = .ok cache') :
    ∃ more, cache' = cache ++ more ∧ ∀ p ∈ more, p.1 ∈ regKeys obj ∧
      ((keyOf obj = some p.1 ∧ p.2 = e) ∨ ((∃ s a, p.2 = .node (.elem s) a) ∧ ∀ t, obj ≠ .var t)) := by
  refine setCache_ind (Q := fun obj e p => p.1 ∈ regKeys obj ∧
      ((keyOf obj = some p.1 ∧ p.2 = e) ∨ ((∃ s a, p.2 = .node (.elem s) a) ∧ ∀ t, obj ≠ .var t)))
    (fun obj _ _ hk => ⟨keyOf_mem_regKeys obj _ hk, Or.inl ⟨hk, rfl⟩⟩)
    (fun tag a _ x _ p htag hx hp => ⟨?_, Or.inr ⟨?_, fun _ => E.noConfusion⟩⟩) fuel cache obj e cache' h
  · have := regKeysL_mem a x p.1 hx hp.1
    rcases htag with rfl | rfl <;> simp [regKeys, this]
  · rcases hp.2 with ⟨_, r2⟩ | ⟨r2, _⟩
    · exact ⟨_, _, r2⟩
    · exact r2

/-- If an operand evaluates to a tracked atom, the operand is a tracer holding it. -/
theorem conv_tracked {q : E → Bool} {P : Nat → Prop} (hq : QOK q) (vals : List (E × E))
    (hs : ∀ p ∈ vals, q p.2 = true → ∃ y, p.1 = .var y ∧ P y) (x e : E) (h : conv vals x = .ok e) (hqe : q e = true) :
    ∃ y, x = .var y ∧ (E.var y, e) ∈ vals := by
  obtain ⟨nm, arg, rfl⟩ := hq.node e hqe
  have keyed : ∀ k : E, (∀ y, k ≠ .var y) → assocGet vals k ≠ some (.node (.atom nm) arg) := fun k hk hget =>
    let ⟨y, hy, _⟩ := hs _ (assocGet_mem vals k _ hget) hqe
    hk y hy
  have built : ∀ (tag : Tag) (a : E), (∀ nm, tag ≠ .atom nm) →
      (do pure (E.node tag (← convL vals a)) : Except String E) ≠ .ok (.node (.atom nm) arg) := by
    intro tag a htag h'
    simp only [bind_ok, pure_ok, E.node.injEq] at h'
    obtain ⟨_, _, h', _⟩ := h'
    exact htag nm h'
  cases x with
  | var t =>
    simp only [conv] at h
    split at h
    · rename_i hg
      cases h
      exact ⟨t, rfl, assocGet_mem vals _ _ hg⟩
    · cases h
  | gref i =>
    simp only [conv] at h
    split at h
    · rename_i hg
      cases h
      exact (keyed (.gref i) (fun _ => E.noConfusion) hg).elim
    · cases h
  | lit c => simp only [conv] at h; cases h
  | nil => simp only [conv] at h; cases h
  | cons hd tl =>
    simp only [conv, bind_ok, pure_ok] at h
    obtain ⟨_, _, _, _, h⟩ := h
    cases h
  | node tag a =>
    cases tag with
    | tuple | list =>
      simp only [conv, keyOf, Option.bind_some] at h
      split at h
      · rename_i hg
        cases h
        exact (keyed _ (fun _ => E.noConfusion) hg).elim
      · exact (built _ a (fun _ => Tag.noConfusion) h).elim
    | dict | slice => simp only [conv] at h; exact (built _ a (fun _ => Tag.noConfusion) h).elim
    | _ => simp only [conv] at h; cases h

theorem convTop_tracked {q : E → Bool} {P : Nat → Prop} (hq : QOK q) (vals : List (E × E))
    (hs : ∀ p ∈ vals, q p.2 = true → ∃ y, p.1 = .var y ∧ P y) (x e : E) (h : convTop vals x = .ok e) (hqe : q e = true) :
    ∃ y, x = .var y ∧ (E.var y, e) ∈ vals := by
  unfold convTop at h
  split at h
  · cases h
  · exact conv_tracked hq vals hs x e h hqe

theorem convTop_var_mem (vals : List (E × E)) (y : Nat) (e : E) (h : convTop vals (.var y) = .ok e) : (E.var y, e) ∈ vals := by
  simp only [convTop, conv] at h
  split at h
  · rename_i hg
    cases h
    exact assocGet_mem vals _ _ hg
  · cases h

theorem memoInv_setCache {q : E → Bool} {P : Nat → Prop} (hq : QOK q) (fuel : Nat) (vals vals' : List (E × E)) (obj e : E)
    (hinv : MemoInv q P vals) (h : setCache fuel vals obj e = .ok vals')
    (hs : q e = true → ∃ y, obj = .var y ∧ P y)
    (hc : ∀ y, E.var y ∈ regKeys obj → P y → obj = .var y ∧ q e = true) : MemoInv q P vals' := by
  obtain ⟨more, rfl, hm⟩ := setCache_new fuel vals obj e vals' h
  refine ⟨?_, ?_⟩
  · intro p hp hqp
    rcases List.mem_append.1 hp with hp | hp
    · exact hinv.sound p hp hqp
    · obtain ⟨_, h2⟩ := hm p hp
      rcases h2 with ⟨hk, hv⟩ | ⟨⟨s, a, hv⟩, _⟩
      · rw [hv] at hqp
        obtain ⟨y, rfl, hy⟩ := hs hqp
        simp only [keyOf, Option.some.injEq] at hk
        exact ⟨y, hk.symm, hy⟩
      · rw [hv, hq.not_tag _ _ (by intro nm; simp)] at hqp
        cases hqp
  · intro p hp y hy hPy
    rcases List.mem_append.1 hp with hp | hp
    · exact hinv.compl p hp y hy hPy
    · obtain ⟨h1, h2⟩ := hm p hp
      rw [hy] at h1
      obtain ⟨hobj, hqe⟩ := hc y h1 hPy
      rcases h2 with ⟨_, hv⟩ | ⟨_, hne⟩
      · rw [hv]; exact hqe
      · exact absurd hobj (hne y)

theorem store_inv {g : Graph} {q : E → Bool} {P : Nat → Prop} {entered : Nat → Prop} (hq : QOK q) (T : Track g q P entered)
    (j : Nat) (a : App) (ha : g.apps[j]? = some a) (vals vals' : List (E × E)) (value : E)
    (h : setCache 64 vals a.out value = .ok vals') (hinv : MemoInv q P vals)
    (hval : (q value = false ∧ aliasOperand a = none ∧ isConstantApp a = false) ∨
            (isConstantApp a = true ∧ ∃ n, value = constAtom n) ∨
            (∃ operand, aliasOperand a = some operand ∧ convTop vals operand = .ok value)) : MemoInv q P vals' := by
  apply memoInv_setCache hq 64 vals vals' a.out value hinv h
  · intro hqv
    rcases hval with ⟨h1, _, _⟩ | ⟨h1, n, rfl⟩ | ⟨operand, h1, h2⟩
    · rw [h1] at hqv; cases hqv
    · cases a with
      | constant str o => exact ⟨o, rfl, (T.const j str o ha n).1 hqv⟩
      | _ => simp [isConstantApp] at h1
    · obtain ⟨x, rfl, hmem⟩ := convTop_tracked hq vals hinv.sound operand value h2 hqv
      obtain ⟨x', hx', hPx⟩ := hinv.sound _ hmem hqv
      simp only [E.var.injEq] at hx'
      subst hx'
      exact T.alias j a x ha h1 hPx
  · intro y hy hPy
    obtain ⟨hout, hkind⟩ := T.prod j a y ha hy hPy
    refine ⟨hout, ?_⟩
    rcases hval with ⟨_, h2, h3⟩ | ⟨h1, n, rfl⟩ | ⟨operand, h1, h2⟩
    · rcases hkind with hk | ⟨x, hx, _⟩
      · rw [h3] at hk; cases hk
      · rw [h2] at hx; cases hx
    · cases a with
      | constant str o =>
        simp only [App.out, E.var.injEq] at hout
        subst hout
        exact (T.const j str o ha n).2 hPy
      | _ => simp [isConstantApp] at h1
    · rcases hkind with hk | ⟨x, hx, hPx⟩
      · cases a <;> simp [isConstantApp, aliasOperand] at hk h1
      · rw [h1] at hx
        simp only [Option.some.injEq] at hx
        subst hx
        exact hinv.compl _ (convTop_var_mem vals x value h2) x rfl hPx

/-- A tracked call event among the events `evs` of step `v` comes from the call of a `P` tracer. -/
def StepEvs (g : Graph) (q : E → Bool) (P : Nat → Prop) (v : Visit) (evs : List Event) : Prop :=
  ∀ ev ∈ evs, trackedCall q ev = true → ∃ j, v = .app j ∧ PCall g P j

theorem stepEvs_untracked (g : Graph) (q : E → Bool) (P : Nat → Prop) (v : Visit) (evs : List Event)
    (hu : ∀ ev ∈ evs, trackedCall q ev = false) : StepEvs g q P v evs :=
  fun ev hev ht => (by rw [hu ev hev] at ht; cases ht)

theorem atExpr_form (cache : List (E × E)) (obj key e : E) (h : atExpr cache obj key = .ok e) : ∃ l, e = E.mk .index l := by
  simp only [atExpr, bind_ok, pure_ok] at h
  obtain ⟨_, _, _, _, rfl⟩ := h
  exact ⟨_, rfl⟩

theorem callParts_mk (f : E) (rest : List E) : callParts (E.mk .call (f :: rest)) = some (f, rest) := by
  simp [callParts, E.mk, E.ofList, E.toList_ofList]

theorem trackedCall_mk (q : E → Bool) (f : E) (rest : List E) : trackedCall q (.call (E.mk .call (f :: rest))) = q f := by
  simp [trackedCall, callParts_mk]

/-- **One application step**: the memo invariant is kept, and the only tracked call event a step can add is the call of a
`P` tracer. -/
theorem refVisit_app {g : Graph} {q : E → Bool} {P : Nat → Prop} {entered : Nat → Prop} (hq : QOK q) (T : Track g q P entered)
    (up : Bool) (r r' : RState) (j : Nat) (h : refVisit g up r (.app j) = .ok r') (hinv : MemoInv q P r.vals) :
    MemoInv q P r'.vals ∧ ∃ evs, r'.trace = r.trace ++ evs ∧ StepEvs g q P (.app j) evs := by
  obtain ⟨a, rule, ha, hr, h⟩ := refVisit_app_ok.1 h
  -- every application other than a call: the value stored for it is classified, its events are no calls
  have fin : ∀ (value : E) (evs : List Event), setCache 64 r.vals a.out value = .ok r'.vals → r'.trace = r.trace ++ evs →
      ((q value = false ∧ aliasOperand a = none ∧ isConstantApp a = false) ∨ (isConstantApp a = true ∧ ∃ n, value = constAtom n) ∨
        (∃ operand, aliasOperand a = some operand ∧ convTop r.vals operand = .ok value)) →
      (∀ ev ∈ evs, trackedCall q ev = false) →
      MemoInv q P r'.vals ∧ ∃ evs, r'.trace = r.trace ++ evs ∧ StepEvs g q P (.app j) evs := fun value evs hset htr hval hu =>
    ⟨store_inv hq T j a ha r.vals r'.vals value hset hinv hval, evs, htr, stepEvs_untracked g q P _ evs hu⟩
  have untracked : ∀ s : Stmt, ∀ ev ∈ s.event?.toList, trackedCall q ev = false := by
    intro s ev hev
    cases s <;> simp only [Stmt.event?, Option.toList, List.mem_singleton, List.not_mem_nil] at hev <;> (subst hev; rfl)
  cases a with
  | call fn args kwargs deps out =>
    simp only [ruleOf, bind_ok, pure_ok] at hr
    obtain ⟨f, hf, as, has, ks, hks, rfl⟩ := hr
    obtain ⟨hset, htr⟩ := refRule_define r r' _ _ _ _ _ h
    cases hal : isAllowInline g fn with
    | true =>
      simp only [hal, Bool.not_true, Bool.false_eq_true, if_false] at hset htr
      exact ⟨store_inv hq T j _ ha r.vals r'.vals _ hset hinv (Or.inl ⟨hq.not_mk _ _ (fun _ => Tag.noConfusion), rfl, rfl⟩),
        [], htr, stepEvs_untracked g q P _ [] (fun _ hev => nomatch hev)⟩
    | false =>
      simp only [hal, Bool.not_false, if_true] at hset htr
      refine ⟨store_inv hq T j _ ha r.vals r'.vals _ hset hinv (Or.inl ⟨hq.res _, rfl, rfl⟩),
        [.call (E.mk .call (f :: as ++ ks))], htr, fun ev hev ht => ?_⟩
      cases List.mem_singleton.1 hev
      rw [List.cons_append, trackedCall_mk] at ht
      obtain ⟨y, rfl, hmem⟩ := convTop_tracked hq r.vals hinv.sound fn f hf ht
      obtain ⟨y', hy', hPy⟩ := hinv.sound _ hmem ht
      cases hy'
      exact ⟨j, rfl, y, args, kwargs, deps, out, ha, hPy⟩
  | callInplace xs fn args kwargs deps out =>
    simp only [ruleOf, bind_ok, pure_ok] at hr
    obtain ⟨x, hx, f, _, as, _, ks, _, rfl⟩ := hr
    obtain ⟨hset, htr⟩ := refRule_effect r r' _ _ _ h
    exact fin _ _ hset htr (Or.inr (Or.inr ⟨xs, rfl, hx⟩)) (untracked _)
  | getattr obj key out =>
    simp only [ruleOf, bind_ok, pure_ok] at hr
    obtain ⟨o, _, rfl⟩ := hr
    obtain ⟨hset, htr⟩ := refRule_define r r' _ _ _ _ _ h
    exact fin _ _ hset htr (Or.inl ⟨hq.not_mk _ _ (fun _ => Tag.noConfusion), rfl, rfl⟩) (fun _ hev => nomatch hev)
  | getitem obj key out =>
    simp only [ruleOf, bind_ok, pure_ok] at hr
    obtain ⟨e, he, rfl⟩ := hr
    obtain ⟨l, rfl⟩ := atExpr_form _ _ _ _ he
    obtain ⟨hset, htr⟩ := refRule_define r r' _ _ _ _ _ h
    exact fin _ _ hset htr (Or.inl ⟨hq.not_mk _ _ (fun _ => Tag.noConfusion), rfl, rfl⟩) (fun _ hev => nomatch hev)
  | updateitem obj key value op out =>
    simp only [ruleOf, bind_ok, pure_ok] at hr
    obtain ⟨e, _, vv, _, o, ho, rfl⟩ := hr
    obtain ⟨hset, htr⟩ := refRule_effect r r' _ _ _ h
    exact fin _ _ hset htr (Or.inr (Or.inr ⟨obj, rfl, ho⟩)) (untracked _)
  | import_ imp from_ as_ out =>
    simp only [ruleOf, pure_ok] at hr
    subst hr
    obtain ⟨hset, htr⟩ := refRule_import r r' _ _ _ _ h
    exact fin _ _ hset htr (Or.inl ⟨hq.mod _ _, rfl, rfl⟩) (fun _ hev => nomatch hev)
  | operator op operands out =>
    simp only [ruleOf, bind_ok] at hr
    obtain ⟨os, _, hr⟩ := hr
    have op_node : ∀ (tag : Tag) (l : List E), (∀ nm, tag ≠ .atom nm) → rule = .define (.var out) (E.mk tag l) false false false →
        MemoInv q P r'.vals ∧ ∃ evs, r'.trace = r.trace ++ evs ∧ StepEvs g q P (.app j) evs := by
      intro tag l htag hrule
      subst hrule
      obtain ⟨hset, htr⟩ := refRule_define r r' _ _ _ _ _ h
      exact fin _ _ hset htr (Or.inl ⟨hq.not_mk _ _ htag, rfl, rfl⟩) (fun _ hev => nomatch hev)
    split at hr
    · cases up <;> exact op_node _ _ (fun _ => Tag.noConfusion) (pure_ok.1 hr).symm
    · exact op_node _ _ (fun _ => Tag.noConfusion) (pure_ok.1 hr).symm
    · cases hr
  | builtin name out =>
    simp only [ruleOf, pure_ok] at hr
    subst hr
    obtain ⟨hset, htr⟩ := refRule_define r r' _ _ _ _ _ h
    exact fin _ _ hset htr (Or.inl ⟨hq.not_lit _, rfl, rfl⟩) (fun _ hev => nomatch hev)
  | assert_ xs cond msg out =>
    simp only [ruleOf, bind_ok, pure_ok] at hr
    obtain ⟨x, hx, cnd, _, rfl⟩ := hr
    obtain ⟨hset, htr⟩ := refRule_effect r r' _ _ _ h
    exact fin _ _ hset htr (Or.inr (Or.inr ⟨xs, rfl, hx⟩)) (untracked _)
  | constant str out =>
    simp only [ruleOf, pure_ok] at hr
    subst hr
    obtain ⟨hset, htr⟩ := refRule_constant r r' _ _ h
    exact fin _ _ hset htr (Or.inr (Or.inl ⟨rfl, _, rfl⟩)) (fun _ hev => nomatch hev)
  | cast input out =>
    simp only [ruleOf, bind_ok, pure_ok] at hr
    obtain ⟨x, hx, rfl⟩ := hr
    obtain ⟨hset, htr⟩ := refRule_define r r' _ _ _ _ _ h
    exact fin _ _ hset htr (Or.inr (Or.inr ⟨input, rfl, hx⟩)) (fun _ hev => nomatch hev)

theorem inputs_inv {q : E → Bool} {P : Nat → Prop} (hq : QOK q) (l : List Nat) (vals vals' : List (E × E))
    (h : l.foldlM (fun vals t => setCache 64 vals (.var t) (inAtom t)) vals = .ok vals') (hinv : MemoInv q P vals)
    (hl : ∀ t ∈ l, (q (inAtom t) = true ↔ P t)) : MemoInv q P vals' :=
  (ExceptP.foldlM (E := fun _ => True) hinv fun vals t ht hinv => ExceptP.of_ok (fun v1 h1 =>
    memoInv_setCache hq 64 vals v1 (.var t) (inAtom t) hinv h1 (fun hqt => ⟨t, rfl, (hl t ht).1 hqt⟩) fun y hy hPy => by
      simp only [regKeys, keyOf, Option.toList, List.mem_singleton, E.var.injEq] at hy
      subst hy
      exact ⟨rfl, (hl y ht).2 hPy⟩) (fun _ _ => trivial)).ok h

theorem refVisit_enter {g : Graph} {q : E → Bool} {P : Nat → Prop} {entered : Nat → Prop} (hq : QOK q) (T : Track g q P entered)
    (up : Bool) (r r' : RState) (k : Nat) (hk : entered k) (h : refVisit g up r (.enter k) = .ok r') (hinv : MemoInv q P r.vals) :
    MemoInv q P r'.vals ∧ r'.trace = r.trace := by
  obtain ⟨sg, v1, v2, hg, h1, h2, rfl⟩ := refVisit_enter_ok.1 h
  refine ⟨inputs_inv hq sg.inputs v1 v2 h2 ?_ (fun t ht => T.inp k sg t hk hg ht), rfl⟩
  refine memoInv_setCache hq 64 r.vals v1 (.gref k) (closAtom k) hinv h1 (fun hqc => ?_) (fun y hy => ?_)
  · rw [hq.clos k] at hqc
    cases hqc
  · simp [regKeys, keyOf] at hy

theorem refVisit_step {g : Graph} {q : E → Bool} {P : Nat → Prop} {entered : Nat → Prop} (hq : QOK q) (T : Track g q P entered)
    (up : Bool) (r r' : RState) (v : Visit) (hent : ∀ k, v = .enter k → entered k) (h : refVisit g up r v = .ok r')
    (hinv : MemoInv q P r.vals) :
    MemoInv q P r'.vals ∧ ∃ evs, r'.trace = r.trace ++ evs ∧ StepEvs g q P v evs := by
  cases v with
  | app j => exact refVisit_app hq T up r r' j h hinv
  | enter k =>
    obtain ⟨h1, h2⟩ := refVisit_enter hq T up r r' k (hent k rfl) h hinv
    exact ⟨h1, [], by rw [h2, List.append_nil], stepEvs_untracked g q P _ [] (fun _ hev => nomatch hev)⟩
  | exit k =>
    obtain ⟨h1, h2⟩ := refVisit_exit g up r r' k h
    exact ⟨h1 ▸ hinv, [], by rw [h2, List.append_nil], stepEvs_untracked g q P _ [] (fun _ hev => nomatch hev)⟩

/-- **Exactly one tracked call event** along a traversal without repetition: the event of the call site.  `refTagged_once` with the
invariant `MemoInv`: that the function term of the event of `i` is tracked is the completeness half of the invariant. -/
theorem tracked_call_once {g : Graph} {q : E → Bool} {P : Nat → Prop} {entered : Nat → Prop} (hq : QOK q) (T : Track g q P entered)
    {order : List Visit} {i y : Nat} {args : List E} {kwargs : List (String × E)} (C : CallSite g order P i y args kwargs)
    (hnd : order.Nodup) (hent : ∀ k, Visit.enter k ∈ order → entered k) (up : Bool) (r : RState)
    (h : evalGraph g up order = .ok r) :
    ∃ f as ks, r.trace.filter (trackedCall q) = [.call (E.mk .call (f :: as ++ ks))] ∧ q f = true ∧
      as.length = args.length ∧ ks.map kwName = kwargs.map (fun kv => some kv.1) := by
  have once := refTagged_once (g := g) (up := up) (fun p => trackedCall q p.2)
    (fun r => MemoInv q P r.vals)
    (fun e => ∃ f as ks, e = (some i, Event.call (E.mk .call (f :: as ++ ks))) ∧ q f = true ∧ as.length = args.length ∧
      ks.map kwName = kwargs.map (fun kv => some kv.1))
    i order hnd C.visited (fun r1 v r2 hv hinv hstep => ?_) {} r (MemoInv.nil q P) h
  · obtain ⟨e, ⟨f, as, ks, rfl, hqf, hlen, hnames⟩, hf⟩ := once
    refine ⟨f, as, ks, ?_, hqf, hlen, hnames⟩
    rw [evalGraph_trace h, List.filter_map]
    exact congrArg (List.map (·.2)) hf
  · obtain ⟨hinv', evs, he, hs⟩ := refVisit_step hq T up r1 r2 v (fun k hk => hent k (hk ▸ hv)) hstep hinv
    refine ⟨hinv', fun hne => ?_, fun heq => ?_⟩
    · rw [stepTagged_of_trace he]
      refine List.filter_eq_nil_iff.2 fun p hp ht => ?_
      obtain ⟨ev, hev, rfl⟩ := List.mem_map.1 hp
      obtain ⟨j, rfl, hj⟩ := hs ev hev ht
      exact hne (congrArg Visit.app (C.only j hv hj))
    · subst heq
      obtain ⟨f, as, ks, hf, hst, hl, hn⟩ := C.step hstep
      have hqf := hinv.compl _ (convTop_var_mem r1.vals y f hf) y rfl C.tracer
      exact ⟨_, ⟨f, as, ks, rfl, hqf, hl, hn⟩, by simp [hst, trackedCall_mk, hqf]⟩

end Einx.Exec
