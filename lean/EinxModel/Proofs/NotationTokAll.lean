import EinxModel.Proofs.NotationFold
/-!
# M1 Notation — predicates on token trees

`TokAll A G`: every atom satisfies `A`, the two delimiters of every group satisfy `G`.  What holds of the tokens by their class
holds of the token tree by their place (`buildTree_all`, over the delimiter stack `TreeIns.full_inv`).
-/
namespace Einx.Notation
open TreeIns

mutual
def TokAll (A : Token → Prop) (G : Token → Token → Prop) : Tok → Prop
  | .atom t => A t
  | .group o c inner => G o c ∧ TokAllL A G inner
def TokAllL (A : Token → Prop) (G : Token → Token → Prop) : List Tok → Prop
  | [] => True
  | t :: ts => TokAll A G t ∧ TokAllL A G ts
end

variable {A O T : Token → Prop} {G : Token → Token → Prop}

theorem tokAllL_iff {ts : List Tok} : TokAllL A G ts ↔ ∀ t ∈ ts, TokAll A G t := by
  induction ts with
  | nil => simp [TokAllL]
  | cons c cs ih => simp [TokAllL, ih]

theorem tokAllL_append {xs ys : List Tok} (hx : TokAllL A G xs) (hy : TokAllL A G ys) : TokAllL A G (xs ++ ys) :=
  tokAllL_iff.mpr (List.forall_mem_append.mpr ⟨tokAllL_iff.mp hx, tokAllL_iff.mp hy⟩)

theorem tokAll_atom {t : Token} : TokAll A G (.atom t) ↔ A t := Iff.rfl

theorem tokAll_group {o c : Token} {inner : List Tok} : TokAll A G (.group o c inner) ↔ G o c ∧ ∀ t ∈ inner, TokAll A G t :=
  and_congr_right fun _ => tokAllL_iff

/-- The delimiter stack: the opening tokens satisfy `O`, everything collected is `TokAll`. -/
def StAll (O A : Token → Prop) (G : Token → Token → Prop) (s : St) : Prop :=
  (∀ f ∈ s.1, O f.1 ∧ TokAllL A G f.2) ∧ TokAllL A G s.2

theorem StAll.appTop {s : St} {xs : List Tok} (h : StAll O A G s) (hx : TokAllL A G xs) : StAll O A G (appTop xs s) := by
  obtain ⟨_ | ⟨⟨o, items⟩, rest⟩, base⟩ := s
  · exact ⟨h.1, tokAllL_append h.2 hx⟩
  · have ho := h.1 (o, items) List.mem_cons_self
    exact ⟨List.forall_mem_cons.mpr ⟨⟨ho.1, tokAllL_append ho.2 hx⟩, fun g hg => h.1 g (List.mem_cons_of_mem _ hg)⟩, h.2⟩

theorem buildTree_all {E : Err → Prop}
    (hopen : ∀ t, T t → delimsFront.contains t.text = true → O t)
    (hatom : ∀ t, T t → delimsFront.contains t.text = false → delimsBack.contains t.text = false → A t)
    (hgroup : ∀ o c, O o → T c → delimsBack.contains c.text = true → closingOf o.text = some c.text → G o c)
    (hcloseE : ∀ t, T t → E (closeErr t)) (hopenE : ∀ o, O o → E (openErr o))
    {ts : List Token} (hts : ∀ t ∈ ts, T t) : ExceptP E (TokAllL A G) (buildTree ts [] []) := by
  rw [buildTree_eq_full]
  refine full_inv (I := fun ts s => (∀ t ∈ ts, T t) ∧ StAll O A G s) ?_ ?_ ?_ ?_ ?_ ?_ ts _
    ⟨hts, And.intro (fun _ h => nomatch h) trivial⟩
  · intro t ts s h1 h
    have ht := List.forall_mem_cons.mp h.1
    exact ⟨ht.2, List.forall_mem_cons.mpr ⟨⟨hopen t ht.1 h1, trivial⟩, h.2.1⟩, h.2.2⟩
  · intro t ts s h1 h2 h
    have ht := List.forall_mem_cons.mp h.1
    exact ⟨ht.2, h.2.appTop ⟨hatom t ht.1 h1 h2, trivial⟩⟩
  · intro t ts o items rest base _ h2 h3 h
    have ht := List.forall_mem_cons.mp h.1
    have hfr := List.forall_mem_cons.mp h.2.1
    exact ⟨ht.2, StAll.appTop ⟨hfr.2, h.2.2⟩ ⟨⟨hgroup o t hfr.1.1 ht.1 h2 h3, hfr.1.2⟩, trivial⟩⟩
  · intro t ts s _ h
    exact hcloseE t (h.1 t List.mem_cons_self)
  · intro base h
    exact h.2.2
  · intro o items rest base h
    exact hopenE o (h.2.1 (o, items) List.mem_cons_self).1

end Einx.Notation
