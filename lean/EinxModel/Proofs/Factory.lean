import EinxModel.Factory.Check
import EinxModel.Proofs.UtilExec
/-! Lemmas for `Props/C13.lean`: the extracted keyword rule against the property's own reading of it, where the model puts the
call and the guard block of an argument, what the checker's acceptance says at a factory position, and `castSource` / `rootF`
(the `Cast` chains behind `root`) on their forms of input. -/
namespace Einx.Factory
open Einx.Extracted

/-! ### The property's own reading of "declares a keyword" (independent of `Extracted`) -/

/-- A factory may receive keyword `k` iff it takes `**kwargs` or declares `k` as a keyword-capable parameter. -/
def Spec.declares (s : Sig) (k : String) : Bool :=
  s.params.any (fun p => p.2 == ParamKind.varKw) ||
  s.params.any (fun p => p.1 == k && (p.2 == ParamKind.posOrKw || p.2 == ParamKind.kwOnly))

/-- The optional keywords named by the property. -/
def Spec.optionalKeywords : List String := ["name", "arg_index", "signature"]

/-- The rule extracted from `_call_tensorfactory.use_parameter` is the property's rule. -/
theorem useParameter_eq_spec (s : Sig) (k : String) : useParameter s k = Spec.declares s k := by
  have kinds : ∀ kd : ParamKind, Factory.varKwKinds.contains kd.pyName = (kd == .varKw) ∧
      Factory.declaredKinds.contains kd.pyName = (kd == .posOrKw || kd == .kwOnly) := by
    intro kd
    cases kd <;> decide
  unfold useParameter Spec.declares hasVarKwargs declaresKw
  simp only [kinds, Factory.useParamVarKwDisjunct, Factory.useParamRequiresDeclared, Bool.true_and, if_true]

/-- The keywords offered to the factory at argument index `i`, with their values, in dict order. -/
def Spec.offered (opName : Option String) (i : Nat) : List (String × KwVal) :=
  [("signature", KwVal.signature), ("arg_index", KwVal.argIndex i)] ++
    (match opName with | some n => [("name", KwVal.opName n)] | none => [])

theorem offered_eq (c : Ctx) (i : Nat) : offered c i = Spec.offered c.opName i := by
  unfold offered Spec.offered
  cases h : c.opName <;>
    simp [Factory.perCallKeywords, Factory.opsKeywords, Factory.factoryKwargsMergedRight, Factory.argIndexFromEnumerate, kwVal, h]

theorem passed_eq (c : Ctx) (i : Nat) (sig : Sig) :
    passed c i sig = (Spec.offered c.opName i).filter (fun kv => Spec.declares sig kv.1) := by
  simp [passed, Factory.kwargsFilteredByUseParameter, useParameter_eq_spec, offered_eq]

/-! ### The nodes of the model: calls come from `callAll` only, and every call-like node carries the `depend_on` stack -/

def Node.depsOK (d : List Ref) : Node → Bool
  | .call _ _ _ deps => deps == d
  | .isinstance _ deps => deps == d
  | .tupleOf _ deps => deps == d
  | _ => true

theorem callAll_count (c : Ctx) (v : Ref) : ∀ (args : List Arg) (base i : Nat),
    (callAll c base i args).1.countP (Node.callsRef v) = args.countP (fun a => a.factory.isSome && a.value == v)
  | [], _, _ => rfl
  | a :: as, base, i => by
    rw [callAll, List.countP_append, List.countP_cons, callAll_count c v as]
    cases hf : a.factory with
    | none => simp [callTensorFactory, hf]
    | some sig => simp [callTensorFactory, hf, Node.callsRef]; omega

theorem callAll_depsOK (c : Ctx) : ∀ (args : List Arg) (base i : Nat), (callAll c base i args).1.all (Node.depsOK c.deps) = true
  | [], _, _ => rfl
  | a :: as, base, i => by
    rw [callAll, List.all_append, callAll_depsOK c as, Bool.and_true]
    cases hf : a.factory <;> simp [callTensorFactory, hf, Node.depsOK]

/-- A node inserted by `_assert_output` is no call and carries the `depend_on` stack. -/
def Node.isGuard (d : List Ref) (n : Node) : Prop := n.depsOK d = true ∧ ∀ v, n.callsRef v = false

theorem assertSteps_guard (c : Ctx) (solved : List Nat) : ∀ (ss : List String) (base : Nat) (x : Ref),
    ∀ n ∈ (assertSteps c solved base x ss).1, n.isGuard c.deps
  | [], _, _, n, hn => nomatch hn
  | s :: ss, base, x, n, hn => by
    rw [assertSteps, List.mem_append] at hn
    rcases hn with hn | hn
    · unfold assertStep at hn
      split at hn
      · simp only [List.mem_cons, List.not_mem_nil, or_false] at hn
        rcases hn with rfl | rfl <;> exact ⟨by simp [Node.depsOK], fun _ => rfl⟩
      · split at hn
        · simp only [List.mem_cons, List.not_mem_nil, or_false] at hn
          rcases hn with rfl | rfl | rfl | rfl <;> exact ⟨by simp [Node.depsOK], fun _ => rfl⟩
        · nomatch hn
    · exact assertSteps_guard c solved ss _ _ n hn

theorem assertOutput_guard (c : Ctx) (base : Nat) (x : Ref) (called : Bool) (solved : List Nat) :
    ∀ n ∈ (assertOutput c base x called solved).1, n.isGuard c.deps := by
  intro n hn
  unfold assertOutput at hn
  split at hn
  · split at hn
    · rcases List.mem_append.1 hn with hn | hn
      · exact assertSteps_guard c solved _ _ _ n hn
      · rw [List.mem_singleton.1 hn]
        exact ⟨rfl, fun _ => rfl⟩
    · exact assertSteps_guard c solved _ _ _ n hn
  · nomatch hn

theorem assertAll_guard (c : Ctx) : ∀ (xs : List ((Ref × Bool) × Arg)) (base : Nat), ∀ n ∈ (assertAll c base xs).1, n.isGuard c.deps
  | [], _, n, hn => nomatch hn
  | (x, a) :: xs, base, n, hn => by
    rw [assertAll, List.mem_append] at hn
    rcases hn with hn | hn
    · exact assertOutput_guard c base x.1 x.2 a.solved n hn
    · exact assertAll_guard c xs _ n hn

theorem assertAll_noCall (c : Ctx) (v : Ref) (xs : List ((Ref × Bool) × Arg)) (base : Nat) :
    (assertAll c base xs).1.countP (Node.callsRef v) = 0 :=
  List.countP_eq_zero.2 fun n hn => by rw [(assertAll_guard c xs base n hn).2 v]; exact Bool.false_ne_true

theorem assertAll_depsOK (c : Ctx) (xs : List ((Ref × Bool) × Arg)) (base : Nat) :
    (assertAll c base xs).1.all (Node.depsOK c.deps) = true :=
  List.all_eq_true.2 fun n hn => (assertAll_guard c xs base n hn).1

theorem countP_value (q : Arg → Bool) : ∀ (args : List Arg), (args.map (·.value)).Nodup → ∀ a ∈ args,
    args.countP (fun b => q b && b.value == a.value) = if q a then 1 else 0
  | b :: bs, hnd, a, ha => by
    rw [List.map_cons, List.nodup_cons] at hnd
    rw [List.countP_cons]
    rcases List.mem_cons.1 ha with rfl | hab
    · have : bs.countP (fun b => q b && b.value == a.value) = 0 :=
        List.countP_eq_zero.2 fun b hb => by
          have : b.value ≠ a.value := fun e => hnd.1 (e ▸ List.mem_map_of_mem hb)
          simp [this]
      simp [this]
    · have hne : b.value ≠ a.value := fun e => hnd.1 (e ▸ List.mem_map_of_mem hab)
      simp [countP_value q bs hnd.2 a hab, hne]

/-! ### Position of the call and of the guard block -/

theorem callAll_snd_length (c : Ctx) : ∀ (args : List Arg) (base i : Nat), (callAll c base i args).2.length = args.length := by
  intro args
  induction args with
  | nil => intro base i; simp [callAll]
  | cons a as ih => intro base i; simp [callAll, ih]

/-- The call of the `p`-th argument sees `base + k` as its own index and `i + p` as `arg_index`. -/
theorem callAll_getElem? (c : Ctx) : ∀ (args : List Arg) (base i p : Nat) (a : Arg), args[p]? = some a →
    ∃ k rest, (callAll c base i args).1.drop k = (callTensorFactory c (base + k) (i + p) a).1 ++ rest ∧
      (callAll c base i args).2[p]? = some (callTensorFactory c (base + k) (i + p) a).2
  | [], _, _, _, _, h => nomatch h
  | b :: bs, base, i, 0, a, h => by
    cases h
    exact ⟨0, _, rfl, rfl⟩
  | b :: bs, base, i, p + 1, a, h => by
    obtain ⟨k, rest, h1, h2⟩ := callAll_getElem? c bs (base + (callTensorFactory c base i b).1.length) (i + 1) p a h
    rw [Nat.add_assoc, Nat.add_assoc, Nat.add_comm 1 p] at h1 h2
    refine ⟨(callTensorFactory c base i b).1.length + k, rest, ?_, h2⟩
    rw [callAll, ← List.drop_drop, List.drop_left]
    exact h1

/-- The `p`-th argument, if a factory, gets one call node (relative index `k`), and `xs[p] = (node (base+k), True)`. -/
theorem callAll_at (c : Ctx) : ∀ (args : List Arg) (base i p : Nat) (a : Arg) (sig : Sig),
    args[p]? = some a → a.factory = some sig →
    ∃ k, (callAll c base i args).2[p]? = some (Ref.node (base + k), true) ∧
         (callAll c base i args).1[k]? = some (Node.call a.value (Factory.callArgs.map (argVal a)) (passed c (i + p) sig) c.deps) := by
  intro args base i p a sig h hf
  obtain ⟨k, rest, h1, h2⟩ := callAll_getElem? c args base i p a h
  simp only [callTensorFactory, hf] at h1 h2
  refine ⟨k, h2, ?_⟩
  have := congrArg (·[0]?) h1
  simpa using this

theorem callAll_at_tensor (c : Ctx) (args : List Arg) (base i p : Nat) (a : Arg)
    (h : args[p]? = some a) (hf : a.factory = none) : (callAll c base i args).2[p]? = some (a.value, false) := by
  obtain ⟨k, rest, _, h2⟩ := callAll_getElem? c args base i p a h
  simpa [callTensorFactory, hf] using h2

/-- The seven nodes `_assert_output` inserts behind a factory result `x`, when the first gets index `b`. -/
def guardBlock (deps : List Ref) (x : Ref) (b : Nat) (solved : List Nat) : List Node :=
  [.isinstance x deps, .assert x (.node b), .getShape (.node (b + 1)), .tupleOf (.node (b + 2)) deps,
   .eqShape (.node (b + 3)) solved, .assert (.node (b + 1)) (.node (b + 4)), .castTensor (.node (b + 5)) solved]

theorem assertOutput_called (c : Ctx) (base : Nat) (x : Ref) (solved : List Nat) :
    assertOutput c base x true solved = (guardBlock c.deps x base solved, Ref.node (base + 6)) := by
  simp [assertOutput, assertSteps, assertStep, Factory.assertSequence, Factory.assertsGuardedByCalled, Factory.castAfterAsserts,
        guardBlock, Nat.add_assoc]

theorem assertOutput_notCalled (c : Ctx) (base : Nat) (x : Ref) (solved : List Nat) :
    assertOutput c base x false solved = ([], x) := by
  simp [assertOutput, Factory.assertsGuardedByCalled]

theorem assertAll_getElem? (c : Ctx) : ∀ (xs : List ((Ref × Bool) × Arg)) (base p : Nat) (x : Ref × Bool) (a : Arg),
    xs[p]? = some (x, a) →
    ∃ k rest, (assertAll c base xs).1.drop k = (assertOutput c (base + k) x.1 x.2 a.solved).1 ++ rest ∧
      (assertAll c base xs).2[p]? = some (assertOutput c (base + k) x.1 x.2 a.solved).2
  | [], _, _, _, _, h => nomatch h
  | (y, b) :: ys, base, 0, x, a, h => by
    cases h
    exact ⟨0, _, rfl, rfl⟩
  | (y, b) :: ys, base, p + 1, x, a, h => by
    obtain ⟨k, rest, h1, h2⟩ := assertAll_getElem? c ys (base + (assertOutput c base y.1 y.2 b.solved).1.length) p x a h
    rw [Nat.add_assoc] at h1 h2
    refine ⟨(assertOutput c base y.1 y.2 b.solved).1.length + k, rest, ?_, h2⟩
    rw [assertAll, ← List.drop_drop, List.drop_left]
    exact h1

theorem assertAll_at (c : Ctx) : ∀ (xs : List ((Ref × Bool) × Arg)) (base p : Nat) (x : Ref) (a : Arg),
    xs[p]? = some ((x, true), a) →
    ∃ k, ((assertAll c base xs).1.drop k).take 7 = guardBlock c.deps x (base + k) a.solved ∧
         (assertAll c base xs).2[p]? = some (Ref.node (base + k + 6)) := by
  intro xs base p x a h
  obtain ⟨k, rest, h1, h2⟩ := assertAll_getElem? c xs base p (x, true) a h
  rw [assertOutput_called] at h1 h2
  exact ⟨k, by rw [h1]; exact List.take_left' rfl, h2⟩

theorem assertAll_at_tensor (c : Ctx) (xs : List ((Ref × Bool) × Arg)) (base p : Nat) (x : Ref) (a : Arg)
    (h : xs[p]? = some ((x, false), a)) : (assertAll c base xs).2[p]? = some x := by
  obtain ⟨k, rest, _, h2⟩ := assertAll_getElem? c xs base p (x, false) a h
  rwa [assertOutput_notCalled] at h2

theorem callsInput_iff (g : Graph) (t i : Nat) : callsInput g t i = true ↔
    ∃ f args kwargs deps out, g.apps[i]? = some ⟨.call (.ref f) args kwargs deps, out⟩ ∧ root g f = t := by
  unfold callsInput
  split
  · rename_i f args kwargs deps out h
    rw [h, beq_iff_eq]
    exact ⟨fun hr => ⟨f, args, kwargs, deps, out, rfl, hr⟩, fun ⟨_, _, _, _, _, he, hr⟩ => by cases he; exact hr⟩
  · rename_i hne
    exact ⟨fun h => (nomatch h), fun ⟨f, args, kwargs, deps, out, he, _⟩ => (hne f args kwargs deps out he).elim⟩

/-- A consumer of tracer `t`: an application that is no cast and has an operand denoting `t`. -/
theorem mem_classUsers {g : Graph} {t i x : Nat} {a : GApp} (ha : g.apps[i]? = some a) (hnc : a.node.isCast = false)
    (hx : x ∈ refsL a.node.operands) (hr : root g x = t) : i ∈ classUsers g t := by
  simp only [classUsers, List.mem_filter, List.mem_range, usesAt, ha, usesClass, hnc, Bool.not_false, Bool.true_and,
    List.any_eq_true, beq_iff_eq]
  exact ⟨(List.getElem?_eq_some_iff.1 ha).1, x, hx, hr⟩

theorem callsInput_mem_classUsers (g : Graph) (t i : Nat) (h : callsInput g t i = true) : i ∈ classUsers g t := by
  obtain ⟨f, args, kwargs, deps, out, ha, hr⟩ := (callsInput_iff g t i).1 h
  exact mem_classUsers ha rfl (by simp [GNode.operands, refsL, V.refs]) hr

theorem factoryOK_wf (g : Graph) (d : Descr) (h : factoryOK g d = true) : wf g = true := by
  simp only [factoryOK, Bool.and_eq_true] at h
  exact h.1.1

theorem factoryOK_factory (g : Graph) (d : Descr) (h : factoryOK g d = true) (p : Nat) (ad : ArgD) (sig : Sig) (t : Nat)
    (hd : d.args[p]? = some ad) (hf : ad.factory = some sig) (ht : g.inputs[p]? = some t) :
    ∃ i r a2, classUsers g t = [i] ∧ checkCallNode g d ad sig t i = true ∧ outId g i = some r ∧
      checkGuard g ad.solved r = .ok a2 ∧ g.output.refs.any (fun x => root g x == t) = false := by
  simp only [factoryOK, Bool.and_eq_true, List.all_eq_true, List.mem_range] at h
  have hc := h.2 p (List.getElem?_eq_some_iff.1 ht).1
  simp only [checkInput, hd, ht, hf, checkFactory, Bool.and_eq_true, Bool.not_eq_true'] at hc
  obtain ⟨⟨_, hout⟩, hcu⟩ := hc
  split at hcu
  · rename_i i hi
    rw [Bool.and_eq_true] at hcu
    obtain ⟨hcall, hg⟩ := hcu
    split at hg
    · rename_i r hr
      unfold guardOK at hg
      split at hg
      · rename_i a2 hk
        exact ⟨i, r, a2, hi, hcall, hr, hk, hout⟩
      · nomatch hg
    · nomatch hg
  · nomatch hcu

theorem checkCallNode_spec (g : Graph) (d : Descr) (ad : ArgD) (sig : Sig) (t i : Nat) (h : checkCallNode g d ad sig t i = true) :
    ∃ f args kwargs deps o, g.apps[i]? = some ⟨.call (.ref f) args kwargs deps, .ref o⟩ ∧ root g f = t ∧
      args.map V.asShape? = [some ad.solved] ∧ kwargs.map (·.1) = (passed d.ctx ad.argIndex sig).map (·.1) ∧
      i ∈ reachable g := by
  unfold checkCallNode at h
  split at h
  · rename_i f args kwargs deps o ha
    simp only [Bool.and_eq_true, beq_iff_eq, List.contains_eq_mem, decide_eq_true_eq] at h
    exact ⟨f, args, kwargs, deps, o, ha, h.1.1.1.1.1, h.1.1.1.2, h.1.1.2, h.2⟩
  · nomatch h

/-! ### The guard chain of an accepted graph -/

theorem ensure_bind_ok {α} (b : Bool) (msg : String) (f : Unit → Except String α) (v : α)
    (h : (ensure b msg >>= f) = .ok v) : b = true ∧ f () = .ok v := by
  cases b
  · nomatch h
  · exact ⟨rfl, h⟩

/-- What an accepted guard is: the factory result `r` is consumed only by `isinstance(r, T)` (result `c1`) and
by `assert r, c1` (result `a1`); `c1` only by that assert; `a1` only by `a1.shape` (result `s`) and by the second
assert `assert a1, c2` (result `a2`); `s` only by `tuple(s)` (result `tt`); `tt` only by `tt == solved` (result
`c2`); `c2` only by the second assert.  ("Consumed" = operand of a non-`Cast` node, through any chain of `Cast`s.) -/
def GuardChain (g : Graph) (solved : List Nat) (r a2 : Nat) : Prop :=
  ∃ j1 j2 j3 j4 j5 j6 c1 a1 s tt c2 fn x ty d1 xs cond o xs2 cond2 fn2 y d2 lhs rhs,
    classUsers g r = [j1, j2] ∧
    g.apps[j1]? = some ⟨GNode.call fn [x, ty] [] d1, V.ref c1⟩ ∧ isBuiltin g fn "isinstance" = true ∧ refTo g x r = true ∧
    g.apps[j2]? = some ⟨GNode.assert xs cond, V.ref a1⟩ ∧ refTo g xs r = true ∧ refTo g cond c1 = true ∧
    classUsers g c1 = [j2] ∧
    classUsers g a1 = [j3, j6] ∧
    g.apps[j3]? = some ⟨GNode.getattr o "shape", V.ref s⟩ ∧ refTo g o a1 = true ∧
    classUsers g s = [j4] ∧
    g.apps[j4]? = some ⟨GNode.call fn2 [y] [] d2, V.ref tt⟩ ∧ isBuiltin g fn2 "tuple" = true ∧ refTo g y s = true ∧
    classUsers g tt = [j5] ∧
    g.apps[j5]? = some ⟨GNode.operator "==" [lhs, rhs], V.ref c2⟩ ∧ refTo g lhs tt = true ∧ rhs.asShape? = some solved ∧
    classUsers g c2 = [j6] ∧
    g.apps[j6]? = some ⟨GNode.assert xs2 cond2, V.ref a2⟩ ∧ refTo g xs2 a1 = true ∧ refTo g cond2 c2 = true

theorem checkGuard_chain (g : Graph) (solved : List Nat) (r a2 : Nat) (h : checkGuard g solved r = .ok a2) :
    GuardChain g solved r a2 := by
  unfold checkGuard at h
  split at h
  case h_2 => nomatch h
  rename_i j1 j2 hcu
  split at h
  case h_2 => nomatch h
  rename_i fn x ty d1 c1 h1
  split at h
  case h_2 => nomatch h
  rename_i xs cond a1 h2
  obtain ⟨e1, h⟩ := ensure_bind_ok _ _ _ _ h
  obtain ⟨e2, h⟩ := ensure_bind_ok _ _ _ _ h
  split at h
  case h_2 => nomatch h
  rename_i j3 j6 hcu2
  split at h
  case h_2 => nomatch h
  rename_i o key s h3
  split at h
  case h_2 => nomatch h
  rename_i xs2 cond2 a2' h6
  obtain ⟨e3, h⟩ := ensure_bind_ok _ _ _ _ h
  split at h
  case h_2 => nomatch h
  rename_i j4 hcu3
  split at h
  case h_2 => nomatch h
  rename_i fn2 y d2 tt h4
  obtain ⟨e4, h⟩ := ensure_bind_ok _ _ _ _ h
  split at h
  case h_2 => nomatch h
  rename_i j5 hcu4
  split at h
  case h_2 => nomatch h
  rename_i op lhs rhs c2 h5
  obtain ⟨e5, h⟩ := ensure_bind_ok _ _ _ _ h
  obtain ⟨e6, h⟩ := ensure_bind_ok _ _ _ _ h
  obtain ⟨_, h⟩ := ensure_bind_ok _ _ _ _ h
  cases h
  simp only [Bool.and_eq_true, decide_eq_true_eq, beq_iff_eq] at e1 e2 e3 e4 e5 e6
  obtain ⟨⟨rfl, ho⟩, hx2⟩ := e3
  obtain ⟨⟨rfl, hl⟩, hr⟩ := e5
  exact ⟨j1, j2, j3, j4, j5, j6, c1, a1, s, tt, c2, fn, x, ty, d1, xs, cond, o, xs2, cond2, fn2, y, d2, lhs, rhs,
    hcu, h1, e1.1.1.1, e1.1.1.2, h2, e1.1.2, e1.2, e2, hcu2, h3, ho, hcu3, h4, e4.1, e4.2, hcu4, h5, hl, hr,
    e6.2, h6, hx2, e6.1⟩

/-! ### `castSource` and the fuel-bounded `rootF` -/

theorem rootF_of_none (fg : Graph) (x : Nat) (h : castSource fg x = none) : ∀ n, rootF fg n x = x := by
  intro n
  cases n with
  | zero => rfl
  | succ n => simp [rootF, h]

theorem rootF_succ_cast (fg : Graph) (x y n : Nat) (h : castSource fg y = some x) : rootF fg (n + 1) y = rootF fg n x := by
  simp [rootF, h]

theorem castSource_of_cast (fg : Graph) (x y j : Nat) (ti : TInfo) (ht : fg.tracers[y]? = some ti)
    (ho : ti.origin = some j) (ha : fg.apps[j]? = some ⟨.cast (.ref x), .ref y⟩) : castSource fg y = some x := by
  simp [castSource, ht, ho, ha]

theorem castSource_inv (fg : Graph) (x y : Nat) (h : castSource fg y = some x) :
    ∃ ti j, fg.tracers[y]? = some ti ∧ ti.origin = some j ∧ fg.apps[j]? = some ⟨.cast (.ref x), .ref y⟩ := by
  unfold castSource at h
  split at h
  · rename_i ti hti
    split at h
    · rename_i o ho
      split at h
      · rename_i j' k' hap
        split at h
        · rename_i hk
          simp only [Option.some.injEq] at h
          subst h
          simp only [beq_iff_eq] at hk
          subst hk
          exact ⟨ti, o, hti, ho, hap⟩
        · cases h
      · cases h
    · cases h
  · cases h

end Einx.Factory
