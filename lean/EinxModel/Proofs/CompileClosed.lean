import EinxModel.Proofs.Compile
import EinxModel.Proofs.CompileOrder
import EinxModel.Proofs.FuseSound
/-! The emitted program reads no variable before it is bound, provided no nested graph is mentioned while it is open
(`noSelfRef`; behind `emit_closed`, `compile_closed`). -/
namespace Einx.Compile

/-- `v` occurs in the cached expression of a key that is looked up; if the key is a nested graph, it is one of `G`. -/
def Src (cache : List (E × E)) (G : List Nat) (v : Nat) : Prop :=
  ∃ k e, assocGet cache k = some e ∧ v ∈ e.vars ∧ ∀ gi, k = .gref gi → gi ∈ G

theorem Src.mono {cache : List (E × E)} {G G' : List Nat} {v : Nat} (h : Src cache G v) (hg : ∀ k ∈ G, k ∈ G') :
    Src cache G' v := by
  obtain ⟨k, e, h1, h2, h3⟩ := h
  exact ⟨k, e, h1, h2, fun gi hk => hg gi (h3 gi hk)⟩

theorem conv_vars (cache : List (E × E)) (x : E) :
    (∀ e, conv cache x = .ok e → ∀ v ∈ e.vars, Src cache x.grefsOf v) ∧
    (∀ e, convL cache x = .ok e → ∀ v ∈ e.vars, Src cache x.grefsOf v) := by
  -- `convL` of anything but a `cons` is `nil`
  have hnil : ∀ {G : List Nat} {e : E}, Except.ok E.nil = Except.ok (ε := String) e → ∀ v ∈ e.vars, Src cache G v := by
    intro G e h v hv
    cases h
    cases hv
  induction x with
  | var t =>
    refine ⟨fun e h v hv => ?_, fun e h => hnil h⟩
    simp only [conv] at h
    split at h
    · rename_i e' hg
      cases h
      exact ⟨.var t, e, hg, hv, fun gi hk => nomatch hk⟩
    · cases h
  | gref g =>
    refine ⟨fun e h v hv => ?_, fun e h => hnil h⟩
    simp only [conv] at h
    split at h
    · rename_i e' hg
      cases h
      exact ⟨.gref g, e, hg, hv, fun gi hk => by cases hk; simp [E.grefsOf]⟩
    · cases h
  | lit c => exact ⟨fun e h v hv => (by cases h; cases hv), fun e h => hnil h⟩
  | nil => exact ⟨fun e h => hnil h, fun e h => hnil h⟩
  | cons hd tl ih1 ih2 =>
    have hc : ∀ e, (do pure (E.cons (← conv cache hd) (← convL cache tl)) : Except String E) = .ok e →
        ∀ v ∈ e.vars, Src cache (E.cons hd tl).grefsOf v := by
      intro e h v hv
      obtain ⟨a, h1, h⟩ := bind_ok.1 h
      obtain ⟨b, h2, h⟩ := bind_ok.1 h
      cases h
      rcases List.mem_append.1 hv with hv | hv
      · exact (ih1.1 a h1 v hv).mono (fun k hk => List.mem_append_left _ hk)
      · exact (ih2.2 b h2 v hv).mono (fun k hk => List.mem_append_right _ hk)
    exact ⟨hc, hc⟩
  | node tag a ih =>
    refine ⟨fun e h => ?_, fun e h => hnil h⟩
    have hn : ∀ (t : Tag) e, (do pure (E.node t (← convL cache a)) : Except String E) = .ok e →
        ∀ v ∈ e.vars, Src cache (E.node tag a).grefsOf v := by
      intro t e h v hv
      obtain ⟨y, h1, h⟩ := bind_ok.1 h
      cases h
      exact ih.2 y h1 v hv
    -- a tuple or list that is cached as a whole: its key is no graph
    have hlook : ∀ (t : Tag) e, (match (keyOf (.node t a)).bind (assocGet cache) with
          | some e => Except.ok e
          | none => (do pure (E.node t (← convL cache a)) : Except String E)) = .ok e →
        (∀ k, keyOf (.node t a) = some k → ∀ gi, k ≠ .gref gi) →
        ∀ v ∈ e.vars, Src cache (E.node tag a).grefsOf v := by
      intro t e h hk v hv
      split at h
      · rename_i e' hb
        cases h
        obtain ⟨k, hko, hb⟩ := Option.bind_eq_some_iff.1 hb
        exact ⟨k, e, hb, hv, fun gi hg => absurd hg (hk k hko gi)⟩
      · exact hn t e h v hv
    cases tag <;> simp only [conv] at h <;> try (cases h; done)
    · exact hn _ e h
    · exact hlook _ e h (by intro k hk gi; cases hk; nofun)
    · exact hlook _ e h (by intro k hk gi; cases hk; nofun)
    · exact hn _ e h

theorem convTop_vars (cache : List (E × E)) (x e : E) (h : convTop cache x = .ok e) :
    ∀ v ∈ e.vars, Src cache x.grefsOf v := by
  unfold convTop at h
  split at h
  · simp at h
  · exact (conv_vars cache x).1 e h

theorem E.vars_ofList (l : List E) : (E.ofList l).vars = l.flatMap E.vars := by
  induction l with
  | nil => rfl
  | cons x xs ih => simp [E.ofList, E.vars, ih]

theorem E.vars_mk (tag : Tag) (l : List E) : (E.mk tag l).vars = l.flatMap E.vars := by
  simp [E.mk, E.vars, E.vars_ofList]

theorem keyParts_grefs (key p : E) (hp : p ∈ keyParts key) : ∀ k ∈ p.grefsOf, k ∈ key.grefsOf := by
  unfold keyParts at hp
  split at hp
  · rename_i a
    intro k hk
    simpa [E.grefsOf] using (mem_toList_vars a p hp).2 k hk
  · simp only [List.mem_singleton] at hp
    subst hp
    exact fun k hk => hk

theorem partConv_vars (cache : List (E × E)) (p e : E) (h : partConv cache p = .ok e) :
    ∀ v ∈ e.vars, Src cache p.grefsOf v := by
  unfold partConv at h
  split at h
  · rename_i x y z a
    obtain ⟨e1, h1, h⟩ := bind_ok.1 h
    cases h
    exact (conv_vars cache a).2 e1 h1
  · exact convTop_vars cache p e h

theorem atExpr_vars (cache : List (E × E)) (obj key e : E) (h : atExpr cache obj key = .ok e) :
    ∀ v ∈ e.vars, Src cache (obj.grefsOf ++ key.grefsOf) v := by
  rw [atExpr_eq] at h
  obtain ⟨o, h1, h⟩ := bind_ok.1 h
  obtain ⟨parts, h2, h⟩ := bind_ok.1 h
  cases h
  intro v hv
  rw [E.vars_mk] at hv
  simp only [List.flatMap_cons, List.mem_append, List.mem_flatMap] at hv
  rcases hv with hv | ⟨pe, hpe, hv⟩
  · exact (convTop_vars cache obj o h1 v hv).mono (fun k hk => List.mem_append_left _ hk)
  · obtain ⟨p, hp, hf⟩ := mapM_ok_mem _ _ _ h2 pe hpe
    exact (partConv_vars cache p pe hf v hv).mono (fun k hk => List.mem_append_right _ (keyParts_grefs key p hp k hk))

/-- Variables of the expressions of a rule (those its statement reads and the alias it caches). -/
def Rule.readVars : Rule → List Nat
  | .define _ e _ _ _ => e.vars
  | .effect s _ e => s.reads ++ e.vars
  | _ => []

def Opd.es : Opd → List E
  | .top x => [x]
  | .kw _ x => [x]
  | .item obj key => [obj, key]

theorem flatMap_es_top (l : List E) : (l.map Opd.top).flatMap Opd.es = l := by
  induction l with
  | nil => rfl
  | cons x xs ih => simp only [List.map_cons, List.flatMap_cons, ih]; rfl

theorem flatMap_es_kw (l : List (String × E)) : (l.map fun p => Opd.kw p.1 p.2).flatMap Opd.es = l.map (·.2) := by
  induction l with
  | nil => rfl
  | cons x xs ih => simp only [List.map_cons, List.flatMap_cons, ih]; rfl

/-- Membership, not equality: `updateitem` converts its object twice. -/
theorem opds_es (a : App) : ∀ x ∈ a.opds.flatMap Opd.es, x ∈ a.operandEs := by
  cases a with
  | updateitem obj key value op out => simp [App.opds, App.operandEs, Opd.es]
  | _ =>
    simp only [App.opds, List.flatMap_cons, List.flatMap_append, List.flatMap_nil, flatMap_es_top, flatMap_es_kw]
    exact fun x hx => hx

theorem Opd.conv_vars (cache : List (E × E)) (o : Opd) (e : E) (h : o.conv cache = .ok e) :
    ∀ v ∈ e.vars, Src cache (o.es.flatMap E.grefsOf) v := by
  cases o with
  | top x => simpa [Opd.es] using convTop_vars cache x e h
  | kw k x =>
    obtain ⟨e1, h1, h⟩ := bind_ok.1 h
    cases h
    intro v hv
    rw [E.vars_mk] at hv
    simpa [Opd.es] using convTop_vars cache x e1 h1 v (by simpa using hv)
  | item obj key => simpa [Opd.es] using atExpr_vars cache obj key e h

theorem ruleFrom_vars (g : Graph) (up : Bool) (a : App) (es : List E) (r : Rule) (h : ruleFrom g up a es = .ok r) :
    ∀ v ∈ r.readVars, ∃ e ∈ es, v ∈ e.vars := by
  unfold ruleFrom at h
  split at h <;> cases h <;> simp [Rule.readVars, Stmt.reads, E.vars_mk, E.vars, or_comm]

theorem ruleOf_vars (g : Graph) (up : Bool) (cache : List (E × E)) (a : App) (rule : Rule)
    (h : ruleOf g up cache a = .ok rule) :
    ∀ v ∈ rule.readVars, Src cache (a.operandEs.flatMap E.grefsOf) v := by
  rw [ruleOf_eq] at h
  obtain ⟨es, hes, hr⟩ := bind_ok.1 h
  intro v hv
  obtain ⟨e, he, hve⟩ := ruleFrom_vars g up a es rule hr v hv
  obtain ⟨o, ho, hoe⟩ := mapM_ok_mem _ _ _ hes e he
  refine (Opd.conv_vars cache o e hoe v hve).mono (fun k hk => ?_)
  obtain ⟨x, hx, hk⟩ := List.mem_flatMap.1 hk
  exact List.mem_flatMap.2 ⟨x, opds_es a x (List.mem_flatMap.2 ⟨o, ho, hx⟩), hk⟩

theorem patchForce_readVars (g : Graph) (cfg : UCfg) (a : App) (r : Rule) : (patchForce g cfg a r).readVars = r.readVars := by
  obtain ⟨φ, hφ⟩ := patchForce_eq g cfg a
  rw [hφ]
  cases r <;> rfl

/-! ### What one emission step adds to the cache and to the program -/

theorem setCache_var {cache cache' : List (E × E)} {obj : E} {v : Nat} (h : setCache 64 cache obj (.var v) = .ok cache') :
    ∃ more, cache' = cache ++ more ∧ ∀ p ∈ more, ∀ w ∈ p.2.vars, w = v := by
  obtain ⟨more, hm, hv⟩ := setCache_append _ _ _ _ _ h
  exact ⟨more, hm, fun p hp w hw => by simpa [E.vars] using hv p hp w hw⟩

theorem applyRule_syn (c : Ctx) (st st1 : GState) (rule : Rule) (new : List (Nat × Stmt))
    (h : applyRule c st rule = .ok (st1, new)) :
    (∀ s ∈ new, ∀ v ∈ s.2.reads, v ∈ rule.readVars) ∧
    ∃ more, st1.cache = st.cache ++ more ∧ ∀ p ∈ more, ∀ v ∈ p.2.vars, v ∈ rule.readVars ∨ v ∈ outsOf (new.map (·.2)) := by
  have hbind : ∀ {obj : E} {cache' : List (E × E)} (b : Nat) (s : Stmt),
      setCache 64 st.cache obj (.var st.vars.length) = .ok cache' → s.outputVars = [st.vars.length] →
      ∃ more, cache' = st.cache ++ more ∧ ∀ p ∈ more, ∀ v ∈ p.2.vars, v ∈ rule.readVars ∨ v ∈ outsOf ([(b, s)].map (·.2)) := by
    intro obj cache' b s hset hs
    obtain ⟨more, hm, hv⟩ := setCache_var hset
    exact ⟨more, hm, fun p hp w hw => Or.inr (by rw [hv p hp w hw]; simp [outsOf, hs])⟩
  cases rule with
  | define out e eff ni fi =>
    rcases define_ok h with ⟨-, rfl, cache', hset, rfl⟩ | ⟨-, b, cache', -, hset, rfl, rfl⟩
    · obtain ⟨more, hm, hv⟩ := setCache_append _ _ _ _ _ hset
      exact ⟨by simp, more, hm, fun p hp v hv' => Or.inl (hv p hp v hv')⟩
    · exact ⟨fun s hs w hw => by cases List.mem_singleton.1 hs; exact hw, hbind b _ hset rfl⟩
  | effect s out e =>
    obtain ⟨b, cache', -, hset, rfl, rfl⟩ := applyRule_effect_ok h
    obtain ⟨more, hm, hv⟩ := setCache_append _ _ _ _ _ hset
    exact ⟨fun s' hs' w hw => by cases List.mem_singleton.1 hs'; exact List.mem_append_left _ hw, more, hm,
      fun p hp v hv' => Or.inl (List.mem_append_right _ (hv p hp v hv'))⟩
  | import_ out from_ imp hint =>
    obtain ⟨cache', -, hset, rfl, rfl⟩ := applyRule_import_ok h
    exact ⟨by simp [Stmt.reads], hbind 0 _ hset rfl⟩
  | constant out str =>
    obtain ⟨b, cache', -, hset, rfl, rfl⟩ := applyRule_constant_ok h
    exact ⟨by simp [Stmt.reads], hbind 0 _ hset rfl⟩

/-! ### The closedness invariant -/

/-- What a piece of the run appends to the program reads bound variables only.  (`emitAll_inv` assumes this of the whole run, in
`∀`-form; `emitAll_closed` delivers it.) -/
def Grows (st st' : GState) : Prop :=
  ∃ new, st'.program = st.program ++ new ∧ ∀ v ∈ liveIn new, v ∈ outsOf st.program

theorem Grows.refl (st : GState) : Grows st st := ⟨[], by simp, by simp [liveIn]⟩

theorem Grows.trans {st s1 st' : GState} (h1 : Grows st s1) (h2 : Grows s1 st') : Grows st st' := by
  obtain ⟨n1, p1, l1⟩ := h1
  obtain ⟨n2, p2, l2⟩ := h2
  refine ⟨n1 ++ n2, by rw [p2, p1, List.append_assoc], fun w hw => ?_⟩
  rcases (mem_liveIn_append n1 n2 w).1 hw with h3 | ⟨h3, h4⟩
  · exact l1 w h3
  · have := l2 w h3
    rw [p1, outsOf_append, List.mem_append] at this
    exact this.resolve_right h4

/-- Every variable of a cached expression has been bound by a statement — except the function variable of a nested graph
that is still open, which occurs only as *the* expression of that graph. -/
def CL (st : GState) (pend : List Nat) : Prop :=
  ∀ k e, (k, e) ∈ st.cache → ∀ v ∈ e.vars, v ∈ outsOf st.program ∨
    ∃ gi ∈ pend, k = .gref gi ∧ assocGet st.cache (.gref gi) = some e ∧ e = .var v

theorem CL.src {st : GState} {pend G : List Nat} (hcl : CL st pend) (hG : ∀ k ∈ G, k ∉ pend) (v : Nat)
    (h : Src st.cache G v) : v ∈ outsOf st.program := by
  obtain ⟨k, e, h1, h2, h3⟩ := h
  rcases hcl k e (assocGet_mem _ _ _ h1) v h2 with h4 | ⟨gi, hgi, rfl, _, _⟩
  · exact h4
  · exact absurd hgi (hG gi (h3 gi rfl))

theorem CL.extend {st st' : GState} {pend : List Nat} (hcl : CL st pend) (more : List (E × E)) (new : List Stmt)
    (hc : st'.cache = st.cache ++ more) (hp : st'.program = st.program ++ new)
    (hm : ∀ p ∈ more, ∀ v ∈ p.2.vars, v ∈ outsOf st.program ∨ v ∈ outsOf new) : CL st' pend := by
  intro k e hmem v hv
  rw [hc] at hmem
  rw [hp, outsOf_append, hc]
  rcases List.mem_append.1 hmem with hmem | hmem
  · rcases hcl k e hmem v hv with h1 | ⟨gi, hgi, hk, hget, he⟩
    · exact Or.inl (List.mem_append_left _ h1)
    · exact Or.inr ⟨gi, hgi, hk, assocGet_append_some _ _ _ _ hget, he⟩
  · rcases hm (k, e) hmem v hv with h1 | h1
    · exact Or.inl (List.mem_append_left _ h1)
    · exact Or.inl (List.mem_append_right _ h1)

theorem app_closed (c : Ctx) (st st' : GState) (i : Nat) (pend : List Nat) (hcl : CL st pend)
    (h : emitVisit c st (.app i) = .ok st')
    (hns : ∀ a, c.g.apps[i]? = some a → ∀ k ∈ a.operandEs.flatMap E.grefsOf, k ∉ pend) : Grows st st' ∧ CL st' pend := by
  obtain ⟨a, rule, s1, new, ha, hr, hp, rfl⟩ := emitVisit_app_ok h
  have hprog := applyRule_program c st s1 _ new hp (some i)
  have hrv : ∀ v ∈ (patchForce c.g c.cfg a rule).readVars, v ∈ outsOf st.program := by
    intro v hv
    rw [patchForce_readVars] at hv
    exact hcl.src (hns a ha) v (ruleOf_vars _ _ _ _ _ hr v hv)
  obtain ⟨hreads, more, hm, hmv⟩ := applyRule_syn c st s1 _ new hp
  refine ⟨⟨new.map (·.2), hprog, fun v hv => ?_⟩, hcl.extend more _ hm hprog (fun p hp' v hv => (hmv p hp' v hv).imp_left (hrv v))⟩
  obtain ⟨s, hs, hvs⟩ := mem_liveIn_reads _ v hv
  obtain ⟨s', hs', rfl⟩ := List.mem_map.1 hs
  exact hrv v (hreads s' hs' v hvs)

theorem param_closed (c : Ctx) (st st' : GState) (t : Nat) (pend : List Nat) (hcl : CL st pend)
    (h : enterParam c st t = .ok st') : Grows st st' ∧ CL st' pend := by
  obtain ⟨b, cache', -, hset, rfl⟩ := enterParam_ok h
  obtain ⟨more, hm, hv⟩ := setCache_var hset
  have hprog : (({ st with vars := st.vars ++ [⟨b, true⟩], cache := cache' } : GState).push none
      [(b, Stmt.param st.vars.length t)]).program = st.program ++ [.param st.vars.length t] :=
    program_push _ _ _
  refine ⟨⟨_, hprog, by simp [liveIn, Stmt.reads]⟩, hcl.extend more _ hm hprog ?_⟩
  intro p hp w hw
  exact Or.inr (by rw [hv p hp w hw]; simp [outsOf, Stmt.outputVars])

theorem params_closed (c : Ctx) (pend : List Nat) (inputs : List Nat) : ∀ (st st' : GState),
    inputs.foldlM (enterParam c) st = .ok st' → CL st pend → Grows st st' ∧ CL st' pend :=
  foldlM_ok_rel (enterParam c) (fun st st' => CL st pend → Grows st st' ∧ CL st' pend) (fun st hcl => ⟨.refl st, hcl⟩)
    (fun h₁ h₂ hcl =>
      let ⟨g₁, hcl₁⟩ := h₁ hcl
      let ⟨g₂, hcl₂⟩ := h₂ hcl₁
      ⟨g₁.trans g₂, hcl₂⟩)
    (fun st t st' h hcl => param_closed c st st' t pend hcl h) inputs

theorem enter_closed (c : Ctx) (st st' : GState) (gi : Nat) (pend : List Nat) (hcl : CL st pend)
    (h : emitVisit c st (.enter gi) = .ok st') : Grows st st' ∧ CL st' (gi :: pend) := by
  obtain ⟨sg, b, cache', -, -, hset, hfold⟩ := emitVisit_enter_ok h
  obtain ⟨rfl, hnone⟩ := setCache_gref _ _ _ _ hset
  have hcl1 : CL { st with vars := st.vars ++ [⟨b, true⟩], cache := st.cache ++ [(.gref gi, .var st.vars.length)],
                           hints := st.hints ++ (sg.name.map fun n => (st.vars.length, n)).toList } (gi :: pend) := by
    intro k e hmem v hv
    show v ∈ outsOf st.program ∨ _
    rcases List.mem_append.1 hmem with hmem | hmem
    · rcases hcl k e hmem v hv with h1 | ⟨g', hg', hk, hget, he⟩
      · exact Or.inl h1
      · exact Or.inr ⟨g', List.mem_cons_of_mem _ hg', hk, assocGet_append_some _ _ _ _ hget, he⟩
    · cases List.mem_singleton.1 hmem
      cases List.mem_singleton.1 hv
      exact Or.inr ⟨gi, by simp, rfl, assocGet_append_none _ _ _ hnone, rfl⟩
  -- the parameters start from the state with the function variable, whose program is that of `st`
  exact (params_closed c (gi :: pend) sg.inputs _ st' hfold hcl1 :)

theorem exit_closed (c : Ctx) (st st' : GState) (gi : Nat) (pend : List Nat) (hcl : CL st pend)
    (h : emitVisit c st (.exit gi) = .ok st')
    (hns : ∀ sg, c.g.graphs[gi]? = some sg → ∀ k ∈ sg.output.grefsOf, k ∉ pend) : Grows st st' ∧ CL st' (pend.erase gi) := by
  obtain ⟨sg, outer, inner, fv, params, rr, hg, -, -, hcache, hr, rfl⟩ := emitVisit_exit_ok h
  have hprog : (st.push none [(inner, Stmt.return_ rr), (outer, Stmt.def_ fv params inner gi)]).program
      = st.program ++ [.return_ rr, .def_ fv params inner gi] :=
    program_push _ _ _
  refine ⟨⟨_, hprog, fun v hv => ?_⟩, ?_⟩
  · simp only [liveIn, Stmt.reads, List.filter_nil, List.append_nil] at hv
    exact hcl.src (hns sg hg) v (convTop_vars _ _ _ hr v hv)
  · intro k e hmem v hv
    rw [hprog, outsOf_append]
    rcases hcl k e hmem v hv with h1 | ⟨g', hg', hk, hget, he⟩
    · exact Or.inl (List.mem_append_left _ h1)
    · by_cases hgg : g' = gi
      · subst hgg
        rw [hcache] at hget
        simp only [Option.some.injEq] at hget
        subst hget
        simp only [E.var.injEq] at he
        subst he
        exact Or.inl (List.mem_append_right _ (by simp [outsOf, Stmt.outputVars]))
      · exact Or.inr ⟨g', (List.mem_erase_of_ne hgg).2 hg', hk, hget, he⟩

/-! ### The whole traversal -/

theorem emitAll_closed (c : Ctx) (order : List Visit) : ∀ (pend : List Nat) (st st' : GState), CL st pend →
    noSelfRef c.g order pend = true → emitAll c order st = .ok st' → Grows st st' ∧ CL st' (pendAfter order pend) := by
  induction order with
  | nil =>
    intro pend st st' hcl _ h
    cases h
    exact ⟨.refl _, hcl⟩
  | cons v rest ih =>
    intro pend st st' hcl hns h
    obtain ⟨s1, h1, h2⟩ := emitAll_cons c v rest st st' h
    have fin : ∀ pend1, Grows st s1 ∧ CL s1 pend1 → noSelfRef c.g rest pend1 = true →
        Grows st st' ∧ CL st' (pendAfter rest pend1) := fun pend1 ⟨g1, hcl1⟩ hns1 =>
      let ⟨g2, hcl2⟩ := ih pend1 s1 st' hcl1 hns1 h2
      ⟨g1.trans g2, hcl2⟩
    cases v with
    | app i =>
      simp only [noSelfRef, Bool.and_eq_true] at hns
      refine fin pend (app_closed c st s1 i pend hcl h1 (fun a ha k hk hpk => ?_)) hns.2
      have := hns.1
      simp only [ha, List.all_eq_true] at this
      simpa [hpk] using this k hk
    | enter gi => exact fin (gi :: pend) (enter_closed c st s1 gi pend hcl h1) (by simpa only [noSelfRef] using hns)
    | exit gi =>
      simp only [noSelfRef, Bool.and_eq_true] at hns
      refine fin (pend.erase gi) (exit_closed c st s1 gi pend hcl h1 (fun sg hsg k hk hpk => ?_)) hns.2
      have := hns.1
      simp only [hsg, List.all_eq_true] at this
      simpa [hpk] using this k hk

theorem CL.init : CL {} [] := by intro k e h; simp at h

theorem emit_closed_of_noSelfRef (c : Ctx) (order : List Visit) (st : GState) (h : emitAll c order {} = .ok st)
    (hns : noSelfRef c.g order [] = true) : liveIn st.program = [] ∧ CL st (pendAfter order []) := by
  obtain ⟨⟨newAll, hp, hl⟩, hcl⟩ := emitAll_closed c order [] {} st CL.init hns h
  have hp' : st.program = newAll := by simpa [GState.program] using hp
  refine ⟨?_, hcl⟩
  apply List.eq_nil_iff_forall_not_mem.2
  intro v hv
  rw [hp'] at hv
  have := hl v hv
  simp [outsOf, GState.program] at this

def Visit.isApp : Visit → Bool
  | .app _ => true
  | _ => false

theorem flat_order (g : Graph) (order : List Visit) (h : order.all Visit.isApp = true) :
    (∀ en, matched order en = true) ∧ noSelfRef g order [] = true ∧ pendAfter order [] = [] := by
  induction order with
  | nil => exact ⟨fun _ => rfl, rfl, rfl⟩
  | cons v rest ih =>
    rw [List.all_cons, Bool.and_eq_true] at h
    obtain ⟨h1, h2, h3⟩ := ih h.2
    cases v with
    | app i => exact ⟨fun en => h1 en, by cases ha : g.apps[i]? <;> simp [noSelfRef, ha, h2], h3⟩
    | enter k => cases h.1
    | exit k => cases h.1

/-- `emitAll_once` from the empty state, for the generator's own traversal of a well-formed graph. -/
theorem emitAll_once_of_wf (c : Ctx) (hwf : c.g.WF = true) (order : List Visit) (ho : visitOrder c.g = .ok order)
    (st' : GState) (h : emitAll c order {} = .ok st') (i : Nat) (a : App) (ha : c.g.apps[i]? = some a)
    (hk : a.isStmtKind c.g = true) :
    st'.srcs.count i = if Visit.app i ∈ order then 1 else 0 := by
  have := emitAll_once c order {} st' h (visitOrder_nodup_of_wf c.g hwf order ho) i a ha hk
  simpa [GState.srcs] using this

end Einx.Compile
