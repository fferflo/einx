import EinxModel.Notation.Parse
import EinxModel.Extracted.Elab
/-!
# M2a Elaboration — `_to_el_expr` and `_parse_op` (`einx/_src/adapter/einx_from_namedtensor.py`, lines 54–306)

The model works on the stage-1 trees of M1 (`Einx.Notation.Expr`, with positions).  It mirrors the code as it is:

* `toEl` = `_to_el_expr`; `mapExpr` = `stage1.map(..., include_children=False)`; `removeBr`, `keepdimsBr`, `replaceBr`,
  `markAxes` are the four uses of `map` in `_parse_op`; `splitNames` = the axis names of `split_concatenated_axes`.
* The elementary signature (`el_op`) of a family is built in two ways: `elOpString` prints the text exactly as the
  wrapper's `el_op` builder does and parses it again with the M1 parser (what the code does: D11 lives here), `elOpTree`
  builds the two `Args` directly.  `_parse_op` reads only the number of inputs/outputs of `el_op`, `ndim == 0` of each and
  `el_op.children[0] == el_op.children[1]`.  The driver runs both; the theorems of Props/C07 are about the tree mode.
* Per-family flags come from `Einx.Extracted.familyFlags` (regenerated from the source on every run).
* Python's `set` of valid parents (implicit output of scalar operations) is modelled as the list of valid parents without
  duplicates under `Expr.__eq__` (`pyEq`); "exactly one" is the condition of the code.
-/
namespace Einx.Elab
open Einx.Notation

/-! ## Tree utilities -/

mutual
/-- `Expr.__eq__`: positions and ellipsis ids are ignored, axis names and values are compared. -/
def pyEq : Expr → Expr → Bool
  | .axis n v _ _, .axis n' v' _ _ => n == n' && v == v'
  | .flat i _ _, .flat i' _ _ => pyEq i i'
  | .brackets i _ _, .brackets i' _ _ => pyEq i i'
  | .ellipsis i _ _ _, .ellipsis i' _ _ _ => pyEq i i'
  | .concat cs _ _, .concat cs' _ _ => pyEqL cs cs'
  | .list cs _ _, .list cs' _ _ => pyEqL cs cs'
  | .args cs _ _, .args cs' _ _ => pyEqL cs cs'
  | .op cs _ _, .op cs' _ _ => pyEqL cs cs'
  | _, _ => false
def pyEqL : List Expr → List Expr → Bool
  | [], [] => true
  | a :: as, b :: bs => pyEq a b && pyEqL as bs
  | _, _ => false
end

mutual
/-- `any(isinstance(e, ConcatenatedAxis) for e in x.nodes())` -/
def hasConcat : Expr → Bool
  | .axis .. => false
  | .flat i _ _ | .brackets i _ _ | .ellipsis i _ _ _ => hasConcat i
  | .concat .. => true
  | .list cs _ _ | .args cs _ _ | .op cs _ _ => hasConcatL cs
def hasConcatL : List Expr → Bool
  | [] => false
  | c :: cs => hasConcat c || hasConcatL cs
end

mutual
/-- Number of `Brackets` nodes of `x.nodes()`. -/
def bracketCount : Expr → Nat
  | .axis .. => 0
  | .flat i _ _ | .ellipsis i _ _ _ => bracketCount i
  | .brackets i _ _ => 1 + bracketCount i
  | .concat cs _ _ | .list cs _ _ | .args cs _ _ | .op cs _ _ => bracketCountL cs
def bracketCountL : List Expr → Nat
  | [] => 0
  | c :: cs => bracketCount c + bracketCountL cs
end

/-- `any(isinstance(e, Brackets) for e in x.nodes())` -/
def hasBrackets (x : Expr) : Bool := bracketCount x != 0

mutual
/-- The check "Brackets ([]) cannot be used in or around a concatenation (+)" of `_parse_op` (a `SemanticError` since the
    fix of the internal assert in `_to_el_expr`): some `ConcatenatedAxis` node has a node of its subtree in brackets, i.e. a
    bracket above it (`inBr`) or below it. -/
def concatTouchesBrackets (inBr : Bool) : Expr → Bool
  | .axis .. => false
  | .flat i _ _ | .ellipsis i _ _ _ => concatTouchesBrackets inBr i
  | .brackets i _ _ => concatTouchesBrackets true i
  | .concat cs _ _ => inBr || bracketCountL cs != 0
  | .list cs _ _ | .args cs _ _ | .op cs _ _ => concatTouchesBracketsL inBr cs
def concatTouchesBracketsL (inBr : Bool) : List Expr → Bool
  | [] => false
  | c :: cs => concatTouchesBrackets inBr c || concatTouchesBracketsL inBr cs
end

/-- One `Axis` node of `x.nodes()` (pre-order): name, value, and `is_in_brackets`. -/
structure AxisOcc where
  name : Str
  value : Option Nat
  marked : Bool
deriving Repr, DecidableEq

mutual
def axisOccs (inBr : Bool) : Expr → List AxisOcc
  | .axis n v _ _ => [⟨n, v, inBr⟩]
  | .flat i _ _ | .ellipsis i _ _ _ => axisOccs inBr i
  | .brackets i _ _ => axisOccs true i
  | .concat cs _ _ | .list cs _ _ | .args cs _ _ | .op cs _ _ => axisOccsL inBr cs
def axisOccsL (inBr : Bool) : List Expr → List AxisOcc
  | [] => []
  | c :: cs => axisOccs inBr c ++ axisOccsL inBr cs
end

/-- `[a.name for a in x.nodes() if isinstance(a, Axis)]` -/
def axisNames (x : Expr) : List Str := (axisOccs false x).map (·.name)
/-- names of the axes with `is_in_brackets` -/
def markedNames (x : Expr) : List Str := ((axisOccs false x).filter (·.marked)).map (·.name)
/-- `{a.name for a in x.nodes() if isinstance(a, Axis) and a.value != 1}` (as a list) -/
def namesNot1 (x : Expr) : List Str := ((axisOccs false x).filter (fun o => o.value != some 1)).map (·.name)

def hasDup : List Str → Bool
  | [] => false
  | x :: xs => xs.contains x || hasDup xs

/-- `[name for name, count in counts.items() if count > 1]` (dict order = first occurrence) -/
def dups (l : List Str) : List Str := l.eraseDups.filter (fun n => (l.filter (· == n)).length > 1)

def subset (a b : List Str) : Bool := a.all (fun n => b.contains n)

/-! ## `stage1.map` / `stage1.remove` -/

mutual
/-- `stage1.map(expr, f, include_children=False)`: a node for which `f` answers is replaced (and not entered); every
    other node is rebuilt with its smart constructor. -/
def mapExpr (f : Expr → Option Expr) : Expr → Expr
  | .axis n v b e => (f (.axis n v b e)).getD (.axis n v b e)
  | .flat i b e => (f (.flat i b e)).getD (mkFlat (mapExpr f i) b e)
  | .brackets i b e => (f (.brackets i b e)).getD (mkBrackets (mapExpr f i) b e)
  | .ellipsis i id b e => (f (.ellipsis i id b e)).getD (mkEllipsis (mapExpr f i) b e id)
  | .concat cs b e => (f (.concat cs b e)).getD (mkConcat (mapExprL f cs) b e)
  | .list cs b e => (f (.list cs b e)).getD (mkList (mapExprL f cs) b e)
  | .args cs b e => (f (.args cs b e)).getD (.args (mapExprL f cs) b e)
  | .op cs b e => (f (.op cs b e)).getD (.op (mapExprL f cs) b e)
def mapExprL (f : Expr → Option Expr) : List Expr → List Expr
  | [] => []
  | c :: cs => mapExpr f c :: mapExprL f cs
end

/-- `stage1.remove(expr, stage1.Brackets, keep_children=False)`: every bracket becomes `List([])`. -/
def removeBrF : Expr → Option Expr
  | .brackets .. => some emptyList
  | _ => none
def removeBr : Expr → Expr := mapExpr removeBrF

/-- `FlattenedAxis.create(List.create([]))`: the `()` that replaces a bracket under `keepdims=True`. -/
def unitFlat : Expr := .flat emptyList (-1) (-1)

/-- The `keepdims` rewriting (l.143–147, `include_children=True`): a bracket is replaced by `()`; `map` then continues
    *inside the replacement*, where it rebuilds `FlattenedAxis.create(List.create([], -1, -1), -1, -1)` -- the same tree. -/
def keepdimsBrF : Expr → Option Expr
  | .brackets .. => some unitFlat
  | _ => none
def keepdimsBr : Expr → Expr := mapExpr keepdimsBrF

def outputAxisName : Str := Einx.Extracted.outputAxisName.toList

/-- `Brackets.create(Axis.create("output.axis"))` (l.189) -/
def outputBracket : Expr := .brackets (.axis outputAxisName none (-1) (-1)) (-1) (-1)
def replaceBrF : Expr → Option Expr
  | .brackets .. => some outputBracket
  | _ => none
def replaceBr : Expr → Expr := mapExpr replaceBrF

/-- `lambda expr: stage1.Brackets(expr) if _mark(expr) else None` (l.276–282) -/
def markF (namesOut : List Str) : Expr → Option Expr
  | .axis n v b e => if namesOut.contains n then none else some (.brackets (.axis n v b e) (-1) (-1))
  | _ => none
def markAxes (namesOut : List Str) : Expr → Expr := mapExpr (markF namesOut)

/-! ## `_to_el_expr` -/

mutual
/-- `_to_el_expr(expr)` for an expression (the assertion of the `ConcatenatedAxis` case is `concatTouchesBrackets`). -/
def toEl : Expr → Expr
  | .axis .. => emptyList
  | .flat i b e =>
    let inner := toEl i
    if inner.ndim == some 0 then emptyList else mkFlat inner b e
  | .brackets i _ _ => i
  | .ellipsis i id b e => mkEllipsis (toEl i) b e id
  | .concat .. => emptyList
  | .list cs b e => mkList (toElKeep cs) b e
  | .args cs b e => .args (toElL cs) b e
  | .op cs b e => .op (toElL cs) b e
/-- `_to_el_expr(list)`: the children with `ndim != 0` -/
def toElKeep : List Expr → List Expr
  | [] => []
  | c :: cs => let c' := toEl c; if c'.ndim != some 0 then c' :: toElKeep cs else toElKeep cs
def toElL : List Expr → List Expr
  | [] => []
  | c :: cs => toEl c :: toElL cs
end

/-! ## Split concatenations: the unmarked axis names of every alternative of `split_concatenated_axes` -/

mutual
def splitNames (inBr : Bool) : Expr → List (List Str)
  | .axis n _ _ _ => [if inBr then [] else [n]]
  | .flat i _ _ | .ellipsis i _ _ _ => splitNames inBr i
  | .brackets i _ _ => splitNames true i
  | .concat cs _ _ => splitNamesAlt inBr cs
  | .list cs _ _ => splitNamesProd inBr cs
  | .args .. | .op .. => []
def splitNamesAlt (inBr : Bool) : List Expr → List (List Str)
  | [] => []
  | c :: cs => splitNames inBr c ++ splitNamesAlt inBr cs
def splitNamesProd (inBr : Bool) : List Expr → List (List Str)
  | [] => [[]]
  | c :: cs => (splitNames inBr c).flatMap (fun a => (splitNamesProd inBr cs).map (fun r => a ++ r))
end

/-! ## Families and flags -/

inductive Family where
  | id | elementwise | dot | reduce | getAt | updateAt | argfind | preserveShape
deriving Repr, DecidableEq, Inhabited

def Family.key : Family → String
  | .id => "id" | .elementwise => "elementwise" | .dot => "dot" | .reduce => "reduce" | .getAt => "get_at"
  | .updateAt => "update_at" | .argfind => "argfind" | .preserveShape => "preserve_shape"

def Family.ofKey (s : String) : Option Family :=
  [Family.id, .elementwise, .dot, .reduce, .getAt, .updateAt, .argfind, .preserveShape].find? (fun f => f.key == s)

/-- The value of `implicit_output`. -/
inductive Implicit where
  | none | bijective | index (i : Nat) | indices (is : List Nat) | invalid
deriving Repr, DecidableEq, Inhabited

structure Flags where
  implicit : Implicit
  allowConcat : Bool
  markReduced : Bool
  addKeepdims : Bool
  allowDupEl : Bool
  noElPermute : Bool
deriving Repr, DecidableEq, Inhabited

def natOfChars (cs : List Char) : Option Nat :=
  if cs.isEmpty || !cs.all isAsciiDigit then none else some (cs.foldl (fun acc c => 10 * acc + (c.toNat - '0'.toNat)) 0)

def splitComma : List Char → List (List Char)
  | [] => [[]]
  | c :: cs =>
    match splitComma cs with
    | [] => [[c]]
    | r :: rs => if c == ',' then [] :: r :: rs else (c :: r) :: rs

def decodeImplicit (s : String) : Implicit :=
  let cs := s.toList
  if s == "none" then .none
  else if s == "bijective" then .bijective
  else if "index:".toList.isPrefixOf cs then
    match natOfChars (cs.drop 6) with | some i => .index i | none => .invalid
  else if "indices:".toList.isPrefixOf cs then
    match (splitComma (cs.drop 8)).mapM natOfChars with | some is => .indices is | none => .invalid
  else .invalid

/-- The flags with which the wrapper of a family calls `op(...)`, from the extracted table. -/
def flagsOf (fam : Family) : Option Flags :=
  (Einx.Extracted.familyFlags.find? (fun r => r.name == fam.key)).map (fun r =>
    { implicit := decodeImplicit r.implicitOutput, allowConcat := r.allowConcat, markReduced := r.markReducedAxes,
      addKeepdims := r.addKeepdimsParam, allowDupEl := r.allowDuplicateElAxes, noElPermute := r.noElAxisPermute })

/-! ## Errors -/

/-- Exceptions of `_parse_op` that are not `SemanticError`/`SyntaxError`. -/
inductive PInt where
  | noFlags               -- the family has no row in the extracted table (tie lost)
  | assertRoot            -- the parsed description is not `Op[Args(, Args)]`
  | assertConcatBrackets  -- l.71 `assert not any(is_in_brackets(c) ...)` in `_to_el_expr`
  | assertElArrow         -- l.117 `assert len(el_op.children) == 2`
  | assertBracketNum      -- l.184 `assert bracket_num > 0`
  | assertElCount         -- l.217/218
  | assertOneOutput       -- l.270 `assert len(exprs_out) == 1`
  | indexError            -- `exprs_in[implicit_output]` out of range
  | invalidImplicit       -- l.212 `ValueError`
deriving Repr, DecidableEq, Inhabited

/-- Outcome kinds of `_parse_op`, one per raise site. -/
inductive PErr where
  | syntax (e : Err)                              -- `stage1.parse_op(description)` failed
  | concatNotAllowed                              -- l.95
  | concatBrackets                                -- "Brackets ([]) cannot be used in or around a concatenation (+)"
  | noArrow                                       -- l.108 / l.204 / l.210
  | inputCount (expected found : Nat)             -- l.121
  | outputCount (expected found : Nat)            -- l.126
  | noUniqueParent                                -- l.171
  | notOneBracket                                 -- l.193
  | bracketsNotAllowed (i : Nat) (output : Bool)  -- l.233
  | bracketsRequired (i : Nat) (output : Bool)    -- l.239
  | markDuplicate (names : List Str)              -- l.260
  | outputDuplicate                               -- l.290
  | bracketDuplicate                              -- l.304
  | elReparse (e : Err)                           -- l.111/114: the text built by the `el_op` builder does not parse (D11)
  | internal (k : PInt)
deriving Repr, DecidableEq, Inhabited

abbrev PRes := Except PErr

/-! ## The elementary signature -/

/-- What `_parse_op` keeps of `el_op`: `el_op.children[0].children` and `el_op.children[1].children`. -/
structure ElOp where
  ins : List Expr
  outs : List Expr
deriving Repr, Inhabited

inductive ElMode where
  | tree    -- the two `Args` built directly
  | string  -- the text of the wrapper's `el_op` builder, parsed again (what the code does)
deriving Repr, DecidableEq, Inhabited

/-- A name no caller can collide with stands for `a{uuid.uuid4().int}` (tree mode). -/
def freshOutAxis : Expr := .axis (lit "a.uuid") none (-1) (-1)

mutual
/-- Parsing the printed text a second time gives every unnamed axis a new `unnamed.<uuid>` name. -/
def refreshUnnamed : Expr → Expr
  | .axis n v b e => match v with | none => .axis n none b e | some k => .axis (n ++ lit "'") (some k) b e
  | .flat i b e => .flat (refreshUnnamed i) b e
  | .brackets i b e => .brackets (refreshUnnamed i) b e
  | .ellipsis i id b e => .ellipsis (refreshUnnamed i) id b e
  | .concat cs b e => .concat (refreshUnnamedL cs) b e
  | .list cs b e => .list (refreshUnnamedL cs) b e
  | .args cs b e => .args (refreshUnnamedL cs) b e
  | .op cs b e => .op (refreshUnnamedL cs) b e
def refreshUnnamedL : List Expr → List Expr
  | [] => []
  | c :: cs => refreshUnnamed c :: refreshUnnamedL cs
end

/-- `ins[:-1]` joined with `", "` and followed by `", -> …"`: an empty prefix still yields one (empty) input before the comma. -/
def updateAtIns (eins : List Expr) : List Expr :=
  (if eins.dropLast.isEmpty then [emptyList] else eins.dropLast) ++ [emptyList]

/-- `op.children[1].children[0].ndim != 0` or no output at all (the `argfind` builder) -/
def argfindVectorOut (eouts : Option (List Expr)) : Bool :=
  match eouts with
  | none => true
  | some o => (o.headD emptyList).ndim != some 0

/-- The elementary signature, built as trees.  `eins`/`eouts` are `_to_el_expr` of the inputs / outputs of the description. -/
def elOpTree (fam : Family) (eins : List Expr) (eouts : Option (List Expr)) : ElOp :=
  match fam with
  | .id => ⟨eins.map (fun _ => emptyList), (eouts.getD eins).map (fun _ => emptyList)⟩
  | .elementwise => ⟨eins.map (fun _ => emptyList), [emptyList]⟩
  | .dot => ⟨eins, [emptyList]⟩
  | .getAt => ⟨eins, [emptyList]⟩
  | .reduce => ⟨[eins.headD emptyList], [emptyList]⟩
  | .updateAt => ⟨updateAtIns eins, [eins.headD emptyList]⟩
  | .argfind => ⟨[eins.headD emptyList], if argfindVectorOut eouts then [freshOutAxis] else [emptyList]⟩
  | .preserveShape => ⟨[eins.headD emptyList], [refreshUnnamed (eins.headD emptyList)]⟩

def commaJoin (xs : List Str) : Str := joinWith (lit ", ") xs

/-- The text the wrapper's `el_op` builder returns (see `Einx.Extracted.elOpSources`). -/
def elOpText (fam : Family) (eins : List Expr) (eouts : Option (List Expr)) : Str :=
  let in0 := (eins.headD emptyList).print
  match fam with
  | .id => commaJoin (eins.map (fun _ => [])) ++ lit " -> " ++ commaJoin ((eouts.getD eins).map (fun _ => []))
  | .elementwise => commaJoin (eins.map (fun _ => [])) ++ lit " ->"
  | .dot => commaJoin (printL eins) ++ lit " ->"
  | .getAt => commaJoin (printL eins) ++ lit " ->"
  | .reduce => in0 ++ lit " ->"
  | .updateAt => commaJoin (printL eins.dropLast) ++ lit ", -> " ++ in0
  | .argfind => if argfindVectorOut eouts then in0 ++ lit " -> a00000000000000000000000000000000000000" else in0 ++ lit " ->"
  | .preserveShape => in0 ++ lit " -> " ++ in0

def elOpString (fam : Family) (eins : List Expr) (eouts : Option (List Expr)) : PRes ElOp :=
  match parseOp (elOpText fam eins eouts) with
  | .error err => .error (.elReparse err)
  | .ok (.op [.args i _ _, .args o _ _] _ _) => .ok ⟨i, o⟩
  | .ok _ => .error (.internal .assertElArrow)

def elOp (mode : ElMode) (fam : Family) (eins : List Expr) (eouts : Option (List Expr)) : PRes ElOp :=
  match mode with
  | .tree => .ok (elOpTree fam eins eouts)
  | .string => elOpString fam eins eouts

/-! ## Implicit output (l.131–212) -/

/-- The elements of the list without `__eq__`-duplicates, each where it stands first (`acc`: those kept so far, reversed). -/
def dedupPyAux (acc : List Expr) : List Expr → List Expr
  | [] => acc.reverse
  | x :: xs => if acc.any (fun y => pyEq y x) then dedupPyAux acc xs else dedupPyAux (x :: acc) xs

/-- `set.add` keeps the element that was inserted first. -/
def dedupPy (xs : List Expr) : List Expr := dedupPyAux [] xs

/-- Input expressions that contain the axis names (excluding 1s) of all other inputs, without `__eq__`-duplicates. -/
def validParents (ins : List Expr) : List Expr :=
  let names := ins.map namesNot1
  let valid := (ins.zipIdx).filter (fun p => (names.zipIdx).all (fun c => p.2 == c.2 || subset c.1 (namesNot1 p.1)))
  dedupPy (valid.map (·.1))

/-- `_to_output` (l.182–200) -/
def toOutput (x : Expr) : PRes Expr :=
  if bracketCount x == 1 then .ok (replaceBr x)
  else .error .notOneBracket

def toOutputL : List Expr → PRes (List Expr)
  | [] => .ok []
  | x :: xs =>
    match toOutput x with
    | .error err => .error err
    | .ok y =>
      match toOutputL xs with
      | .error err => .error err
      | .ok ys => .ok (y :: ys)

def getAll (ins : List Expr) : List Nat → Option (List Expr)
  | [] => some []
  | i :: is =>
    match ins[i]?, getAll ins is with
    | some x, some xs => some (x :: xs)
    | _, _ => none

def isScalar (x : Expr) : Bool := x.ndim == some 0

def implicitOut (fl : Flags) (kd : Bool) (el : ElOp) (ins : List Expr) : PRes (List Expr) :=
  match fl.implicit with
  | .bijective =>
    let single := el.ins.length == 1 && el.outs.length == 1
    if single && pyEqL el.ins el.outs then .ok ins
    else if single && isScalar (el.outs.headD emptyList) then
      .ok (if kd then ins.map keepdimsBr else ins.map removeBr)
    else if (el.ins ++ el.outs).all isScalar then
      match ins with
      | [x] => .ok [x]
      | _ =>
        match validParents ins with
        | [p] => .ok [p]
        | _ => .error .noUniqueParent
    else if single then toOutputL ins
    else .error .noArrow
  | .index i =>
    match ins[i]? with
    | some x => .ok [x]
    | none => .error (.internal .indexError)
  | .indices is =>
    match getAll ins is with
    | some xs => .ok xs
    | none => .error (.internal .indexError)
  | .none => .error .noArrow
  | .invalid => .error (.internal .invalidImplicit)

/-! ## Bracket checks, automatic marking, duplicate checks (l.215–306) -/

/-- `check(i, el_arg, el_subarg, arg, inoutput)` over `zip(el_args, el_subargs)` -/
def bracketCheck (output : Bool) : Nat → List Expr → List Expr → Option PErr
  | _, [], _ => none
  | _, _, [] => none
  | i, a :: as, s :: ss =>
    if isScalar a && !isScalar s then some (.bracketsNotAllowed i output)
    else if !isScalar a && isScalar s then some (.bracketsRequired i output)
    else bracketCheck output (i + 1) as ss

/-- l.251–282 -/
def markInputs (ins outs : List Expr) : PRes (List Expr) :=
  match ins.find? (fun x => hasDup (axisNames x)) with
  | some x => .error (.markDuplicate (dups (axisNames x)))
  | none =>
    match outs with
    | [out] => .ok (ins.map (markAxes (axisNames out)))
    | _ => .error (.internal .assertOneOutput)

/-- l.285–294 for one output -/
def outputHasDup (out : Expr) : Bool := (splitNames false out).any hasDup

def finish (fl : Flags) (el : ElOp) (ins outs : List Expr) : PRes (List Expr × List Expr) :=
  if el.outs.length != outs.length then .error (.outputCount el.outs.length outs.length)
  else
    match bracketCheck false 0 el.ins (ins.map toEl) with
    | some err => .error err
    | none =>
      match bracketCheck true 0 el.outs (outs.map toEl) with
      | some err => .error err
      | none =>
        match (if fl.markReduced && !ins.any hasBrackets then markInputs ins outs else .ok ins) with
        | .error err => .error err
        | .ok ins' =>
          if outs.any outputHasDup then .error .outputDuplicate
          else if !fl.allowDupEl && (ins' ++ outs).any (fun x => hasDup (markedNames x)) then .error .bracketDuplicate
          else .ok (ins', outs)

/-! ## `_parse_op` -/

/-- `_parse_op` after `stage1.parse_op(description)`: `ins` = `op.children[0].children`, `outs` = `op.children[1].children` if
    the description has an arrow.  `kd` is the `keepdims` argument (always `False` for families without `add_keepdims_param`). -/
def parseOpTree (mode : ElMode) (fam : Family) (fl : Flags) (kd : Bool) (ins : List Expr) (outs : Option (List Expr)) :
    PRes (List Expr × List Expr) :=
  let all := ins ++ outs.getD []
  if !fl.allowConcat && all.any hasConcat then .error .concatNotAllowed
  else if all.any (concatTouchesBrackets false) then .error .concatBrackets
  else
    let eins := ins.map toEl
    let eouts := outs.map (fun o => o.map toEl)
    match elOp mode fam eins eouts with
    | .error err => .error err
    | .ok el =>
      if el.ins.length != eins.length then .error (.inputCount el.ins.length eins.length)
      else
        match outs with
        | some o =>
          if el.outs.length != o.length then .error (.outputCount el.outs.length o.length)
          else finish fl el ins o
        | none =>
          match implicitOut fl kd el ins with
          | .error err => .error err
          | .ok o => finish fl el ins o

/-- `_parse_op(description, el_op, …)` as the wrapper of `fam` calls it. -/
def parseOpModel (mode : ElMode) (fam : Family) (kd : Bool) (desc : Str) : PRes (List Expr × List Expr) :=
  match flagsOf fam with
  | none => .error (.internal .noFlags)
  | some fl =>
    match parseOp desc with
    | .error err => .error (.syntax err)
    | .ok (.op [.args ins _ _] _ _) => parseOpTree mode fam fl (fl.addKeepdims && kd) ins none
    | .ok (.op [.args ins _ _, .args outs _ _] _ _) => parseOpTree mode fam fl (fl.addKeepdims && kd) ins (some outs)
    | .ok _ => .error (.internal .assertRoot)

end Einx.Elab
