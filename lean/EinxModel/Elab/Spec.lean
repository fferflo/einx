import EinxModel.Elab.ParseOp
/-!
# M2a Elaboration — outcome classes and rule predicates used by the rejection theorems (Props/C03Elab.lean)

`PErr.isSemantic`: the raise sites of `_parse_op` that construct `einx.errors.SemanticError`.  `flagsSafe`: the flag sets for
which `elab_total` holds.  `defects`: for every rule theorem of Props/C03Elab.lean the Boolean form of its hypothesis on the
trees of a call; the driver evaluates it on every case of stream R (`tools/props/c03_rules.py`, request kind `elab_rules`), and
`defects_rejected` (Props/C03Elab.lean) proves that a non-empty list means `SemanticError`.
-/
namespace Einx.Elab
open Einx.Notation

/-- The outcomes of the model that stand for `raise SemanticError(...)` in `_parse_op` (one constructor per raise site). -/
def PErr.isSemantic : PErr → Bool
  | .concatNotAllowed | .concatBrackets | .noArrow | .inputCount .. | .outputCount .. | .noUniqueParent | .notOneBracket
  | .bracketsNotAllowed .. | .bracketsRequired .. | .markDuplicate _ | .outputDuplicate | .bracketDuplicate => true
  | .syntax _ | .elReparse _ | .internal _ => false

/-- The flag sets under which the tree-mode model has no internal outcome: a valid `implicit_output` (the positional form only
    as `update_at` uses it), and automatic marking only for families whose signature has exactly one output. -/
def flagsSafe (fam : Family) (fl : Flags) : Bool :=
  (match fl.implicit with
   | .none | .bijective => true
   | .index i => i == 0 && fam == .updateAt
   | _ => false) &&
  (!fl.markReduced || fam != .id)

/-- `_to_el_expr(x).ndim != 0`: the expression uses brackets (the code's own notion). -/
def usesBrackets (x : Expr) : Bool := !isScalar (toEl x)

/-- For every rule theorem of Props/C03Elab.lean: its name and the Boolean form of its hypothesis on the call `(ins, outs)` of
    family `fam` with flags `fl`. -/
def defectTable (fam : Family) (fl : Flags) (ins : List Expr) (outs : Option (List Expr)) : List (String × Bool) :=
  let all := ins ++ outs.getD []
  [("concat_not_allowed_rule", !fl.allowConcat && all.any hasConcat),
   ("concat_brackets_rule", all.any (concatTouchesBrackets false)),
   ("missing_output_rule", outs.isNone && fl.implicit == .none),
   ("input_count_rule", (elOpTree fam (ins.map toEl) (outs.map (fun o => o.map toEl))).ins.length != ins.length),
   ("output_count_rule", match outs with
      | some o => fam != .id && o.length != 1
      | none => false),
   ("elementwise_no_bracket_rule", (fam == .elementwise || fam == .id) && ins.any usesBrackets),
   ("scalar_output_no_bracket_rule", match outs with
      | some o => (fam == .elementwise || fam == .reduce || fam == .dot || fam == .getAt || fam == .id) && o.any usesBrackets
      | none => false),
   ("update_output_brackets_rule", match fam, ins, outs with
      | .updateAt, x :: _, some (y :: _) => isScalar (toEl x) != isScalar (toEl y)
      | _, _, _ => false),
   ("auto_mark_duplicate_rule", fl.markReduced && !ins.any hasBrackets && ins.any (fun x => hasDup (axisNames x))),
   ("output_duplicate_rule", match outs with
      | some o => o.any outputHasDup
      | none => false),
   ("dot_bracket_rule", match outs with
      | some o => !fl.allowDupEl && ins.any hasBrackets && (ins ++ o).any (fun x => hasDup (markedNames x))
      | none => false),
   ("implicit_output_unique_rule", match fam, ins, outs with
      | .elementwise, x :: y :: rest, none => fl.implicit == .bijective && (validParents (x :: y :: rest)).length != 1
      | _, _, _ => false),
   ("implicit_output_one_bracket_rule", match fam, ins, outs with
      | .argfind, [x], none => fl.implicit == .bijective && !pyEq (toEl x) freshOutAxis && bracketCount x != 1
      | _, _, _ => false)]

/-- The rules of `_parse_op` that the call breaks (names of the rule theorems whose hypothesis holds). -/
def defects (fam : Family) (fl : Flags) (ins : List Expr) (outs : Option (List Expr)) : List String :=
  ((defectTable fam fl ins outs).filter (·.2)).map (·.1)

end Einx.Elab
