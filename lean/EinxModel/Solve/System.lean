/-!
M2 (solving) — the equation language shared by the rank level and the value level, its
specification `Sat`, the Boolean checker `checkSat`, and the reference solver `propagate`
(unit propagation).

* Variables are named unknowns over `Nat` (unbounded: exact beyond 2^31 by construction) with a
  declared lower bound: `1` for axis lengths and for the values of flattened / concatenated
  nodes, `0` for ellipsis repetition counts.
* An equation is `polynomial = polynomial`, a polynomial being a sum of monomials
  `coef * x1 * … * xn`.  This covers every equation einx states:
  `root dimension = constant`, `flattened node = product of its children`,
  `concatenated node = sum of its children`, `axis = keyword size`, `count = count`,
  `rank = c0 + c1*r1 + …`.
* `propagate` repeatedly takes the first equation in which, after substituting the values known
  so far, exactly one unknown is left and occurs linearly, solves it (divisibility, sign of the
  subtraction and the lower bound are checked) and stops at a fixpoint.

No Mathlib: the driver executes these very definitions.
-/
namespace Einx.Solve

abbrev Var := String

/-- Partial assignment as an association list (the first binding of a name wins). -/
abbrev Assign := List (Var × Nat)

/-- The total function denoted by an association list; unbound names read as `0`
(`checkSat` separately demands that every variable of the system is bound). -/
def toFun (a : Assign) : Var → Nat := fun x => (a.lookup x).getD 0

structure Mono where
  coef : Nat
  vars : List Var
  deriving DecidableEq, Repr, Inhabited

abbrev Poly := List Mono

structure Eqn where
  lhs : Poly
  rhs : Poly
  deriving DecidableEq, Repr, Inhabited

structure System where
  /-- declared variables with their lower bounds -/
  vars : List (Var × Nat)
  eqns : List Eqn
  deriving DecidableEq, Repr, Inhabited

def prodVars (σ : Var → Nat) : List Var → Nat
  | [] => 1
  | x :: xs => σ x * prodVars σ xs

def evalMono (σ : Var → Nat) (m : Mono) : Nat := m.coef * prodVars σ m.vars

def evalPoly (σ : Var → Nat) : Poly → Nat
  | [] => 0
  | m :: ms => evalMono σ m + evalPoly σ ms

/-- **Specification.**  `σ` satisfies the system: every declared variable respects its lower
bound and both sides of every equation have the same value. -/
def Sat (sys : System) (σ : Var → Nat) : Prop :=
  (∀ p ∈ sys.vars, p.2 ≤ σ p.1) ∧ (∀ e ∈ sys.eqns, evalPoly σ e.lhs = evalPoly σ e.rhs)

def polyVars : Poly → List Var
  | [] => []
  | m :: ms => m.vars ++ polyVars ms

def eqnVars (e : Eqn) : List Var := polyVars e.lhs ++ polyVars e.rhs

def eqnsVars : List Eqn → List Var
  | [] => []
  | e :: es => eqnVars e ++ eqnsVars es

/-- All variables of a system: the declared ones and those occurring in equations. -/
def System.allVars (sys : System) : List Var := sys.vars.map (·.1) ++ eqnsVars sys.eqns

/-- Boolean checker: every variable is bound, bounds hold, equations hold. -/
def checkSat (sys : System) (a : Assign) : Bool :=
  sys.allVars.all (fun x => (a.lookup x).isSome) &&
  (sys.vars.all (fun p => decide (p.2 ≤ toFun a p.1)) &&
   sys.eqns.all (fun e => evalPoly (toFun a) e.lhs == evalPoly (toFun a) e.rhs))

/-! ### Reference solver -/

/-- Substitute known values into a product of variables: (product of the known factors,
remaining unknown factors in order). -/
def reduceVars (a : Assign) : List Var → Nat × List Var
  | [] => (1, [])
  | x :: xs =>
    match a.lookup x with
    | some v => (v * (reduceVars a xs).1, (reduceVars a xs).2)
    | none => ((reduceVars a xs).1, x :: (reduceVars a xs).2)

/-- Read a polynomial as `k + c * x` for the single unknown `x` after substitution;
`none` if another unknown or a non-linear occurrence of `x` is left. -/
def linPoly (a : Assign) (x : Var) : Poly → Option (Nat × Nat)
  | [] => some (0, 0)
  | m :: ms =>
    match linPoly a x ms with
    | none => none
    | some (k, c) =>
      let c' := m.coef * (reduceVars a m.vars).1
      if c' = 0 then some (k, c)            -- the monomial vanishes whatever the unknowns are
      else
        match (reduceVars a m.vars).2 with
        | [] => some (k + c', c)
        | [y] => if y = x then some (k, c + c') else none
        | _ => none

inductive Step where
  | contra
  | learn (x : Var) (v : Nat)
  | skip
  deriving DecidableEq, Repr, Inhabited

/-- Solve `c * x = hi - lo` (`c > 0`) over the naturals, respecting the declared bounds of `x`. -/
def solveLin (sys : System) (c hi lo : Nat) (x : Var) : Step :=
  if hi < lo then .contra
  else if (hi - lo) % c ≠ 0 then .contra
  else if sys.vars.any (fun p => p.1 == x && decide ((hi - lo) / c < p.2)) then .contra
  else .learn x ((hi - lo) / c)

/-- One equation under the current knowledge: contradiction, a forced value, or nothing. -/
def stepEqn (sys : System) (a : Assign) (e : Eqn) : Step :=
  match (eqnVars e).find? (fun x => (a.lookup x).isNone) with
  | none => if evalPoly (toFun a) e.lhs = evalPoly (toFun a) e.rhs then .skip else .contra
  | some x =>
    match linPoly a x e.lhs, linPoly a x e.rhs with
    | some (k1, c1), some (k2, c2) =>
      if c1 = c2 then (if k1 = k2 then .skip else .contra)
      else if c2 < c1 then solveLin sys (c1 - c2) k2 k1 x
      else solveLin sys (c2 - c1) k1 k2 x
    | _, _ => .skip

/-- First equation (in order) that yields something. -/
def scan (sys : System) (a : Assign) : List Eqn → Step
  | [] => .skip
  | e :: es =>
    match stepEqn sys a e with
    | .skip => scan sys a es
    | s => s

inductive Verdict where
  /-- every variable is determined and all equations and bounds check -/
  | unique (a : Assign)
  /-- a contradiction was derived -/
  | none
  /-- fixpoint with unknowns left; the values derived so far are forced -/
  | stuck (a : Assign)
  deriving DecidableEq, Repr, Inhabited

def finish (sys : System) (a : Assign) : Verdict :=
  if sys.allVars.all (fun x => (a.lookup x).isSome) then
    (if checkSat sys a then .unique a else .none)
  else .stuck a

def unknownCount (sys : System) (a : Assign) : Nat :=
  (sys.allVars.filter (fun x => (a.lookup x).isNone)).length

/-- The propagation loop from a given state of knowledge.  `fuel` bounds the number of values that
can still be learnt; `propagate` supplies the number of variables, and `propagate_stuck_fixpoint`
(Props/C02) proves that this is enough: a `stuck` verdict is always a genuine fixpoint. -/
def propagateLoop (sys : System) : Nat → Assign → Verdict
  | 0, a => finish sys a
  | fuel + 1, a =>
    match scan sys a sys.eqns with
    | .contra => .none
    | .skip => finish sys a
    | .learn x v => propagateLoop sys fuel ((x, v) :: a)

/-- **Reference solver**: unit propagation from nothing known. -/
def propagate (sys : System) : Verdict := propagateLoop sys sys.allVars.length []

end Einx.Solve
