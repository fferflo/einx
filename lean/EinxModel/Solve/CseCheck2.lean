import EinxModel.Solve.CseCheck
/-!
M2 (solving) — the side conditions of `cseTrees_preserves_sols_partial` **split by status** (work package cse2).

`cseCheck` (Solve/CseCheck.lean) bundles everything the proof uses.  Here it is taken apart into

* `inputOK` — facts about the *input* of `cse()` (the output of stage 2): `wfForest` and `minPosForest` (every unknown
  axis has `min_value >= 1`: `Axis.__init__` default; the only other producer of a `min_value` is `cse` itself, which
  passes `_value_range(...)[0]`).  Not a statement about the algorithm.
* `freshOK` — **false for the real code** (defect D19): a copied unknown axis is never called `cse.<k>` for a used `k`.
* `rootDimsOK` — **false for the real code** (defect D20): a part replaced at root level has one dimension.
* `copiedOK` — **false for the real code** (defect D21, found by this work package): an unknown axis that is copied
  to the output does not occur inside a replaced part.  Fails when two slice candidates overlap in nodes without a
  shared name (axes with a value: `a 1` and `1 d` in `a 1 d`).
* `sharedOK` — parts replaced by the same `cse.<k>` have the same shape (not known to fail on inputs in which all unknown
  axes of one name have one `min_value`; **not proved**, needs injectivity of `__str__`); parts replaced by different
  `cse.<k>` have disjoint unknown axes (**false** for the real code, same defect D21: in
  `(1 (f + 2 + a) () b d [1]) (() b d [1] () b d [1])` the candidate `1 (f + 2 + a) ()` consumes the `()`, then `b d`
  becomes `cse.6` while `() b d` elsewhere becomes `cse.5`).

What is *not* in this list because it is proved for every input (`Proofs/CseTreesDischarge.lean`):
the filter facts (`FiltOK`), "an unknown value has an unbounded range" (`valueRange_fixed_value`, `Proofs/CseTreesBasic.lean`), and the positivity
of the bounds inside every replaced part (from `minPosForest`, because every replaced part is a part of the input:
`roots_decls`, `Proofs/CseTreesWalk.lean`).

No Mathlib (the driver evaluates the parts, request kind `cse_check`).
-/
namespace Einx.Solve.CseT
open Einx.Solve

/-- every unknown axis of the input has `min_value >= 1` -/
def minPosForest (rs : List (Option VExpr)) : Bool := (rootDecls rs).all (fun p => decide (1 ≤ p.2))

/-- facts about the output of stage 2 (the input of `cse`) -/
def inputOK (rs : List (Option VExpr)) : Bool := wfForest rs && minPosForest rs

/-- D20: the number of dimensions of a root is kept -/
def rootDimOK : Ev → Bool
  | .surv _ _ => true
  | .used _ e _ atRoot => !atRoot || ndim e == 1

/-- D19: the new names are fresh -/
def freshPair : Ev → Ev → Bool
  | .surv n _, .used k _ _ _ => n != cseName k
  | _, _ => true

/-- D21: an unknown axis that is copied to the output does not occur inside a replaced part -/
def copiedPair : Ev → Ev → Bool
  | .surv n _, .used _ e _ _ => !(freeNamesB e).contains n
  | _, _ => true

/-- the conditions on pairs of replaced parts: same `cse.<k>` ⇒ same shape (unproved), different `cse.<k>` ⇒ disjoint
unknown axes (false for overlapping candidates: D21) -/
def sharedPair : Ev → Ev → Bool
  | .used k e _ _, .used k' e' _ _ =>
    if cseName k == cseName k' then sameShape e e' else disjointNames (freeNamesB e) (freeNamesB e')
  | _, _ => true

def allPairs (f : Ev → Ev → Bool) (evs : List Ev) : Bool := evs.all (fun a => evs.all (fun b => f a b))

def freshOK (evs : List Ev) : Bool := allPairs freshPair evs
def rootDimsOK (evs : List Ev) : Bool := evs.all rootDimOK
def copiedOK (evs : List Ev) : Bool := allPairs copiedPair evs
def sharedOK (evs : List Ev) : Bool := allPairs sharedPair evs

/-- The reduced side conditions: `cseCheckReduced → cseCheck` is proved (`cseCheck_of_reduced`). -/
def cseCheckReduced (opts : Opts) (rs : List (Option VExpr)) : Bool :=
  inputOK rs && freshOK (cseEvents opts rs) && rootDimsOK (cseEvents opts rs) && copiedOK (cseEvents opts rs) &&
    sharedOK (cseEvents opts rs)

end Einx.Solve.CseT
