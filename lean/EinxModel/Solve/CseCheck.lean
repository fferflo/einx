import EinxModel.Solve.CseTrees
import EinxModel.Solve.Tree
/-!
M2 (solving) — what `Props/C02Cse.lean` states about `cseTrees`, and the decidable side conditions the driver evaluates
on every real input (request kind `cse_check`).

* `forestSys`: the stage-3 value system of a list of stage-2 expressions `exprs1 ++ exprs2` as `stage3/solve.py`
  states it, by its meaning: every unknown axis is a variable with its `min_value` as lower bound; an axis with a known
  value is that constant; for every pair `(exprs1[i], exprs2[i])` without a `None` the items (`__iter__`: the
  `ndim` many root-level entries) are pairwise equal, an item being the product of a list / the sum of a concatenation
  of its parts (`polyOf`, Solve/Cse.lean).  A pair whose `ndim`s differ is unsatisfiable here (the real code asserts).
* `trace`: the events of the replacement walk `repl`, by the same control flow: `surv` — an unknown axis that is copied,
  `used` — a sub-expression (a node, or a run of children of a `List` read as their product) that is replaced by the
  axis `cse.<k>`.
* `traceOK`: the side conditions on the events under which `cseTrees_preserves_sols_partial` is proved; which of them
  are proved to hold for every input is listed in `Props/C02Cse2.lean`.

No Mathlib (the driver runs `cseCheck`).
-/
namespace Einx.Solve.CseT
open Einx.Solve

/-! ### The stage-3 system of a forest -/

mutual
/-- `expr.__iter__()`: the root-level entries (one per dimension) -/
def items : VExpr → List VExpr
  | .axis n v m => [.axis n v m]
  | .list cs => itemsL cs
  | .flat e => [.flat e]
  | .concat cs => [.concat cs]
  | .brackets e => items e
def itemsL : List VExpr → List VExpr
  | [] => []
  | c :: cs => items c ++ itemsL cs
end

/-- the unknown axes of all expressions with their lower bounds -/
def rootDecls : List (Option VExpr) → List (Var × Nat)
  | [] => []
  | none :: rs => rootDecls rs
  | some r :: rs => freeAxes r ++ rootDecls rs

/-- "Same root values" (stage3/solve.py lines 49–54) -/
def pairEqns : Option VExpr → Option VExpr → List Eqn
  | some x, some y =>
    if (items x).length = (items y).length then
      List.zipWith (fun p q => (⟨polyOf p, polyOf q⟩ : Eqn)) (items x) (items y)
    else [contraEqn]
  | _, _ => []

/-- The value system of `exprs1 ++ exprs2` (both halves have the same length). -/
def forestSys (rs : List (Option VExpr)) : System :=
  { vars := rootDecls rs,
    eqns := (List.zipWith pairEqns (rs.take (rs.length / 2)) (rs.drop (rs.length / 2))).flatten }

/-! ### Events of the replacement walk -/

inductive Ev where
  /-- an unknown axis `name`, `min_value` that is copied to the output -/
  | surv (n : String) (m : Nat)
  /-- the sub-expression `e` (a node, or `.list` of a run of `len` children) is replaced by `cse.<k>`;
  `atRoot`: `is_at_root` of its nodes -/
  | used (k : Nat) (e : VExpr) (len : Nat) (atRoot : Bool)
  deriving Repr, Inhabited

section Trace
variable (mn : Id → Option Nat) (ma : Id → Nat → Nat → Option (Nat × Nat))

def evNode (lvl : Bool) (id : Id) (e : VExpr) (other : List Ev) : List Ev :=
  match mn id with
  | some k => [.used k e 1 lvl]
  | none => other

mutual
/-- the events of `repl mn ma id e`; `lvl` = `is_at_root(e)` -/
def trace (lvl : Bool) (id : Id) : VExpr → List Ev
  | .axis n v m => evNode mn lvl id (.axis n v m) (match v with | none => [.surv n m] | some _ => [])
  | .list cs =>
    evNode mn lvl id (.list cs) (if cs.length == 1 then traceC lvl id 0 cs else traceL lvl id cs.length 0 0 cs)
  | .concat cs => evNode mn lvl id (.concat cs) (traceC lvl id 0 cs)
  | .brackets e => evNode mn lvl id (.brackets e) (trace lvl (id ++ [0]) e)
  | .flat e => evNode mn lvl id (.flat e) (trace false (id ++ [0]) e)
def traceL (lvl : Bool) (pid : Id) (n : Nat) (i skip : Nat) : List VExpr → List Ev
  | [] => []
  | t :: ts =>
    if skip > 0 then traceL lvl pid n (i + 1) (skip - 1) ts
    else
      match ma pid i n with
      | some (idx, len) => .used idx (.list ((t :: ts).take len)) len lvl :: traceL lvl pid n (i + 1) (len - 1) ts
      | none => trace lvl (pid ++ [i]) t ++ traceL lvl pid n (i + 1) 0 ts
def traceC (lvl : Bool) (pid : Id) (k : Nat) : List VExpr → List Ev
  | [] => []
  | c :: cs => trace lvl (pid ++ [k]) c ++ traceC lvl pid (k + 1) cs
end
end Trace

/-- the events of all roots -/
def traceRoots (cands : List Cand) (k : Nat) : List (Option VExpr) → List Ev
  | [] => []
  | none :: rs => traceRoots cands (k + 1) rs
  | some r :: rs => trace (matchNode cands) (matchAt cands) true [k] r ++ traceRoots cands (k + 1) rs

/-! ### Side conditions -/

mutual
/-- the structural facts about stage-2 trees used by the proofs: a child of a `ConcatenatedAxis` is not a `List`
(the constructor demands `ndim == 1` of every child, and a `List` never has exactly one child) and there are at least
two children (`ConcatenatedAxis.create` returns a single child unchanged) -/
def wfV : VExpr → Bool
  | .axis _ _ _ => true
  | .list cs => wfVL cs
  | .flat e => wfV e
  | .concat cs => wfVL cs && noListL cs && decide (2 ≤ cs.length)
  | .brackets e => wfV e
def wfVL : List VExpr → Bool
  | [] => true
  | c :: cs => wfV c && wfVL cs
def noListL : List VExpr → Bool
  | [] => true
  | .list _ :: _ => false
  | .axis _ _ _ :: cs => noListL cs
  | .flat _ :: cs => noListL cs
  | .concat _ :: cs => noListL cs
  | .brackets _ :: cs => noListL cs
end

def wfForest (rs : List (Option VExpr)) : Bool :=
  rs.all (fun r => match r with | some e => wfV e | none => true)

mutual
/-- the expression with the names of its *valued* axes erased (they are not printed by `__str__`) -/
def eraseValued : VExpr → VExpr
  | .axis n none m => .axis n none m
  | .axis _ (some v) m => .axis "" (some v) m
  | .list cs => .list (eraseValuedL cs)
  | .flat e => .flat (eraseValued e)
  | .concat cs => .concat (eraseValuedL cs)
  | .brackets e => .brackets (eraseValued e)
def eraseValuedL : List VExpr → List VExpr
  | [] => []
  | c :: cs => eraseValued c :: eraseValuedL cs
end

mutual
def beqV : VExpr → VExpr → Bool
  | .axis n v m, .axis n' v' m' => n == n' && v == v' && m == m'
  | .list cs, .list cs' => beqVL cs cs'
  | .flat e, .flat e' => beqV e e'
  | .concat cs, .concat cs' => beqVL cs cs'
  | .brackets e, .brackets e' => beqV e e'
  | _, _ => false
def beqVL : List VExpr → List VExpr → Bool
  | [], [] => true
  | c :: cs, c' :: cs' => beqV c c' && beqVL cs cs'
  | _, _ => false
end

/-- a run of one child is that child (`[expr]` at the node level and `children[i : i + 1]` in the list loop are the same
exprlist) -/
def unwrap1 : VExpr → VExpr
  | .list [x] => x
  | e => e

/-- two replaced sub-expressions print alike and have the same unknown axes with the same bounds -/
def sameShape (e e' : VExpr) : Bool := beqV (eraseValued (unwrap1 e)) (eraseValued (unwrap1 e'))

def disjointNames (a b : List String) : Bool := a.all (fun x => !b.contains x)

def freeNamesB (e : VExpr) : List String := (freeAxes e).map (·.1)

/-- the filter of `cse` (`_value_range(...) is not None and not _has_repeated_axis(...)`) on what is replaced -/
def Rep (e : VExpr) : Prop := (valueRange e).isSome = true ∧ hasRepeatedAxis e = false

/-- Every replacement passed the filter and replaces at least one node.  *Proved for every input*
(`filt_cseEvents`, Proofs/CseTreesDischarge.lean) — not part of the side conditions. -/
def FiltOK : Ev → Prop
  | .surv _ _ => True
  | .used _ e len _ => 0 < len ∧ Rep e

/-- decidable form of `FiltOK` (reported by the driver as a sanity check of the model) -/
def filtOKb : Ev → Bool
  | .surv _ _ => true
  | .used _ e len _ => decide (0 < len) && (valueRange e).isSome && !hasRepeatedAxis e

/-- The condition on one `used` event alone (beyond `FiltOK`). -/
def usedOK : Ev → Bool
  | .surv _ _ => true
  | .used _ e _ atRoot =>
    (freeAxes e).all (fun p => decide (1 ≤ p.2)) &&                  -- lower bounds are positive (`min_value >= 1`)
    ((valueOf e).isSome || (valueRange e).any (fun r => r.2)) &&    -- an unknown value has an unbounded range
    (!atRoot || ndim e == 1)                                        -- the number of dimensions of a root is kept

/-- The condition on a pair of events. -/
def pairOK : Ev → Ev → Bool
  | .surv n _, .used k e _ _ => n != cseName k && !(freeNamesB e).contains n
  | .used _ _ _ _, .surv _ _ => true
  | .surv _ _, .surv _ _ => true
  | .used k e _ _, .used k' e' _ _ =>
    if cseName k == cseName k' then sameShape e e' else disjointNames (freeNamesB e) (freeNamesB e')

/-- **The side conditions of `cseTrees_preserves_sols_partial`** on the events of a run. -/
def traceOK (evs : List Ev) : Bool :=
  evs.all usedOK && evs.all (fun a => evs.all (fun b => pairOK a b))

/-! ### Two facts about the candidates that the order-independence theorem (C16) rests on
(no hypotheses of it: `candidates_keys_nodup`, `candidates_unique_ids` in `Props/C16Cse.lean` prove them for every input) -/

def candKeys (cands : List Cand) : List String := cands.map (·.key)

/-- An exprlist (a list of node identities) belongs to one candidate only.  (Python: the key of the dict entry is
computed from the nodes, so two entries cannot hold the same list of objects.) -/
def uniqueIds (cands : List Cand) : Bool :=
  cands.all (fun a => cands.all (fun b => a.occs.all (fun o => b.occs.all (fun o' => !(o.ids == o'.ids) || a.key == b.key))))

/-- the events of `cseTrees opts roots` -/
def cseEvents (opts : Opts) (roots : List (Option VExpr)) : List Ev :=
  traceRoots (candidates opts roots) 0 roots

/-- What the driver evaluates for every real input of `cse` (request kind `cse_check`). -/
def cseCheck (opts : Opts) (roots : List (Option VExpr)) : Bool :=
  wfForest roots && traceOK (cseEvents opts roots)

end Einx.Solve.CseT
