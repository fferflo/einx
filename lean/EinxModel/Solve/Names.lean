import EinxModel.Solve.Shorthand
/-!
M2 (solving) — the syntactic condition on the user's axis names under which the variable names the
model generates (`#t/k(….i.j` for flattened / concatenated nodes, `name.i.j` for expanded axes) decode
uniquely.  Executable (the driver evaluates `plainNames` on every case of the C07 stage-2 stream);
`Proofs/SolveNames.lean` derives `namesOK`, `freshVars`, `renOK` from it.

* `identName` — `[a-zA-Z_][a-zA-Z0-9_]*`, the axis names the einx lexer accepts
  (`stage1/parse.py:_axis_name`; the parser model's `Notation.isAxisName`).
* `plainName` — the (weaker) condition the proofs need: no `#`, and the name does not end in
  `.digits` (stated as the stronger: no `.` at all, or the last character is not a digit; `a.b1` is not plain).  Every `identName` is
  plain, and so is the anonymous ellipsis axis `.anonymous_ellipsis_axis`, the only other name the
  stage-1 parser gives a named axis.
* `hashFree` — no `#` only; this already implies `namesOK` and survives `unrollInput`
  (whose names `a.0.1` are not plain any more).
-/
namespace Einx.Solve

def isIdentStart (c : Char) : Bool := ('a' ≤ c && c ≤ 'z') || ('A' ≤ c && c ≤ 'Z') || c == '_'
def isIdentCont (c : Char) : Bool := isIdentStart c || ('0' ≤ c && c ≤ '9')

/-- `[a-zA-Z_][a-zA-Z0-9_]*` -/
def identChars : List Char → Bool
  | [] => false
  | c :: cs => isIdentStart c && cs.all isIdentCont

def identName (s : String) : Bool := identChars s.toList

def plainChars (s : List Char) : Bool :=
  !(s.contains '#') && (!(s.contains '.') || !(s.getLast?.any Char.isDigit))

def plainName (s : String) : Bool := plainChars s.toList

/-- the axis names occurring in the expressions of an input -/
def Input.axisNames (inp : Input) : List String := inp.occs.map (·.1)

/-- **The syntactic condition**: every axis name occurring in an expression is plain. -/
def plainNames (inp : Input) : Bool := inp.axisNames.all plainName

/-- No axis name occurring in an expression contains a `#`. -/
def hashFree (inp : Input) : Bool := inp.axisNames.all (fun n => !(n.toList.contains '#'))

end Einx.Solve
