import EinxModel.Notation.Lexer
/-!
# M1 Notation — declarative string-level predicates used by the rejection theorems (Props/C03Reject.lean)

No token, no tree: `alphabetChar` (the character can occur in some valid token) and the textbook bracket-matching scan
`delimRun` / `balanced`.  The driver evaluates them on every case of stream R (`tools/props/c03_rules.py`, request kind
`reject_spec`), so the hypotheses of the theorems are checked on the very inputs on which real einx is observed.
-/
namespace Einx.Notation

/-- All characters that occur in a literal or operator of the notation (from the extracted tables). -/
def litChars : List Char := (literals ++ naryOps).flatten

/-- `c` can be part of a valid token: a name character, a digit, or a character of a literal. -/
def alphabetChar (c : Char) : Bool := isNameCont c || isDigitChar c || litChars.contains c

def isDelimChar (c : Char) : Bool := c == '(' || c == '[' || c == ')' || c == ']'

/-- One step of the bracket-matching scan; the stack holds the expected closing characters, innermost first. -/
def delimStep (st : List Char) (c : Char) : Option (List Char) :=
  if c == '(' then some (')' :: st)
  else if c == '[' then some (']' :: st)
  else if c == ')' || c == ']' then
    match st with
    | [] => none
    | t :: r => if t == c then some r else none
  else some st

/-- The scan over a string: `none` = a closing delimiter that does not match, otherwise the closers still expected. -/
def delimRun : Str → List Char → Option (List Char)
  | [], st => some st
  | c :: cs, st =>
    match delimStep st c with
    | some st' => delimRun cs st'
    | none => none

/-- The delimiters `( ) [ ]` of the string are properly nested and all closed. -/
def balanced (s : Str) : Bool := delimRun s [] == some []

/-- `c` occurs in `s` outside every pair of delimiters: at that position the scan stack (started with `st`) is empty. -/
def atDepth0 (c : Char) : Str → List Char → Bool
  | [], _ => false
  | x :: xs, st =>
    (st.isEmpty && x == c) ||
      (match delimStep st x with
       | some st' => atDepth0 c xs st'
       | none => false)

end Einx.Notation
