import EinxModel.IR.Validate
/-
M5 (generic executor): straight-line programs over *any* instruction type whose meaning is given by a
plan function of the operand shapes.  Naturality and validator soundness are proved once, for every
instruction set (`Proofs/IR.lean`); `IR/PrimX.lean` instantiates it with the extended numpy primitive table.
-/
namespace Einx.IR
open Einx

/-- Execute a straight-line program over instruction type `ι`: every instruction appends one register. -/
def evalProgG {ι α : Type} (planOf : List (List Nat) → ι → E Plan) (A : Alg α) :
    List ι → List (Tensor α) → E (List (Tensor α))
  | [], regs => pure regs
  | i :: is, regs => do
    let p ← planOf (regs.map (·.shape)) i
    evalProgG planOf A is (regs ++ [runPlan A regs p])

def symRunG {ι : Type} (planOf : List (List Nat) → ι → E Plan) (prog : List ι) (inShapes : List (List Nat))
    (outs : List Nat) : E (List (Tensor Cell)) := do
  let regs ← evalProgG planOf symAlg prog (symInputs inShapes)
  match selectRegs regs outs with
  | some ts => pure ts
  | none => throw "output register undefined"

def validateG {ι : Type} (planOf : List (List Nat) → ι → E Plan) (prog : List ι) (inShapes : List (List Nat))
    (outs : List Nat) (expected : List (Tensor Cell)) : Bool :=
  match symRunG planOf prog inShapes outs with
  | .ok res => tensorsBeq res expected
  | .error _ => false

/-- Two programs (e.g. a graph before and after optimisation) are symbolically equivalent. -/
def equivG {ι : Type} (planOf : List (List Nat) → ι → E Plan) (p1 p2 : List ι) (inShapes : List (List Nat))
    (outs1 outs2 : List Nat) : Bool :=
  match symRunG planOf p1 inShapes outs1, symRunG planOf p2 inShapes outs2 with
  | .ok r1, .ok r2 => tensorsBeq r1 r2
  | _, _ => false

end Einx.IR
