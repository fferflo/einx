/-
M0: row-major index arithmetic.  Core Lean only (no imports), so that the driver can be
compiled to a native executable.
-/
namespace Einx

/-- Number of elements of a tensor of shape `s`. -/
def prod : List Nat → Nat
  | [] => 1
  | s :: ss => s * prod ss

/-- `Valid shape idx`: `idx` is a multi-index into a tensor of shape `shape`. -/
inductive Valid : List Nat → List Nat → Prop
  | nil : Valid [] []
  | cons {s i : Nat} {ss is : List Nat} : i < s → Valid ss is → Valid (s :: ss) (i :: is)

/-- Executable version of `Valid`. -/
def validb : List Nat → List Nat → Bool
  | [], [] => true
  | s :: ss, i :: is => decide (i < s) && validb ss is
  | _, _ => false

theorem validb_iff {s i : List Nat} : validb s i = true ↔ Valid s i := by
  induction s generalizing i with
  | nil =>
    cases i with
    | nil => exact ⟨fun _ => Valid.nil, fun _ => rfl⟩
    | cons _ _ => exact ⟨nofun, nofun⟩
  | cons a ss ih =>
    cases i with
    | nil => exact ⟨nofun, nofun⟩
    | cons j is =>
      rw [validb, Bool.and_eq_true, decide_eq_true_iff, ih]
      exact ⟨fun ⟨h1, h2⟩ => Valid.cons h1 h2, fun | .cons h1 h2 => ⟨h1, h2⟩⟩

instance (s i : List Nat) : Decidable (Valid s i) :=
  decidable_of_iff _ validb_iff

/-- Row-major flat position of a multi-index (the meaning of a parenthesised group). -/
def ravel : List Nat → List Nat → Nat
  | _ :: ss, i :: is => i * prod ss + ravel ss is
  | _, _ => 0

/-- Inverse of `ravel` on `[0, prod shape)`. -/
def unravel : List Nat → Nat → List Nat
  | [], _ => []
  | _ :: ss, k => (k / prod ss) :: unravel ss (k % prod ss)

theorem prod_pos_of_valid {s i : List Nat} (h : Valid s i) : 0 < prod s := by
  induction h with
  | nil => simp [prod]
  | cons hi _ ih => simp [prod]; exact Nat.mul_pos (by omega) ih

theorem ravel_lt {s i : List Nat} (h : Valid s i) : ravel s i < prod s := by
  induction h with
  | nil => simp [ravel, prod]
  | @cons s i ss is hi _ ih =>
    simp only [ravel, prod]
    calc i * prod ss + ravel ss is < i * prod ss + prod ss := by omega
      _ = (i + 1) * prod ss := by rw [Nat.add_mul]; simp
      _ ≤ s * prod ss := Nat.mul_le_mul_right _ hi

theorem unravel_ravel {s i : List Nat} (h : Valid s i) : unravel s (ravel s i) = i := by
  induction h with
  | nil => simp [unravel]
  | @cons s i ss is hi hv ih =>
    have hlt := ravel_lt hv
    have hpos : 0 < prod ss := prod_pos_of_valid hv
    simp only [ravel, unravel]
    have h1 : (i * prod ss + ravel ss is) / prod ss = i := by
      rw [Nat.add_comm, Nat.add_mul_div_right _ _ hpos, Nat.div_eq_of_lt hlt]; simp
    have h2 : (i * prod ss + ravel ss is) % prod ss = ravel ss is := by
      rw [Nat.add_comm, Nat.add_mul_mod_self_right, Nat.mod_eq_of_lt hlt]
    rw [h1, h2, ih]

theorem prod_tail_pos {s k : Nat} {ss : List Nat} (h : k < prod (s :: ss)) : 0 < prod ss :=
  Nat.pos_of_ne_zero fun h0 => by rw [prod, h0, Nat.mul_zero] at h; exact Nat.not_lt_zero _ h

theorem unravel_valid : ∀ (s : List Nat) (k : Nat), k < prod s → Valid s (unravel s k)
  | [], _, _ => Valid.nil
  | s :: ss, k, h => by
    simp only [unravel]
    have hpos := prod_tail_pos h
    refine Valid.cons ?_ (unravel_valid ss _ (Nat.mod_lt _ hpos))
    simp only [prod] at h
    exact Nat.div_lt_of_lt_mul (by rw [Nat.mul_comm]; exact h)

theorem ravel_unravel : ∀ (s : List Nat) (k : Nat), k < prod s → ravel s (unravel s k) = k
  | [], k, h => by simp [prod] at h; simp [ravel, h]
  | s :: ss, k, h => by
    have hpos := prod_tail_pos h
    simp only [unravel, ravel]
    rw [ravel_unravel ss _ (Nat.mod_lt _ hpos)]
    exact Nat.div_add_mod' k (prod ss)

theorem valid_length {s i : List Nat} (h : Valid s i) : i.length = s.length := by
  induction h with
  | nil => rfl
  | cons _ _ ih => simp [ih]

theorem prod_append (a b : List Nat) : prod (a ++ b) = prod a * prod b := by
  induction a with
  | nil => simp [prod]
  | cons x xs ih => simp [prod, ih, Nat.mul_assoc]

theorem ravel_append_len : ∀ (s1 i1 s2 i2 : List Nat), i1.length = s1.length →
    ravel (s1 ++ s2) (i1 ++ i2) = ravel s1 i1 * prod s2 + ravel s2 i2
  | [], [], s2, i2, _ => by
    show ravel s2 i2 = 0 * prod s2 + ravel s2 i2
    rw [Nat.zero_mul, Nat.zero_add]
  | _ :: s1, j :: i1, s2, i2, h => by
    show j * prod (s1 ++ s2) + ravel (s1 ++ s2) (i1 ++ i2) = (j * prod s1 + ravel s1 i1) * prod s2 + ravel s2 i2
    rw [ravel_append_len s1 i1 s2 i2 (Nat.succ.inj h), prod_append, Nat.add_mul, Nat.mul_assoc, Nat.add_assoc]
  | [], _ :: _, _, _, h | _ :: _, [], _, _, h => nomatch h

/-- Row-major order of a concatenated shape is nested row-major order: the fact behind
"parentheses = reshape". -/
theorem ravel_append {s1 i1 : List Nat} (s2 i2 : List Nat) (h : Valid s1 i1) :
    ravel (s1 ++ s2) (i1 ++ i2) = ravel s1 i1 * prod s2 + ravel s2 i2 :=
  ravel_append_len s1 i1 s2 i2 (valid_length h)

theorem valid_append {s1 i1 s2 i2 : List Nat} (h1 : Valid s1 i1) (h2 : Valid s2 i2) :
    Valid (s1 ++ s2) (i1 ++ i2) := by
  induction h1 with
  | nil => simpa
  | cons hi _ ih => exact Valid.cons hi ih

theorem valid_iff_getD : ∀ {s i : List Nat},
    Valid s i ↔ i.length = s.length ∧ ∀ k, k < s.length → i.getD k 0 < s.getD k 0
  | [], [] => ⟨fun _ => ⟨rfl, fun _ h => absurd h (Nat.not_lt_zero _)⟩, fun _ => Valid.nil⟩
  | [], _ :: _ => ⟨nofun, fun h => nomatch h.1⟩
  | _ :: _, [] => ⟨nofun, fun h => nomatch h.1⟩
  | a :: s, j :: i => by
    constructor
    · rintro (_ | ⟨h1, h2⟩)
      obtain ⟨hl, hk⟩ := valid_iff_getD.1 h2
      exact ⟨congrArg (· + 1) hl, fun k hk' => match k with
        | 0 => h1
        | k + 1 => hk k (Nat.lt_of_succ_lt_succ hk')⟩
    · rintro ⟨hl, hk⟩
      exact Valid.cons (hk 0 (Nat.zero_lt_succ _))
        (valid_iff_getD.2 ⟨Nat.succ.inj hl, fun k hk' => hk (k + 1) (Nat.succ_lt_succ hk')⟩)

/-- The same without a default value. -/
theorem valid_iff_getElem? {s σ : List Nat} :
    Valid s σ ↔ σ.length = s.length ∧ ∀ j a i : Nat, s[j]? = some a → σ[j]? = some i → i < a := by
  rw [valid_iff_getD]
  refine and_congr_right fun hl => ⟨fun h j a i ha hi => ?_, fun h k hk => ?_⟩
  · have := h j (List.getElem?_eq_some_iff.mp ha).1
    rwa [List.getD_eq_getElem?_getD, List.getD_eq_getElem?_getD, ha, hi] at this
  · have hk' : k < σ.length := hl ▸ hk
    rw [← List.getElem_eq_getD (h := hk), ← List.getElem_eq_getD (h := hk')]
    exact h k _ _ (List.getElem?_eq_getElem hk) (List.getElem?_eq_getElem hk')

end Einx
