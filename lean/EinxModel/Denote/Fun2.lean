import EinxModel.Denote.Fun
import EinxModel.Denote.Expr2
/-
M3 (functional form, continued): a loop-free form of `Denote.denoteReduce` and `Denote.denoteDot`
(`Denote/Expr2.lean`) for concatenation-free expressions, and the common shape of all functional
denotations: one cell `X σ` per assignment `σ` of the output axes, scattered into the flat output
(`genCells`).  `Proofs/DenoteReduce.lean` and `Proofs/DenoteDot.lean` prove the functional forms equal to the executable
loop forms.
-/
namespace Einx.Denote
open Einx Einx.IR
open Einx.Update (mapOpt)

/-! ### the common shape: one cell per output assignment -/

def genEntry (X : Assign → Option Cell) (vo : List Dim) (so : List Nat) (σ : Assign) : Option (Nat × Cell) :=
  match X σ, flatPos vo so σ with
  | some c, some po => some (po, c)
  | _, _ => none

def genCells (X : Assign → Option Cell) (vo : List Dim) (so : List Nat) : Option (List Cell) :=
  match mapOpt (genEntry X vo so) (outAssignments vo) with
  | some es => gatherAll (prod so) es
  | none => none

/-! ### reductions -/

/-- The bracketed axes of a view (distinct names with sizes, in order of first occurrence). -/
def markedAxes (v : List Dim) : List (String × Nat) := axesOf ((Dim.leavesL v).filter (·.marked))

/-- The input element read for the output assignment `σ` and the assignment `τ` of the bracketed axes. -/
def redCell (v : List Dim) (s : List Nat) (σ τ : Assign) : Option Cell :=
  match inputAssign σ τ (Dim.leavesL v) with
  | some a => cellAt v s 0 a
  | none => none

/-- All input elements reduced into the output element of `σ`, in iteration order. -/
def redArgs (v : List Dim) (s : List Nat) (σ : Assign) : Option (List Cell) :=
  mapOpt (redCell v s σ) (assignments (markedAxes v))

def redX (f : String) (v : List Dim) (s : List Nat) (σ : Assign) : Option Cell := (redArgs v s σ).map (mkRed f)

def reduceCells (f : String) (v : List Dim) (s : List Nat) (vo : List Dim) (so : List Nat) : Option (List Cell) :=
  genCells (redX f v s) vo so

def denoteReduceFun (f : String) (e eo : Expr) : E (Tensor Cell) :=
  if !(e.concatFree && eo.concatFree) then throw "concatenation not allowed here"
  else
    match reduceCells f (rootDims e) (shapeOf e) (rootDims eo) (shapeOf eo) with
    | some cs => pure ⟨shapeOf eo, cs⟩
    | none => throw "reduce: an axis is unassigned, or the output is not fully defined"

/-! ### dot -/

/-- The contracted axes of a dot: bracketed axes of all inputs, in order of first occurrence. -/
def dotMarked (ins : List (List Dim × List Nat)) : List (String × Nat) :=
  axesOf ((ins.flatMap (fun p => Dim.leavesL p.1)).filter (·.marked))

/-- The element of input `q.2` (view and shape `q.1`) that enters the product for `σ` (output axes) and `τ`
(contracted axes): an axis contracted elsewhere may occur un-bracketed here, so `τ` is consulted first. -/
def dotFactor (σ τ : Assign) (q : (List Dim × List Nat) × Nat) : Option Cell :=
  match inputAssign (τ ++ σ) τ (Dim.leavesL q.1.1) with
  | some a => cellAt q.1.1 q.1.2 q.2 a
  | none => none

def dotTerm (ins : List (List Dim × List Nat)) (σ τ : Assign) : Option Cell :=
  (mapOpt (dotFactor σ τ) ins.zipIdx).map mkProd

def dotArgs (ins : List (List Dim × List Nat)) (σ : Assign) : Option (List Cell) :=
  mapOpt (dotTerm ins σ) (assignments (dotMarked ins))

def dotX (ins : List (List Dim × List Nat)) (σ : Assign) : Option Cell := (dotArgs ins σ).map (mkRed "sum")

def dotCells (ins : List (List Dim × List Nat)) (vo : List Dim) (so : List Nat) : Option (List Cell) :=
  genCells (dotX ins) vo so

def denoteDotFun (exprsIn : List Expr) (exprOut : Expr) : E (Tensor Cell) :=
  if !(Expr.concatFreeL exprsIn && exprOut.concatFree) then throw "concatenation not allowed here"
  else
    match dotCells (exprsIn.map (fun e => (rootDims e, shapeOf e))) (rootDims exprOut) (shapeOf exprOut) with
    | some cs => pure ⟨shapeOf exprOut, cs⟩
    | none => throw "dot: an axis is unassigned, or the output is not fully defined"

/-! ### re-canonicalisation after a substitution -/

/-- Sort the arguments of an application again (what `mkRed` does for the reduction symbol): substituting
tensors into a canonical reduction cell permutes its arguments. -/
def Cell.resort : Cell → Cell
  | .app g args => .app g (sortCells args)
  | c => c

end Einx.Denote

namespace Einx.Denote
open Einx Einx.IR
open Einx.Update (mapOpt)

/-! ### id with concatenations: the general functional form -/

/-- The virtual (concatenation-free) inputs of `id`, in einx's enumeration order, with the index and the shape of the
real input tensor they are a block of. -/
def idVin (exprsIn : List Expr) : List (List Dim × Nat × List Nat) :=
  (exprsIn.zipIdx).flatMap (fun (x : Expr × Nat) => (views x.1).map (fun v => (v, x.2, shapeOf x.1)))

/-- The virtual outputs with the index of the real output tensor they are a block of. -/
def idVout (exprsOut : List Expr) : List (List Dim × Nat) :=
  (exprsOut.zipIdx).flatMap (fun (x : Expr × Nat) => (views x.1).map (fun v => (v, x.2)))

/-- The entries that the `j`-th pair (virtual input, virtual output) writes into its real output tensor. -/
def idPairEntries (exprsOut : List Expr) (x : (List Dim × Nat × List Nat) × (List Dim × Nat)) : Option (List (Nat × Cell)) :=
  mapOpt (idEntry x.1.1 x.1.2.2 x.1.2.1 x.2.1 (shapeOf (exprsOut.getD x.2.2 (Expr.list []))))
    (assignments (axesOf (Dim.leavesL x.2.1)))

/-- All entries written into real output `k`, in order. -/
def entriesFor (k : Nat) (kes : List (Nat × List (Nat × Cell))) : List (Nat × Cell) :=
  (kes.filter (fun ke => ke.1 == k)).flatMap (fun ke => ke.2)

/-- `id` for arbitrary solved expressions (concatenations included), without loops: pair the virtual inputs with the
virtual outputs, collect the entries of every pair, and gather per real output tensor. -/
def denoteIdFunG (exprsIn exprsOut : List Expr) : Option (List (Tensor Cell)) :=
  let ps := List.zip (idVin exprsIn) (idVout exprsOut)
  if (idVin exprsIn).length != (idVout exprsOut).length then none
  else
    match mapOpt (idPairEntries exprsOut) ps with
    | none => none
    | some ess =>
      mapOpt (fun (x : Expr × Nat) =>
        (gatherAll (prod (shapeOf x.1)) (entriesFor x.2 (List.zip (ps.map (fun p => p.2.2)) ess))).map
          (fun cs => (⟨shapeOf x.1, cs⟩ : Tensor Cell))) exprsOut.zipIdx

end Einx.Denote
