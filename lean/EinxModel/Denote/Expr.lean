import EinxModel.IR.Cell
import EinxModel.IR.Prim
/-
M3: the loop-notation denotation of solved (stage-3) expressions, symbolically: for every output
position a `Cell` over the input tensors (`src i k` = element `k` of the `i`-th input).  The concrete
meaning for input data `xs` and an interpretation of the elementary functions is, by definition, the
image of these cells under `evalCell`.
-/
namespace Einx.Denote
open Einx Einx.IR

/-- Solved expression trees (stage 3): every axis carries its length. -/
inductive Expr where
  | axis (name : String) (value : Nat)
  | list (children : List Expr)
  | flat (inner : Expr)
  | concat (children : List Expr)
  | br (inner : Expr)
deriving Repr, Inhabited

structure Leaf where
  name : String
  size : Nat
  marked : Bool
deriving Repr, Inhabited, DecidableEq

/-- One root dimension of a (partially) concatenation-free expression. -/
inductive Dim where
  | axis (l : Leaf)
  | flat (ds : List Dim)
  | concat (ds : List Dim)
  | off (offset : Nat) (d : Dim) (total : Nat)     -- a chosen block of a concatenation
deriving Repr, Inhabited

mutual
def dims (marked : Bool) : Expr → List Dim
  | .axis n v => [.axis ⟨n, v, marked⟩]
  | .list cs => dimsL marked cs
  | .flat e => [.flat (dims marked e)]
  | .concat cs => [.concat (dimsL marked cs)]
  | .br e => dims true e
def dimsL (marked : Bool) : List Expr → List Dim
  | [] => []
  | c :: cs => dims marked c ++ dimsL marked cs
end

mutual
def Dim.size : Dim → Nat
  | .axis l => l.size
  | .flat ds => Dim.sizeProd ds
  | .concat ds => Dim.sizeSum ds
  | .off _ _ t => t
def Dim.sizeProd : List Dim → Nat
  | [] => 1
  | d :: ds => d.size * Dim.sizeProd ds
def Dim.sizeSum : List Dim → Nat
  | [] => 0
  | d :: ds => d.size + Dim.sizeSum ds
end

def shapeOf (e : Expr) : List Nat := (dims false e).map Dim.size

mutual
/-- Number of concatenation nodes (termination measure of `views`). -/
def Dim.nconcat : Dim → Nat
  | .axis _ => 0
  | .flat ds => Dim.nconcatL ds
  | .concat ds => 1 + Dim.nconcatL ds
  | .off _ d _ => d.nconcat
def Dim.nconcatL : List Dim → Nat
  | [] => 0
  | d :: ds => d.nconcat + Dim.nconcatL ds
end

mutual
/-- Replace the leftmost concatenation that is not nested in another concatenation by its `k`-th block.
Returns `none` if there is no concatenation or it has no `k`-th block (`Dim.nblocks` counts the blocks). -/
def Dim.choose (k : Nat) : Dim → Option Dim
  | .axis _ => none
  | .flat ds => (Dim.chooseL k ds).map .flat
  | .concat ds =>
    match ds[k]? with
    | some d => some (.off ((ds.take k).foldl (fun a x => a + x.size) 0) d (Dim.sizeSum ds))
    | none => none
  | .off o d t => (d.choose k).map (fun d' => .off o d' t)
def Dim.chooseL (k : Nat) : List Dim → Option (List Dim)
  | [] => none
  | d :: ds =>
    if d.nconcat > 0 then (d.choose k).map (· :: ds)
    else (Dim.chooseL k ds).map (d :: ·)
end

mutual
/-- Number of blocks of the leftmost top-level concatenation. -/
def Dim.nblocks : Dim → Nat
  | .axis _ => 0
  | .flat ds => Dim.nblocksL ds
  | .concat ds => ds.length
  | .off _ d _ => d.nblocks
def Dim.nblocksL : List Dim → Nat
  | [] => 0
  | d :: ds => if d.nconcat > 0 then d.nblocks else Dim.nblocksL ds
end

/-- All concatenation-free virtual tensors, in einx's enumeration order (leftmost top-level concatenation
first, depth first).  `fuel` bounds the recursion depth by the number of concatenation nodes. -/
def viewsFuel : Nat → List Dim → List (List Dim)
  | 0, ds => [ds]
  | fuel + 1, ds =>
    if Dim.nconcatL ds == 0 then [ds]
    else
      (List.range (Dim.nblocksL ds)).flatMap (fun k =>
        match Dim.chooseL k ds with
        | some ds' => viewsFuel fuel ds'
        | none => [])

def views (e : Expr) : List (List Dim) :=
  let ds := dims false e
  viewsFuel (Dim.nconcatL ds + 1) ds

mutual
def Dim.leaves : Dim → List Leaf
  | .axis l => [l]
  | .flat ds => Dim.leavesL ds
  | .concat _ => []
  | .off _ d _ => d.leaves
def Dim.leavesL : List Dim → List Leaf
  | [] => []
  | d :: ds => d.leaves ++ Dim.leavesL ds
end

abbrev Assign := List (String × Nat)

def Assign.get (σ : Assign) (n : String) : Option Nat := (σ.find? (·.1 == n)).map (·.2)

mutual
/-- Position along one dimension under an assignment (`none` if an axis is unassigned). -/
def Dim.pos (σ : Assign) : Dim → Option Nat
  | .axis l => σ.get l.name
  | .flat ds => Dim.posFlat σ ds 0
  | .concat _ => none
  | .off o d _ => (d.pos σ).map (o + ·)
def Dim.posFlat (σ : Assign) : List Dim → Nat → Option Nat
  | [], acc => some acc
  | d :: ds, acc =>
    match d.pos σ with
    | some p => Dim.posFlat σ ds (acc * d.size + p)
    | none => none
end

def position (view : List Dim) (σ : Assign) : Option (List Nat) := view.mapM (Dim.pos σ)

/-- Distinct axis names of a view with their sizes, in order of first occurrence. -/
def axesOf (ls : List Leaf) : List (String × Nat) :=
  ls.foldl (fun acc l => if acc.any (·.1 == l.name) then acc else acc ++ [(l.name, l.size)]) []

/-- All assignments of the given axes, row-major in the given order. -/
def assignments : List (String × Nat) → List Assign
  | [] => [[]]
  | (n, s) :: rest => (List.range s).flatMap (fun i => (assignments rest).map (fun σ => (n, i) :: σ))

/-- Extend an assignment of the output axes to the axes of an input view: an input axis that does not
occur in the output must have length 1 (index 0). -/
def extend (σ : Assign) (ls : List Leaf) : Option Assign :=
  ls.foldlM (fun (acc : Assign) l =>
    match acc.get l.name with
    | some _ => some acc
    | none => if l.size == 1 then some (acc ++ [(l.name, 0)]) else none) σ

def viewShape (view : List Dim) : List Nat := view.map Dim.size

/-- Write `cells` (one per assignment) into a flat output of shape `shape`. -/
def scatterCells (shape : List Nat) (entries : List (List Nat × Cell)) : List (Option Cell) :=
  entries.foldl (fun acc (p, c) => acc.set (ravel shape p) (some c)) (List.replicate (prod shape) none)

abbrev E := Except String

def optE {α} (msg : String) : Option α → E α
  | some a => pure a
  | none => throw msg

/-- `id`: the k-th virtual output equals the k-th virtual input. -/
def denoteId (exprsIn exprsOut : List Expr) : E (List (Tensor Cell)) := do
  -- virtual inputs with the index of the real input tensor and its shape
  let vin := (exprsIn.zipIdx).flatMap (fun (e, i) => (views e).map (fun v => (v, i, shapeOf e)))
  let vout := (exprsOut.zipIdx).flatMap (fun (e, k) => (views e).map (fun v => (v, k)))
  if vin.length != vout.length then throw "number of virtual inputs and outputs differs"
  let mut outs : List (List (Option Cell)) := exprsOut.map (fun e => List.replicate (prod (shapeOf e)) none)
  for ((vi, i, si), (vo, k)) in List.zip vin vout do
    let so := shapeOf (exprsOut.getD k (.list []))
    let leavesIn := Dim.leavesL vi
    for σ in assignments (axesOf (Dim.leavesL vo)) do
      let σ' ← optE "input axis missing from output" (extend σ leavesIn)
      let po ← optE "unassigned output axis" (position vo σ)
      let pi ← optE "unassigned input axis" (position vi σ')
      outs := outs.set k ((outs.getD k []).set (ravel so po) (some (.src i (ravel si pi))))
  let mut res : List (Tensor Cell) := []
  for (e, cells) in List.zip exprsOut outs do
    let cs ← cells.mapM (optE "output not fully defined")
    res := res ++ [⟨shapeOf e, cs⟩]
  pure res

def singleView (e : Expr) : E (List Dim) :=
  match views e with
  | [v] => pure v
  | _ => throw "concatenation not allowed here"

/-- Elementwise: `out[σ] = f (in_1[σ], …, in_n[σ])`. -/
def denoteElementwise (f : String) (exprsIn : List Expr) (exprOut : Expr) : E (Tensor Cell) := do
  let vis ← exprsIn.mapM singleView
  let vo ← singleView exprOut
  let so := shapeOf exprOut
  let mut out : List (Option Cell) := List.replicate (prod so) none
  for σ in assignments (axesOf (Dim.leavesL vo)) do
    let mut args : List Cell := []
    for ((v, e), i) in (List.zip vis exprsIn).zipIdx do
      let σ' ← optE "input axis missing from output" (extend σ (Dim.leavesL v))
      let p ← optE "unassigned input axis" (position v σ')
      args := args ++ [.src i (ravel (shapeOf e) p)]
    let po ← optE "unassigned output axis" (position vo σ)
    out := out.set (ravel so po) (some (.app f args))
  let cs ← out.mapM (optE "output not fully defined")
  pure ⟨so, cs⟩

end Einx.Denote
