import EinxModel.Compile.Graph
/-!
M6, part 3: the code generator `compiler/python/__init__.py:compile`.

The generator is a memoised depth-first traversal (`_get_expression_for`/`_eval_app`) that emits a
statement after the operands of an application have been handled.  The model splits it into
  1. `visitOrder`  – the traversal order (which applications are reached, and when), and
  2. `emitAll`     – a fold of the per-visit rule `emitVisit` (`emitApp` at an application) over that order,
followed by 3. `fuse` (name re-use), 4. name assignment and 5. text rendering.
-/
namespace Einx.Compile

/-! ### Statements -/

inductive Stmt where
  | comment (text : String)
  | import_ (v : Nat) (from_ : Option String) (imp : String)
  | assign (v : Nat) (rhs : E) (eff : Bool)                   -- `eff`: the right-hand side is a call of an opaque callable
  | exprStmt (e : E) (extra : List E)                          -- in-place call; `extra`: further inputs (the aliased operand)
  | update (target : E) (op : String) (value : E) (extra : List E)   -- `x[k] op v`
  | assert_ (cond : E) (msg : Option String) (extra : List E)
  | def_ (v : Nat) (params : List Nat) (body : Nat) (gi : Nat) -- `body`: block id; `gi`: the nested graph
  | param (v : Nat) (t : Nat)                                 -- not text: parameter `v` is bound to graph input `t` on entry
  | constBind (v : Nat) (n : Nat)                             -- not text: `v` is injected into the namespace as constant number `n`
  | return_ (e : E)
deriving Repr, Inhabited, DecidableEq

namespace Stmt

/-- `Statement.inputs` (flattened), as expressions. -/
def inputs : Stmt → List E
  | .comment _ => []
  | .import_ .. => []
  | .assign _ rhs _ => [rhs]
  | .exprStmt e extra => extra ++ [e]
  | .update t _ v extra => [t, v] ++ extra
  | .assert_ c _ extra => extra ++ [c]
  | .def_ .. => []
  | .param .. => []
  | .constBind .. => []
  | .return_ e => [e]

/-- `Statement.input_variables`. -/
def inputVars (s : Stmt) : List Nat := s.inputs.flatMap E.vars

/-- `Statement.output_variables`. -/
def outputVars : Stmt → List Nat
  | .import_ v .. => [v]
  | .assign v _ _ => [v]
  | .def_ v .. => [v]
  | .param v _ => [v]
  | .constBind v _ => [v]
  | _ => []

end Stmt

/-- A statement with the index of the application that produced it. -/
structure SStmt where
  stmt : Stmt
  src : Option Nat
deriving Repr, Inhabited, DecidableEq

structure VarInfo where
  block : Nat
  reuse : Bool          -- `allow_reusing_name`
deriving Repr, Inhabited, DecidableEq

/-! ### 1. Traversal order -/

inductive Visit where
  | app (i : Nat)
  | enter (g : Nat)
  | exit (g : Nat)
deriving Repr, Inhabited, DecidableEq

/-- `CodeObject._to_key`, structurally: containers are keyed by the keys of their elements. Scalars inside a
container get a key that is never registered.  Dicts are not looked up (their key sorts object addresses). -/
def keyOf : E → Option E
  | .var t => some (.var t)
  | .gref g => some (.gref g)
  | .node .tuple a => some (.node .tuple (keyL a))
  | .node .list a => some (.node .list (keyL a))
  | _ => none
where keyL : E → E
  | .cons h t => .cons ((keyOf h).getD (.node (.bad "scalar") .nil)) (keyL t)
  | _ => .nil

structure OState where
  registered : List E := []
  order : List Visit := []
deriving Repr, Inhabited

/-- Keys registered by `CodeObject.__setitem__(obj, _)` (the object and, for lists/tuples, every element). -/
def regKeys : E → List E
  | .node .tuple a => ((keyOf (.node .tuple a)).toList) ++ regKeysL a
  | .node .list a => ((keyOf (.node .list a)).toList) ++ regKeysL a
  | e => (keyOf e).toList
where regKeysL : E → List E
  | .cons h t => regKeys h ++ regKeysL t
  | _ => []

/-- Key parts of `_at`: a tuple key is a list of slices, anything else one slice. -/
def keyParts : E → List E
  | .node .tuple a => a.toList
  | k => [k]

/-- Operands of an application in the order in which `_eval_app` asks for their expressions. -/
def App.genOperands : App → List E
  | .call fn args kwargs _ _ => fn :: args ++ kwargs.map (·.2)
  | .callInplace xs fn args kwargs _ _ => xs :: fn :: args ++ kwargs.map (·.2)
  | .getattr obj _ _ => [obj]
  | .getitem obj key _ => obj :: (keyParts key).flatMap (fun | .node (.slice ..) a => a.toList | p => [p])
  | .updateitem obj key value _ _ => obj :: (keyParts key).flatMap (fun | .node (.slice ..) a => a.toList | p => [p]) ++ [value, obj]
  | .import_ .. => []
  | .operator _ operands _ => operands
  | .builtin .. => []
  | .assert_ xs cond _ _ => [xs, cond]
  | .constant .. => []
  | .cast input _ => [input]

def isRegistered (reg : List E) (x : E) : Bool :=
  match keyOf x with
  | some k => reg.contains k
  | none => false

/-- The traversal of `_get_expression_for`: post-order over operands, memoised by registered keys. -/
def visit (g : Graph) : Nat → E → OState → Except String OState
  | 0, _, _ => .error "RecursionError"
  | fuel + 1, x, st =>
    if isRegistered st.registered x then .ok st else
    match x with
    | .var t =>
      match g.originOf t with
      | none => .error "AssertionError: tracer with no origin"
      | some (i, a) => do
        let st ← a.genOperands.foldlM (fun st o => visit g fuel o st) st
        pure { registered := st.registered ++ regKeys a.out, order := st.order ++ [.app i] }
    | .lit _ => .ok st
    | .node .tuple a | .node .list a | .node .dict a => a.toList.foldlM (fun st o => visit g fuel o st) st
    | .gref i =>
      match g.graphs[i]? with
      | none => .error "bad graph reference"
      | some sg => do
        let st := { registered := st.registered ++ [.gref i] ++ sg.inputs.map .var, order := st.order ++ [.enter i] }
        let st ← visit g fuel sg.output st
        pure { st with order := st.order ++ [.exit i] }
    | _ => .error "NotImplementedError: value"

def Graph.fuel (g : Graph) : Nat := 4 * (g.apps.length + g.graphs.length) + 64

def visitOrder (g : Graph) : Except String (List Visit) := do
  let st ← visit g g.fuel g.top {}
  pure st.order

/-! ### 2. Emission -/

structure GState where
  cache : List (E × E) := []          -- `cached_expressions`
  vars : List VarInfo := []           -- variables in creation order (id = position)
  hints : List (Nat × String) := []   -- `name_hints`
  consts : List Nat := []             -- `variableid_to_constant` (variables, in order)
  comments : List String := []        -- header of the root block, in text order
  body : List (Nat × SStmt) := []     -- (block, statement) in emission order (imports included; the layout hoists them)
deriving Repr, Inhabited

/-- Static context of one compilation. -/
structure Ctx where
  g : Graph
  cfg : UCfg
  counts : Counts
  scopes : Scopes

def Ctx.blockFor (c : Ctx) (x : E) : Except String Nat := c.scopes.get c.g.fuel x

mutual
/-- `_get_expression_for2` once every operand has been handled. -/
def conv (cache : List (E × E)) : E → Except String E
  | .var t => match assocGet cache (.var t) with
    | some e => .ok e
    | none => .error "operand not evaluated"
  | .gref i => match assocGet cache (.gref i) with
    | some e => .ok e
    | none => .error "operand not evaluated"
  | .lit c => .ok (.lit c)
  | .nil => .ok .nil
  | .cons h t => do pure (.cons (← conv cache h) (← convL cache t))
  | .node tag a =>
    match tag with
    | .tuple | .list =>
      match (keyOf (.node tag a)).bind (assocGet cache) with
      | some e => .ok e
      | none => do pure (.node tag (← convL cache a))
    | .dict => do pure (.node tag (← convL cache a))
    | .slice x y z => do pure (.node (.slice x y z) (← convL cache a))     -- only below `index`
    | _ => .error "NotImplementedError: value"
def convL (cache : List (E × E)) : E → Except String E
  | .cons h t => do pure (.cons (← conv cache h) (← convL cache t))
  | _ => .ok .nil
end

/-- Top-level values handed to `_get_expression_for`: a bare slice is not supported there. -/
def convTop (cache : List (E × E)) (x : E) : Except String E :=
  match x with
  | .node (.slice ..) _ => .error "NotImplementedError: value"
  | _ => conv cache x

/-- `CodeObject.__setitem__`. -/
def setCache : Nat → List (E × E) → E → E → Except String (List (E × E))
  | 0, _, _, _ => .error "fuel"
  | fuel + 1, cache, obj, e =>
    match keyOf obj with
    | none => .error "ValueError: invalid object"
    | some k =>
      if (assocGet cache k).isSome then .error "AssertionError: key already cached" else
      let cache := cache ++ [(k, e)]
      match obj with
      | .node .tuple a | .node .list a =>
        (a.toList.zipIdx).foldlM (fun cache (v, i) => setCache fuel cache v (E.mk (.elem (toString i)) [e])) cache
      | _ => .ok cache

def allowInlineFunctions : List String := ["isinstance", "tuple", "list"]

/-- `origin.function == f` for one of the allow-listed builtins. -/
def isAllowInline (g : Graph) (fn : E) : Bool :=
  match fn with
  | .var t => match g.originOf t with
    | some (_, .builtin name _) => allowInlineFunctions.contains name
    | _ => false
  | _ => false

def convKw (cache : List (E × E)) (kwargs : List (String × E)) : Except String (List E) :=
  kwargs.mapM (fun (k, v) => do pure (E.mk (.kw k) [← convTop cache v]))

/-- `_at`: the indexing expression. -/
def atExpr (cache : List (E × E)) (obj key : E) : Except String E := do
  let o ← convTop cache obj
  let parts ← (keyParts key).mapM (fun p => match p with
    | .node (.slice x y z) a => do pure (E.node (.slice x y z) (← convL cache a))
    | p => convTop cache p)
  pure (E.mk .index (o :: parts))

def replaceNl (s : String) : String := String.ofList (s.toList.map (fun ch => if ch == '\n' then ' ' else ch))

/-- What `_eval_app` does for one application, once the expressions of its operands are known.
The same rule drives the generator (`applyRule`) and the reference evaluation (`Sem.refRule`). -/
inductive Rule where
  /-- `code.define(out, e, no_inline, force_inline)`; `eff`: `e` is a call of an opaque callable. -/
  | define (out e : E) (eff noInline force : Bool)
  /-- append a statement (in-place call, item update, assert), then alias `out` to `e`. -/
  | effect (s : Stmt) (out e : E)
  | import_ (out : Nat) (from_ : Option String) (imp : String) (hint : Option String)
  | constant (out : Nat) (str : String)
deriving Repr, Inhabited, DecidableEq

/-- The per-kind rules of `_eval_app`. -/
def ruleOf (g : Graph) (unaryParens : Bool) (cache : List (E × E)) (a : App) : Except String Rule := do
  match a with
  | .call fn args kwargs _ out =>
    let f ← convTop cache fn
    let as ← args.mapM (convTop cache)
    let ks ← convKw cache kwargs
    let allow := isAllowInline g fn
    pure (.define (.var out) (E.mk .call (f :: as ++ ks)) (!allow) (!allow) false)
  | .callInplace xs fn args kwargs _ out =>
    let x ← convTop cache xs
    let f ← convTop cache fn
    let as ← args.mapM (convTop cache)
    let ks ← convKw cache kwargs
    pure (.effect (.exprStmt (E.mk .call (f :: as ++ ks)) [x]) (.var out) x)
  | .getattr obj key out =>
    let o ← convTop cache obj
    pure (.define (.var out) (E.mk (.attr key) [o]) false false false)
  | .getitem obj key out =>
    let e ← atExpr cache obj key
    pure (.define (.var out) e false false false)
  | .updateitem obj key value op out =>
    let e ← atExpr cache obj key
    let v ← convTop cache value
    let o ← convTop cache obj
    pure (.effect (.update e op v [o]) (.var out) o)
  | .import_ imp from_ as_ out =>
    let hint := match as_ with
      | some n => some n
      | none => if imp.contains '.' then none else some imp
    pure (.import_ out from_ imp hint)
  | .operator op operands out =>
    let os ← operands.mapM (convTop cache)
    match os with
    | [x] => pure (.define (.var out) (E.mk (if unaryParens then .unopP op else .unop op) [x]) false false false)
    | [x, y] => pure (.define (.var out) (E.mk (.binop op) [x, y]) false false false)
    | _ => throw "NotImplementedError: operator arity"
  | .assert_ xs cond msg out =>
    let x ← convTop cache xs
    let cnd ← convTop cache cond
    pure (.effect (.assert_ cnd msg [x]) out x)
  | .builtin name out =>
    pure (.define (.var out) (.lit name) false false false)
  | .cast input out =>
    let x ← convTop cache input
    pure (.define out x false false true)
  | .constant str out =>
    pure (.constant out str)

def GState.set (st : GState) (obj e : E) : Except String GState := do
  pure { st with cache := ← setCache 64 st.cache obj e }

/-- `add_variable_for`. -/
def GState.addVar (c : Ctx) (st : GState) (obj : E) (reuse : Bool) : Except String (Nat × GState) := do
  let block ← c.blockFor obj
  let v := st.vars.length
  let st1 : GState := { st with vars := st.vars ++ [{ block := block, reuse := reuse }] }
  let st2 ← st1.set obj (.var v)
  pure (v, st2)

/-- `CodeObject.define`: the new state and the statements appended (block, statement). -/
def define (c : Ctx) (st : GState) (obj e : E) (eff noInline forceInline : Bool) : Except String (GState × List (Nat × Stmt)) := do
  let n ← usageGet c.counts c.g.fuel obj
  let noInline := noInline || (decide (n > 1) && !(c.cfg.forceInlineWins && forceInline))
  if noInline && forceInline then throw "ValueError: Cannot have both no_inline and force_inline set to True."
  if forceInline || !noInline then
    pure (← st.set obj e, [])
  else
    let (v, st) ← st.addVar c obj true
    let block ← c.blockFor obj
    pure (st, [(block, .assign v e eff)])

/-- The generator's side of a rule. -/
def applyRule (c : Ctx) (st : GState) (r : Rule) : Except String (GState × List (Nat × Stmt)) := do
  match r with
  | .define out e eff noInline force => define c st out e eff noInline force
  | .effect s out e =>
    let block ← c.blockFor out
    let (st, more) ← define c st out e false false true
    pure (st, (block, s) :: more)
  | .import_ out from_ imp hint =>
    let (v, st) ← st.addVar c (.var out) false
    let st := match hint with
      | some n => { st with hints := st.hints ++ [(v, n)] }
      | none => st
    let block ← c.blockFor (.var out)
    if block != 0 then throw "unsupported: import outside the root block"
    pure (st, [(0, .import_ v from_ imp)])
  | .constant out str =>
    let (v, st) ← st.addVar c (.var out) false
    let n := st.consts.length + 1
    pure ({ st with consts := st.consts ++ [v], hints := st.hints ++ [(v, s!"const{n}")],
                    comments := s!"Constant const{n}: {replaceNl str}" :: st.comments }, [(0, .constBind v n)])

/-- `_is_module_attribute`: the operand is an imported module or an attribute chain that starts at one
(fuel = number of applications bounds the chain length). -/
def isModuleChain (g : Graph) : Nat → E → Bool
  | 0, _ => false
  | fuel + 1, .var t =>
    match g.originOf t with
    | some (_, .import_ ..) => true
    | some (_, .getattr obj _ _) => isModuleChain g fuel obj
    | _ => false
  | _, _ => false

/-- Attributes of imported modules and builtins are defined with `force_inline=True` when the extracted switch says so. -/
def patchForce (g : Graph) (cfg : UCfg) (a : App) (r : Rule) : Rule :=
  if cfg.attrForceInline then
    match a, r with
    | .getattr obj _ _, .define out e eff ni f => .define out e eff ni (f || isModuleChain g (g.apps.length + 1) obj)
    | .builtin .., .define out e eff ni _ => .define out e eff ni true
    | _, _ => r
  else r

/-- `_eval_app`. -/
def emitApp (c : Ctx) (a : App) (st : GState) : Except String (GState × List (Nat × Stmt)) := do
  applyRule c st (patchForce c.g c.cfg a (← ruleOf c.g c.cfg.unaryParens st.cache a))

def varOf (cache : List (E × E)) (k : E) : Except String Nat :=
  match assocGet cache k with
  | some (.var v) => .ok v
  | _ => .error "graph variable missing"

def GState.push (st : GState) (src : Option Nat) (new : List (Nat × Stmt)) : GState :=
  { st with body := st.body ++ new.map (fun (b, s) => (b, ⟨s, src⟩)) }

/-- A parameter variable for graph input `t` (and the pseudo statement that binds it on entry). -/
def enterParam (c : Ctx) (st : GState) (t : Nat) : Except String GState := do
  let (v, st) ← st.addVar c (.var t) true
  pure (st.push none [((st.vars[v]?.map (fun i => i.block)).getD 0, .param v t)])

/-- One step of the traversal. -/
def emitVisit (c : Ctx) (st : GState) (v : Visit) : Except String GState := do
  match v with
  | .app i =>
    match c.g.apps[i]? with
    | some a =>
      let (st, new) ← emitApp c a st
      pure (st.push (some i) new)
    | none => throw "bad application index"
  | .enter gi =>
    match c.g.graphs[gi]? with
    | none => throw "bad graph reference"
    | some sg =>
      let (fv, st) ← st.addVar c (.gref gi) true
      let st := match sg.name with
        | some n => { st with hints := st.hints ++ [(fv, n)] }
        | none => st
      sg.inputs.foldlM (enterParam c) st
  | .exit gi =>
    match c.g.graphs[gi]? with
    | none => throw "bad graph reference"
    | some sg =>
      let outer ← c.blockFor (.gref gi)
      let inner ← c.blockFor sg.output
      let fv ← varOf st.cache (.gref gi)
      let params ← sg.inputs.mapM (fun t => varOf st.cache (.var t))
      let r ← convTop st.cache sg.output
      pure (st.push none [(inner, .return_ r), (outer, .def_ fv params inner gi)])

def emitAll (c : Ctx) (order : List Visit) (st : GState) : Except String GState :=
  order.foldlM (emitVisit c) st

/-! ### 3. `fuse`: groups of variables that get the same name -/

def Stmt.isImport : Stmt → Bool
  | .import_ .. => true
  | _ => false

def Stmt.isParam : Stmt → Bool
  | .param .. => true
  | .constBind .. => true
  | _ => false

/-- Statements of one block in text order: `prepend` (comments) and `prepend_after_comments` (imports) put the header of
the root block in reverse order of emission; all other statements are appended. -/
def GState.block (st : GState) (b : Nat) : List SStmt :=
  (if b == 0 then st.comments.map (fun c => ⟨.comment c, none⟩) ++ ((st.body.filter (·.2.stmt.isImport)).map (·.2)).reverse else [])
    ++ (st.body.filter (fun p => p.1 == b && !p.2.stmt.isImport && !p.2.stmt.isParam)).map (·.2)

/-- All statements with their block. -/
def GState.allStmts (st : GState) (nblocks : Nat) : List (Nat × Stmt) :=
  (List.range nblocks).flatMap (fun b => (st.block b).map (fun s => (b, s.stmt)))

/-- Extracted switches of the `fuse` loop (all `true` on the pinned tree). -/
structure FCfg where
  /-- inputs used in a later statement are excluded -/
  checkLater : Bool
  /-- inputs used in another block are excluded -/
  checkBlock : Bool
  /-- `compile` binds a compiled object that is not a variable to a fresh name (otherwise the text lacks it: D7) -/
  bindResult : Bool := false
  /-- the words `names()` refuses because `keyword.iskeyword` says so (empty when the source has no such filter) -/
  nameKeywords : List String := []
  /-- `names()` refuses every name that some variable carries as a name hint (`np`, `op`, `const1`, …) -/
  skipReserved : Bool := false
deriving Repr, DecidableEq, Inhabited

def dedupeNat (l : List Nat) : List Nat := l.foldl (fun acc x => if acc.contains x then acc else acc ++ [x]) []

/-- Merge the group of `v2` into the group of `v1` (`fuse(var1, var2)`). -/
def fuseGroups (grp : List Nat) (v1 v2 : Nat) : List Nat :=
  let g1 := grp[v1]?.getD v1
  let g2 := grp[v2]?.getD v2
  if g1 == g2 then grp else grp.map (fun x => if x == g2 then g1 else x)

/-- The loop over the statements of one block.  `stmts`: (global statement index, statement);
`deps v`: (block, global index) of the statements that use `v`. -/
def fuseBlock (fc : FCfg) (vars : List VarInfo) (deps : Nat → List (Nat × Nat)) :
    List (Nat × Stmt) → List Nat → List Nat → List Nat
  | [], _, grp => grp
  | (sid, s) :: rest, seen, grp =>
    let seen := sid :: seen
    let reuse (v : Nat) : Bool := (vars[v]?.map (·.reuse)).getD false
    let blockOf (v : Nat) : Nat := (vars[v]?.map (·.block)).getD 0
    let outs := (dedupeNat s.outputVars).filter reuse
    let grp :=
      match outs with
      | [o] =>
        let ins := (dedupeNat s.inputVars).filter reuse
        let ins := if fc.checkBlock then ins.filter (fun v => (deps v).all (fun d => d.1 == blockOf v)) else ins
        let ins := if fc.checkLater then ins.filter (fun v => (deps v).all (fun d => seen.contains d.2)) else ins
        match ins with
        | [v] => if blockOf v == blockOf o then fuseGroups grp v o else grp
        | _ => grp
      | _ => grp
    fuseBlock fc vars deps rest seen grp

/-- Number the statements of all blocks and run the `fuse` loop block by block. -/
def fuseAll (fc : FCfg) (st : GState) (nblocks : Nat) : List Nat :=
  let all := (st.allStmts nblocks).zipIdx          -- ((block, stmt), global index)
  let deps (v : Nat) : List (Nat × Nat) := all.filterMap (fun ((b, s), i) => if s.inputVars.contains v then some (b, i) else none)
  (List.range nblocks).foldl (fun grp b =>
    fuseBlock fc st.vars deps ((all.filter (·.1.1 == b)).map (fun ((_, s), i) => (i, s))) [] grp)
    (List.range st.vars.length)

/-! ### 4. Names -/

/-- `next(names)`: the generator `names()` yields `a, b, …, z, aa, ab, …` (`nameAt`) and skips the refused words; the state is
the index of the next candidate.  At most `bad.length` candidates in a row can be refused, hence the fuel. -/
def nextName (bad : List String) : Nat → Nat → Option (String × Nat)
  | 0, _ => none
  | fuel + 1, i => if bad.contains (nameAt i) then nextName bad fuel (i + 1) else some (nameAt i, i + 1)

/-- Group names in the order of the groups' first variables: the single name hint of the group if there
is exactly one, else the next generated name. -/
def assignNames (grp : List Nat) (hints : List (Nat × String)) (bad : List String := []) : List (Nat × String) :=
  let reps := dedupeNat grp
  (reps.foldl (fun (acc : List (Nat × String) × Nat) r =>
    let members := (grp.zipIdx).filterMap (fun (gid, v) => if gid == r then some v else none)
    let hs := hints.filterMap (fun (v, h) => if members.contains v then some h else none)
    match hs with
    | [h] => (acc.1 ++ [(r, h)], acc.2)
    | _ =>
      match nextName bad (bad.length + 1) acc.2 with
      | some (nm, i) => (acc.1 ++ [(r, nm)], i)
      | none => (acc.1 ++ [(r, "?")], acc.2)) ([], 0)).1

/-- The names `names()` refuses: Python keywords and (if the source filters them) all hinted names. -/
def badNames (fc : FCfg) (hints : List (Nat × String)) : List String :=
  fc.nameKeywords ++ (if fc.skipReserved then hints.map (·.2) else [])

def nameOf (grp : List Nat) (names : List (Nat × String)) (v : Nat) : String :=
  match grp[v]? with
  | some r => ((names.find? (·.1 == r)).map (·.2)).getD "?"
  | none => "?"

/-! ### 5. Text -/

def Stmt.head (nm : Nat → String) : Stmt → String
  | .comment t => "# " ++ t
  | .import_ v from_ imp =>
    let code := match from_ with
      | none => "import " ++ imp
      | some f => "from " ++ f ++ " import " ++ imp
    if nm v != imp then code ++ " as " ++ nm v else code
  | .assign v rhs _ => nm v ++ " = " ++ render nm rhs
  | .exprStmt e _ => render nm e
  | .update t op v _ => render nm t ++ " " ++ op ++ " " ++ render nm v
  | .assert_ c msg _ =>
    match msg with
    | some m => "assert " ++ render nm c ++ ", \"" ++ m ++ "\""
    | none => "assert " ++ render nm c
  | .param .. => ""
  | .constBind .. => ""
  | .def_ v params _ _ => "def " ++ nm v ++ "(" ++ commaSep (params.map nm) ++ "):"
  | .return_ e => "return " ++ render nm e

/-- `Block.to_code`. -/
def blockLines (st : GState) (nm : Nat → String) : Nat → Nat → List String
  | 0, _ => ["<fuel>"]
  | fuel + 1, b =>
    (st.block b).flatMap (fun s =>
      match s.stmt with
      | .def_ _ _ body _ => s.stmt.head nm :: (blockLines st nm fuel body).map (fun l => if l == "<fuel>" then l else "    " ++ l)
      | _ => [s.stmt.head nm])

structure Compiled where
  text : String
  evalCode : String
  constants : List String
  st : GState
  grp : List Nat
  order : List Visit
  nblocks : Nat
deriving Repr, Inhabited

/-- `compile(object, return_code=True)`: the text, the expression that is `eval`ed to obtain the compiled
object, and the names under which the constants are injected. -/
def compile (cfg : UCfg) (fc : FCfg) (g : Graph) : Except String Compiled := do
  let scopes ← getScopes g g.fuel
  let counts := (usageRec g cfg g.fuel g.top {}).counts
  let c : Ctx := { g, cfg, counts, scopes }
  let order ← visitOrder g
  let st ← emitAll c order {}
  let obj ← convTop st.cache g.top
  let (st, obj) := match obj with
    | .var _ => (st, obj)
    | e => if fc.bindResult then
        let v := st.vars.length
        let st1 : GState := { st with vars := st.vars ++ [{ block := 0, reuse := false }] }
        (st1.push none [(0, .assign v e false)], E.var v)
      else (st, obj)
  let nblocks := scopes.scopes.length
  let grp := fuseAll fc st nblocks
  let names := assignNames grp st.hints (badNames fc st.hints)
  let nm := nameOf grp names
  -- a `def` whose body block is the block it is defined in (the graph output does not depend on the graph inputs)
  -- makes `Block.to_code` recurse forever
  if (blockLines st nm (nblocks + 1) 0).contains "<fuel>" then throw "RecursionError: Block.to_code"
  pure { text := "\n".intercalate (blockLines st nm (nblocks + 1) 0), evalCode := render nm obj,
         constants := st.consts.map nm, st, grp, order, nblocks }

end Einx.Compile
