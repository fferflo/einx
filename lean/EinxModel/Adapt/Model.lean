import EinxModel.Denote.Expr
/-
C15 model: what the adapters `adapt_numpylike_reduce` / `adapt_numpylike_elementwise` do between the call of
the adapted operation and the invocation of the user function.

* `kwargNames` / `iskwarg`      -- `frontend/impl/_util.py:_make_iskwarg` and the lambdas of `frontend/impl/numpy.py`
* `splitKwargs` / `opInner`     -- `adapter/einx_from_namedtensor.py:op.inner` (clash check, then the split loop)
* `exprToAxis`                  -- `adapter/decomposednamedtensor_from_classical.py:_expr_to_axis`
* `reduceOutShape`, `elementwiseOutShape` -- the shape handed to `_ensure_output`
* `reduceNodes` / `elementwiseNodes`      -- the nodes the adapter + `_ensure_output` trace around the user constant
* `Graph`, `adaptOK`            -- a checker for *real* serialised graphs (proved sound in `Props/C15.lean: adaptOK_sound`)
* `adaptReduce`, `denoteReduceAt`         -- flat-tensor semantics of the adapted call and the loop notation

Core Lean only (compiled into the driver).
-/
namespace Einx.Adapt
open Einx Einx.Denote

/-! ### `_make_iskwarg` -/

/-- `inspect.Parameter.kind`. -/
inductive ParamKind where
  | posOnly | posOrKw | varPos | kwOnly | varKw
deriving DecidableEq, Repr, Inhabited

structure Param where
  name : String
  kind : ParamKind
deriving DecidableEq, Repr, Inhabited

/-- Facts about one adapter that are read from the source tree (see `Extracted/Adapt.lean`). -/
structure Cfg where
  /-- parameter kinds whose names `_make_iskwarg` collects -/
  optionKinds : List ParamKind
  /-- parameter kinds for which `_make_iskwarg` raises `ValueError` -/
  rejectedKinds : List ParamKind
  /-- names the adapter's `iskwarg` lambda excludes (`name != "axis" and …` for reduce) -/
  excluded : List String
  /-- keywords `op.inner` pops before the split (`add_keepdims_param=True` ⇒ `keepdims`) -/
  reserved : List String
  /-- the keyword under which the bracketed positions are passed (`axis=` for reduce), if any -/
  axisKeyword : Option String
deriving DecidableEq, Repr, Inhabited

/-- The configuration of `adapt_numpylike_reduce` as the model understands it. -/
def reduceCfg : Cfg :=
  { optionKinds := [.kwOnly], rejectedKinds := [.varKw], excluded := ["axis"], reserved := ["keepdims"], axisKeyword := some "axis" }

/-- The configuration of `adapt_numpylike_elementwise`. -/
def elementwiseCfg : Cfg :=
  { optionKinds := [.kwOnly], rejectedKinds := [.varKw], excluded := [], reserved := [], axisKeyword := none }

/-- The loop of `_make_iskwarg`: names of keyword-only parameters in signature order; a `**kwargs` parameter is
an error (`ValueError`). -/
def kwargNames (cfg : Cfg) : List Param → Except String (List String)
  | [] => .ok []
  | p :: ps =>
    if cfg.optionKinds.contains p.kind then (kwargNames cfg ps).map (p.name :: ·)
    else if cfg.rejectedKinds.contains p.kind then .error s!"ValueError: var-keyword parameter **{p.name}"
    else kwargNames cfg ps

/-- The predicate handed to `einx_from_namedtensor.op(…, iskwarg=…)`. -/
def iskwarg (cfg : Cfg) (names : List String) (name : String) : Bool :=
  !cfg.excluded.contains name && names.contains name

/-! ### `op.inner`: clash check and split -/

/-- The split loop of `op.inner`:
```
for key, value in kwargs.items():
    if iskwarg(key): new_kwargs[key] = value
    else:            parameters[key] = value
```
Returns `(options, parameters)`; both keep the call order.  `α` is the type of Python values: the function is
parametric in it, i.e. values are moved, never inspected or rebuilt. -/
def splitKwargs {α : Type} (isk : String → Bool) : List (String × α) → List (String × α) × List (String × α)
  | [] => ([], [])
  | (k, v) :: rest =>
    let r := splitKwargs isk rest
    if isk k then ((k, v) :: r.1, r.2) else (r.1, (k, v) :: r.2)

inductive Err where
  /-- `SemanticError`: these axis names of the description are keyword arguments of the elementary operation -/
  | semantic (names : List String)
deriving DecidableEq, Repr, Inhabited

/-- `op.inner` between `_parse_op` and `solve`: reserved keywords are popped, a description that uses an option
name as an axis name is rejected, then the keywords are split.  `used` are the axis names of the description.
Result: `(options forwarded to the user function, parameters handed to the solver)`. -/
def opInner {α : Type} (cfg : Cfg) (isk : String → Bool) (used : List String) (kwargs : List (String × α)) :
    Except Err (List (String × α) × List (String × α)) :=
  let kwargs := kwargs.filter (fun kv => !cfg.reserved.contains kv.1)
  if used.any isk then .error (.semantic (used.filter isk))
  else .ok (splitKwargs isk kwargs)

/-! ### `_expr_to_axis` and the expected result shape -/

def exprToAxisFrom : Nat → List Bool → List Nat
  | _, [] => []
  | i, m :: ms => if m then i :: exprToAxisFrom (i + 1) ms else exprToAxisFrom (i + 1) ms

/-- `_expr_to_axis` on a flat expression given as the bracket marks of its root dims:
the positions of the marked dims. -/
def exprToAxis (marks : List Bool) : List Nat := exprToAxisFrom 0 marks

def marksOf (ls : List Leaf) : List Bool := ls.map (·.marked)

/-- `stage3.remove(expr_in, Brackets, keep_children=False).shape` for a flat expression. -/
def reduceOutShape (ls : List Leaf) : List Nat := (ls.filter (fun l => l.marked == false)).map (·.size)

/-- The shape `elementwise.inner` expects back: per position the largest length among the aligned inputs
(`np.argmax` over the `i`-th axes of all inputs, then that axis' value). `none` if the ranks differ
(the `assert len({len(a) for a in in_axes}) == 1`) or there is no input. -/
def elementwiseOutShape : List (List Nat) → Option (List Nat)
  | [] => none
  | s :: ss =>
    if ss.all (fun t => t.length == s.length) then
      some (ss.foldl (fun acc t => List.zipWith max acc t) s)
    else none

/-! ### Traced nodes around the user constant (model of the graph builder) -/

inductive Node (α : Type) where
  /-- `op(*tensors, axis=…, **options)` on the constant that holds the user function -/
  | callUser (args : List (List Nat)) (axis : Option (List Nat)) (options : List (String × α))
  /-- `assert isinstance(result, expected_type)` -/
  | assertIsinstance
  /-- `assert tuple(result.shape) == shape` -/
  | assertShape (shape : List Nat)
  /-- `tracer.cast(result, Tensor(shape))`: from here on the value is used as a tensor of that shape -/
  | castTensor (shape : List Nat)
deriving Repr

/-- `reduce.inner` with `_ensure_output(op, (expr_out.shape,), expected_type)`. -/
def reduceNodes {α : Type} (ls : List Leaf) (options : List (String × α)) : List (Node α) :=
  [.callUser [ls.map (·.size)] (some (exprToAxis (marksOf ls))) options,
   .assertIsinstance, .assertShape (reduceOutShape ls), .castTensor (reduceOutShape ls)]

/-- `elementwise.inner` after the inputs were aligned to the output (`shapes`: the aligned shapes). -/
def elementwiseNodes {α : Type} (shapes : List (List Nat)) (options : List (String × α)) : Option (List (Node α)) :=
  (elementwiseOutShape shapes).map (fun s =>
    [.callUser shapes none options, .assertIsinstance, .assertShape s, .castTensor s])

/-! ### Real graphs (decoded from `graphcap.graph_to_json`) and the checker -/

/-- Python values occurring as arguments in a serialised graph. -/
inductive Val where
  | ref (id : Nat)
  | int (i : Int)
  | float (repr : String)
  | bool (b : Bool)
  | str (s : String)
  | none
  | tuple (items : List Val)
  | list (items : List Val)
  | dict (keys : List Val) (vals : List Val)
  | obj (idx : Nat)
  | other (tag : String)
deriving Repr, Inhabited

mutual
def Val.beq : Val → Val → Bool
  | .ref a, .ref b => a == b
  | .int a, .int b => a == b
  | .float a, .float b => a == b
  | .bool a, .bool b => a == b
  | .str a, .str b => a == b
  | .none, .none => true
  | .tuple a, .tuple b => Val.beqL a b
  | .list a, .list b => Val.beqL a b
  | .dict k v, .dict k' v' => Val.beqL k k' && Val.beqL v v'
  | .obj a, .obj b => a == b
  | .other a, .other b => a == b
  | _, _ => false
def Val.beqL : List Val → List Val → Bool
  | [], [] => true
  | a :: as, b :: bs => Val.beq a b && Val.beqL as bs
  | _, _ => false
end

instance : BEq Val := ⟨Val.beq⟩

mutual
/-- Number of occurrences of tracer `id` in a value. -/
def Val.uses (id : Nat) : Val → Nat
  | .ref a => if a == id then 1 else 0
  | .tuple l | .list l => Val.usesL id l
  | .dict k v => Val.usesL id k + Val.usesL id v
  | _ => 0
def Val.usesL (id : Nat) : List Val → Nat
  | [] => 0
  | v :: vs => v.uses id + Val.usesL id vs
end

def intsVal (l : List Nat) : Val := .tuple (l.map (fun n => .int (Int.ofNat n)))

/-- One application node of a traced graph. `out` is the tracer (or pytree of tracers) it defines. -/
inductive App where
  | import_ (name : String) (out : Nat)
  | builtin (name : String) (out : Nat)
  | constant (value : Val) (out : Nat)
  | getattr (obj : Val) (key : String) (out : Nat)
  | call (fn : Val) (args : List Val) (kwargs : List (String × Val)) (out : Val)
  | operator (op : String) (operands : List Val) (out : Nat)
  | assert_ (xs : Val) (cond : Val) (out : Nat)
  | cast (input : Val) (out : Val)
  | other (kind : String) (inputs : List Val) (out : Val)
deriving Repr, Inhabited

def App.uses (id : Nat) : App → Nat
  | .import_ _ _ | .builtin _ _ => 0
  | .constant v _ => v.uses id
  | .getattr o _ _ => o.uses id
  | .call f args kwargs _ => f.uses id + Val.usesL id args + Val.usesL id (kwargs.map (·.2))
  | .operator _ ops _ => Val.usesL id ops
  | .assert_ xs c _ => xs.uses id + c.uses id
  | .cast i _ => i.uses id
  | .other _ ins _ => Val.usesL id ins

structure Graph where
  apps : List App
  /-- traced tensor shapes: tracer id ↦ shape (tracers of type `Tensor`) -/
  shapes : List (Nat × List Nat)
  output : Val
deriving Repr, Inhabited

/-- Total number of uses of tracer `id` (as operand of any node, or as graph output). -/
def Graph.uses (g : Graph) (id : Nat) : Nat :=
  (g.apps.map (App.uses id)).sum + g.output.uses id

def Graph.shapeOf (g : Graph) (id : Nat) : Option (List Nat) := g.shapes.lookup id

/-- What a graph of an adapted call has to contain. -/
structure Spec where
  /-- shapes of the aligned tensors the user function must receive (in order) -/
  argShapes : List (List Nat)
  /-- expected `axis=` tuple (reduce), `none` for adapters without it -/
  axis : Option (List Nat)
  /-- the forwarded options, in call order, verbatim -/
  options : List (String × Val)
  /-- the shape asserted on the result -/
  outShape : List Nat
deriving Repr, Inhabited

def Spec.kwargs (s : Spec) : List (String × Val) :=
  (match s.axis with | some a => [("axis", intsVal a)] | none => []) ++ s.options

def kwBeq : List (String × Val) → List (String × Val) → Bool
  | [], [] => true
  | (k, v) :: r, (k', v') :: r' => k == k' && Val.beq v v' && kwBeq r r'
  | _, _ => false

def isUserConstant : App → Bool
  | .constant (.obj _) _ => true
  | _ => false

def isAnyConstant : App → Bool
  | .constant _ _ => true
  | _ => false

def isCallOf (c : Nat) : App → Bool
  | .call (.ref f) _ _ _ => f == c
  | _ => false

def isAssertOn (r : Nat) : App → Bool
  | .assert_ (.ref x) _ _ => x == r
  | _ => false

def isCastOf (r : Nat) : App → Bool
  | .cast (.ref x) _ => x == r
  | _ => false

def App.isBuiltin (name : String) (o : Nat) : App → Bool
  | .builtin n o' => n == name && o' == o
  | _ => false

def App.isImport (name : String) (o : Nat) : App → Bool
  | .import_ n o' => n == name && o' == o
  | _ => false

/-- `cnd` is defined as `isinstance(r, numpy.ndarray)`. -/
def isinstanceCond (g : Graph) (cnd r : Nat) : Bool :=
  g.apps.any (fun a => match a with
    | .call (.ref b) [.ref x, .ref nd] [] (.ref o) =>
      o == cnd && x == r && g.apps.any (App.isBuiltin "isinstance" b)
      && g.apps.any (fun a' => match a' with
        | .getattr (.ref m) k nd' => k == "ndarray" && nd' == nd && g.apps.any (App.isImport "numpy" m)
        | _ => false)
    | _ => false)

/-- `cnd` is defined as `tuple(r.shape) == shape`. -/
def shapeCond (g : Graph) (cnd r : Nat) (shape : List Nat) : Bool :=
  g.apps.any (fun a => match a with
    | .operator op [.ref ts, lit] o =>
      op == "==" && o == cnd && Val.beq lit (intsVal shape) && g.apps.any (fun a' => match a' with
        | .call (.ref tp) [.ref sh] [] (.ref ts') =>
          ts' == ts && g.apps.any (App.isBuiltin "tuple" tp)
          && g.apps.any (fun a'' => match a'' with
            | .getattr (.ref x) k sh' => k == "shape" && sh' == sh && x == r
            | _ => false)
        | _ => false)
    | _ => false)

def argsOK (g : Graph) : List Val → List (List Nat) → Bool
  | [], [] => true
  | .ref t :: as, s :: ss => g.shapeOf t == some s && argsOK g as ss
  | _, _ => false

/-- The checker for the graph of an adapted call:
1. exactly one constant node, holding an opaque Python object (the user function) `c`;
2. `c` is used exactly once, as the function of exactly one call;
3. the positional arguments are tracers whose traced shapes are the aligned shapes of `spec`, the keywords are
   exactly `axis=<spec.axis>` (if any) followed by the options of `spec`, verbatim and in order;
4. the result `r` is used only by `isinstance(r, numpy.ndarray)` and by an assert on that condition giving `r1`;
   `r1` is used only by `r1.shape` and by an assert on `tuple(r1.shape) == spec.outShape` giving `r2`;
   `r2` is used only by a cast to a tensor of the traced shape `spec.outShape`. -/
def adaptOK (g : Graph) (s : Spec) : Bool :=
  match g.apps.filter isAnyConstant with
  | [.constant (.obj _) c] =>
    match g.apps.filter (isCallOf c) with
    | [.call _ args kwargs (.ref r)] =>
      g.uses c == 1 && argsOK g args s.argShapes && kwBeq kwargs s.kwargs &&
      match g.apps.filter (isAssertOn r) with
      | [.assert_ _ (.ref c1) r1] =>
        isinstanceCond g c1 r && g.uses r == 2 &&
        match g.apps.filter (isAssertOn r1) with
        | [.assert_ _ (.ref c2) r2] =>
          shapeCond g c2 r1 s.outShape && g.uses r1 == 2 && g.uses r2 == 1 &&
          match g.apps.filter (isCastOf r2) with
          | [.cast _ (.ref r3)] => g.shapeOf r3 == some s.outShape
          | _ => false
        | _ => false
      | _ => false
    | _ => false
  | _ => false

/-- Same as `adaptOK`, with the first failing requirement as a message (for the driver). -/
def adaptCheck (g : Graph) (s : Spec) : Except String Unit :=
  match g.apps.filter isAnyConstant with
  | [.constant (.obj _) c] =>
    match g.apps.filter (isCallOf c) with
    | [.call _ args kwargs (.ref r)] =>
      if g.uses c != 1 then .error "the user constant is used outside the call"
      else if !argsOK g args s.argShapes then .error s!"positional arguments are not tracers of the aligned shapes {s.argShapes}"
      else if !kwBeq kwargs s.kwargs then .error s!"keywords {kwargs.map (·.1)} differ from axis/options {s.kwargs.map (·.1)} (names or values)"
      else match g.apps.filter (isAssertOn r) with
        | [.assert_ _ (.ref c1) r1] =>
          if !isinstanceCond g c1 r then .error "first assert is not isinstance(result, numpy.ndarray)"
          else if g.uses r != 2 then .error "the raw result is used outside isinstance/assert"
          else match g.apps.filter (isAssertOn r1) with
            | [.assert_ _ (.ref c2) r2] =>
              if !shapeCond g c2 r1 s.outShape then .error s!"second assert is not tuple(result.shape) == {s.outShape}"
              else if g.uses r1 != 2 then .error "the type-checked result is used outside shape/assert"
              else if g.uses r2 != 1 then .error "the checked result is used other than by one cast"
              else match g.apps.filter (isCastOf r2) with
                | [.cast _ (.ref r3)] =>
                  if g.shapeOf r3 == some s.outShape then .ok () else .error "cast shape differs from the asserted shape"
                | _ => .error "the checked result is not cast exactly once"
            | _ => .error "no unique shape assert on the type-checked result"
        | _ => .error "no unique assert on the raw result"
    | l => .error s!"{l.length} calls of the user constant (exactly one expected)"
  | l => .error s!"{l.length} constant nodes / not an opaque object (exactly one user constant expected)"

/-! ### Flat-tensor semantics (for `reduce_axis_semantics`) -/

/-- Marks of the positions `0 … n-1` given the tuple `A` of bracketed positions. -/
def marksAt (A : List Nat) (n : Nat) : List Bool := (List.range n).map (fun i => A.contains i)

/-- Components of `l` at the marked (`b = true`) or unmarked positions. -/
def select {α : Type} (b : Bool) : List Bool → List α → List α
  | m :: ms, x :: xs => if m == b then x :: select b ms xs else select b ms xs
  | _, _ => []

/-- Multi-index of the whole tensor from the index `ρ` over the unmarked and `τ` over the marked dims. -/
def interleave : List Bool → List Nat → List Nat → List Nat
  | [], _, _ => []
  | true :: ms, ρ, t :: τ => t :: interleave ms ρ τ
  | true :: ms, ρ, [] => 0 :: interleave ms ρ []
  | false :: ms, r :: ρ, τ => r :: interleave ms ρ τ
  | false :: ms, [], τ => 0 :: interleave ms [] τ

/-- All multi-indices of a shape in row-major order. -/
def allIdx : List Nat → List (List Nat)
  | [] => [[]]
  | s :: ss => (List.range s).flatMap (fun i => (allIdx ss).map (fun r => i :: r))

/-- A flat tensor: row-major offset ↦ element. -/
abbrev Flat (α : Type) := Nat → α

/-- The sub-tensor of `x` (shape `shape`) at index `ρ` of the dims not in `A`, as the row-major list of its elements. -/
def subTensor {α : Type} (shape : List Nat) (A : List Nat) (x : Flat α) (ρ : List Nat) : List α :=
  let marks := marksAt A shape.length
  (allIdx (select true marks shape)).map (fun τ => x (ravel shape (interleave marks ρ τ)))

/-- The documented numpy-like contract of a reduce function `F` (called as `F shape A x`, result a flat tensor of
the shape without the positions `A`) with elementary operation `Fel` (sub-shape and row-major elements ↦ value):
`F(x, axis=A)[ρ] = Fel(x[ρ, :])`. -/
def NumpyLike {α β : Type} (F : List Nat → List Nat → Flat α → Flat β) (Fel : List Nat → List α → β) : Prop :=
  ∀ (shape A : List Nat) (x : Flat α) (ρ : List Nat),
    Valid (select false (marksAt A shape.length) shape) ρ →
    F shape A x (ravel (select false (marksAt A shape.length) shape) ρ)
      = Fel (select true (marksAt A shape.length) shape) (subTensor shape A x ρ)

/-- The adapter: the whole aligned tensor and `axis = _expr_to_axis(expr_in)`. -/
def adaptReduce {α β : Type} (F : List Nat → List Nat → Flat α → Flat β) (ls : List Leaf) (x : Flat α) : Flat β :=
  F (ls.map (·.size)) (exprToAxis (marksOf ls)) x

def axesOfMarked (b : Bool) (ls : List Leaf) : List (String × Nat) :=
  (ls.filter (fun l => l.marked == b)).map (fun l => (l.name, l.size))

/-- The loop notation for a reduction over a flat concat-free expression at the assignment `σ` of the un-bracketed
axes: gather the sub-tensor over all assignments `τ` of the bracketed axes (row-major, expression order) through
`Denote.position`, apply the elementary operation.  (`lib/denote.py:denote_reduce`.) -/
def denoteReduceAt {α β : Type} (Fel : List Nat → List α → β) (ls : List Leaf) (x : Flat α) (σ : Assign) : Option β := do
  let view := ls.map Dim.axis
  let shape := ls.map (·.size)
  let sub ← (assignments (axesOfMarked true ls)).mapM (fun τ =>
    (position view (σ ++ τ)).map (fun p => x (ravel shape p)))
  pure (Fel ((axesOfMarked true ls).map (·.2)) sub)

/-- Where the value for `σ` is stored in the output (`expr_out` = the un-bracketed axes in order). -/
def outPosition (ls : List Leaf) (σ : Assign) : Option Nat :=
  (position ((ls.filter (fun l => l.marked == false)).map Dim.axis) σ).map (ravel (reduceOutShape ls))

end Einx.Adapt
