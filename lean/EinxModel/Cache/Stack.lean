/-!
M9 Cache, part 5 — the two context stacks and Python's `with` protocol.

* `BackendRegistryState.use_stack` (`frontend/backend.py`, one list per process): `Backend.__enter__` → `registry.enter(b)` appends,
  `Backend.__exit__(*exc)` → `registry.exit(b)` asserts `id(use_stack[-1]) == id(b)` and pops;
* `_dependon.stack` (`tracer/graph.py`, a `threading.local()`): `DependOn.__enter__` appends, `DependOn.__exit__` pops;
  `_construct_graph` runs the traced function inside `with tracer.depend_on(*input_tracers):`.

`with cm: body` calls `cm.__enter__()`, runs `body`, and calls `cm.__exit__(…)` **on every path**: normal
completion and exception alike; an exception raised by the body propagates after `__exit__` returned a
falsy value.  Whether the `__exit__` methods really pop unconditionally is read from the AST (`StackCfg`).
-/
namespace Einx.Cache

structure Stacks where
  use : List Nat              -- backend identities, innermost last
  dep : List (List Nat)       -- dependency lists, innermost last
  deriving DecidableEq, Repr, Inhabited

/-- Facts about the `__enter__` / `__exit__` methods (extracted). -/
structure StackCfg where
  useExitUnconditional : Bool     -- `Use.__exit__` calls `registry.exit` whatever `exc_type` is
  depExitUnconditional : Bool     -- `DependOn.__exit__` pops whatever `exc_type` is
  useExitReturnsFalsy : Bool      -- `__exit__` does not swallow the exception
  depExitReturnsFalsy : Bool
  traceInsideWith : Bool          -- `_construct_graph` enters `depend_on` through a `with` statement
  deriving DecidableEq, Repr, Inhabited

def StackCfg.ok (c : StackCfg) : Bool :=
  c.useExitUnconditional && c.depExitUnconditional && c.useExitReturnsFalsy && c.depExitReturnsFalsy && c.traceInsideWith

/-- Programs over the stacks: everything einx and its caller can do between two observations. -/
inductive Prog
  | prim (raises : Bool)                    -- any code that does not touch the stacks; may raise
  | seq (p q : Prog)
  | withBackend (b : Nat) (body : Prog)     -- `with backend: body`
  | withDeps (deps : List Nat) (body : Prog)  -- `with tracer.depend_on(*deps): body`
  | tryExcept (body : Prog)                 -- `try: body  except Exception: pass`
  deriving Repr, Inhabited

inductive Status
  | normal
  | raised         -- an exception is propagating
  | corrupt        -- `registry.exit` failed its assertion or popped an empty list
  deriving DecidableEq, Repr, Inhabited

/-- `registry.exit(b)`: `assert id(use_stack[-1]) == id(b); use_stack.pop()`. -/
def exitUse (b : Nat) (s : Stacks) : Option Stacks :=
  match s.use.getLast? with
  | some t => if t == b then some { s with use := s.use.dropLast } else none
  | none => none

/-- `_dependon.stack.pop()`. -/
def exitDep (s : Stacks) : Option Stacks :=
  match s.dep with
  | [] => none
  | _ => some { s with dep := s.dep.dropLast }

def exec (cfg : StackCfg) : Prog → Stacks → Stacks × Status
  | .prim r, s => (s, if r then .raised else .normal)
  | .seq p q, s =>
    match exec cfg p s with
    | (s1, .normal) => exec cfg q s1
    | r => r
  | .withBackend b body, s =>
    let (s1, st) := exec cfg body { s with use := s.use ++ [b] }
    match st with
    | .corrupt => (s1, .corrupt)
    | .normal =>
      (match exitUse b s1 with
        | some s2 => (s2, .normal)
        | none => (s1, .corrupt))
    | .raised =>
      if cfg.useExitUnconditional then
        (match exitUse b s1 with
          | some s2 => (s2, if cfg.useExitReturnsFalsy then .raised else .normal)
          | none => (s1, .corrupt))
      else (s1, .raised)
  | .withDeps d body, s =>
    let (s1, st) := exec cfg body { s with dep := s.dep ++ [d] }
    match st with
    | .corrupt => (s1, .corrupt)
    | .normal =>
      (match exitDep s1 with
        | some s2 => (s2, .normal)
        | none => (s1, .corrupt))
    | .raised =>
      if cfg.depExitUnconditional then
        (match exitDep s1 with
          | some s2 => (s2, if cfg.depExitReturnsFalsy then .raised else .normal)
          | none => (s1, .corrupt))
      else (s1, .raised)
  | .tryExcept body, s =>
    match exec cfg body s with
    | (s1, .raised) => (s1, .normal)
    | r => r

/-- One einx call as a stack program: resolve the backend, look the key up, on a miss trace inside
`with depend_on(inputs)` (tracing may raise, or itself use nested `with` blocks), then run. -/
def einxCall (deps : List Nat) (traceRaises runRaises : Bool) (inner : Prog) : Prog :=
  .seq (.prim false) (.seq (.withDeps deps (.seq inner (.prim traceRaises))) (.prim runRaises))

end Einx.Cache
