import EinxModel.Props.C15
import EinxModel.Props.C13Exec
import EinxModel.Proofs.ExecCompiled
import EinxModel.Proofs.ExecSemAdapt
/-!
# C15 with C04 — the adapted user function is called exactly once by the compiled program

`Props/C15.lean:adaptOK_sound` is a statement about the traced graph ("exactly one call node of the user constant").  Here
it is connected with the program the code generator emits for that graph (C04), using `Props/C13Exec.lean:exec_from_compile`.

* `Exec/View.lean:toAdapt` translates the C04 graph (plus the annotations it does not carry: traced tensor shapes, the value
  of every `Constant` node) into the C15 graph type; the driver (`Driver/Exec.lean`, kind `exec_check`, mode `adapt`) runs
  `adaptOK` on the translated graph of every captured adapter call and compares it with the directly decoded one.
* `adapter_called_once_compiled`: for every `Graph.WF`, supported graph whose translations are accepted (`adaptOK`) and
  serialisation-sane (`Factory.wf`), if `compile` succeeds and the call of the user constant is reachable from the graph output
  (`callsReachable`, decidable — `adaptOK` itself does not ask for it), then exactly one application of the schedule of the
  emitted program calls the user constant, the emitted program contains exactly one statement for it, and the event trace of
  the emitted program — the trace of the reference evaluation of the graph — contains exactly one event produced by a node
  that calls the user constant: a call event with as many positional arguments as the specification has aligned tensors
  and exactly the keyword names `axis` (reduce) followed by the forwarded options.
* its last conjunct: without the reachability premise, no application other than that call produces such an event.

* `adapter_call_value_compiled` (value level): under the same premises and reachability, the event trace of the emitted program
  contains exactly one call event whose *function term is a constant object* (`constAtom n`; the graph has exactly one `Constant`
  node, the user function), with the specification's number of positional arguments and keyword names; no other call event calls
  a constant object.

Not proved here: that the positional arguments evaluate to the aligned tensors (their *traced shapes* are in `adaptOK_sound`).
-/
namespace Einx.Adapt
open Einx.Compile Einx.Exec

/-- The user function's call site in the graph `compile` is applied to: the accepted graph has one constant `c` and one call `i`
of it, the only application that calls `c`; in the C04 graph node `i` is a call `c(args'…, kwargs'…)` with the specification's
number of positional arguments and keyword names, and `c` is no allow-listed builtin: a call site of every traversal that visits it. -/
theorem adapter_callSite (g : Compile.Graph) (aux : List TAux) (shapes : List (Nat × List Nat)) (constVals : List (Option Val))
    (ag : Adapt.Graph) (fg : Factory.Graph) (s : Spec) (hag : toAdapt g shapes constVals = some ag)
    (hfg : toFactory g aux = some fg) (hfwf : Factory.wf fg = true) (hok : adaptOK ag s = true) :
    ∃ (k c : Nat) (fn : Val) (args : List Val) (r i : Nat) (args' : List E) (kwargs' : List (String × E)),
      ag.apps.filter isAnyConstant = [.constant (.obj k) c] ∧
      ag.apps.filter (isCallOf c) = [.call fn args s.kwargs (.ref r)] ∧ ag.apps[i]? = some (.call fn args s.kwargs (.ref r)) ∧
      isCallOf c (.call fn args s.kwargs (.ref r)) = true ∧ ag.uses c = 1 ∧ ArgsAre ag args s.argShapes ∧
      (∀ j, callsTracer ag c j = true ↔ j = i) ∧
      (∀ order, Visit.app i ∈ order → CallSite g order (fun y => y = c) i c args' kwargs') ∧
      args'.length = s.argShapes.length ∧ kwargs'.map (fun kv => some kv.1) = s.kwargs.map (fun kv => some kv.1) := by
  obtain ⟨k, c, fn, args, r, _, _, _, _, _, _, _, _, hconst, hcall, huses, hargs, _⟩ := adaptOK_sound ag s hok
  obtain ⟨i, hi, hpi, huniq⟩ := filter_singleton_index (isCallOf c) _ ag.apps hcall
  have hiff : ∀ j, callsTracer ag c j = true ↔ j = i := by
    refine fun j => ⟨fun hj => ?_, fun hj => by simp only [hj, callsTracer, hi, hpi]⟩
    unfold callsTracer at hj
    split at hj
    · rename_i b hb
      exact huniq j b hb hj
    · cases hj
  obtain ⟨_, args', kwargs', deps', o, ha, rfl⟩ := (callsTracer_iff_pcall g shapes constVals ag hag c i).1 ((hiff i).2 rfl)
  have hnode := (toAdapt_app_fwd g shapes constVals ag hag i _ ha).symm.trans hi
  simp only [toAdaptApp, Option.some.injEq, Adapt.App.call.injEq] at hnode
  obtain ⟨-, rfl, hkw, -⟩ := hnode
  obtain ⟨k0, hk0, _, _⟩ := filter_singleton_index isAnyConstant _ ag.apps hconst
  obtain ⟨a0, ha0, hta0⟩ := toAdapt_app g shapes constVals ag hag k0 _ hk0
  obtain ⟨str, rfl⟩ := toAdaptApp_constant_inv _ a0 _ _ hta0.symm
  refine ⟨k, _, fn, _, r, i, args', kwargs', hconst, hcall, hi, hpi, huses, hargs, hiff, fun order hivis =>
    ⟨⟨deps', o, ha⟩, rfl, not_allowInline_of_constant g aux fg hfg hfwf k0 str _ ha0, hivis,
      fun j _ hj => (hiff j).1 ((callsTracer_iff_pcall g shapes constVals ag hag _ j).2 hj)⟩, ?_, ?_⟩
  · rw [← argsAre_length ag _ s.argShapes hargs, List.length_map]
  · rw [← hkw]
    simp [toKw, List.map_map, Function.comp_def]

/-- A call of `c` that `callsReachable` declares reachable is visited by the traversal of the generator. -/
theorem reachable_call_visited (cfg : UCfg) (fc : FCfg) (g : Compile.Graph) (aux : List TAux) (ag : Adapt.Graph)
    (fg : Factory.Graph) (comp : Compiled) (hwf : g.WF = true) (hsup : Supported g = true) (hfg : toFactory g aux = some fg)
    (hfwf : Factory.wf fg = true) (hc : compile cfg fc g = .ok comp) (c i : Nat) (hreach : callsReachable ag fg c = true)
    (hilt : i < ag.apps.length) (hcti : callsTracer ag c i = true) : Visit.app i ∈ comp.order := by
  have hex := Einx.Props.C13.exec_from_compile cfg fc g aux fg comp hwf hsup hfg hfwf hc
  simp only [callsReachable, List.all_eq_true, List.mem_range, Bool.or_eq_true, Bool.not_eq_true',
    List.contains_eq_mem, decide_eq_true_eq] at hreach
  rcases hreach i hilt with h | h
  · rw [hcti] at h
    cases h
  · exact (mem_appsOf _ i).1 ((hex.2 i).2 h)

/-- **adapter_called_once_compiled**: for a compiled graph whose translation `adaptOK` accepts, the accepted graph has one constant
`c` (the user function) and one call `i` of it, with tracers of the specification's aligned shapes as positional arguments.  If that
call is reachable from the output (`callsReachable`), `i` is the only application of the schedule that calls `c`, the emitted program
contains exactly one statement for it, and its tagged event trace — the trace of the reference evaluation `evalGraph` — contains
exactly one event produced by a caller of `c`: the event of node `i`, a call with as many positional arguments as the specification
has aligned tensors and exactly the keyword names `axis` (reduce) followed by the forwarded options. -/
theorem adapter_called_once_compiled (cfg : UCfg) (fc : FCfg) (g : Compile.Graph) (aux : List TAux)
    (shapes : List (Nat × List Nat)) (constVals : List (Option Val)) (ag : Adapt.Graph) (fg : Factory.Graph)
    (comp : Compiled) (s : Spec) (hwf : g.WF = true) (hsup : Supported g = true)
    (hag : toAdapt g shapes constVals = some ag) (hfg : toFactory g aux = some fg) (hfwf : Factory.wf fg = true)
    (hc : compile cfg fc g = .ok comp) (hok : adaptOK ag s = true) :
    ∃ k c fn args out i,
      ag.apps.filter isAnyConstant = [.constant (.obj k) c] ∧
      ag.apps.filter (isCallOf c) = [.call fn args s.kwargs out] ∧ ag.apps[i]? = some (.call fn args s.kwargs out) ∧
      ArgsAre ag args s.argShapes ∧
      (callsReachable ag fg c = true →
        ∃ f as ks r,
          (appsOf comp.order).filter (callsTracer ag c) = [i] ∧
          comp.st.srcs.count i = 1 ∧
          evalGraph g cfg.unaryParens comp.order = .ok r ∧
          (taggedTrace { env := unbound } (sstmts comp.st)).map (·.2) = r.trace ∧
          (taggedTrace { env := unbound } (sstmts comp.st)).filter (byCallOf ag c) = [(some i, .call (E.mk .call (f :: as ++ ks)))] ∧
          as.length = s.argShapes.length ∧ ks.map kwName = s.kwargs.map (fun kv => some kv.1)) ∧
      -- without reachability: nothing but node `i` can produce such an event
      (∀ q ∈ taggedTrace { env := unbound } (sstmts comp.st), byCallOf ag c q = true → q.1 = some i) := by
  obtain ⟨k, c, fn, args, r, i, args', kwargs', hconst, hcall, hi, -, -, hargs, hiff, C, hlen', hkw'⟩ :=
    adapter_callSite g aux shapes constVals ag fg s hag hfg hfwf hok
  refine ⟨k, c, fn, args, .ref r, i, hconst, hcall, hi, hargs, fun hreach => ?_, fun q _ hq => ?_⟩
  · have hivis := reachable_call_visited cfg fc g aux ag fg comp hwf hsup hfg hfwf hc c i hreach
      (List.getElem?_eq_some_iff.1 hi).1 ((hiff i).2 rfl)
    have hex := Einx.Props.C13.exec_from_compile cfg fc g aux fg comp hwf hsup hfg hfwf hc
    obtain ⟨f, as, ks, rr, hcount, hr, htrace, hev, hlen, hnames⟩ :=
      callSite_tagged cfg fc g comp hwf hc (C _ hivis) _ (callsTracer_iff_pcall g shapes constVals ag hag c)
    exact ⟨f, as, ks, rr, filter_eq_singleton _ i _ hex.1 ((mem_appsOf _ i).2 hivis) ((hiff i).2 rfl) (fun j _ hj => (hiff j).1 hj),
      hcount, hr, htrace, byCallOf_eq ag c ▸ hev, hlen.trans hlen', hnames.trans hkw'⟩
  · rw [byCallOf_eq] at hq
    unfold bySrc at hq
    split at hq
    · rename_i j hj
      rw [hj, (hiff j).1 hq]
    · cases hq

/-- **adapter_call_value_compiled** (value level): under the premises of `adapter_called_once_compiled` and reachability of the
call, the event trace of the emitted program contains **exactly one call event whose function term is a constant object**
(`constAtom n`: an object injected into the namespace of the generated code — the graph has exactly one `Constant` node, the
user function); it has as many positional arguments as the specification has aligned tensors and exactly the keyword names
`axis` (reduce) followed by the forwarded options.  No other call event of the program calls a constant object, whatever node
produced it. -/
theorem adapter_call_value_compiled (cfg : UCfg) (fc : FCfg) (g : Compile.Graph) (aux : List TAux)
    (shapes : List (Nat × List Nat)) (constVals : List (Option Val)) (ag : Adapt.Graph) (fg : Factory.Graph)
    (comp : Compiled) (s : Spec) (hwf : g.WF = true) (hsup : Supported g = true)
    (hag : toAdapt g shapes constVals = some ag) (hfg : toFactory g aux = some fg) (hfwf : Factory.wf fg = true)
    (hc : compile cfg fc g = .ok comp) (hok : adaptOK ag s = true) :
    ∃ k c, ag.apps.filter isAnyConstant = [.constant (.obj k) c] ∧
      (callsReachable ag fg c = true →
        ∃ f as ks,
          (execBlock { env := unbound } comp.st.program).trace.filter (trackedCall isConstAtom) =
            [.call (E.mk .call (f :: as ++ ks))] ∧
          isConstAtom f = true ∧ as.length = s.argShapes.length ∧ ks.map kwName = s.kwargs.map (fun kv => some kv.1)) := by
  obtain ⟨k, c, fn, args, r, i, args', kwargs', hconst, -, hi, hpi, huses, -, hiff, C, hlen', hkw'⟩ :=
    adapter_callSite g aux shapes constVals ag fg s hag hfg hfwf hok
  refine ⟨k, c, hconst, fun hreach => ?_⟩
  have hivis := reachable_call_visited cfg fc g aux ag fg comp hwf hsup hfg hfwf hc c i hreach
    (List.getElem?_eq_some_iff.1 hi).1 ((hiff i).2 rfl)
  have S := supported_setup g aux fg hwf hsup hfg
  have T := track_const g shapes constVals ag fg S hag hfwf k c i fn args s.kwargs (.ref r) hconst hi hpi huses
  obtain ⟨f, as, ks, hfilt, hqf, hlen, hnames⟩ :=
    callSite_tracked cfg fc g fg comp S hc (C _ hivis) _ isConstAtom_qok T
  exact ⟨f, as, ks, hfilt, hqf, hlen.trans hlen', hnames.trans hkw'⟩

/-! ## Non-vacuity -/

/-- The graph of `adapt_numpylike_reduce(f)("a [b] c", x, scale=2)` (`Props/C15.lean:exampleGraph`) as the C04 graph. -/
def exampleCGraph : Compile.Graph :=
  { apps := [
      .import_ "numpy" none (some "np") 1,
      .constant "<function f>" 3,
      .call (.var 3) [.var 0] [("axis", E.mk .tuple [.lit "1"]), ("scale", .lit "2")] [.var 0] 7,
      .builtin "isinstance" 8,
      .getattr (.var 1) "ndarray" 9,
      .call (.var 8) [.var 7, .var 9] [] [.var 0] 10,
      .assert_ (.var 7) (.var 10) none (.var 11),
      .builtin "tuple" 12,
      .getattr (.var 11) "shape" 13,
      .call (.var 12) [.var 13] [] [.var 0] 14,
      .operator "==" [.var 14, E.mk .tuple [.lit "2", .lit "4"]] 15,
      .assert_ (.var 11) (.var 15) none (.var 16),
      .cast (.var 16) (.var 17)],
    origin := [none, some 0, none, some 1, none, none, none, some 2, some 3, some 4, some 5, some 6, some 7, some 8, some 9,
               some 10, some 11, some 12],
    graphs := [{ inputs := [0], output := .var 17, name := some "op" }],
    top := .gref 0 }

def exampleConsts : List (Option Val) := [none, some (.obj 0)]

/-- The translation gives the graph of `Props/C15.lean` (same verdicts), the premises hold, `compile` succeeds, and the
conclusion's instance: node 2 is the only caller of the constant, one statement, one event `const1(in0, axis=…, scale=…)`. -/
example : (match toAdapt exampleCGraph [(0, [2, 3, 4]), (17, [2, 4])] exampleConsts, toFactory exampleCGraph [] with
    | some ag, some fg => some (adaptOK ag exampleSpec, adaptOK ag { exampleSpec with axis := some [2] }, Factory.wf fg,
        callsReachable ag fg 3, exampleCGraph.WF, Supported exampleCGraph)
    | _, _ => none) = some (true, false, true, true, true, true) := by decide +kernel

/-- `compile` is evaluated once on the example graph; the two examples below read their facts off this result. -/
theorem exampleCompiled : ∃ c ag,
    compile Einx.Props.C13.fixedCfg { checkLater := true, checkBlock := true, bindResult := true } exampleCGraph = .ok c ∧
    toAdapt exampleCGraph [(0, [2, 3, 4]), (17, [2, 4])] exampleConsts = some ag ∧
    (appsOf c.order).filter (callsTracer ag 3) = [2] ∧ c.st.srcs.count 2 = 1 ∧
    ((taggedTrace { env := unbound } (sstmts c.st)).filter (byCallOf ag 3)).map
        (fun p => (p.1, (callShape p.2).map (fun s => (s.2.1.length, s.2.2)))) = [(some 2, some (1, ["axis", "scale"]))] ∧
    ((execBlock { env := unbound } c.st.program).trace.filter (trackedCall isConstAtom)).map
        (fun ev => (callShape ev).map (fun s => (decide (s.1 = constAtom 1), s.2.1.length, s.2.2))) = [some (true, 1, ["axis", "scale"])] := by
  have h : (match compile Einx.Props.C13.fixedCfg { checkLater := true, checkBlock := true, bindResult := true } exampleCGraph,
        toAdapt exampleCGraph [(0, [2, 3, 4]), (17, [2, 4])] exampleConsts with
      | .ok c, some ag =>
        decide ((appsOf c.order).filter (callsTracer ag 3) = [2]) && decide (c.st.srcs.count 2 = 1) &&
        decide (((taggedTrace { env := unbound } (sstmts c.st)).filter (byCallOf ag 3)).map
          (fun p => (p.1, (callShape p.2).map (fun s => (s.2.1.length, s.2.2)))) = [(some 2, some (1, ["axis", "scale"]))]) &&
        decide (((execBlock { env := unbound } c.st.program).trace.filter (trackedCall isConstAtom)).map
          (fun ev => (callShape ev).map (fun s => (decide (s.1 = constAtom 1), s.2.1.length, s.2.2))) = [some (true, 1, ["axis", "scale"])])
      | _, _ => false) = true := by decide +kernel
  split at h
  · rename_i c ag hc hag
    simp only [Bool.and_eq_true, decide_eq_true_eq] at h
    exact ⟨c, ag, hc, hag, h.1.1.1, h.1.1.2, h.1.2, h.2⟩
  · cases h

example : (match compile Einx.Props.C13.fixedCfg { checkLater := true, checkBlock := true, bindResult := true } exampleCGraph,
      toAdapt exampleCGraph [(0, [2, 3, 4]), (17, [2, 4])] exampleConsts with
    | .ok c, some ag =>
      decide ((appsOf c.order).filter (callsTracer ag 3) = [2]) && decide (c.st.srcs.count 2 = 1) &&
      decide (((taggedTrace { env := unbound } (sstmts c.st)).filter (byCallOf ag 3)).map
          (fun p => (p.1, (callShape p.2).map (fun s => (s.2.1.length, s.2.2)))) = [(some 2, some (1, ["axis", "scale"]))])
    | _, _ => false) = true := by
  obtain ⟨c, ag, hc, hag, h1, h2, h3, _⟩ := exampleCompiled
  simp only [hc, hag, h1, h2, h3, decide_true, Bool.and_self]

/-- Value level on the example: the compiled program has exactly one call event of a constant object, `const1(in0, axis=…, scale=…)`. -/
example : (match compile Einx.Props.C13.fixedCfg { checkLater := true, checkBlock := true, bindResult := true } exampleCGraph with
    | .ok c =>
      ((execBlock { env := unbound } c.st.program).trace.filter (trackedCall isConstAtom)).map
        (fun ev => (callShape ev).map (fun s => (decide (s.1 = constAtom 1), s.2.1.length, s.2.2)))
    | _ => []) = [some (true, 1, ["axis", "scale"])] := by
  obtain ⟨c, _, hc, _, _, _, _, h4⟩ := exampleCompiled
  simp only [hc, h4]

end Einx.Adapt
