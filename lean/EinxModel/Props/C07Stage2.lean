import EinxModel.Proofs.SolveUnroll
import EinxModel.Proofs.SolveBroadcast
import EinxModel.Proofs.SolveNum
import EinxModel.Proofs.SolveRename
import EinxModel.Proofs.NotationParseCases
/-!
C07, the shorthands that live at stage 2/3 (`namedtensor/stage2/solve.py`, `stage3/solve.py`):
"an ellipsis = its written-out repetition; a number = a fresh axis of that length; a scalar size for
an ellipsis axis = the repeated tuple; an anonymous `...` = one shared named ellipsis".

Every theorem is about the executable solving model of C02 (`Solve/Tree.lean`: `rankSystem`,
`valueSystem`, `Sols`), which `tools/props/c02.py` ties to `einx.solve_axes/solve_shapes/matches`, and
about the transformations of `Solve/Shorthand.lean`, which `tools/props/c07_stage2.py` ties to the long
forms einx itself builds (`stage2.solve` output) and accepts (the documented long descriptions).
Sizes and counts range over unbounded `Nat`.

Form of every statement: the long form has the *corresponding solutions* — every solution of one
side yields a solution of the other side that agrees on all axis variables and gives the same
tensor shapes.  The half that has to *construct* an assignment needs the name hygiene `namesOK`
of the side it constructs (node variables `#i/k(…` pairwise different and no axis variables;
decidable, evaluated by the driver on every generated case); the semantic versions (`…_sem`,
about `SemSat`, the value system read without node variables) need no such hypothesis.
-/
namespace Einx.Solve

/-! ### What the value system means (tie of the semantic reading to the executable model) -/

/-- Every solution of the executable value system is a semantic solution: positive axes and nodes,
root dimensions equal to the shapes, constraint arrays honoured; and the shapes are the
semantic shapes. -/
theorem value_system_sound (inp : Input) (ρ σ : Var → Nat) (h : Sat (valueSystem inp ρ) σ) :
    SemSat inp ρ σ ∧ shapesOf inp ρ σ = semShapes inp ρ σ :=
  ⟨sat_sem inp ρ σ h, shapes_of_sat inp ρ σ h⟩

/-- Conversely a semantic solution extends (changing no axis variable) to a solution of the
executable value system with the same shapes, provided the generated names are hygienic. -/
theorem value_system_complete (inp : Input) (ρ τ : Var → Nat) (hn : namesOK inp ρ = true)
    (h : SemSat inp ρ τ) :
    ∃ σ, Sat (valueSystem inp ρ) σ ∧ (∀ a ∈ inp.axes ρ, σ a.2.2 = τ a.2.2) ∧
      shapesOf inp ρ σ = semShapes inp ρ τ :=
  ⟨extend inp ρ τ, sem_sat inp ρ τ hn h⟩

/-! ### An ellipsis = its written-out repetition -/

/-- Semantic form: for counts `ρ` admitted by the rank system, the input and its written-out long
form (`unrollInput`: every `e...` replaced by `ρ id` copies of `e` with the axis names suffixed
`.i` as `stage2/solve.py:map` does, constraint arrays split into one scalar per expanded axis) have
the same semantic solutions — literally the same assignments — whatever counts `ρ'` are given to
the long form (it has no ellipsis left). -/
theorem ellipsis_unroll_sem (inp : Input) (ρ : Var → Nat) (hρ : Sat (rankSystem true inp) ρ)
    (hwf : ∀ c ∈ inp.constraints, c.vals.length = c.shape.foldr (· * ·) 1) (ρ' σ : Var → Nat) :
    (SemSat inp ρ σ ↔ SemSat (unrollInput inp ρ) ρ' σ) ∧
    semShapes (unrollInput inp ρ) ρ' σ = semShapes inp ρ σ :=
  ⟨unroll_semSat inp ρ hρ hwf ρ' σ, unroll_semShapes inp ρ ρ' σ⟩

/-- **Ellipsis = written-out repetition**, on the executable model.  Let `ρ` satisfy the rank
system of `inp` (constraint arrays well-formed: as many values as their shape says).  Then
* the long form has no ellipsis and its rank system holds for every `ρ'` (nothing is left to count);
* every solution of `inp` with counts `ρ` yields a solution of the long form with the same axis
  lengths (`a.i.j` is the same variable on both sides) and the same tensor shapes;
* every solution of the long form yields a solution of `inp` with counts `ρ`, same lengths, same shapes.
The constructing halves assume `namesOK` of the side they construct. -/
theorem ellipsis_unroll (inp : Input) (ρ : Var → Nat) (hρ : Sat (rankSystem true inp) ρ)
    (hwf : ∀ c ∈ inp.constraints, c.vals.length = c.shape.foldr (· * ·) 1) :
    (unrollInput inp ρ).ellIds = [] ∧
    (∀ ρ', Sat (rankSystem true (unrollInput inp ρ)) ρ') ∧
    (∀ σ ρ', Sols inp ρ σ → namesOK (unrollInput inp ρ) ρ' = true →
        ∃ σ', Sols (unrollInput inp ρ) ρ' σ' ∧ (∀ a ∈ inp.axes ρ, σ' a.2.2 = σ a.2.2) ∧
          shapesOf (unrollInput inp ρ) ρ' σ' = shapesOf inp ρ σ) ∧
    (∀ σ' ρ', Sols (unrollInput inp ρ) ρ' σ' → namesOK inp ρ = true →
        ∃ σ, Sols inp ρ σ ∧ (∀ a ∈ inp.axes ρ, σ a.2.2 = σ' a.2.2) ∧
          shapesOf inp ρ σ = shapesOf (unrollInput inp ρ) ρ' σ') := by
  refine ⟨unrollInput_ellIds inp ρ, unroll_rank_sat inp ρ hρ, ?_, ?_⟩
  · intro σ ρ' hs hn
    obtain ⟨σ', hs', hax, hsh⟩ := sols_of_semSat hs.2 (unroll_rank_sat inp ρ hρ ρ') hn
      ((unroll_semSat inp ρ hρ hwf ρ' σ).mp (sat_sem inp ρ σ hs.2)) (unroll_semShapes inp ρ ρ' σ)
    exact ⟨σ', hs', fun a ha => hax (flatAxis a) (by rw [unrollInput_axes]; exact List.mem_map_of_mem ha), hsh⟩
  · intro σ' ρ' hs hn
    exact sols_of_semSat hs.2 hρ hn ((unroll_semSat inp ρ hρ hwf ρ' σ').mpr (sat_sem _ ρ' σ' hs.2))
      (unroll_semShapes inp ρ ρ' σ').symm

/-- Non-vacuity: `(a b)... c` against `(4, 6, 5)` with `b = 2`.  The count 2 satisfies the rank
system, both sides are hygienic, the short form has the solution `a = (2, 3), c = 5`, and the long
form computed by `unrollInput` is `(a.0 b.0) (a.1 b.1) c` with `b.0 = 2, b.1 = 2`, solved to the
same lengths. -/
def exEll : Input :=
  { tensors := [⟨.list [.ellipsis "e0" (.flat (.list [.axis "a", .axis "b"])), .axis "c"], some [4, 6, 5]⟩],
    constraints := [⟨"b", [], [2]⟩] }

theorem exEll_solved : solveAll exEll =
    .unique [("e0", 2)] [("a.1", 3), ("b.1", 2), ("a.0", 2), ("b.0", 2), ("c", 5), ("#0/0.1", 6), ("#0/0.0", 4)] := by
  decide +kernel

example : solveAll exEll =
    .unique [("e0", 2)] [("a.1", 3), ("b.1", 2), ("a.0", 2), ("b.0", 2), ("c", 5), ("#0/0.1", 6), ("#0/0.0", 4)] :=
  exEll_solved

theorem exEll_hyps : checkSat (rankSystem true exEll) [("e0", 2)] = true ∧
    namesOK exEll (toFun [("e0", 2)]) = true ∧
    namesOK (unrollInput exEll (toFun [("e0", 2)])) (toFun []) = true := by decide +kernel

example : checkSat (rankSystem true exEll) [("e0", 2)] = true ∧
    namesOK exEll (toFun [("e0", 2)]) = true ∧
    namesOK (unrollInput exEll (toFun [("e0", 2)])) (toFun []) = true := exEll_hyps

example : (unrollInput exEll (toFun [("e0", 2)])).tensors.map (·.expr.render) = ["(a.0 b.0) (a.1 b.1) c"] ∧
    (unrollInput exEll (toFun [("e0", 2)])).constraints.map (fun c => (c.name, c.shape, c.vals)) =
      [("b.0", [], [2]), ("b.1", [], [2])] := by decide +kernel

theorem exEll_long_solved : solveAll (unrollInput exEll (toFun [("e0", 2)])) =
    .unique [] [("a.1", 3), ("b.1", 2), ("a.0", 2), ("b.0", 2), ("c", 5), ("#0/0/1", 6), ("#0/0/0", 4)] := by
  decide +kernel

example : solveAll (unrollInput exEll (toFun [("e0", 2)])) =
    .unique [] [("a.1", 3), ("b.1", 2), ("a.0", 2), ("b.0", 2), ("c", 5), ("#0/0/1", 6), ("#0/0/0", 4)] :=
  exEll_long_solved

/-! ### A scalar size for an axis under an ellipsis = the repeated tuple -/

/-- **Scalar constraint = repeated tuple.**  Let the constraint array `c` (any rank, e.g. a scalar)
constrain a name whose first occurrence stands under the ellipses `pre ++ id :: suf`, the array
being aligned with the innermost levels `suf`.  Replacing `c` by the same array repeated `d` times
along a new leading dimension (`b=2` ↦ `b=(2,)*d`, `Constraint.broadcast`) changes the solution set
by exactly the statement "the ellipsis `id` is repeated `d` times": same counts, same lengths, for
all tensors and all other constraints.  (Iterating gives tuples of any rank.) -/
theorem scalar_constraint_is_repeated_tuple (ts : List Tensor) (cs₁ cs₂ : List Constraint) (c : Constraint)
    (d : Nat) (hwf : c.vals.length = c.shape.foldr (· * ·) 1) (pre suf : List Var) (id : Var)
    (hst : (Input.occs ⟨ts, cs₁ ++ c :: cs₂⟩).lookup c.name = some (pre ++ id :: suf))
    (hsuf : suf.length = c.shape.length) (ρ σ : Var → Nat) :
    Sols ⟨ts, cs₁ ++ c.broadcast d :: cs₂⟩ ρ σ ↔ (Sols ⟨ts, cs₁ ++ c :: cs₂⟩ ρ σ ∧ ρ id = d) := by
  -- the two inputs have the same tensors, hence the same occurrences and expanded axes
  have hrank : Sat (rankSystem true ⟨ts, cs₁ ++ c.broadcast d :: cs₂⟩) ρ ↔
      (Sat (rankSystem true ⟨ts, cs₁ ++ c :: cs₂⟩) ρ ∧ ρ id = d) := by
    rw [sat_rankSystem_iff, sat_rankSystem_iff,
      show Input.occs ⟨ts, cs₁ ++ c.broadcast d :: cs₂⟩ = Input.occs ⟨ts, cs₁ ++ c :: cs₂⟩ from rfl]
    simp only [List.forall_mem_append, List.forall_mem_cons]
    rw [broadcast_rank ρ _ c d pre suf id hst hsuf]
    constructor
    · rintro ⟨h1, h2, h3, ⟨h4, h5⟩, h6⟩; exact ⟨⟨h1, h2, h3, h4, h6⟩, h5⟩
    · rintro ⟨⟨h1, h2, h3, h4, h6⟩, h5⟩; exact ⟨h1, h2, h3, ⟨h4, h5⟩, h6⟩
  have hval : Sat (rankSystem true ⟨ts, cs₁ ++ c :: cs₂⟩) ρ → ρ id = d →
      (Sat (valueSystem ⟨ts, cs₁ ++ c.broadcast d :: cs₂⟩ ρ) σ ↔ Sat (valueSystem ⟨ts, cs₁ ++ c :: cs₂⟩ ρ) σ) := by
    intro hR hd
    have heq := broadcast_value_eq ⟨ts, cs₁ ++ c :: cs₂⟩ ρ hR c d hwf pre suf id hst hsuf hd
    rw [sat_valueSystem_iff, sat_valueSystem_iff,
      show gens ⟨ts, cs₁ ++ c.broadcast d :: cs₂⟩ ρ = gens ⟨ts, cs₁ ++ c :: cs₂⟩ ρ from rfl,
      show Input.axes ⟨ts, cs₁ ++ c.broadcast d :: cs₂⟩ ρ = Input.axes ⟨ts, cs₁ ++ c :: cs₂⟩ ρ from rfl]
    simp only [List.forall_mem_append, List.forall_mem_cons]
    refine and_congr_right fun _ => and_congr_right fun _ => and_congr_left fun _ =>
      forall₂_congr fun a ha => ⟨fun h hn => ?_, fun h hn => ?_⟩
    · rw [← heq a ha hn]; exact h hn
    · rw [heq a ha hn]; exact h hn
  unfold Sols
  constructor
  · rintro ⟨hr, hv⟩
    obtain ⟨hr', hd⟩ := hrank.mp hr
    exact ⟨⟨hr', (hval hr' hd).mp hv⟩, hd⟩
  · rintro ⟨⟨hr', hv⟩, hd⟩
    exact ⟨hrank.mpr ⟨hr', hd⟩, (hval hr' hd).mpr hv⟩

/-- Non-vacuity (the documentation's example `(a b)... -> a... b...` with `b=2`): against `(4, 6)` the
scalar form and the tuple form `b=(2,2)` are both solved to `a = (2, 3)`; the tuple `b=(2,2,2)`
contradicts the count. -/
def exScalar (c : Constraint) : Input :=
  { tensors := [⟨.ellipsis "e0" (.flat (.list [.axis "a", .axis "b"])), some [4, 6]⟩,
                ⟨.list [.ellipsis "e1" (.axis "a"), .ellipsis "e2" (.axis "b")], none⟩],
    constraints := [c] }

example : (exScalar ⟨"b", [], [2]⟩).occs.lookup "b" = some ([] ++ "e0" :: []) := by decide +kernel

example : (Constraint.broadcast 2 ⟨"b", [], [2]⟩).shape = [2] ∧ (Constraint.broadcast 2 ⟨"b", [], [2]⟩).vals = [2, 2] ∧
    solveAll (exScalar ⟨"b", [], [2]⟩) =
      .unique [("e2", 2), ("e1", 2), ("e0", 2)]
        [("a.1", 3), ("b.1", 2), ("a.0", 2), ("b.0", 2), ("#0.1", 6), ("#0.0", 4)] ∧
    solveAll (exScalar (Constraint.broadcast 2 ⟨"b", [], [2]⟩)) = solveAll (exScalar ⟨"b", [], [2]⟩) ∧
    solveAll (exScalar (Constraint.broadcast 3 ⟨"b", [], [2]⟩)) = .rankNone := by decide +kernel

/-! ### A number = a fresh axis of that length -/

/-- Semantic form (no hypothesis on generated names).  `withNumConstraint inp n v` is the long form
(the name `n` in the expressions, keyword size `n=v`), `numForm inp n v` the short form (the number
`v` wherever `n` stood).  A semantic solution of the long form is one of the short form as it
stands; a semantic solution of the short form becomes one of the long form by giving the variables
of `n` the value `v` (`setName`), provided `n` is fresh at the level of expanded variables
(`freshVars`), carries no other constraint, and `v ≥ 1`. -/
theorem number_is_fresh_axis_sem (inp : Input) (n : String) (v : Nat) (ρ σ : Var → Nat) :
    (SemSat (withNumConstraint inp n v) ρ σ →
      SemSat (numForm inp n v) ρ σ ∧ semShapes (numForm inp n v) ρ σ = semShapes inp ρ σ) ∧
    (1 ≤ v → (∀ c ∈ inp.constraints, c.name ≠ n) → freshVars inp ρ n = true → SemSat (numForm inp n v) ρ σ →
      SemSat (withNumConstraint inp n v) ρ (setName inp ρ n v σ) ∧
      semShapes inp ρ (setName inp ρ n v σ) = semShapes (numForm inp n v) ρ σ) :=
  ⟨num_sem_long_short inp n v ρ σ, fun hv hcn hf h =>
    let r := num_sem_short_long inp n v hv hcn ρ σ hf h
    ⟨r.1, r.2.2.2⟩⟩

/-- **Number = fresh axis with that size**, on the executable model.  Let `n` carry no constraint of
`inp`, let all its occurrences stand under the same ellipses (`sameStack`; in particular: one
occurrence), and `v ≥ 1` (the model admits a numeric axis `0`, a named axis has length ≥ 1; einx
rejects both).  Then for all counts `ρ`
* the rank systems of the short and the long form have the same solutions;
* every solution of the long form yields a solution of the short form with the same lengths of all
  remaining axes and the same shapes;
* every solution of the short form yields one of the long form in which `n` has length `v` everywhere
  and all other axes keep their lengths, same shapes (here `n` must be fresh for the expanded
  variables, `freshVars`).
The constructing halves assume `namesOK` of the side they construct. -/
theorem number_is_fresh_axis (inp : Input) (n : String) (v : Nat) (hv : 1 ≤ v)
    (hcn : ∀ c ∈ inp.constraints, c.name ≠ n) (hstack : sameStack inp n = true) (ρ : Var → Nat) :
    (Sat (rankSystem true (numForm inp n v)) ρ ↔ Sat (rankSystem true (withNumConstraint inp n v)) ρ) ∧
    (∀ σ, Sols (withNumConstraint inp n v) ρ σ → namesOK (numForm inp n v) ρ = true →
      ∃ σ', Sols (numForm inp n v) ρ σ' ∧ (∀ a ∈ (numForm inp n v).axes ρ, σ' a.2.2 = σ a.2.2) ∧
        shapesOf (numForm inp n v) ρ σ' = shapesOf (withNumConstraint inp n v) ρ σ) ∧
    (∀ σ, Sols (numForm inp n v) ρ σ → freshVars inp ρ n = true →
        namesOK (withNumConstraint inp n v) ρ = true →
      ∃ σ', Sols (withNumConstraint inp n v) ρ σ' ∧
        (∀ a ∈ inp.axes ρ, a.1 ≠ n → σ' a.2.2 = σ a.2.2) ∧ (∀ a ∈ inp.axes ρ, a.1 = n → σ' a.2.2 = v) ∧
        shapesOf (withNumConstraint inp n v) ρ σ' = shapesOf (numForm inp n v) ρ σ) := by
  have hrank := num_rank inp n v hcn hstack ρ
  refine ⟨hrank, ?_, ?_⟩
  -- the long form has the tensors of `inp`: its expanded axes and semantic shapes are those of `inp`
  · intro σ hs hn
    obtain ⟨hsem, hsh⟩ := num_sem_long_short inp n v ρ σ (sat_sem _ ρ σ hs.2)
    exact sols_of_semSat hs.2 (hrank.mpr hs.1) hn hsem hsh
  · intro σ hs hf hn
    obtain ⟨hsem, hv1, hv2, hsh⟩ := num_sem_short_long inp n v hv hcn ρ σ hf (sat_sem _ ρ σ hs.2)
    obtain ⟨σ', hs', hax, hsh'⟩ := sols_of_semSat hs.2 (hrank.mp hs.1) hn hsem hsh
    exact ⟨σ', hs', fun a ha hne => (hax a ha).trans (hv2 a ha hne),
      fun a ha he => (hax a ha).trans (hv1 a ha he), hsh'⟩

/-- Non-vacuity: `a (b n)...` against `(2, 6, 9)` with `n=3`, short form `a (b 3)...`: the
hypotheses hold (`n` occurs once, is fresh, names are hygienic on both sides) and both forms are
solved to `b = (2, 3)`. -/
def exNum : Input :=
  { tensors := [⟨.list [.axis "a", .ellipsis "e0" (.flat (.list [.axis "b", .axis "n"]))], some [2, 6, 9]⟩],
    constraints := [] }

theorem exNum_hyps : sameStack exNum "n" = true ∧ freshVars exNum (toFun [("e0", 2)]) "n" = true ∧
    namesOK (numForm exNum "n" 3) (toFun [("e0", 2)]) = true ∧
    namesOK (withNumConstraint exNum "n" 3) (toFun [("e0", 2)]) = true ∧
    (numForm exNum "n" 3).tensors.map (·.expr.render) = ["a {(b 3)}..."] := by decide +kernel

example : sameStack exNum "n" = true ∧ freshVars exNum (toFun [("e0", 2)]) "n" = true ∧
    namesOK (numForm exNum "n" 3) (toFun [("e0", 2)]) = true ∧
    namesOK (withNumConstraint exNum "n" 3) (toFun [("e0", 2)]) = true ∧
    (numForm exNum "n" 3).tensors.map (·.expr.render) = ["a {(b 3)}..."] := exNum_hyps

example : solveAll (numForm exNum "n" 3) =
      .unique [("e0", 2)] [("b.1", 3), ("#0/1.1", 9), ("b.0", 2), ("#0/1.0", 6), ("a", 2)] ∧
    solveAll (withNumConstraint exNum "n" 3) =
      .unique [("e0", 2)] [("b.1", 3), ("n.1", 3), ("b.0", 2), ("n.0", 3), ("#0/1.1", 9), ("#0/1.0", 6), ("a", 2)] := by
  decide +kernel

/-- `freshVars` is not vacuous: the name `b.0` next to `b...` is not fresh (its variable is the one
of the first repetition of `b`). -/
example : freshVars ⟨[⟨.list [.ellipsis "e0" (.axis "b"), .axis "b.0"], none⟩], []⟩ (toFun [("e0", 2)]) "b.0" = false := by
  decide +kernel

/-! ### An anonymous `...` = one shared named ellipsis -/

/-- **Renaming of axis names preserves the solutions.**  Let `f` be injective on the names of `inp`
(axis occurrences and constraints) and act as a bijection on the expanded variables (`renOK`:
decidable; automatic when no name contains a `.`).  Then the rank systems of `inp` and of the renamed
input have the same solutions, and the value solutions correspond: the variable `f n ++ .i.j` of the
renamed input carries the length of `n.i.j`; same shapes.  Equal names stay equal names, so an
ellipsis axis shared between expressions stays shared. -/
theorem rename_preserves_sols (f : String → String) (inp : Input)
    (hinj : ∀ a ∈ inp.names, ∀ b ∈ inp.names, f a = f b → a = b) (ρ : Var → Nat)
    (hok : renOK f inp ρ = true) :
    (Sat (rankSystem true (renameInput f inp)) ρ ↔ Sat (rankSystem true inp) ρ) ∧
    (∀ σ, Sols inp ρ σ → namesOK (renameInput f inp) ρ = true →
      ∃ σ', Sols (renameInput f inp) ρ σ' ∧ (∀ a ∈ inp.axes ρ, σ' (renVar f a) = σ a.2.2) ∧
        shapesOf (renameInput f inp) ρ σ' = shapesOf inp ρ σ) ∧
    (∀ σ', Sols (renameInput f inp) ρ σ' → namesOK inp ρ = true →
      ∃ σ, Sols inp ρ σ ∧ (∀ a ∈ inp.axes ρ, σ a.2.2 = σ' (renVar f a)) ∧
        shapesOf inp ρ σ = shapesOf (renameInput f inp) ρ σ') := by
  have hrank := rename_rank f inp hinj ρ
  refine ⟨hrank, ?_, ?_⟩
  · intro σ hs hn
    have link := pushRen_link f inp ρ σ hok
    obtain ⟨hiff, hsh⟩ := rename_semSat f inp hinj ρ σ (pushRen f inp ρ σ) link
    obtain ⟨σ', hs', hax, hsh'⟩ :=
      sols_of_semSat hs.2 (hrank.mpr hs.1) hn (hiff.mpr (sat_sem inp ρ σ hs.2)) hsh
    refine ⟨σ', hs', fun a ha => ?_, hsh'⟩
    exact (hax (renAxis f a) (by rw [renameInput_axes]; exact List.mem_map_of_mem ha)).trans (link a ha)
  · intro σ' hs hn
    have link := pullRen_link f inp ρ σ' hok
    obtain ⟨hiff, hsh⟩ := rename_semSat f inp hinj ρ (pullRen f inp ρ σ') σ' link
    obtain ⟨σ, hs', hax, hsh'⟩ :=
      sols_of_semSat hs.2 (hrank.mp hs.1) hn (hiff.mp (sat_sem _ ρ σ' hs.2)) hsh.symm
    exact ⟨σ, hs', fun a ha => (hax a ha).trans (link a ha).symm, hsh'⟩

/-- The anonymous ellipsis variable of the source (regenerated on every run). -/
def anonAxis : String := Einx.Extracted.anonymousVariableName

theorem swapName_inj (a b : String) (names : List String) (hb : b ∉ names) :
    ∀ x ∈ names, ∀ y ∈ names, swapName a b x = swapName a b y → x = y := by
  intro x hx y hy h
  unfold swapName at h
  by_cases h1 : x = a
  · by_cases h2 : y = a
    · rw [h1, h2]
    · simp only [h1, ↓reduceIte, h2] at h
      exact absurd (h ▸ hy) hb
  · by_cases h2 : y = a
    · simp only [h1, ↓reduceIte, h2] at h
      exact absurd (h ▸ hx) hb
    · simpa only [h1, ↓reduceIte, h2] using h

/-- **Anonymous `...` = one shared named ellipsis.**  In the stage-1 trees an anonymous ellipsis is
the ellipsis over the axis `.anonymous_ellipsis_axis` (`anonymous_ellipsis_parse` below; every
occurrence gets this one name, which is what makes it shared: the same-name equations of the rank
system give all occurrences the same depth and counts).  Writing `s...` with a name `s` not used in
the input instead is the renaming `.anonymous_ellipsis_axis ↦ s`, and the solutions correspond as
in `rename_preserves_sols`. -/
theorem anonymous_ellipsis_shared (inp : Input) (s : String) (hs : s ∉ inp.names) (ρ : Var → Nat)
    (hok : renOK (swapName anonAxis s) inp ρ = true) :
    let long := renameInput (swapName anonAxis s) inp
    (Sat (rankSystem true long) ρ ↔ Sat (rankSystem true inp) ρ) ∧
    (∀ σ, Sols inp ρ σ → namesOK long ρ = true →
      ∃ σ', Sols long ρ σ' ∧ (∀ a ∈ inp.axes ρ, σ' (renVar (swapName anonAxis s) a) = σ a.2.2) ∧
        shapesOf long ρ σ' = shapesOf inp ρ σ) ∧
    (∀ σ', Sols long ρ σ' → namesOK inp ρ = true →
      ∃ σ, Sols inp ρ σ ∧ (∀ a ∈ inp.axes ρ, σ a.2.2 = σ' (renVar (swapName anonAxis s) a)) ∧
        shapesOf inp ρ σ = shapesOf long ρ σ') :=
  rename_preserves_sols _ inp (swapName_inj anonAxis s inp.names hs) ρ hok

open Einx.Notation in
/-- **The parser model's treatment of the anonymous ellipsis** (`stage1/parse.py` lines 221–228, model
`Notation/Parse.lean`): a lone `...` token parses to the ellipsis whose operand is the axis named
`.anonymous_ellipsis_axis` (of zero width at the position of the dots), exactly the tree that `x...`
produces for an operand `x` that parses to a named axis — with that name in place of `x`'s. -/
theorem anonymous_ellipsis_parse {ts ts' : List Tok} (b e b' e' : Nat) (ipc ipc' : Bool) {t t' : Token} {x : Tok}
    (h : strip ts = [.atom t]) (hop : findOp naryOps [.atom t] = none)
    (h' : strip ts' = [x, .atom t']) (hop' : findOp naryOps [x, .atom t'] = none)
    (ht : t.text = ellipsisLit) (ht' : t'.text = ellipsisLit)
    (n : Str) (xb xe : Int) (hx : parse [x] x.b x.e false = .ok (.axis n none xb xe)) :
    parse ts b e ipc = .ok (.ellipsis (.axis anonName none t.b t.b) t.b t.b t.e) ∧
    parse ts' b' e' ipc' = .ok (.ellipsis (.axis n none xb xe) t'.b x.b t'.e) := by
  constructor
  · rw [parse_atom b e ipc h hop]
    simp [ht, mkEllipsis, Expr.ndim]
  · rw [parse_ell b' e' ipc' h' hop']
    simp [ht', hx, mkEllipsis, Expr.ndim]

/-- Non-vacuity: `... c, ...` against `(2, 3, 4)` and an unknown shape.  The renaming to `s...` is
admissible, both forms are hygienic and solved to the same lengths; the second tensor's rank is
known only because the ellipsis is shared. -/
def exAnon : Input :=
  { tensors := [⟨.list [.ellipsis "e0" (.axis anonAxis), .axis "c"], some [2, 3, 4]⟩,
                ⟨.ellipsis "e1" (.axis anonAxis), none⟩],
    constraints := [] }

theorem exAnon_hyps : anonAxis = ".anonymous_ellipsis_axis" ∧ "s" ∉ exAnon.names ∧
    renOK (swapName anonAxis "s") exAnon (toFun [("e0", 2), ("e1", 2)]) = true ∧
    namesOK exAnon (toFun [("e0", 2), ("e1", 2)]) = true ∧
    namesOK (renameInput (swapName anonAxis "s") exAnon) (toFun [("e0", 2), ("e1", 2)]) = true ∧
    (renameInput (swapName anonAxis "s") exAnon).tensors.map (·.expr.render) = ["{s}... c", "{s}..."] := by
  decide +kernel

example : anonAxis = ".anonymous_ellipsis_axis" ∧ "s" ∉ exAnon.names ∧
    renOK (swapName anonAxis "s") exAnon (toFun [("e0", 2), ("e1", 2)]) = true ∧
    namesOK exAnon (toFun [("e0", 2), ("e1", 2)]) = true ∧
    namesOK (renameInput (swapName anonAxis "s") exAnon) (toFun [("e0", 2), ("e1", 2)]) = true ∧
    (renameInput (swapName anonAxis "s") exAnon).tensors.map (·.expr.render) = ["{s}... c", "{s}..."] :=
  exAnon_hyps

theorem exAnon_solved : solveAll exAnon = .unique [("e1", 2), ("e0", 2)]
      [("c", 4), (".anonymous_ellipsis_axis.1", 3), (".anonymous_ellipsis_axis.0", 2)] ∧
    solveAll (renameInput (swapName anonAxis "s") exAnon) =
      .unique [("e1", 2), ("e0", 2)] [("c", 4), ("s.1", 3), ("s.0", 2)] := by decide +kernel

example : solveAll exAnon = .unique [("e1", 2), ("e0", 2)]
      [("c", 4), (".anonymous_ellipsis_axis.1", 3), (".anonymous_ellipsis_axis.0", 2)] ∧
    solveAll (renameInput (swapName anonAxis "s") exAnon) =
      .unique [("e1", 2), ("e0", 2)] [("c", 4), ("s.1", 3), ("s.0", 2)] := exAnon_solved

/-- `renOK` is not vacuous: renaming `a` to `b.0` next to `b...` merges two different variables. -/
example : renOK (swapName "a" "b.0") ⟨[⟨.list [.axis "a", .ellipsis "e0" (.axis "b")], none⟩], []⟩ (toFun [("e0", 1)]) = false := by
  decide +kernel

end Einx.Solve
