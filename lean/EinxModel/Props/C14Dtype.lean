import EinxModel.Props.C14
import Mathlib.Tactic.Ring
/-!
C14 / C01 — the dtype of the index arithmetic of `_ravel`.

The models of `_ravel` (`Update.addrLowered`, `Extracted.ravelKernel`, the `multiply` / `add` instructions of
`AtLower.ravel`) compute over unbounded integers.  numpy computes every `np.multiply(coord, multiplier)` and `np.add`
in the dtype of its array operands (a Python `int` operand is weak: it does not widen the result), i.e. in

  * the dtype of the index ranges `classical.arange(axis.value, dtype=coord_dtype)` for the terms of the un-bracketed
    target axes — for every traced call the literal of `_ravel`'s `else: coord_dtype = …` branch
    (`Extracted.arangeDtype`, regenerated from the source on every run; the traced graphs are checked to carry
    exactly this dtype whatever the dtype of the coordinate arrays is: tie `at-arange-dtype`),
  * the dtype of the caller's coordinate arrays for the terms of the bracketed target axes (nothing in `_ravel`,
    `get_at_ravelled`, `update_at_ravelled` casts them: `Extracted.ravelCasts = []`).

`wrap bits` is two's-complement arithmetic with `bits` bits.  What the code must guarantee, as an explicit obligation
(`IndexDtypeOK`): the number of elements of the target is below `2^(bits-1)` for **both** dtypes.  Under it the wrapped
evaluation of the kernel is the row-major address (`index_arith_exact`, `extracted_kernel_exact`); the first half is
discharged for all targets with fewer than 2³¹ elements by `extracted_index_dtype_wide` (an obligation on the extracted
dtype: it fails when the index ranges are created in the coordinates' dtype or any narrower literal); the second half
is a precondition on the caller that einx does not check (`narrow_coordinate_dtype_wraps`: a `decide`d witness with
int8 coordinates, reproduced on the real code).
-/
namespace Einx.Update

/-- Two's-complement reduction of an integer to `bits` bits. -/
def wrap (bits : Nat) (x : Int) : Int :=
  (x + 2 ^ (bits - 1)) % 2 ^ bits - 2 ^ (bits - 1)

/-- Sum of the terms with every intermediate result reduced to `bits` bits (left fold, as `_associative_binary_to_nary`
applies `np.add`); each term is itself the reduced product. -/
def wrappedSum (bits : Nat) (terms : List Nat) : Int :=
  terms.foldl (fun acc t => wrap bits (acc + wrap bits (Int.ofNat t))) 0

/-- The obligation on the dtypes: the flat size of the target fits both the dtype of the index ranges and the dtype of
the coordinate arrays (signed, `bits` wide). -/
def IndexDtypeOK (arangeBits coordBits : Nat) (shape : List Nat) : Prop :=
  0 < arangeBits ∧ 0 < coordBits ∧ (prod shape : Int) < 2 ^ (arangeBits - 1) ∧ (prod shape : Int) < 2 ^ (coordBits - 1)

theorem wrap_id (bits : Nat) (hb : 0 < bits) (x : Int) (h0 : 0 ≤ x) (h1 : x < 2 ^ (bits - 1)) : wrap bits x = x := by
  have hp : (2 : Int) ^ bits = 2 * 2 ^ (bits - 1) := by
    rw [← Int.pow_succ', Nat.sub_add_cancel hb]
  rw [wrap, hp, Int.emod_eq_of_lt (by omega) (by omega)]
  omega

/-- Reduction to `bits` bits respects `+`. -/
theorem wrap_add_wrap (bits : Nat) (a b : Int) : wrap bits (a + wrap bits b) = wrap bits (a + b) := by
  simp only [wrap]
  rw [show a + ((b + 2 ^ (bits - 1)) % 2 ^ bits - 2 ^ (bits - 1)) + 2 ^ (bits - 1) = a + (b + 2 ^ (bits - 1)) % 2 ^ bits by omega,
    Int.add_emod_emod, Int.add_assoc]

theorem wrap_wrap_add (bits : Nat) (a b : Int) : wrap bits (wrap bits a + b) = wrap bits (a + b) := by
  rw [Int.add_comm, wrap_add_wrap, Int.add_comm]

/-- The wrapped left fold is the wrapped sum, whatever the size of the terms (`0 < bits` only makes the start value
`0` its own reduction: `wrap 0 0 = -1`). -/
theorem wrappedSum_eq_wrap (bits : Nat) (hb : 0 < bits) (terms : List Nat) :
    wrappedSum bits terms = wrap bits (terms.sum : Nat) := by
  suffices H : ∀ (ts : List Nat) (acc : Int),
      ts.foldl (fun a t => wrap bits (a + wrap bits (Int.ofNat t))) (wrap bits acc) = wrap bits (acc + (ts.sum : Nat)) by
    have := H terms 0
    rwa [wrap_id bits hb 0 (Int.le_refl 0) (Int.pow_pos (by decide)), Int.zero_add] at this
  intro ts
  induction ts with
  | nil => intro acc; simp
  | cons t ts ih =>
    intro acc
    rw [List.foldl_cons, wrap_add_wrap, wrap_wrap_add, ih, List.sum_cons, Int.natCast_add, Int.add_assoc]
    rfl

/-- **No wrap-around below the bound**: if the unbounded sum of non-negative terms is below `2^(bits-1)`, reducing every
product and every partial sum to `bits` bits changes nothing. -/
theorem index_arith_exact (bits : Nat) (hb : 0 < bits) (terms : List Nat) (h : (terms.sum : Int) < 2 ^ (bits - 1)) :
    wrappedSum bits terms = (terms.sum : Int) := by
  rw [wrappedSum_eq_wrap bits hb, wrap_id bits hb _ (Int.natCast_nonneg _) h]

/-- … hence the kernel translated from `_ravel`, evaluated in a dtype of `bits` bits, is the row-major address of every
valid index of a target whose flat size is below `2^(bits-1)`. -/
theorem extracted_kernel_exact (bits : Nat) (hb : 0 < bits) (shape idx : List Nat) (hv : Valid shape idx)
    (hfit : (prod shape : Int) < 2 ^ (bits - 1)) :
    wrappedSum bits (Einx.Extracted.ravelKernel idx shape) = (ravel shape idx : Int) := by
  obtain ⟨he, hlt⟩ := ravel_index_in_range shape idx hv
  rw [index_arith_exact bits hb _ (by rw [he]; omega), he]

/-- The same under the explicit obligation, in the narrower of the two dtypes (numpy promotes the sum to the wider). -/
theorem index_dtype_obligation_suffices (ab cb : Nat) (shape idx : List Nat) (hv : Valid shape idx)
    (h : IndexDtypeOK ab cb shape) :
    wrappedSum ab (Einx.Extracted.ravelKernel idx shape) = (ravel shape idx : Int)
    ∧ wrappedSum cb (Einx.Extracted.ravelKernel idx shape) = (ravel shape idx : Int) :=
  ⟨extracted_kernel_exact ab h.1 shape idx hv h.2.2.1, extracted_kernel_exact cb h.2.1 shape idx hv h.2.2.2⟩

/-- **Obligation regenerated from the source**: the index ranges of `_ravel` are created in a fixed dtype of at least 32
bits (not in the coordinates' dtype), and nothing in `_ravel` / `get_at_ravelled` / `update_at_ravelled` changes a
dtype.  Fails when `coord_dtype`'s literal is narrowed or the ranges follow the coordinate arrays. -/
theorem extracted_index_dtype_wide :
    32 ≤ Einx.Extracted.arangeDtypeBits ∧ Einx.Extracted.ravelCasts = [] := by decide

/-- For every target with fewer than 2³¹ elements the half of the obligation that concerns the index ranges holds
with the extracted dtype. -/
theorem extracted_arange_fits (shape : List Nat) (h : (prod shape : Int) < 2 ^ 31) :
    0 < Einx.Extracted.arangeDtypeBits ∧ (prod shape : Int) < 2 ^ (Einx.Extracted.arangeDtypeBits - 1) := by
  have hw := extracted_index_dtype_wide.1
  have hn : (2 : Nat) ^ 31 ≤ 2 ^ (Einx.Extracted.arangeDtypeBits - 1) := Nat.pow_le_pow_right (by decide) (by omega)
  have hn' := Int.ofNat_le.mpr hn
  rw [Int.natCast_pow, Int.natCast_pow] at hn'
  exact ⟨by omega, Int.lt_of_lt_of_le h hn'⟩

/-- The other half is **not** guaranteed by the code: coordinates given as int8 for a 20×20 target, coordinates
(10, 5): every coordinate fits int8, the row-major address 205 does not; the product `10 * 20` wraps to `-56`
and the wrapped sum is `-51` (numpy then reads element `400 - 51 = 349`).  The call on the real code:
`einx.get_at("[b c], p [2] -> p", x, int8 coordinates)`. -/
theorem narrow_coordinate_dtype_wraps :
    Einx.Extracted.ravelKernel [10, 5] [20, 20] = [200, 5] ∧ ravel [20, 20] [10, 5] = 205
    ∧ wrappedSum 8 (Einx.Extracted.ravelKernel [10, 5] [20, 20]) = -51
    ∧ ¬ IndexDtypeOK 32 8 [20, 20] := by
  refine ⟨by decide, by decide, by decide, ?_⟩
  intro h
  have := h.2.2.2
  simp [prod] at this

/-- Non-vacuity: the obligation is met by int32 ranges and int16 coordinates for a 100×100 target, and the conclusion
is the expected address. -/
example : IndexDtypeOK 32 16 [100, 100] ∧ Valid [100, 100] [99, 99]
    ∧ wrappedSum 16 (Einx.Extracted.ravelKernel [99, 99] [100, 100]) = 9999 := by
  refine ⟨⟨by decide, by decide, by simp [prod], by simp [prod]⟩, by decide, by decide⟩

/-- Non-vacuity of `index_arith_exact` at the boundary: 127 fits int8, 128 does not. -/
example : wrappedSum 8 [100, 27] = 127 ∧ wrappedSum 8 [100, 28] = -128 := by decide

end Einx.Update
