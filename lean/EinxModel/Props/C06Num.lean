import EinxModel.Proofs.CacheNumHash
/-!
C06, third property file — CPython's numeric hash.  `Cache/Hash.lean:numHash` (used by `pyHash`, hence by `pyEq_hash`,
`key_hit_iff_eq`, …) is the specification "sign · (|value| mod 2^61-1), -1 ↦ -2".  Here the algorithms CPython runs
(`Cache/NumHash.lean`: `long_hash` on 30-bit digits, `_Py_HashDouble` on the `frexp` mantissa in chunks of 28 bits, both
with the 61-bit rotation written with the C bit operations) are proved equal to it, for **all** integers and **all**
dyadic rationals of the value universe.  Tie: the driver request `numhash` evaluates `hashInt` / `hashDouble` / `numHash`
and the harness compares each with CPython's `hash` on every generated number (`tools/props/c06.py`).
-/
namespace Einx.Cache.NumHash
open Einx.Cache

/-- **`long_hash` is the specification**: for every integer `n` (any number of 30-bit digits), the digit loop with the
C rotation, the conditional subtraction, the sign and the `-1 ↦ -2` rule gives `numHash` of the value `n`. -/
theorem hashInt_eq_numHash (n : Int) : hashInt n = numHash ⟨n, 0⟩ := by
  obtain ⟨_, h⟩ := longLoop_digits n.natAbs
  have hP : hashModulus = P := rfl
  simp only [hashInt, numHash, h, hP, Nat.zero_mod, Nat.sub_zero, Nat.mod_self, Nat.pow_zero, Nat.mul_one, Nat.mod_mod]

/-- Non-vacuity / test on instances (evaluation): one, two and three digits, both signs, the `-1 ↦ -2` rule, the modulus. -/
example : hashInt 5 = 5 ∧ hashInt (-1) = -2 ∧ hashInt (2 ^ 61 - 1) = 0 ∧ hashInt (2 ^ 61) = 1 ∧ hashInt (-(2 ^ 61)) = -2 ∧
    hashInt (2 ^ 64 + 3) = 11 ∧ digits30 (2 ^ 64 + 3) = [3, 0, 16] := by
  refine ⟨?_, ?_, ?_, ?_, ?_, ?_, ?_⟩ <;> decide +kernel

/-- **`_Py_HashDouble` is the specification**: for every dyadic rational `d.num / 2^d.exp` of the value universe (every
finite double is one), `frexp`, the 28-bit mantissa loop, the final rotation by `e mod 61` (with CPython's case split for
negative `e`), the sign and the `-1 ↦ -2` rule give `numHash d`.  No hypothesis: also values whose numerator has more than
53 bits (not doubles) satisfy the equation. -/
theorem hashDouble_eq_numHash (d : Dy) : hashDouble d = numHash d := by
  obtain ⟨h1, h2⟩ := dblLoop_spec (bitLen d.num.natAbs) d.num.natAbs 0 ((bitLen d.num.natAbs : Int) - (d.exp : Int))
    (lt_two_pow_bitLen _) P_pos
  have e1 : (bitLen d.num.natAbs : Int) - (d.exp : Int) - (bitLen d.num.natAbs : Int) = -(d.exp : Int) := by omega
  have e2 : ((-(d.exp : Int)) % 61).toNat = (61 - d.exp % 61) % 61 := by omega
  rw [Nat.zero_mul, Nat.zero_add, e1] at h2
  simp only [hashDouble, numHash]
  -- `r` = the accumulator and the exponent after the mantissa loop; `h2` says what they stand for
  generalize dblLoop d.num.natAbs (bitLen d.num.natAbs) 0 ((bitLen d.num.natAbs : Int) - (d.exp : Int)) = r at h1 h2 ⊢
  unfold pw at h2
  rw [e2] at h2
  have hk : finalShift r.2 ≤ 61 := by rw [finalShift_eq]; omega
  have hx : rotl r.1 (finalShift r.2) = (d.num.natAbs % hashModulus * 2 ^ ((61 - d.exp % 61) % 61)) % hashModulus := by
    rw [(rotl_spec _ _ h1 hk).2, finalShift_eq, show hashModulus = P from rfl, Nat.mod_mul_mod]
    exact h2
  rw [hx]

/-- **`hash(n) == hash(float(n))`** for every integer `n` – in particular for `|n| < 2^53`, where `float(n)` is exact in
IEEE double precision: the two different algorithms CPython runs for `int` and `float` agree on integral values. -/
theorem int_float_hash_agree (n : Int) : hashInt n = hashDouble (ofInt n) := by
  rw [hashInt_eq_numHash, hashDouble_eq_numHash]; rfl

theorem fix_ne (s : Int) : (if (s == -1) = true then (-2 : Int) else s) ≠ -1 := by
  split
  · decide
  · rename_i h; intro h2; rw [h2] at h; exact h (by decide)

/-- `-1` is reserved for errors: no number hashes to it, and `hash(-1) == hash(-1.0) == -2`. -/
theorem hash_never_minus_one (n : Int) (d : Dy) : hashInt n ≠ -1 ∧ hashDouble d ≠ -1 ∧ hashInt (-1) = -2 ∧ hashDouble (ofInt (-1)) = -2 := by
  refine ⟨?_, ?_, by decide +kernel, by rw [← int_float_hash_agree]; decide +kernel⟩
  · unfold hashInt; exact fix_ne _
  · unfold hashDouble; exact fix_ne _

/-- **The hash CPython computes for a number of any kind is `numHash`** (what `pyHash`, and with it `pyEq_hash`, use):
`int` / `bool` / numpy integer kinds through `long_hash`, floating kinds through `_Py_HashDouble`. -/
theorem hashNum_eq_numHash (k : NumKind) (d : Dy) : hashNum k d = numHash d := by
  unfold hashNum
  split
  · exact hashDouble_eq_numHash d
  · split
    · rename_i h
      obtain ⟨n, e⟩ := d
      simp only at h
      subst h
      exact hashInt_eq_numHash n
    · exact hashDouble_eq_numHash d

/-- Non-vacuity / test on instances (evaluation): `0.5`, `-2.5`, `2^61` as a float, a 53-bit odd integer, `3/8`. -/
example : hashDouble ⟨1, 1⟩ = 2 ^ 60 ∧ hashDouble ⟨-5, 1⟩ = -(2 ^ 60 + 2) ∧ hashDouble ⟨2 ^ 61, 0⟩ = 1 ∧
    hashDouble ⟨2 ^ 53 - 1, 0⟩ = 2 ^ 53 - 1 ∧ hashDouble ⟨3, 3⟩ = 3 * 2 ^ 58 ∧ hashInt (2 ^ 53 - 1) = hashDouble (ofInt (2 ^ 53 - 1)) := by
  refine ⟨?_, ?_, ?_, ?_, ?_, ?_⟩ <;> decide +kernel

end Einx.Cache.NumHash
