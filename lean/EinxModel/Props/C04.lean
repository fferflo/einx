import EinxModel.Proofs.CompileCorrect
import EinxModel.Proofs.FuseCompile
import EinxModel.Extracted.Compile
/-!
C04 — generated source is a faithful, self-contained compilation of the traced graph.

The property theorems and what only they use: the lemmas on the name generator (`nextName_not_refused`, `assignNames_names_ok`),
`fuse_entry`, the example graphs (`d6Graph`, `flatGraph`, `chainGraph`, `liveGraph`, `nestGraph`) and the functions the examples on them
evaluate (`usageOf`, `opsSummary`, `fuseSummary`, `textSummary`, `ctxOf`, `fixedUCfg`); all other helper lemmas live in
`Proofs/Compile*.lean` and `Proofs/Fuse*.lean`.  The model (`Compile/{Syntax,Graph,Gen}.lean`,
with the semantics `execBlock` / `evalGraph`, `Graph.WF` and `fuseSafe` of `Compile/Sem.lean`) is the one the driver executes (kind `compile`); `Extracted.compile*` is regenerated from `/repo` on every run.

* `emit_order`, `emit_once`      – statements appear in traversal order; every application that is a call of an opaque
                                    callable, an in-place call, an item update, an assert or an import yields exactly one.
* `fuse_sound`                    – sharing names between variables under the interference condition `fuseSafe`
                                    (computed by the driver for every compiled graph) preserves trace and result
                                    (`block_rel`, `Proofs/FuseSound.lean`).
* `value_computed_once_*`         – obligation over the extracted usage switches (D6) with a decided witness.
* `compile_correct_wf`            – universal: for every `Graph.WF` graph (decidable) on which `compile` succeeds, executing the
                                    emitted statements = `evalGraph` (event trace and result); nested graphs and in-place nodes
                                    included; no per-graph premise.  `_wf_fused`: lifted through the generator's name groups under
                                    `fuseSafe`.
* `fuse_text_safe`, `fuse_text_sound` – the same in text order, block by block (`fuseSafe` and `entrySafe` of every block's text:
                                    the driver's verdict `fuse_safe`), and its consequence for the execution of a block.
* `fuse_produces_safe`            – the name groups computed by the generator's `fuse` loop (with both filters, as extracted) are
                                    `fuseSafe` on the emitted program, for every `Graph.WF` graph on which `compile` succeeds;
                                    `compile_correct_wf_fused_total` / `compile_correct_extracted`: the fused statement without
                                    per-graph premise.  Helper lemmas: `Proofs/Fuse{Sound,Safe,Loop,All,Emit,Scope,Text,Compile}.lean`.
* `compile_correct`               – the simulation for every context and traversal, under `matched` and `liveIn program = []`
                                    (also the terms of all cached values); `_flat`: no premise without nested graphs; `_compiled`:
                                    for `compile`; `_fused`: through any `fuseSafe` renaming (`fuse_sound`).
* `emit_closed`, `compile_closed` – `liveIn program = []` from `noSelfRef` / from `Graph.WF`.
* `visitOrder_wellBracketed`, `visitOrder_noSelfRef`, `visitOrder_nodup`, `emit_once_wf` – the traversal premises (`matched`,
                                    `noSelfRef`, `Nodup`) hold for every graph / every `Graph.WF` graph.
  Helper lemmas: `Proofs/CompileCorrect.lean`, `Proofs/CompileOrder.lean`, `Proofs/CompileClosed.lean`.
-/
namespace Einx.Compile

/-! ### Obligations regenerated from the source -/

/-- The allow-list of builtins whose calls may be inlined is the modelled one. -/
theorem extracted_allow_inline : Einx.Extracted.compileAllowInline = allowInlineFunctions := rfl

/-- The `fuse` loop excludes input variables that are used in a later statement or in another block. -/
theorem extracted_fuse_filters : Einx.Extracted.compileFCfg.checkLater = true ∧ Einx.Extracted.compileFCfg.checkBlock = true := by decide

/-- **Obligation for "every value is computed once"**: the usage counter is incremented for every use (before the
visited check), uses of an alias count for the aliased value, and aliases stay inlined.  On a tree where
`get_usages` returns before counting, this fails (D6); `d6_witness` below is the replay witness. -/
theorem value_computed_once_obligation :
    Einx.Extracted.compileUCfg.countFirst = true ∧ Einx.Extracted.compileUCfg.outputsRecursed = false ∧
    Einx.Extracted.compileUCfg.aliasForward = true ∧ Einx.Extracted.compileUCfg.forceInlineWins = true := by decide

/-- **Obligation for "the text contains the compiled object"**: `compile` binds a result that is an expression
(a graph collapsed to the function it calls) to a name.  Fails on a tree where the text of such a graph is only its
imports (D7). -/
theorem self_contained_obligation : Einx.Extracted.compileFCfg.bindResult = true := by decide

/-- **Obligation for "the text is executable"**: the generator of fresh variable names refuses every lowercase Python
keyword and every name that a variable carries as a hint (`np`, `op`, `const1`, …).  On a tree without the filter the
45th generated name is `as` and the text of any operation with 45 variables does not compile (fixed in /repo). -/
theorem extracted_names_filtered :
    Einx.Extracted.compileFCfg.skipReserved = true ∧
    ∀ k ∈ ["and", "as", "assert", "async", "await", "break", "class", "continue", "def", "del", "elif", "else", "except", "finally",
           "for", "from", "global", "if", "import", "in", "is", "lambda", "nonlocal", "not", "or", "pass", "raise", "return", "try",
           "while", "with", "yield"], k ∈ Einx.Extracted.compileFCfg.nameKeywords := by decide +kernel

/-- `next(names)` never yields a refused word, and the generator advances. -/
theorem nextName_not_refused (bad : List String) (fuel i : Nat) (s : String) (j : Nat)
    (h : nextName bad fuel i = some (s, j)) : bad.contains s = false ∧ i < j := by
  induction fuel generalizing i with
  | zero => simp [nextName] at h
  | succ fuel ih =>
    unfold nextName at h
    split at h
    · have := ih (i + 1) h
      exact ⟨this.1, by omega⟩
    · rename_i hb
      simp only [Option.some.injEq, Prod.mk.injEq] at h
      obtain ⟨rfl, rfl⟩ := h
      exact ⟨by simpa using hb, by omega⟩

/-- Every name `assignNames` gives to a group is the group's single hint, or a generated name that is not refused (in
particular, with the extracted filter: no keyword, no hinted name), or the out-of-fuel marker `?` (never observed: the
fuel `bad.length + 1` exceeds the number of refused words). -/
theorem assignNames_names_ok (grp : List Nat) (hints : List (Nat × String)) (bad : List String) :
    ∀ p ∈ assignNames grp hints bad, p.2 ∈ hints.map (·.2) ∨ bad.contains p.2 = false ∨ p.2 = "?" := by
  unfold assignNames
  refine List.foldlRecOn
    (motive := fun (acc : List (Nat × String) × Nat) => ∀ p ∈ acc.1, p.2 ∈ hints.map (·.2) ∨ bad.contains p.2 = false ∨ p.2 = "?")
    _ _ (b := ([], 0)) (fun p hp => nomatch hp) ?_
  intro acc hacc r _ p hp
  -- the new entry is a hint of a member, a name `nextName` handed out, or the marker
  have hnew : ∀ (nm : String), (p ∈ acc.1 ++ [(r, nm)]) → (nm ∈ hints.map (·.2) ∨ bad.contains nm = false ∨ nm = "?") →
      p.2 ∈ hints.map (·.2) ∨ bad.contains p.2 = false ∨ p.2 = "?" := by
    intro nm hp hnm
    rcases List.mem_append.1 hp with hp | hp
    · exact hacc p hp
    · cases List.mem_singleton.1 hp
      exact hnm
  simp only at hp
  split at hp
  · rename_i h hs
    refine hnew h hp (Or.inl ?_)
    obtain ⟨⟨v, h'⟩, hm, hv⟩ := List.mem_filterMap.1 (hs ▸ List.mem_singleton_self h)
    split at hv
    · cases hv
      exact List.mem_map.mpr ⟨(v, h'), hm, rfl⟩
    · cases hv
  · split at hp
    · rename_i nm i hn
      exact hnew nm hp (Or.inr (Or.inl (nextName_not_refused bad _ _ nm i hn).1))
    · exact hnew "?" hp (Or.inr (Or.inr rfl))

/-- Non-vacuity / witness: the 45th candidate of `names()` is the keyword `as`; with the extracted filter `next(names)` skips
it (and a hinted `c`), without a filter it is handed out. -/
example : nameAt 44 = "as" ∧ nextName (badNames Einx.Extracted.compileFCfg [(2, "c")]) 40 44 = some ("at", 46) ∧
          nextName (badNames Einx.Extracted.compileFCfg [(2, "c")]) 40 2 = some ("d", 4) ∧ nextName [] 1 44 = some ("as", 45) := by
  decide +kernel

/-- **Obligation for operator applications**: a unary operator application is emitted inside parentheses, like a binary
one.  Fails on a tree that prints `-(x)`, where a following attribute/item access binds tighter than the operator. -/
theorem unary_operator_obligation : Einx.Extracted.compileUCfg.unaryParens = true := by decide

/-! ### D6 witness: one `GetItem` with three consumers -/

/-- `def op(x): return (x[0], x[0], x[0])` as a traced graph: input tracer 0, `GetItem(0, 0) → 1`, output `(1, 1, 1)`. -/
def d6Graph : Graph :=
  { apps := [.getitem (.var 0) (.lit "0") 1],
    origin := [none, some 0],
    graphs := [{ inputs := [0], output := E.mk .tuple [.var 1, .var 1, .var 1], name := some "op" }],
    top := .gref 0 }

def fixedUCfg : UCfg := { countFirst := true, outputsRecursed := false, aliasForward := true, forceInlineWins := true, unaryParens := true }

/-- Usage count of a tracer as `CodeObject.define` reads it. -/
def usageOf (cfg : UCfg) (g : Graph) (t : Nat) : Option Nat :=
  match usageGet (usageRec g cfg g.fuel g.top {}).counts g.fuel (.var t) with
  | .ok n => some n
  | .error _ => none

/-- (pure operations executed by the emitted statements, operations of the graph, number of variables) -/
def opsSummary (cfg : UCfg) (g : Graph) : Option (Nat × Nat × Nat) :=
  match compile cfg { checkLater := true, checkBlock := true, bindResult := false } g with
  | .ok c => some (progOps c.st.program, refOps g c.order, c.st.vars.length)
  | .error _ => none

/-- With the early return (`UCfg.pinned`) the value with three uses has usage count 1 … -/
theorem d6_witness_count : usageOf UCfg.pinned d6Graph 1 = some 1 ∧ usageOf fixedUCfg d6Graph 1 = some 3 := by decide +kernel

/-- … so the item access is inlined at each of its three uses: the emitted statements (`return (a[0], a[0], a[0])`)
evaluate three operations where the graph has one; with counting before the visited check the value is bound to a
variable (`b = a[0]; return (b, b, b)`) and evaluated once. -/
theorem d6_witness : opsSummary UCfg.pinned d6Graph = some (3, 1, 2) ∧ opsSummary fixedUCfg d6Graph = some (1, 1, 3) := by
  decide +kernel

/-! ### Emission order and "exactly one statement" -/

/-- **emit_order**: the sources of the emitted statements follow the traversal order: they form a sublist of the
visited applications (so the statement of an operand, which is visited first, precedes its consumer's). -/
theorem emit_order (c : Ctx) (order : List Visit) : ∀ (st st' : GState), emitAll c order st = .ok st' →
    ∃ l : List Nat, st'.srcs = st.srcs ++ l ∧ l.Sublist (order.filterMap Visit.src) :=
  emitAll_order c order

/-- **emit_once**: along a traversal without repetitions, every application of a kind that must become a statement
(call of an opaque callable, in-place call, item update, assert, import, constant) has exactly one statement;
applications that are not visited have none. -/
theorem emit_once (c : Ctx) (order : List Visit) : ∀ (st st' : GState), emitAll c order st = .ok st' →
    order.Nodup → ∀ (i : Nat) (a : App), c.g.apps[i]? = some a → a.isStmtKind c.g = true →
    st'.srcs.count i = st.srcs.count i + (if Visit.app i ∈ order then 1 else 0) :=
  emitAll_once c order

/-! ### Name sharing (`fuse`) -/

/-- **fuse_sound**: let `ρ` send every variable to the representative of its name group.  If the block satisfies the
interference condition (`fuseSafe`: when a statement writes the shared name of its output variable, no *other* variable
with that name is live afterwards) and the two initial states agree on the variables that are live on entry, then the
renamed block produces the same event trace and the same result.  (`ρ` may merge variables only where one is dead;
variables of other blocks that are read in this block are live on entry and therefore keep their own names.) -/
theorem fuse_sound (ρ : Nat → Nat) (l : List Stmt) (x x' : XState)
    (hsafe : fuseSafe ρ l = true)
    (henv : ∀ v ∈ liveIn l, x'.env (ρ v) = x.env v) (htrace : x'.trace = x.trace) (hret : x'.ret = x.ret) :
    (execBlock x' (l.map (Stmt.rename ρ))).trace = (execBlock x l).trace ∧
    (execBlock x' (l.map (Stmt.rename ρ))).ret = (execBlock x l).ret := by
  have := block_rel ρ l x x' hsafe ⟨henv, htrace, hret⟩
  exact ⟨this.trace, this.ret⟩

/-- Entry states that agree exist whenever distinct live-in variables keep distinct names (`entrySafe`). -/
theorem fuse_entry (ρ : Nat → Nat) (l : List Stmt) (env : Env) (hentry : entrySafe ρ l = true) :
    ∃ env' : Env, ∀ v ∈ liveIn l, env' (ρ v) = env v := by
  refine ⟨fun n => match (liveIn l).find? (fun v => ρ v == n) with | some v => env v | none => unbound n, ?_⟩
  intro v hv
  have hex : ∃ w, (liveIn l).find? (fun w => ρ w == ρ v) = some w := by
    cases hf : (liveIn l).find? (fun w => ρ w == ρ v) with
    | some w => exact ⟨w, rfl⟩
    | none =>
      have := List.find?_eq_none.1 hf v hv
      simp at this
  obtain ⟨w, hw⟩ := hex
  simp only [hw]
  have hwmem := List.mem_of_find?_eq_some hw
  have hwρ : ρ w = ρ v := by simpa using List.find?_some hw
  simp only [entrySafe, List.all_eq_true, Bool.or_eq_true, beq_iff_eq, bne_iff_ne] at hentry
  rcases hentry w hwmem v hv with h | h
  · rw [h]
  · exact absurd hwρ h

/-! ### `compile_correct`: executing the emitted statements = evaluating the graph -/

/-- **compile_correct_flat** (graphs without nested sub-graphs, statements as emitted, before name sharing).
For *every* context `c` (graph, usage counts, scopes, switches) and *every* traversal `order` that consists of
applications only (no `enter`/`exit` of a nested graph: `order.all Visit.isApp`, decidable): if the generator succeeds
on it (`emitAll c order {} = .ok st`), then the node-by-node reference evaluation `evalGraph` along the same order
succeeds too, and executing the emitted statements from the entry environment produces
  * the same event trace (calls of opaque callables, in-place calls, item updates, asserts, in order),
  * the same result, and
  * for every value `x` (in particular the compiled object `g.top`), the expression the generator has for `x`, read in
    the final environment, is the term the reference memoised for `x`.
In-place calls and item updates are covered (no side condition).  No well-formedness premise on the graph is needed:
success of `emitAll` is the only hypothesis. -/
theorem compile_correct_flat (c : Ctx) (order : List Visit) (st : GState)
    (hflat : order.all Visit.isApp = true) (h : emitAll c order {} = .ok st) :
    ∃ r, evalGraph c.g c.cfg.unaryParens order = .ok r ∧
      r.trace = (execBlock { env := unbound } st.program).trace ∧
      r.ret = (execBlock { env := unbound } st.program).ret ∧
      ∀ x, convTop r.vals x = (convTop st.cache x).map (E.subst (execBlock { env := unbound } st.program).env) := by
  -- without nested graphs the traversal is bracketed and no graph is ever open, so the program is closed and every cached
  -- variable is bound: the general theorem applies, and `σ` may be replaced by the final environment
  obtain ⟨hm, hns, hpend⟩ := flat_order c.g order hflat
  obtain ⟨hclosed, hCL⟩ := emit_closed_of_noSelfRef c order st h hns
  rw [hpend] at hCL
  obtain ⟨r, σ, en, href, hinv, -⟩ := emitAll_correct c order st h (hm []) hclosed
  refine ⟨r, href, hinv.sim.trace, hinv.sim.ret, fun x => ?_⟩
  have hσ : mapσ σ st.cache = mapσ (execBlock { env := unbound } st.program).env st.cache := by
    refine List.map_congr_left (fun p hp => ?_)
    rw [E.subst_congr σ _ p.2 (fun v hv => (hinv.agree v ((hCL p.1 p.2 hp v hv).resolve_right (by simp))).1)]
  rw [hinv.sim.vals, hσ, convTop_mapσ]

/-- **compile_correct** (all graphs, nested sub-graphs included; statements as emitted, before name sharing).
For *every* context `c` and *every* traversal `order` in which each `exit g` is preceded by an `enter g` (`matched`,
decidable; proved for every traversal of the generator in `visitOrder_matched`): if the generator succeeds
(`emitAll c order {} = .ok st`) and the emitted program is closed — no variable is read before a statement has bound it
(`liveIn st.program = []`, decidable on the output; it excludes reading the function variable of a nested graph inside
its own body, i.e. a graph that contains itself) — then `evalGraph` succeeds along the same order, and executing the
emitted statements from the entry environment yields the same event trace and the same result; moreover every cached
expression whose variables are bound reads, in the final environment, as the term the reference memoised.
In-place calls and item updates are covered without a side condition (events carry terms; an aliased in-place result is
the term of the aliased operand on both sides).  What remains per graph: the decidable premise `liveIn st.program = []`. -/
theorem compile_correct (c : Ctx) (order : List Visit) (st : GState)
    (h : emitAll c order {} = .ok st) (hm : matched order [] = true) (hclosed : liveIn st.program = []) :
    ∃ r, evalGraph c.g c.cfg.unaryParens order = .ok r ∧
      r.trace = (execBlock { env := unbound } st.program).trace ∧
      r.ret = (execBlock { env := unbound } st.program).ret ∧
      ∀ x e, convTop st.cache x = .ok e → (∀ v ∈ e.vars, v ∈ outsOf st.program) →
        convTop r.vals x = .ok (e.subst (execBlock { env := unbound } st.program).env) := by
  obtain ⟨r, σ, en, href, hinv, -⟩ := emitAll_correct c order st h hm hclosed
  refine ⟨r, href, hinv.sim.trace, hinv.sim.ret, ?_⟩
  intro x e hx hv
  rw [hinv.sim.vals, convTop_mapσ, hx]
  exact congrArg Except.ok (E.subst_congr _ _ e (fun v hv' => (hinv.agree v (hv v hv')).1))

/-- **compile_correct_compiled**: the check the driver performs per graph (`ref_ok`, `same_trace`, `same_ret` of
`Driver/Compile.lean`), as a theorem about `compile` itself: for every graph and all switches, if `compile` succeeds and
the emitted program is closed (`liveIn`, decidable), then the reference evaluation along the generator's traversal
succeeds and has the same event trace and result as the execution of the emitted statements.  (`matched` is discharged by
`visitOrder_matched`; the statement that binds the compiled object under `bindResult` is pure.) -/
theorem compile_correct_compiled (cfg : UCfg) (fc : FCfg) (g : Graph) (comp : Compiled)
    (h : compile cfg fc g = .ok comp) (hclosed : liveIn comp.st.program = []) :
    ∃ r, evalGraph g cfg.unaryParens comp.order = .ok r ∧
      r.trace = (execBlock { env := unbound } comp.st.program).trace ∧
      r.ret = (execBlock { env := unbound } comp.st.program).ret := by
  obtain ⟨scopes, order, st, obj, -, ho, he, -, hord, -, -, hst⟩ := compile_ok h
  have hm := visitOrder_matched g order ho
  rw [hord]
  rcases hst with hst | hst
  · rw [hst] at hclosed ⊢
    obtain ⟨r, h1, h2, h3, -⟩ := compile_correct _ order st he hm hclosed
    exact ⟨r, h1, h2, h3⟩
  · -- the statement that binds the compiled object is pure and comes last
    have hp : comp.st.program = st.program ++ [.assign st.vars.length obj false] := by rw [hst, program_push]; rfl
    rw [hp] at hclosed ⊢
    have hcl' : liveIn st.program = [] := by
      apply List.eq_nil_iff_forall_not_mem.2
      intro w hw
      have := (mem_liveIn_append st.program [.assign st.vars.length obj false] w).2 (Or.inl hw)
      rw [hclosed] at this
      cases this
    obtain ⟨r, h1, h2, h3, -⟩ := compile_correct _ order st he hm hcl'
    exact ⟨r, h1, by rw [h2, execBlock_append]; rfl, by rw [h3, execBlock_append]; rfl⟩

/-- **compile_correct_fused**: `compile_correct` lifted through name sharing with `fuse_sound`.  For every renaming `ρ`
of variables (in particular the one computed by the generator's `fuse` loop, `fun v => grp[v]?.getD v`) that satisfies
the interference condition `fuseSafe ρ st.program` (decidable; checked per graph by the driver; that the `fuse` loop
produces such a `ρ` for every well-formed graph is `fuse_produces_safe` below), the renamed statements, executed from *any* entry environment, have the
event trace and the result of the reference evaluation of the graph.  (Statements in emission order; the text hoists
imports to the top of the root block.) -/
theorem compile_correct_fused (c : Ctx) (order : List Visit) (st : GState)
    (h : emitAll c order {} = .ok st) (hm : matched order [] = true) (hclosed : liveIn st.program = [])
    (ρ : Nat → Nat) (hsafe : fuseSafe ρ st.program = true) (env' : Env) :
    ∃ r, evalGraph c.g c.cfg.unaryParens order = .ok r ∧
      r.trace = (execBlock { env := env' } (st.program.map (Stmt.rename ρ))).trace ∧
      r.ret = (execBlock { env := env' } (st.program.map (Stmt.rename ρ))).ret := by
  obtain ⟨r, h1, h2, h3, _⟩ := compile_correct c order st h hm hclosed
  obtain ⟨f1, f2⟩ := fuse_sound ρ st.program { env := unbound } { env := env' } hsafe
    (by intro v hv; rw [hclosed] at hv; simp at hv) rfl rfl
  exact ⟨r, h1, by rw [h2, f1], by rw [h3, f2]⟩

/-- `compile_correct_fused` for `compile` itself, with the name groups `compile` computed. -/
theorem compile_correct_compiled_fused (cfg : UCfg) (fc : FCfg) (g : Graph) (comp : Compiled)
    (h : compile cfg fc g = .ok comp) (hclosed : liveIn comp.st.program = [])
    (hsafe : fuseSafe (fun v => comp.grp[v]?.getD v) comp.st.program = true) (env' : Env) :
    ∃ r, evalGraph g cfg.unaryParens comp.order = .ok r ∧
      r.trace = (execBlock { env := env' } (comp.st.program.map (Stmt.rename (fun v => comp.grp[v]?.getD v)))).trace ∧
      r.ret = (execBlock { env := env' } (comp.st.program.map (Stmt.rename (fun v => comp.grp[v]?.getD v)))).ret := by
  obtain ⟨r, h1, h2, h3⟩ := compile_correct_compiled cfg fc g comp h hclosed
  obtain ⟨f1, f2⟩ := fuse_sound (fun v => comp.grp[v]?.getD v) comp.st.program { env := unbound } { env := env' } hsafe
    (by intro v hv; rw [hclosed] at hv; simp at hv) rfl rfl
  exact ⟨r, h1, by rw [h2, f1], by rw [h3, f2]⟩

/-- The traversal of the generator is well bracketed for every graph (premise `matched` of `compile_correct`). -/
theorem visitOrder_wellBracketed (g : Graph) (order : List Visit) (h : visitOrder g = .ok order) :
    matched order [] = true := visitOrder_matched g order h

/-- **visitOrder_nodup**: the premise `nodup_order` that the driver checks per graph holds for *every* well-formed graph.
`Graph.WF` (decidable, `Compile/Sem.lean`): every tracer is among the registered outputs of its origin; applications are
in topological order (every tracer that an operand leads to — directly, or as the output of a nested-graph operand — has
an earlier origin; this is the order in which `graphcap` numbers applications); outputs of nested graphs mention no graph;
the tracers in the output of a nested graph that an application mentions (among its `operandEs`, where the second clause
reads `genOperands`) have earlier origins.  Without the topological condition the statement is false: a nested graph whose output is the tracer that consumes the
graph is traversed twice by a successful `visit`. -/
theorem visitOrder_nodup (g : Graph) (hwf : g.WF = true) (order : List Visit) (h : visitOrder g = .ok order) :
    order.Nodup := visitOrder_nodup_of_wf g hwf order h

/-- `emit_once` for the generator's own traversal of a well-formed graph (no per-graph `Nodup` premise left). -/
theorem emit_once_wf (c : Ctx) (hwf : c.g.WF = true) (order : List Visit) (ho : visitOrder c.g = .ok order)
    (st' : GState) (h : emitAll c order {} = .ok st') (i : Nat) (a : App) (ha : c.g.apps[i]? = some a)
    (hk : a.isStmtKind c.g = true) :
    st'.srcs.count i = if Visit.app i ∈ order then 1 else 0 :=
  emitAll_once_of_wf c hwf order ho st' h i a ha hk

/-! ### Discharging the premises from the graph -/

/-- **emit_closed**: the premise `liveIn st.program = []` of `compile_correct` follows from a premise on the *input*: along
the traversal, no application mentions a nested graph that is still open and no graph output mentions an open graph
(`noSelfRef`, decidable, `Compile/Sem.lean`).  Then no statement reads a variable before it is bound. -/
theorem emit_closed (c : Ctx) (order : List Visit) (st : GState) (h : emitAll c order {} = .ok st)
    (hns : noSelfRef c.g order [] = true) : liveIn st.program = [] :=
  (emit_closed_of_noSelfRef c order st h hns).1

/-- **visitOrder_noSelfRef**: the generator's traversal of a well-formed graph never mentions a nested graph while it is
open, and closes every graph it opens. -/
theorem visitOrder_noSelfRef (g : Graph) (hwf : g.WF = true) (order : List Visit) (h : visitOrder g = .ok order) :
    noSelfRef g order [] = true ∧ pendAfter order [] = [] := visitOrder_noSelfRef_of_wf g hwf order h

/-- The program `compile` emits for a well-formed graph is closed (including the statement that binds the compiled object). -/
theorem compile_closed (cfg : UCfg) (fc : FCfg) (g : Graph) (comp : Compiled) (hwf : g.WF = true)
    (h : compile cfg fc g = .ok comp) : liveIn comp.st.program = [] :=
  (compile_emitted cfg fc g comp hwf h).closed

/-- **compile_correct_wf** — the universal statement: for *every* graph `g` that satisfies the decidable well-formedness
predicate `Graph.WF` (origins consistent, applications in topological order, nested-graph outputs mention no graph and
their tracers originate before the applications that mention the graph) and
for all switches, if `compile` succeeds then the reference evaluation of `g` along the generator's traversal succeeds,
and executing the emitted statements from the entry environment yields the same event trace and the same result.
No per-graph premise is left (the driver's verdicts `ref_ok`, `same_trace`, `same_ret`, `closed_prog`, `nodup_order`
are consequences of `wf_graph`). -/
theorem compile_correct_wf (cfg : UCfg) (fc : FCfg) (g : Graph) (comp : Compiled) (hwf : g.WF = true)
    (h : compile cfg fc g = .ok comp) :
    ∃ r, evalGraph g cfg.unaryParens comp.order = .ok r ∧
      r.trace = (execBlock { env := unbound } comp.st.program).trace ∧
      r.ret = (execBlock { env := unbound } comp.st.program).ret :=
  compile_correct_compiled cfg fc g comp h (compile_closed cfg fc g comp hwf h)

/-- `compile_correct_wf` lifted through the name groups `compile` computed; the only per-graph premise left is `fuseSafe`
of that renaming on the emitted program. -/
theorem compile_correct_wf_fused (cfg : UCfg) (fc : FCfg) (g : Graph) (comp : Compiled) (hwf : g.WF = true)
    (h : compile cfg fc g = .ok comp)
    (hsafe : fuseSafe (fun v => comp.grp[v]?.getD v) comp.st.program = true) (env' : Env) :
    ∃ r, evalGraph g cfg.unaryParens comp.order = .ok r ∧
      r.trace = (execBlock { env := env' } (comp.st.program.map (Stmt.rename (fun v => comp.grp[v]?.getD v)))).trace ∧
      r.ret = (execBlock { env := env' } (comp.st.program.map (Stmt.rename (fun v => comp.grp[v]?.getD v)))).ret :=
  compile_correct_compiled_fused cfg fc g comp h (compile_closed cfg fc g comp hwf h) hsafe env'

/-! ### The `fuse` loop produces a safe renaming -/

/-- **fuse_produces_safe**: for *every* graph that satisfies `Graph.WF` and for all usage switches, if `compile` succeeds and the
`fuse` loop has its two filters (an input that is used in a later statement, or in another block, is not a candidate:
`extracted_fuse_filters`), then the name groups the loop computed (`comp.grp`, the model of `variableid_to_group` after the loop over
`code.blocks`) satisfy the interference condition `fuseSafe` on the emitted statements (emission order): whenever a statement
writes the shared name of its output variable, no other variable with that name is live afterwards.

Proof (`Proofs/Fuse*.lean`): the emitted program defines every variable at most once (`emitAll_sd`; the `def` of a nested graph
is emitted once because the traversal has no repetitions, `visitOrder_nodup`), reads no variable before its definition
(`emit_closed_of_noSelfRef`), and all its statements lie in blocks the loop visits (`goodBlk_lt`: the scope map only returns
existing scopes); together: `compile_emitted`, of which `compile_closed` is the field `closed`.  Along the loop the invariant `FInv` holds: the members of a name group are linearly
ordered by `Before` (defined earlier, and without reader after the definition of the later one); a merge `fuse(v, o)` happens at
the statement that defines `o`, is the last reader of `v` (filters), the group of `o` is still `{o}` and `v` is the last member of
its group (`FInv.merge`). -/
theorem fuse_produces_safe (cfg : UCfg) (fc : FCfg) (g : Graph) (comp : Compiled) (hwf : g.WF = true)
    (hfilters : fc.checkLater = true ∧ fc.checkBlock = true) (h : compile cfg fc g = .ok comp) :
    fuseSafe (fun v => comp.grp[v]?.getD v) comp.st.program = true := by
  rw [compile_grp h]
  exact fuseAll_safe fc hfilters.1 hfilters.2 comp.st comp.nblocks (compile_emitted cfg fc g comp hwf h)

/-- `fuse_produces_safe` for the switches of the `fuse` loop as they are read from the source on this run. -/
theorem fuse_produces_safe_extracted (cfg : UCfg) (g : Graph) (comp : Compiled) (hwf : g.WF = true)
    (h : compile cfg Einx.Extracted.compileFCfg g = .ok comp) :
    fuseSafe (fun v => comp.grp[v]?.getD v) comp.st.program = true :=
  fuse_produces_safe cfg _ g comp hwf extracted_fuse_filters h

/-- **compile_correct_wf_fused_total**: `compile_correct_wf_fused` without per-graph premise.  For every `Graph.WF` graph and all
usage switches, if `compile` (with a `fuse` loop that has both filters) succeeds, then the emitted statements *with the names the
generator assigned* (variables renamed to the representative of their name group), executed from any entry environment, have the
event trace and the result of the node-by-node reference evaluation of the graph. -/
theorem compile_correct_wf_fused_total (cfg : UCfg) (fc : FCfg) (g : Graph) (comp : Compiled) (hwf : g.WF = true)
    (hfilters : fc.checkLater = true ∧ fc.checkBlock = true) (h : compile cfg fc g = .ok comp) (env' : Env) :
    ∃ r, evalGraph g cfg.unaryParens comp.order = .ok r ∧
      r.trace = (execBlock { env := env' } (comp.st.program.map (Stmt.rename (fun v => comp.grp[v]?.getD v)))).trace ∧
      r.ret = (execBlock { env := env' } (comp.st.program.map (Stmt.rename (fun v => comp.grp[v]?.getD v)))).ret :=
  compile_correct_wf_fused cfg fc g comp hwf h (fuse_produces_safe cfg fc g comp hwf hfilters h) env'

/-- The same for the generator as extracted from the source on this run (all switches of `usage.py`, `define` and the `fuse` loop). -/
theorem compile_correct_extracted (g : Graph) (comp : Compiled) (hwf : g.WF = true)
    (h : compile Einx.Extracted.compileUCfg Einx.Extracted.compileFCfg g = .ok comp) (env' : Env) :
    ∃ r, evalGraph g Einx.Extracted.compileUCfg.unaryParens comp.order = .ok r ∧
      r.trace = (execBlock { env := env' } (comp.st.program.map (Stmt.rename (fun v => comp.grp[v]?.getD v)))).trace ∧
      r.ret = (execBlock { env := env' } (comp.st.program.map (Stmt.rename (fun v => comp.grp[v]?.getD v)))).ret :=
  compile_correct_wf_fused_total _ _ g comp hwf extracted_fuse_filters h env'

/-- **fuse_text_safe**: the interference condition in *text order*, block by block — the verdict `fuse_safe` the driver decides per
graph, as a theorem.  For every `Graph.WF` graph, all usage switches, both filters of the `fuse` loop, and every block `b`: on the text
of the block (comments and hoisted imports first, then the statements of the block in emission order) the generator's name groups
satisfy `fuseSafe` (a statement that writes a shared name is not followed by a read of another variable of that name before its
definition) and `entrySafe` (the variables the block reads from outside — parameters, variables of enclosing blocks, function
variables — have pairwise distinct names). -/
theorem fuse_text_safe (cfg : UCfg) (fc : FCfg) (g : Graph) (comp : Compiled) (hwf : g.WF = true)
    (hfilters : fc.checkLater = true ∧ fc.checkBlock = true) (h : compile cfg fc g = .ok comp) (b : Nat) :
    fuseSafe (fun v => comp.grp[v]?.getD v) ((comp.st.block b).map (·.stmt)) = true ∧
    entrySafe (fun v => comp.grp[v]?.getD v) ((comp.st.block b).map (·.stmt)) = true := by
  rw [compile_grp h]
  exact fuseAll_text_safe fc hfilters.1 hfilters.2 comp.st comp.nblocks (compile_emitted cfg fc g comp hwf h) b

/-- **fuse_text_sound**: consequently (`fuse_sound`, `fuse_entry`) the text of every block, with the names the generator assigned,
behaves like the text with one name per variable: for every state `x` on entry of the block there is an entry environment for the
renamed block (the values of the variables that are live on entry, under their shared names) from which it produces the same
event trace and the same result. -/
theorem fuse_text_sound (cfg : UCfg) (fc : FCfg) (g : Graph) (comp : Compiled) (hwf : g.WF = true)
    (hfilters : fc.checkLater = true ∧ fc.checkBlock = true) (h : compile cfg fc g = .ok comp) (b : Nat) (x : XState) :
    ∃ env' : Env,
      (execBlock { x with env := env' } (((comp.st.block b).map (·.stmt)).map (Stmt.rename (fun v => comp.grp[v]?.getD v)))).trace
        = (execBlock x ((comp.st.block b).map (·.stmt))).trace ∧
      (execBlock { x with env := env' } (((comp.st.block b).map (·.stmt)).map (Stmt.rename (fun v => comp.grp[v]?.getD v)))).ret
        = (execBlock x ((comp.st.block b).map (·.stmt))).ret := by
  obtain ⟨hs, he⟩ := fuse_text_safe cfg fc g comp hwf hfilters h b
  obtain ⟨env', henv⟩ := fuse_entry (fun v => comp.grp[v]?.getD v) ((comp.st.block b).map (·.stmt)) x.env he
  exact ⟨env', fuse_sound _ _ x { x with env := env' } hs henv rfl rfl⟩

/-! ### Non-vacuity -/

/-- `a = f(a); a = g(a); return a`: three variables share one name, the block is safe, and the theorem applies. -/
example :
    let l : List Stmt := [.assign 1 (E.mk .call [.lit "f", .var 0]) true, .assign 2 (E.mk .call [.lit "g", .var 1]) true, .return_ (.var 2)]
    let ρ : Nat → Nat := fun _ => 0
    fuseSafe ρ l = true ∧ entrySafe ρ l = true ∧
    (execBlock { env := unbound } (l.map (Stmt.rename ρ))).ret = (execBlock { env := unbound } l).ret := by decide +kernel

/-- Merging a variable that is still needed is rejected: `b = f(a); return (a, b)` with `a`, `b` sharing a name. -/
example :
    fuseSafe (fun _ => 0) [.assign 1 (E.mk .call [.lit "f", .var 0]) true, .return_ (E.mk .tuple [.var 0, .var 1])] = false := by decide +kernel

/-- The D6 witness is a real compilation: traversal, scopes, names and text are all exercised. -/
example : (match compile UCfg.pinned { checkLater := true, checkBlock := true, bindResult := false } d6Graph with
    | .ok c => some (c.order, c.grp, fuseSafe (fun v => c.grp[v]?.getD v) c.st.program)
    | .error _ => none) = some ([.enter 0, .app 0, .exit 0], [0, 1], true) := by decide +kernel

/-- `import numpy as np; a = np.zeros(3); np.fill(a, 1)` with result `a`: a graph without nested sub-graphs that contains an
in-place call whose result aliases `a`. -/
def flatGraph : Graph :=
  { apps := [.import_ "numpy" none (some "np") 0, .getattr (.var 0) "zeros" 1, .call (.var 1) [.lit "3"] [] [] 2,
             .getattr (.var 0) "fill" 3, .callInplace (.var 2) (.var 3) [.var 2, .lit "1"] [] [] 4],
    origin := [some 0, some 1, some 2, some 3, some 4],
    graphs := [],
    top := .var 4 }

/-- The context `compile` builds for a graph. -/
def ctxOf (cfg : UCfg) (g : Graph) : Option Ctx :=
  match getScopes g g.fuel with
  | .ok scopes => some { g, cfg, counts := (usageRec g cfg g.fuel g.top {}).counts, scopes }
  | .error _ => none

/-- Hypotheses of `compile_correct_flat` on `flatGraph`: the traversal has five applications, `emitAll` succeeds and
emits three statements (one of them the in-place call). -/
example : (match ctxOf fixedUCfg flatGraph, visitOrder flatGraph with
    | some c, .ok order => (match emitAll c order {} with
      | .ok st => some (order.all Visit.isApp, order.length, st.program.length, (execBlock { env := unbound } st.program).trace.length)
      | .error _ => none)
    | _, _ => none) = some (true, 5, 3, 2) := by decide +kernel

/-- Hypotheses of `compile_correct` / `compile_correct_compiled(_fused)` on the nested D6 graph and on `flatGraph`:
`compile` succeeds, the traversal is bracketed, the program is closed and the generator's name groups are `fuseSafe`. -/
example : (match compile UCfg.pinned { checkLater := true, checkBlock := true, bindResult := false } d6Graph with
    | .ok c => some (matched c.order [], liveIn c.st.program, fuseSafe (fun v => c.grp[v]?.getD v) c.st.program, c.st.program.length)
    | .error _ => none) = some (true, [], true, 3) := by decide +kernel

example : (match compile fixedUCfg { checkLater := true, checkBlock := true, bindResult := true } flatGraph with
    | .ok c => some (matched c.order [], liveIn c.st.program, fuseSafe (fun v => c.grp[v]?.getD v) c.st.program, c.st.program.length)
    | .error _ => none) = some (true, [], true, 3) := by decide +kernel

/-- The premise `liveIn … = []` is not vacuous either way: a program that reads a variable no statement has bound
is rejected. -/
example : liveIn [.return_ (.var 0), .def_ 0 [] 0 0] = [0] := by decide +kernel

/-- Both example graphs are well-formed (premise of `visitOrder_nodup`), and a graph that is consumed by its own output is not. -/
example : d6Graph.WF = true ∧ flatGraph.WF = true := by decide +kernel

example : ({ apps := [.call (.lit "f") [.gref 0] [] [] 0], origin := [some 0],
             graphs := [{ inputs := [], output := .var 0, name := none }], top := .var 0 } : Graph).WF = false := by decide +kernel

/-- Hypotheses of `emit_closed`/`compile_correct_wf` on the nested D6 graph: well-formed, `compile` succeeds, and the
traversal mentions no open graph. -/
example : d6Graph.WF = true ∧ (match compile fixedUCfg { checkLater := true, checkBlock := true, bindResult := true } d6Graph with
    | .ok c => some (noSelfRef d6Graph c.order [], pendAfter c.order [], c.st.program.length)
    | .error _ => none) = some (true, [], 4) := by decide +kernel

/-! Non-vacuity of `fuse_produces_safe`: the loop merges variables, across a parameter, and the filters are needed. -/

/-- `import numpy as np; a = np.zeros(3); a = np.exp(a)`: the result of `zeros` is dead when `exp` is called. -/
def chainGraph : Graph :=
  { apps := [.import_ "numpy" none (some "np") 0, .getattr (.var 0) "zeros" 1, .call (.var 1) [.lit "3"] [] [] 2,
             .getattr (.var 0) "exp" 3, .call (.var 3) [.var 2] [] [] 4],
    origin := [some 0, some 1, some 2, some 3, some 4], graphs := [], top := .var 4 }

/-- `a = np.zeros(3); b = np.exp(a); c = np.add(a, b)`: `a` is still needed after `exp`. -/
def liveGraph : Graph :=
  { apps := [.import_ "numpy" none (some "np") 0, .getattr (.var 0) "zeros" 1, .call (.var 1) [.lit "3"] [] [] 2,
             .getattr (.var 0) "exp" 3, .call (.var 3) [.var 2] [] [] 4,
             .getattr (.var 0) "add" 5, .call (.var 5) [.var 2, .var 4] [] [] 6],
    origin := [some 0, some 1, some 2, some 3, some 4, some 5, some 6], graphs := [], top := .var 6 }

/-- `def op(a): a = np.exp(a); a = np.exp(a); return a`: a parameter and two results share one name. -/
def nestGraph : Graph :=
  { apps := [.import_ "numpy" none (some "np") 0, .getattr (.var 0) "exp" 1, .call (.var 1) [.var 5] [] [] 2,
             .call (.var 1) [.var 2] [] [] 3],
    origin := [some 0, some 1, some 2, some 3, none, none],
    graphs := [{ inputs := [5], output := .var 3, name := some "op" }], top := .gref 0 }

/-- Text, name groups and `fuseSafe` verdict of a compilation. -/
def fuseSummary (fc : FCfg) (g : Graph) : Option (String × List Nat × Bool) :=
  match compile { fixedUCfg with attrForceInline := true } fc g with
  | .ok c => some (c.text, c.grp, fuseSafe (fun v => c.grp[v]?.getD v) c.st.program)
  | .error _ => none

/-- The hypotheses of `fuse_produces_safe` are met by compilations in which the loop does merge variables. -/
example : chainGraph.WF = true ∧ fuseSummary { checkLater := true, checkBlock := true, bindResult := true } chainGraph =
    some ("import numpy as np\na = np.zeros(3)\na = np.exp(a)", [0, 1, 1], true) := by decide +kernel

example : nestGraph.WF = true ∧ fuseSummary { checkLater := true, checkBlock := true, bindResult := true } nestGraph =
    some ("import numpy as np\ndef op(a):\n    a = np.exp(a)\n    a = np.exp(a)\n    return a", [0, 1, 2, 1, 1], true) := by decide +kernel

/-- The hypothesis on the filters cannot be dropped: without the later-use filter the loop merges `a` into the result of `exp`
although `a` is read afterwards (`a = np.exp(a); b = np.add(a, a)`), and the groups are not `fuseSafe`. -/
example : liveGraph.WF = true ∧
    fuseSummary { checkLater := true, checkBlock := true, bindResult := true } liveGraph =
      some ("import numpy as np\na = np.zeros(3)\nb = np.exp(a)\nc = np.add(a, b)", [0, 1, 2, 3], true) ∧
    fuseSummary { checkLater := false, checkBlock := true, bindResult := true } liveGraph =
      some ("import numpy as np\na = np.zeros(3)\na = np.exp(a)\nb = np.add(a, a)", [0, 1, 1, 3], false) := by decide +kernel

/-- `fuse_text_safe` on the nested example: the inner block (`a = np.exp(a); a = np.exp(a); return a` with the parameter `a` live on
entry) and the root block are safe in text order; without the later-use filter the root block of `liveGraph` is not. -/
def textSummary (fc : FCfg) (g : Graph) : Option (List (Bool × Bool)) :=
  match compile { fixedUCfg with attrForceInline := true } fc g with
  | .ok c => some ((List.range c.nblocks).map (fun b =>
      (fuseSafe (fun v => c.grp[v]?.getD v) ((c.st.block b).map (·.stmt)), entrySafe (fun v => c.grp[v]?.getD v) ((c.st.block b).map (·.stmt)))))
  | .error _ => none

example : textSummary { checkLater := true, checkBlock := true, bindResult := true } nestGraph = some [(true, true), (true, true)] ∧
    textSummary { checkLater := true, checkBlock := true, bindResult := true } liveGraph = some [(true, true)] ∧
    textSummary { checkLater := false, checkBlock := true, bindResult := true } liveGraph = some [(false, true)] := by decide +kernel

end Einx.Compile
