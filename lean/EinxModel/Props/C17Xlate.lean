import EinxModel.Proofs.XlateStb
import EinxModel.Proofs.XlateDiag
import EinxModel.Extracted.Stb
/-!
C17 / C01 (tie model ↔ source by regeneration) — the hand-written model of `_squeeze_transpose_broadcast`
and of the numpy wrappers (`Generic/Stb.lean`, about which `stb_size_generic` (C17), `lower_id_correct`
(C01Lower) are proved and which the driver runs for the `stb_model` tie) **equals** the Lean definitions that
`tools/extract/stb.py` translates from the Python source of /repo on every run (`Extracted/Stb.lean`).

An edit of `einx/_src/adapter/_util.py:_squeeze_transpose_broadcast` / `_to_axis_ids` or of
`einx/_src/adapter/numpy/classical_from_numpy.py:reshape / transpose / broadcast_to` changes the regenerated
definitions and breaks the theorem below that mentions it (or, if the edit leaves the translated subset, the
extractor emits a definition under which the theorem is false and reports a lost anchor).

Reading of Python: `Basic/PyPrelude.lean`.  Model types: a flat stage-3 expression is the list of its axes
(`List Ax`), a traced tensor is the tracing state `St`; the three numpy primitives are `St.npReshape`,
`St.npTranspose`, `St.npBroadcastTo` (`Generic/StbPrims.lean`).
-/
namespace Einx.Generic
open Einx.Extracted Einx.Py

/-- `classical_from_numpy.reshape` (inner function), translated from source, is the model's `reshapeW`:
return the operand unchanged iff `tuple(x.shape) == shape`, else one traced `np.reshape`. -/
theorem extracted_reshapeW_eq (s : St) (target : List Nat) : reshapeW s target = Stb.reshape s target := rfl

/-- `classical_from_numpy.transpose` (inner function), translated from source, is the model's `transposeW`:
return the operand unchanged iff `perm == tuple(range(len(perm)))`, else one traced `np.transpose`. -/
theorem extracted_transposeW_eq (s : St) (perm : List Nat) : transposeW s perm = Stb.transpose s perm := rfl

/-- `classical_from_numpy.broadcast_to` (inner function), translated from source, is the model's `broadcastW`. -/
theorem extracted_broadcastW_eq (s : St) (target : List Nat) : broadcastW s target = Stb.broadcastTo s target := rfl

/-- The numpy adapter registers exactly these wrappers around `np.reshape`, `np.transpose`, `np.broadcast_to`
with a `to_tensor` that forwards arrays unchanged (read from `ops.__init__`). -/
theorem extracted_numpy_registration : Stb.numpyRegistration = true := by decide +kernel

/-- `_to_axis_ids` (the loop over `expr.nodes()` with the dict `counts`), translated from source, is the
model's `idsOf`: every axis name paired with the number of earlier occurrences of that name. -/
theorem extracted_idsOf_eq (e : List Ax) : idsOf (names e) = Stb.toAxisIds e := by
  have h := idsStep_fold e [] [] [] (by intro n; simp [dictGetD_nil])
  unfold Stb.toAxisIds idsOf
  simp only [List.nil_append] at h
  rw [← h]
  simp only [if_true]
  rfl

/-- **`_squeeze_transpose_broadcast`, translated from source, is the model's `stb`** (for
`broadcast_to_unitary=False`, the default and the only value `Decomposer.__call__` and `argfind` use): for every
tracing state and all flat input and output expressions the translation returns `(expr_out, tensor)` with the
state the model computes, and raises (`ValueError`) exactly when the model fails.  Covers `squeezeStep` (Python
sets vs list filters), `transposeStep` (set comparison, `list.index` never raising on the intersection),
`broadcastStep`, and through the three theorems above the no-op tests of the numpy wrappers. -/
theorem extracted_stb_eq (s : St) (ein eout : List Ax) :
    Stb.squeezeTransposeBroadcast ein s eout false
      = ((stb s ein eout).mapError (fun _ => "ValueError")).map (fun s' => (eout, s')) := by
  have hsq := squeeze_eq s ein eout
  simp only at hsq
  unfold Stb.squeezeTransposeBroadcast stb
  simp only [← extracted_reshapeW_eq, ← extracted_transposeW_eq, ← extracted_broadcastW_eq, ← extracted_idsOf_eq,
    Bool.true_and, filter_const_true, Bool.not_false, if_true, Bool.false_eq_true, if_false, hsq]
  generalize squeezeStep s ein eout = p
  obtain ⟨ein1, s1⟩ := p
  simp only [transposeStep_eq]
  split
  · rename_i h
    rw [Bool.not_eq_true'] at h
    simp only [h, Bool.false_eq_true, if_false]
    rfl
  · rename_i h
    rw [Bool.not_eq_true', Bool.not_eq_false] at h
    simp only [h, if_true, perm_eq]
    unfold broadcastStep
    simp only [names, decide_eq_true_eq]
    rfl

/-- The same statement read from the model's side: the model's result is the translation's, with the error
message forgotten. -/
theorem extracted_stb_toOption (s : St) (ein eout : List Ax) :
    (stb s ein eout).toOption = (Stb.squeezeTransposeBroadcast ein s eout false).toOption.map (·.2) := by
  rw [extracted_stb_eq]
  cases stb s ein eout <;> rfl

/-- Observable part of a result of the translation: output axis names, result register, traced shape, number
of emitted instructions. -/
def obsStb (r : Except String (List Ax × St)) : String ⊕ (List String × Nat × List Nat × Nat) :=
  match r with
  | .ok p => .inr (names p.1, p.2.reg, p.2.shape, p.2.prog.length)
  | .error e => .inl e

/-- Non-vacuity (the translation computes, it is not the conservative stand-in): `b c a -> a b d` with
lengths (3, 1, 2 | d = 4) squeezes `c`, transposes, reshapes and broadcasts (4 instructions); an input axis
of length 2 that the output does not name raises `ValueError`; and with `broadcast_to_unitary=True` (a path
the hand model does not have) the new axis stays at length 1 and is renamed. -/
example :
    obsStb (Stb.squeezeTransposeBroadcast [⟨"b", 3⟩, ⟨"c", 1⟩, ⟨"a", 2⟩] ⟨0, [3, 1, 2], [], 1⟩ [⟨"a", 2⟩, ⟨"b", 3⟩, ⟨"d", 4⟩] false)
        = .inr (["a", "b", "d"], 4, [2, 3, 4], 4)
      ∧ obsStb (Stb.squeezeTransposeBroadcast [⟨"b", 3⟩, ⟨"c", 2⟩] ⟨0, [3, 2], [], 1⟩ [⟨"b", 3⟩] false) = .inl "ValueError"
      ∧ obsStb (Stb.squeezeTransposeBroadcast [⟨"b", 3⟩] ⟨0, [3], [], 1⟩ [⟨"b", 3⟩, ⟨"d", 4⟩] true)
        = .inr (["b", "unnamed."], 1, [3, 1], 1) := by decide +kernel

/-- Non-vacuity of `extracted_idsOf_eq`: repeated names are numbered. -/
example : Stb.toAxisIds [⟨"a", 2⟩, ⟨"b", 3⟩, ⟨"a", 2⟩, ⟨"a", 5⟩] = [("a", 0), ("b", 0), ("a", 1), ("a", 2)] := by decide +kernel

/-! ### `classical_from_numpy.diagonal` (the wrapper around `np.diagonal`; area of the defect D1) -/

/-- The numpy adapter registers `diagonal` as `classical_from_numpy.diagonal(np.diagonal, self.transpose, ...)`:
keyword names `axis1`/`axis2`, `axis_always_last=False` (read from `ops.__init__`). -/
theorem extracted_numpy_diagonal_registration : Stb.numpyDiagonalRegistration = true := by decide +kernel

/-- `canon_axis` (translated from source) on a non-negative axis: the axis itself if it is below the rank,
`ValueError` otherwise (the `axis < 0` branch is not taken). -/
theorem extracted_canonAxis_nonneg (a : Nat) (x : St) :
    Stb.canonAxis (Int.ofNat a) x = if a < x.shape.length then .ok (Int.ofNat a) else .error "ValueError" := by
  unfold Stb.canonAxis
  have h0 : ¬ (Int.ofNat a < Int.ofNat 0) := by simp
  simp only [h0, decide_false, Bool.false_eq_true, if_false, Bool.false_or]
  by_cases h : a < x.shape.length
  · have : ¬ (Int.ofNat a ≥ Int.ofNat x.shape.length) := by
      intro h2; have := Int.ofNat_le.mp h2; omega
    simp only [this, decide_false, Bool.false_eq_true, if_false, h, if_true]
    rfl
  · have : (Int.ofNat a ≥ Int.ofNat x.shape.length) := Int.ofNat_le.mpr (by omega)
    simp only [this, decide_true, if_true, h, if_false]
    rfl

/-- `[canon_axis(a) for a in axes_in]` on non-negative axes. -/
theorem extracted_canonAxis_mapM (x : St) : ∀ l : List Nat,
    (l.map Int.ofNat).mapM (fun a => Stb.canonAxis a x)
      = if l.all (fun a => a < x.shape.length) then .ok (l.map Int.ofNat) else .error "ValueError"
  | [] => rfl
  | a :: l => by
    rw [List.map_cons, List.mapM_cons, extracted_canonAxis_nonneg, extracted_canonAxis_mapM x l]
    by_cases h : a < x.shape.length <;> by_cases h2 : l.all (fun a => a < x.shape.length) = true <;>
      simp [h, h2] <;> rfl

/-- The body of the translated `while len(axes_in) > 1` loop, on a list of non-negative axes with more than one
element, is one iteration of the model (`diagIter`): the two highest axes, the keyword dict, `np.diagonal`, the
new last axis. -/
theorem extracted_diag_body (s : St) (l : List Nat) (h : l.length > 1) :
    (do
      let t_2 ← getNat (slice (l.map Int.ofNat) (some (-2 : Int)) none) 0
      let t_3 ← getNat (slice (l.map Int.ofNat) (some (-2 : Int)) none) 1
      let x ← St.npDiagonalKw s (dictSet (dictSet [] "axis1" t_2) "axis2" t_3)
      (pure (x, slice (l.map Int.ofNat) none (some (-2 : Int)) ++ [Int.ofNat x.shape.length - Int.ofNat 1]) : Except String (St × List Int)))
      = (diagIter s l).map (fun p => (p.1, p.2.map Int.ofNat)) := by
  obtain ⟨a, b, hab⟩ := drop_last_two l h
  unfold diagIter
  rw [slice_suffix2, slice_prefix2, List.length_map, ← List.map_drop, ← List.map_take, hab]
  simp only [List.map_cons, List.map_nil, getNat, List.getElem?_cons_zero, List.getElem?_cons_succ, bind, Except.bind, npDiagonalKw_two]
  cases hd : s.npDiagonal a b with
  | error e => rfl
  | ok s' =>
    have := npDiagonal_rank_pos hd
    simp only [Except.map, pure, Except.pure, ofNat_sub_one _ this, List.map_append, List.map_cons, List.map_nil]

/-- **The inner function of `classical_from_numpy.diagonal`, translated from source, is the model `diagW`**
for all tracing states and all non-negative `axes_in`, `axis_out` (what `Decomposer.__call__` passes), with
identical errors: `ValueError` for an out-of-range axis or a rejected `np.diagonal`, `IndexError` for an empty
`axes_in`.  The bounded `while` never runs out of its fuel `len(axes_in)` on the model's side either
(`diagLoop` is called with the same fuel).  Together with `diag_perm_moves` this pins the D1 fix: the final
permutation is the one that moves the diagonal axis. -/
theorem extracted_diag_eq (s : St) (axesIn : List Nat) (axisOut : Nat) :
    Stb.diagonalInner s (axesIn.map Int.ofNat) (Int.ofNat axisOut) = diagW s axesIn axisOut := by
  unfold Stb.diagonalInner diagW
  simp only [extracted_canonAxis_mapM, extracted_canonAxis_nonneg]
  by_cases h1 : axesIn.all (fun a => a < s.shape.length) = true
  · by_cases h2 : axisOut < s.shape.length
    · simp only [h1, h2, if_true, Bool.not_true, Bool.false_or, decide_true, Bool.false_eq_true, if_false, ok_bind,
        sortedInt_map_ofNat, List.length_map]
      rw [whileFuel_diag _ _ (fun _ _ => rfl) (fun s l h => by dsimp only; exact extracted_diag_body s l h)]
      cases hl : diagLoop (sortedNat axesIn).length s (sortedNat axesIn) with
      | error e => rfl
      | ok p =>
        obtain ⟨s', axes⟩ := p
        cases axes with
        | nil => rfl
        | cons a rest =>
          simp only [Except.map, List.map_cons, getNat, List.getElem?_cons_zero, filter_ne_ofNat, listInsert_ofNat,
            mapM_natOfInt_ofNat, movePerm, bind, Except.bind]
          rfl
    · simp [h1, h2, bind, Except.bind]
  · simp [h1, bind, Except.bind]

/-- **The bounded reading of the `while` loop loses nothing**: with the fuel `len(axes_in)` that the translation (and the
model) uses, the loop never ends with "FuelExhausted" — every iteration shortens `axes_in` by one — so by
`extracted_diag_eq` the translated `diagonalInner` never reports exhausted fuel on non-negative axes either. -/
theorem diag_fuel_sufficient (s : St) (axesIn : List Nat) :
    diagLoop (sortedNat axesIn).length s (sortedNat axesIn) ≠ .error "FuelExhausted" :=
  diagLoop_fuel_sufficient _ _ _ (by omega)

/-- **The diagonal axis is moved, not swapped** (the defect D1 was a swap): the final permutation of the model
(equal to the translation's by `extracted_diag_eq`) has `axisIn` at position `axisOut`, and all other axes keep
their order. -/
theorem diag_perm_moves (n axisIn axisOut : Nat) (hout : axisOut ≤ ((List.range n).filter (fun i => i != axisIn)).length) :
    (movePerm n axisIn axisOut)[axisOut]? = some axisIn
      ∧ (movePerm n axisIn axisOut).eraseIdx axisOut = (List.range n).filter (fun i => i != axisIn) :=
  movePerm_spec n axisIn axisOut hout

/-- Observable part of a traced result: shape and the emitted instructions as number lists
(`1 :: x :: perm` = transpose, `3 :: x :: [a1, a2]` = diagonal). -/
def obsDiag (r : Except String St) : String ⊕ (List Nat × List (List Nat)) :=
  match r with
  | .ok s => .inr (s.shape, s.prog.map (fun i => match i with
      | .transpose x p => 1 :: x :: p
      | .diagonal x a b => [3, x, a, b]
      | _ => [9]))
  | .error e => .inl e

/-- Non-vacuity: the call of D1, `a e a d -> a d e` on shape (2, 3, 2, 4) (in-axes 0 and 2, out-axis 0): one
`np.diagonal(axis1=0, axis2=2)` to shape (3, 4, 2), then the permutation `[2, 0, 1]` that *moves* the diagonal
axis to the front (the swap of D1 would be `[2, 1, 0]`); three in-axes take two diagonals; a negative axis is
canonicalised; an out-of-range axis raises `ValueError`. -/
example :
    obsDiag (Stb.diagonalInner ⟨0, [2, 3, 2, 4], [], 1⟩ [0, 2] 0) = .inr ([2, 3, 4], [[3, 0, 0, 2], [1, 1, 2, 0, 1]])
      ∧ obsDiag (Stb.diagonalInner ⟨0, [2, 2, 5, 2], [], 1⟩ [3, 0, 1] 1) = .inr ([5, 2], [[3, 0, 1, 3], [3, 1, 0, 2]])
      ∧ obsDiag (Stb.diagonalInner ⟨0, [2, 3, 2, 4], [], 1⟩ [0, -2] 0) = .inr ([2, 3, 4], [[3, 0, 0, 2], [1, 1, 2, 0, 1]])
      ∧ obsDiag (Stb.diagonalInner ⟨0, [2, 3, 2, 4], [], 1⟩ [0, 4] 0) = .inl "ValueError" := by decide +kernel

end Einx.Generic
