import EinxModel.Proofs.DenoteGen
import EinxModel.Proofs.DenoteTie
import EinxModel.Proofs.DenoteRename
import EinxModel.Proofs.IR
/-!
C08 — results depend on axis names and positions only as the notation says (equivariance).

All theorems are about the functional form of the loop-notation denotation (`Denote/Fun.lean`:
`cellAt`, `flatPos`, `idCells`, `denoteIdFun`, `denoteElementwiseFun`), which the driver executes
(kind `denote_fun`) next to the loop form of `Denote/Expr.lean`; the harness compares the two on every
generated concatenation-free case (correspondence `denote-fun-vs-loop`).  They hold for all expressions,
axis sizes and assignments (no bounds).  C01 ties einx to the denotation, so they transfer to einx; the
harness (`tools/props/c08.py`) additionally issues the related real calls.

* tie to the loop form `denoteId_fun_agree`, `denoteId_fun_agree_multi` (any number of tensors),
                      `denoteElementwise_fun_agree`
* renaming            `pos_rename`, `denote_rename`, `denote_rename_elementwise`; injective on the names in use only:
                      `denote_rename_on`, `denote_rename_elementwise_on`; for the loop form: `denoteId_rename`,
                      `denoteElementwise_rename`
* parentheses         `pos_flat_is_ravel`, `denote_regroup`, `denote_regroup_reshape`, `denote_regroup_tensor`
* permuting an input  `denote_permute_input` (per assignment), `denote_permute_input_tensor`, `denote_permute_input_expr`
                      (whole tensors, with numpy's transpose plan `planInstr (.transpose x perm)`), `denoteId_permute_input`,
                      `denote_permute_input_elementwise` (one input of an elementwise operation, whole tensors)
* permuting an output `denote_permute_output` (per assignment), `denote_permute_output_tensor`,
                      `denote_permute_output_expr` (whole tensors), `denoteId_permute_output`
* reductions          `denote_reduce_rename` (loop form `Denote.denoteReduce`)
* rearrangements      `position_valid_of_bounded`, `position_determines_leaves`, `id_inverse`, `id_compose`
-/
namespace Einx.C08
open Einx Einx.IR Einx.Denote
open Einx.Order.Fresh (InjOn)

/-! ### The functional form is the loop form -/

/-- **Tie to `Denote/Expr.lean`.**  For a concatenation-free input and output expression the loop form of the
`id` denotation (`Denote.denoteId`, `for` loops in `Except`) and the functional form (`Denote.denoteIdFun`)
succeed on the same operations and return the same symbolic tensors (`okOpt` forgets the text of the
error message).  Multi-tensor and elementwise operations: `denoteId_fun_agree_multi`,
`denoteElementwise_fun_agree` below (and, on every run, the driver-level differential test, kind `denote_fun`,
correspondence `denote-fun-vs-loop`). -/
theorem denoteId_fun_agree (e1 e2 : Expr) (h1 : e1.concatFree = true) (h2 : e2.concatFree = true) :
    okOpt (denoteId [e1] [e2]) = okOpt (denoteIdFun [e1] [e2]) :=
  denoteId_eq_denoteIdFun e1 e2 h1 h2

/-- Non-vacuity: both forms are defined on `a (b c) -> (c a) b`. -/
example :
    let e1 := Expr.list [.axis "a" 2, .flat (.list [.axis "b" 3, .axis "c" 2])]
    let e2 := Expr.list [.flat (.list [.axis "c" 2, .axis "a" 2]), .axis "b" 3]
    e1.concatFree = true ∧ e2.concatFree = true ∧ (okOpt (denoteIdFun [e1] [e2])).isSome = true := by
  decide +kernel

/-! ### Renaming -/

/-- **Positions are invariant under consistent renaming.**  For an injective renaming `ρ` of axis names,
renaming every leaf of a dimension and the assignment leaves the position along the dimension unchanged
(any dimension: flattened, block of a concatenation, …). -/
theorem pos_rename {ρ : String → String} (hρ : Function.Injective ρ) (σ : Assign) (d : Dim) :
    (d.rename ρ).pos (Assign.rename ρ σ) = d.pos σ :=
  Einx.Denote.pos_rename hρ σ d

/-- … hence every cell read through a renamed view under the renamed assignment is unchanged. -/
theorem cellAt_rename_inv {ρ : String → String} (hρ : Function.Injective ρ) (v : List Dim) (s : List Nat) (i : Nat)
    (σ : Assign) : cellAt (Dim.renameL ρ v) s i (Assign.rename ρ σ) = cellAt v s i σ :=
  cellAt_rename hρ v s i σ

/-- **Consistent renaming leaves every result unchanged** (`id`, any number of inputs/outputs): the symbolic
result -- for every output position the input element it holds -- of the renamed operation is *equal* to
that of the original one (including failure). -/
theorem denote_rename {ρ : String → String} (hρ : Function.Injective ρ) (exprsIn exprsOut : List Expr) :
    denoteIdFun (Expr.renameL ρ exprsIn) (Expr.renameL ρ exprsOut) = denoteIdFun exprsIn exprsOut :=
  denoteIdFun_rename hρ exprsIn exprsOut

/-- The same for elementwise operations with any elementary function symbol `f`. -/
theorem denote_rename_elementwise {ρ : String → String} (hρ : Function.Injective ρ) (f : String)
    (exprsIn : List Expr) (exprOut : Expr) :
    denoteElementwiseFun f (Expr.renameL ρ exprsIn) (exprOut.rename ρ) = denoteElementwiseFun f exprsIn exprOut :=
  denoteElementwiseFun_rename hρ f exprsIn exprOut

/-- Swapping two names (the renaming that changes the sort order of the names and, in einx, the `cse.<n>`
numbering). -/
def swapNames (a b : String) (n : String) : String := if n = a then b else if n = b then a else n

theorem swapNames_involutive (a b n : String) : swapNames a b (swapNames a b n) = n := by
  unfold swapNames
  by_cases h1 : n = a
  · by_cases h2 : b = a <;> simp [h1, h2]
  · by_cases h2 : n = b <;> simp [h1, h2]

theorem swapNames_injective (a b : String) : Function.Injective (swapNames a b) := by
  intro x y h
  rw [← swapNames_involutive a b x, h, swapNames_involutive]

/-- Non-vacuity: swapping `a` and `b` in `a b c -> (c a) b` really changes the expressions, and the theorem
applies; the common result is a genuine rearrangement of 12 elements. -/
example :
    let e_in := Expr.list [.axis "a" 2, .axis "b" 3, .axis "c" 2]
    let e_out := Expr.list [.flat (.list [.axis "c" 2, .axis "a" 2]), .axis "b" 3]
    let ρ := swapNames "a" "b"
    denoteIdFun (Expr.renameL ρ [e_in]) (Expr.renameL ρ [e_out]) = denoteIdFun [e_in] [e_out] :=
  denote_rename (swapNames_injective "a" "b") _ _

example :
    let e_in := Expr.list [.axis "a" 2, .axis "b" 3, .axis "c" 2]
    let e_out := Expr.list [.flat (.list [.axis "c" 2, .axis "a" 2]), .axis "b" 3]
    (match denoteIdFun [e_in.rename (swapNames "a" "b")] [e_out.rename (swapNames "a" "b")] with
      | .ok [t] => t.shape == [4, 3] && Cell.beqL (t.data.take 4) [.src 0 0, .src 0 2, .src 0 4, .src 0 6]
      | _ => false) = true := by decide +kernel

/-! ### Parentheses are a reshape -/

/-- **The position of a flattened group is the row-major ravel of its members' positions**, in the
shape of the members' sizes. -/
theorem pos_flat_is_ravel (σ : Assign) (ds : List Dim) :
    (Dim.flat ds).pos σ = (position ds σ).map (ravel (ds.map Dim.size)) :=
  pos_flat σ ds

/-- **Regrouping law (flat index equality).**  Grouping the adjacent root dimensions `mid` of a view into
`(mid)` and reshaping the tensor accordingly (`viewShape` of the grouped view is `… ++ [prod sizes] ++ …`)
addresses the same flat element under every assignment: `ravel (sp ++ [prod sm] ++ sq) … = ravel (sp ++ sm ++ sq) …`. -/
theorem denote_regroup (pre mid post : List Dim) (i : Nat) (σ : Assign) :
    cellAt (pre ++ [Dim.flat mid] ++ post) (viewShape (pre ++ [Dim.flat mid] ++ post)) i σ
      = cellAt (pre ++ mid ++ post) (viewShape (pre ++ mid ++ post)) i σ :=
  cellAt_regroup pre mid post i σ

/-- **Regrouping and numpy's reshape.**  With the IR's plan of `np.reshape`: the cell read through the
grouped view from the reshaped tensor (register `0` of the substitution) is the cell read through the
ungrouped view from the original tensor `x` -- for every in-range assignment. -/
theorem denote_regroup_reshape (pre mid post : List Dim) (shapes : List (List Nat)) (x : Nat) (σ : Assign)
    (hc : Dim.concatFreeL (pre ++ mid ++ post) = true) (hb : BoundedOn σ (Dim.leavesL (pre ++ mid ++ post)))
    (hx : shapes[x]? = some (viewShape (pre ++ mid ++ post))) :
    ∃ plan, planInstr shapes (.reshape x (viewShape (pre ++ [Dim.flat mid] ++ post))) = .ok plan ∧
      (cellAt (pre ++ [Dim.flat mid] ++ post) plan.shape 0 σ).map (subst [⟨plan.shape, plan.cells⟩])
        = cellAt (pre ++ mid ++ post) (viewShape (pre ++ mid ++ post)) x σ := by
  refine ⟨⟨viewShape (pre ++ [Dim.flat mid] ++ post),
    (List.range (prod (viewShape (pre ++ [Dim.flat mid] ++ post)))).map (fun k => Cell.src x k)⟩, ?_, ?_⟩
  · exact (planInstr_reshape_eq hx _).trans (if_pos (prod_viewShape_regroup pre mid post).symm)
  · obtain ⟨p, hp, hv⟩ := position_valid _ hc hb
    have h1 := cellAt_regroup pre mid post 0 σ
    have hlt := ravel_lt hv
    simp only [cellAt, flatPos, hp, Option.map_some] at h1 ⊢
    rw [h1]
    simp only [Option.map_some, subst_src, Option.some.injEq]
    rw [prod_viewShape_regroup]
    simp only [List.getElem?_map, List.getElem?_range hlt, Option.map_some, Option.getD_some]

/-- **Regrouping, whole tensors.**  Grouping adjacent root dimensions of the input expression (and reshaping
the input), or of the output expression (and reshaping the output), leaves the list of output cells of `id`
unchanged. -/
theorem denote_regroup_tensor (pre mid post : List Dim) (i : Nat) (w : List Dim) (sw : List Nat) :
    idCells (pre ++ [Dim.flat mid] ++ post) (viewShape (pre ++ [Dim.flat mid] ++ post)) i w sw
        = idCells (pre ++ mid ++ post) (viewShape (pre ++ mid ++ post)) i w sw
    ∧ idCells w sw i (pre ++ [Dim.flat mid] ++ post) (viewShape (pre ++ [Dim.flat mid] ++ post))
        = idCells w sw i (pre ++ mid ++ post) (viewShape (pre ++ mid ++ post)) :=
  ⟨idCells_regroup_input pre mid post i w sw, idCells_regroup_output w sw i pre mid post⟩

/-- Non-vacuity of the regrouping laws: `a (b c) d` against `a b c d` with equal lengths on different axes
and a length-1 axis; the two denotations towards `d c b a` coincide and are defined. -/
example :
    let a := Dim.axis ⟨"a", 2, false⟩; let b := Dim.axis ⟨"b", 2, false⟩
    let c := Dim.axis ⟨"c", 1, false⟩; let d := Dim.axis ⟨"d", 3, false⟩
    let out := [d, c, b, a]
    (idCells ([a] ++ [Dim.flat [b, c]] ++ [d]) [2, 2, 3] 0 out [3, 1, 2, 2]).isSome = true ∧
    viewShape ([a] ++ [Dim.flat [b, c]] ++ [d]) = [2, 2, 3] ∧ viewShape ([a] ++ [b, c] ++ [d]) = [2, 2, 1, 3] := by
  decide +kernel

/-! ### Permuting the root dimensions of an input: the transposed tensor -/

/-- **Permuting an input expression together with its tensor.**  Let `v'` be the view `v` with its root
dimensions permuted by `perm` (numpy convention: new dimension `j` is old dimension `perm[j]`), and let the
tensor be transposed by numpy with the same `perm` (the IR's plan `planInstr (.transpose x perm)`).  Then
for every in-range assignment the cell read through the permuted view from the transposed tensor
(register `0` of the substitution) equals the cell read through the original view from the original
tensor `x`. -/
theorem denote_permute_input (v v' : List Dim) (perm : List Nat) (shapes : List (List Nat)) (x : Nat) (σ : Assign)
    (hperm : isPermOf perm v.length = true) (hv' : permuteL perm v = some v')
    (hc : Dim.concatFreeL v = true) (hb : BoundedOn σ (Dim.leavesL v))
    (hx : shapes[x]? = some (viewShape v)) :
    ∃ plan, planInstr shapes (.transpose x perm) = .ok plan ∧ plan.shape = viewShape v' ∧
      (cellAt v' plan.shape 0 σ).map (subst [⟨plan.shape, plan.cells⟩]) = cellAt v (viewShape v) x σ := by
  obtain ⟨plan, hplan, hs, _⟩ := transpose_plan_view hperm hv' hx
  have h := cellAt_permute_input [⟨plan.shape, plan.cells⟩] 0 hperm hv' (viewOKL_of_concatFreeL v hc) hb hx hplan rfl
  rw [← hs] at h
  exact ⟨plan, hplan, hs, h⟩

/-- **Permuting the output expression permutes the result.**  Let `w'` be the output view `w` permuted by
`perm`.  For every in-range assignment `σ`, the flat position `k'` that the permuted operation writes under
`σ` is exactly the position at which numpy's transpose (by `perm`) of the original result `r` holds the
element that the original operation writes under `σ` (`src r k`, `k` the original flat position). -/
theorem denote_permute_output (w w' : List Dim) (perm : List Nat) (shapes : List (List Nat)) (r : Nat) (σ : Assign)
    (hperm : isPermOf perm w.length = true) (hw' : permuteL perm w = some w')
    (hc : Dim.concatFreeL w = true) (hb : BoundedOn σ (Dim.leavesL w))
    (hr : shapes[r]? = some (viewShape w)) :
    ∃ plan k k', planInstr shapes (.transpose r perm) = .ok plan ∧ plan.shape = viewShape w' ∧
      flatPos w (viewShape w) σ = some k ∧ flatPos w' (viewShape w') σ = some k' ∧
      plan.cells[k']? = some (.src r k) := by
  obtain ⟨p, hp, hv⟩ := position_valid w hc hb
  obtain ⟨plan, hplan, hs, _, hreads⟩ := transpose_plan_view hperm hw' hr
  obtain ⟨p', hp', _, hcell⟩ := hreads p hv
  have hpos' : position w' σ = some p' := by rw [position_permute hp hw', hp']
  refine ⟨plan, ravel (viewShape w) p, ravel (viewShape w') p', hplan, hs, ?_, ?_, ?_⟩
  · simp [flatPos, hp]
  · simp [flatPos, hpos']
  · rw [← hs]; exact hcell

/-- Non-vacuity of the two permutation theorems: the view `a (b c) d` with sizes 2, (2·1), 2 (equal lengths,
a length-1 axis), the permutation `[2, 0, 1]`, and an in-range assignment. -/
example :
    let a := Dim.axis ⟨"a", 2, false⟩; let b := Dim.axis ⟨"b", 2, false⟩
    let c := Dim.axis ⟨"c", 1, false⟩; let d := Dim.axis ⟨"d", 2, false⟩
    let v := [a, Dim.flat [b, c], d]
    let σ : Assign := [("d", 1), ("b", 1), ("a", 0), ("c", 0)]
    isPermOf [2, 0, 1] v.length = true ∧ (permuteL [2, 0, 1] v).map viewShape = some [2, 2, 2] ∧
      Dim.concatFreeL v = true ∧
      boundedB σ (Dim.leavesL v) = true ∧
      (match cellAt v (viewShape v) 0 σ, cellAt [d, a, Dim.flat [b, c]] [2, 2, 2] 0 σ with
        | some c, some c' => Cell.beq c (.src 0 3) && Cell.beq c' (.src 0 5)
        | _, _ => false) = true := by
  decide +kernel

/-! ### Rearrangements: positions are valid, determine the leaves; inverse and composition -/

/-- The position of a concatenation-free view under an assignment that gives every leaf a value below its
size is a valid multi-index of the view's shape. -/
theorem position_valid_of_bounded {σ : Assign} (v : List Dim) (hc : Dim.concatFreeL v = true)
    (h : BoundedOn σ (Dim.leavesL v)) : ∃ p, position v σ = some p ∧ Valid (viewShape v) p :=
  position_valid v hc h

/-- Two in-range assignments that address the same flat element through a concatenation-free view agree on
every axis of the view (`unravel_ravel`, through all levels of parentheses). -/
theorem position_determines_leaves {σ τ : Assign} (v : List Dim) (hc : Dim.concatFreeL v = true)
    (hs : BoundedOn σ (Dim.leavesL v)) (ht : BoundedOn τ (Dim.leavesL v))
    (he : flatPos v (viewShape v) σ = flatPos v (viewShape v) τ) : AgreeOn σ τ (Dim.leavesL v) :=
  flatPos_inj v hc hs ht he

/-- Every assignment of the iteration space of a view (sizes consistent per name) is in range. -/
theorem iteration_space_in_range {w : List Dim} (hcons : consistentB (Dim.leavesL w) = true) {σ : Assign}
    (hσ : σ ∈ outAssignments w) : BoundedOn σ (Dim.leavesL w) :=
  outAssignments_bounded (consistentB_spec hcons) hσ

/-- **Composition of rearrangements.**  For concatenation-free `e1`, `e2`, `e3` whose axes satisfy
`axes e1 ⊆ axes e2 ⊆ axes e3` (names with sizes; in particular: the same leaf axes), substituting the
symbolic result of `e1 → e2` into the symbolic result of `e2 → e3` gives exactly the symbolic result of
`e1 → e3`: two rearrangements in sequence equal the single rearrangement from the first input to the last
output expression.  (Hypotheses are decidable; that the three denotations are defined excludes repeated
names in outputs and un-broadcastable inputs.) -/
theorem id_compose (e1 e2 e3 : Expr) (T12 T23 T13 : Tensor Cell)
    (hk2 : consistentB (Dim.leavesL (rootDims e2)) = true) (hk3 : consistentB (Dim.leavesL (rootDims e3)) = true)
    (s12 : leavesSubB (Dim.leavesL (rootDims e1)) (Dim.leavesL (rootDims e2)) = true)
    (s23 : leavesSubB (Dim.leavesL (rootDims e2)) (Dim.leavesL (rootDims e3)) = true)
    (h12 : denoteIdFun [e1] [e2] = .ok [T12]) (h23 : denoteIdFun [e2] [e3] = .ok [T23])
    (h13 : denoteIdFun [e1] [e3] = .ok [T13]) :
    substT [T12] T23 = T13 := by
  obtain ⟨_, hc2, c12, hc12, ht12⟩ := denoteIdFun_single h12
  obtain ⟨_, hc3, c23, hc23, ht23⟩ := denoteIdFun_single h23
  obtain ⟨_, _, c13, hc13, ht13⟩ := denoteIdFun_single h13
  simp only [List.cons.injEq, and_true] at ht12 ht23 ht13
  subst ht12 ht23 ht13
  have S12 := leavesSubB_spec s12
  have S23 := leavesSubB_spec s23
  have K3 := consistentB_spec hk3
  have hpt := compose_point (rootDims_concatFree hc2) (consistentB_spec hk2) K3 S12 S23 hc12 hc23
  obtain ⟨hlen13, hall13⟩ := idCells_spec hc13
  obtain ⟨hlen23, _⟩ := idCells_spec hc23
  simp only [substT, Tensor.map, Tensor.mk.injEq, true_and]
  apply List.ext_getElem?
  intro k
  by_cases hk : k < prod (shapeOf e3)
  · obtain ⟨τ, hbτ, hposτ, c, hcτ, hget⟩ := hpt k hk
    obtain ⟨τ', hτ', τ1, hext, hpos', hcell'⟩ := hall13 k hk
    have hb' : BoundedOn τ' (Dim.leavesL (rootDims e3)) := outAssignments_bounded K3 hτ'
    rw [extend_of_bounded _ (hb'.sub (S12.trans S23))] at hext
    simp only [Option.some.injEq] at hext
    subst hext
    have hag : AgreeOn τ' τ (Dim.leavesL (rootDims e3)) :=
      flatPos_inj _ (rootDims_concatFree hc3) hb' hbτ (by rw [shapeOf_eq] at hpos'; rw [hpos', hposτ])
    have := cellAt_congr (rootDims e1) (shapeOf e1) 0 (hag.sub (S12.trans S23))
    have hget' : (c23.map (subst [⟨shapeOf e2, c12⟩]))[k]? = some c := hget
    rw [hget', ← hcell', this, hcτ]
  · have h1 : (c23.map (subst [⟨shapeOf e2, c12⟩])).length ≤ k := by simp [hlen23]; omega
    have h2 : c13.length ≤ k := by omega
    rw [List.getElem?_eq_none h1, List.getElem?_eq_none h2]

/-- **Swapping input and output inverts a rearrangement.**  For concatenation-free `e1`, `e2` over the same
leaf axes (names with sizes), the round trip `e1 → e2 → e1` is the identity on cells: output position `k`
of the round trip holds input element `k` (`symInput 0`). -/
theorem id_inverse (e1 e2 : Expr) (T12 T21 : Tensor Cell)
    (hk1 : consistentB (Dim.leavesL (rootDims e1)) = true) (hk2 : consistentB (Dim.leavesL (rootDims e2)) = true)
    (s12 : leavesSubB (Dim.leavesL (rootDims e1)) (Dim.leavesL (rootDims e2)) = true)
    (s21 : leavesSubB (Dim.leavesL (rootDims e2)) (Dim.leavesL (rootDims e1)) = true)
    (h12 : denoteIdFun [e1] [e2] = .ok [T12]) (h21 : denoteIdFun [e2] [e1] = .ok [T21]) :
    substT [T12] T21 = symInput 0 (shapeOf e1) := by
  obtain ⟨_, hc2, c12, hc12, ht12⟩ := denoteIdFun_single h12
  obtain ⟨_, hc1, c21, hc21, ht21⟩ := denoteIdFun_single h21
  simp only [List.cons.injEq, and_true] at ht12 ht21
  subst ht12 ht21
  have hpt := compose_point (rootDims_concatFree hc2) (consistentB_spec hk2) (consistentB_spec hk1)
    (leavesSubB_spec s12) (leavesSubB_spec s21) hc12 hc21
  obtain ⟨hlen21, _⟩ := idCells_spec hc21
  simp only [substT, Tensor.map, symInput, Tensor.mk.injEq, true_and]
  apply List.ext_getElem?
  intro k
  by_cases hk : k < prod (shapeOf e1)
  · obtain ⟨τ, _, hposτ, c, hcτ, hget⟩ := hpt k hk
    have hget' : (c21.map (subst [⟨shapeOf e2, c12⟩]))[k]? = some c := hget
    rw [hget']
    simp only [cellAt, shapeOf_eq, hposτ, Option.map_some, Option.some.injEq] at hcτ
    simp [List.getElem?_range hk, hcτ]
  · have h1 : (c21.map (subst [⟨shapeOf e2, c12⟩])).length ≤ k := by simp [hlen21]; omega
    rw [List.getElem?_eq_none h1, List.getElem?_eq_none (by simp; omega)]

/-- Non-vacuity of `id_inverse` and `id_compose`: `a (b c) d`, `(d a) c b`, `c (b d a)` with sizes
a=2, b=2, c=1, d=3 (equal lengths on different axes, a length-1 axis): all hypotheses hold, and the
composed tensors are the genuine non-identity rearrangements. -/
example :
    let a := Expr.axis "a" 2; let b := Expr.axis "b" 2; let c := Expr.axis "c" 1; let d := Expr.axis "d" 3
    let e1 := Expr.list [a, .flat (.list [b, c]), d]
    let e2 := Expr.list [.flat (.list [d, a]), c, b]
    let e3 := Expr.list [c, .flat (.list [b, d, a])]
    let L := fun e => Dim.leavesL (rootDims e)
    consistentB (L e1) = true ∧ consistentB (L e2) = true ∧ consistentB (L e3) = true ∧
    leavesSubB (L e1) (L e2) = true ∧ leavesSubB (L e2) (L e1) = true ∧ leavesSubB (L e2) (L e3) = true ∧
    (match denoteIdFun [e1] [e2], denoteIdFun [e2] [e1], denoteIdFun [e2] [e3], denoteIdFun [e1] [e3] with
      | .ok [t12], .ok [t21], .ok [t23], .ok [t13] =>
        Tensor.beq (substT [t12] t21) (symInput 0 (shapeOf e1)) && Tensor.beq (substT [t12] t23) t13
          && !Tensor.beq t12 (symInput 0 (shapeOf e2)) && !Tensor.beq t13 (symInput 0 (shapeOf e3))
      | _, _, _, _ => false) = true := by
  decide +kernel

/-! ### Whole-tensor permutation laws -/

/-- **Permuting an input expression together with its tensor: whole-tensor law.**  Let `v'` be the input view `v`
with its root dimensions permuted by `perm`, and let `plan` be the IR's plan of numpy's `transpose(x, perm)` for a
register of shape `viewShape v`.  For any output view `w` (leaf sizes consistent per name across `v` and `w`,
decidable), the complete list of result cells of `id` through the permuted view, read from the transposed
tensor (substitution of the plan's cells for register `0`), *equals* the complete list of result cells through the
original view from the original register `x` -- including the case that the denotation is undefined. -/
theorem denote_permute_input_tensor (v v' w : List Dim) (sw perm : List Nat) (shapes : List (List Nat)) (x : Nat)
    (hperm : isPermOf perm v.length = true) (hv' : permuteL perm v = some v')
    (hc : Dim.concatFreeL v = true) (hcons : consistentB (Dim.leavesL v ++ Dim.leavesL w) = true)
    (hx : shapes[x]? = some (viewShape v)) :
    ∃ plan, planInstr shapes (.transpose x perm) = .ok plan ∧ plan.shape = viewShape v' ∧
      (idCells v' plan.shape 0 w sw).map (List.map (subst [⟨plan.shape, plan.cells⟩]))
        = idCells v (viewShape v) x w sw := by
  obtain ⟨plan, hplan, hs, _⟩ := transpose_plan_view hperm hv' hx
  refine ⟨plan, hplan, hs, ?_⟩
  have := idCells_permute_input (w := w) (sw := sw) hperm hv' (viewOKL_of_concatFreeL v hc) (consistentB_spec hcons)
    hx hplan
  rw [hs] at this ⊢
  exact this

/-- **The same on expressions (`denoteIdFun`).**  If the root dimensions of `e'` are those of `e` permuted by
`perm`, then feeding the transposed input (`planInstr [shapeOf e] (.transpose 0 perm)`) into `e' -> eo` gives
exactly the symbolic result of `e -> eo` (equality in `Except`, error text included). -/
theorem denote_permute_input_expr (e e' eo : Expr) (perm : List Nat)
    (he : e.concatFree = true) (he' : e'.concatFree = true) (heo : eo.concatFree = true)
    (hperm : isPermOf perm (rootDims e).length = true) (hp : permuteL perm (rootDims e) = some (rootDims e'))
    (hcons : consistentB (Dim.leavesL (rootDims e) ++ Dim.leavesL (rootDims eo)) = true) :
    ∃ plan, planInstr [shapeOf e] (.transpose 0 perm) = .ok plan ∧ plan.shape = shapeOf e' ∧
      (denoteIdFun [e'] [eo]).map (List.map (substT [⟨plan.shape, plan.cells⟩])) = denoteIdFun [e] [eo] := by
  obtain ⟨plan, hplan, hs, hcells⟩ := denote_permute_input_tensor (rootDims e) (rootDims e') (rootDims eo)
    (shapeOf eo) perm [shapeOf e] 0 hperm hp (rootDims_concatFree he) hcons rfl
  refine ⟨plan, hplan, hs, ?_⟩
  rw [denoteIdFun_single_eq e' eo he' heo, denoteIdFun_single_eq e eo he heo, shapeOf_eq e, ← hcells, hs, ← shapeOf_eq e']
  cases idCells (rootDims e') (shapeOf e') 0 (rootDims eo) (shapeOf eo) with
  | none => rfl
  | some cs => rfl

/-- **Permuting the output expression transposes the result: whole-tensor law.**  Let `w'` be the output view `w`
permuted by `perm`.  If both operations are defined, the result of the permuted operation is the IR's transpose
plan (`planInstr [viewShape w] (.transpose 0 perm)`) *run* on the original result: equality of tensors. -/
theorem denote_permute_output_tensor (vi : List Dim) (si : List Nat) (i : Nat) (w w' : List Dim) (perm : List Nat)
    (cs cs' : List Cell)
    (hperm : isPermOf perm w.length = true) (hw' : permuteL perm w = some w')
    (hc : Dim.concatFreeL w = true) (hcons : consistentB (Dim.leavesL w) = true)
    (h : idCells vi si i w (viewShape w) = some cs) (h' : idCells vi si i w' (viewShape w') = some cs') :
    ∃ plan, planInstr [viewShape w] (.transpose 0 perm) = .ok plan ∧
      runPlan symAlg [⟨viewShape w, cs⟩] plan = ⟨viewShape w', cs'⟩ := by
  rw [idCells_eq_genCells] at h h'
  exact genCells_permute_output_run (idX_getInvariant vi si i) hperm hw' hc (consistentB_spec hcons) h h'

/-- **The same on expressions.** -/
theorem denote_permute_output_expr (e eo eo' : Expr) (perm : List Nat) (T T' : Tensor Cell)
    (hperm : isPermOf perm (rootDims eo).length = true) (hp : permuteL perm (rootDims eo) = some (rootDims eo'))
    (hcons : consistentB (Dim.leavesL (rootDims eo)) = true)
    (h : denoteIdFun [e] [eo] = .ok [T]) (h' : denoteIdFun [e] [eo'] = .ok [T']) :
    ∃ plan, planInstr [shapeOf eo] (.transpose 0 perm) = .ok plan ∧ runPlan symAlg [T] plan = T' := by
  obtain ⟨_, hc, cs, hcs, ht⟩ := denoteIdFun_single h
  obtain ⟨_, _, cs', hcs', ht'⟩ := denoteIdFun_single h'
  simp only [List.cons.injEq, and_true] at ht ht'
  subst ht ht'
  exact denote_permute_output_tensor _ _ _ _ _ perm cs cs' hperm hp (rootDims_concatFree hc) hcons hcs hcs'


/-- Non-vacuity of the whole-tensor permutation laws: `a (b c) d` with sizes 2, (2·1), 3 (equal lengths on
different axes, a length-1 axis), `perm = [2, 0, 1]`, output `(d a) c b`.  All hypotheses hold; the result read
through the permuted view differs from the original one cell-wise, and substituting the transposed tensor makes
them equal (input law); the result towards the permuted output `b (d a) c` is the transpose plan run on the
original result and differs from it (output law). -/
example :
    let a := Dim.axis ⟨"a", 2, false⟩; let b := Dim.axis ⟨"b", 2, false⟩
    let c := Dim.axis ⟨"c", 1, false⟩; let d := Dim.axis ⟨"d", 3, false⟩
    let v := [a, Dim.flat [b, c], d]; let v' := [d, a, Dim.flat [b, c]]
    let w := [Dim.flat [d, a], c, b]; let w' := [b, Dim.flat [d, a], c]
    isPermOf [2, 0, 1] v.length = true ∧ (permuteL [2, 0, 1] v).map viewShape = some (viewShape v') ∧
    (permuteL [2, 0, 1] w).map viewShape = some (viewShape w') ∧
    Dim.concatFreeL v = true ∧ Dim.concatFreeL w = true ∧
    consistentB (Dim.leavesL v ++ Dim.leavesL w) = true ∧ consistentB (Dim.leavesL w) = true ∧
    (match planInstr [viewShape v] (.transpose 0 [2, 0, 1]), planInstr [viewShape w] (.transpose 0 [2, 0, 1]) with
      | .ok plan, .ok planw =>
        (match idCells v' plan.shape 0 w (viewShape w), idCells v (viewShape v) 0 w (viewShape w),
            idCells v (viewShape v) 0 w' (viewShape w') with
          | some c', some c, some co =>
            Cell.beqL (c'.map (subst [⟨plan.shape, plan.cells⟩])) c && !Cell.beqL c' c
              && Tensor.beq (runPlan symAlg [⟨viewShape w, c⟩] planw) ⟨viewShape w', co⟩ && !Cell.beqL c co
          | _, _, _ => false)
      | _, _ => false) = true := by
  decide +kernel

/-- The hypotheses of `denote_permute_input_expr` / `denote_permute_output_expr` can be discharged on
`a (b c) d -> (d a) c b` with the input permuted to `d a (b c)` and the output to `b (d a) c`. -/
example :
    let a := Expr.axis "a" 2; let b := Expr.axis "b" 2; let c := Expr.axis "c" 1; let d := Expr.axis "d" 3
    let e := Expr.list [a, .flat (.list [b, c]), d]; let e' := Expr.list [d, a, .flat (.list [b, c])]
    let eo := Expr.list [.flat (.list [d, a]), c, b]
    ∃ plan, planInstr [shapeOf e] (.transpose 0 [2, 0, 1]) = .ok plan ∧ plan.shape = shapeOf e' ∧
      (denoteIdFun [e'] [eo]).map (List.map (substT [⟨plan.shape, plan.cells⟩])) = denoteIdFun [e] [eo] :=
  denote_permute_input_expr _ _ _ [2, 0, 1] (by decide +kernel) (by decide +kernel) (by decide +kernel)
    (by decide +kernel) rfl (by decide +kernel)

/-! ### Permuting one input of an elementwise operation -/

/-- **Permuting one input expression of an elementwise operation together with its tensor: whole-tensor law.**
`ins` are the input views with the shapes of their registers (register `k` holds input `k`); input `j` is the
view `v`.  Replacing it by the permuted view `v'` and transposing register `j` with the IR's transpose plan
(all other registers are the symbolic inputs) leaves the complete list of result cells `f(…)` unchanged,
including undefinedness.  Hypotheses are decidable: every register has the shape of its concatenation-free view
and leaf sizes are consistent per name between every input and the output. -/
theorem denote_permute_input_elementwise (f : String) (ins : List (List Dim × List Nat)) (j : Nat)
    (v v' w : List Dim) (perm sw : List Nat)
    (hj : ins[j]? = some (v, viewShape v))
    (hshape : ins.all (fun p => p.2 == viewShape p.1 && Dim.concatFreeL p.1) = true)
    (hperm : isPermOf perm v.length = true) (hv' : permuteL perm v = some v')
    (hcons : ins.all (fun p => consistentB (Dim.leavesL p.1 ++ Dim.leavesL w)) = true) :
    ∃ plan, planInstr (ins.map (·.2)) (.transpose j perm) = .ok plan ∧ plan.shape = viewShape v' ∧
      (ewCells f (ins.set j (v', viewShape v')) w sw).map (List.map (subst
          ((ins.set j (v', viewShape v')).zipIdx.map (fun q =>
            if q.2 = j then (⟨plan.shape, plan.cells⟩ : Tensor Cell) else symInput q.2 q.1.2))))
        = ewCells f ins w sw := by
  obtain ⟨plan, hplan, hs, _⟩ := transpose_plan_view (shapes := ins.map (·.2)) (x := j) hperm hv' (by simp [hj])
  refine ⟨plan, hplan, hs, ?_⟩
  simp only [List.all_eq_true, Bool.and_eq_true, beq_iff_eq] at hshape hcons
  exact ewCells_permute_input hj hshape hperm hv' (fun p hp => consistentB_spec (hcons p hp)) hplan

/-- Non-vacuity: `add: a (b c) d, d b -> (d a) c b` with a = b = 2, c = 1, d = 3; the first input permuted by
`[2, 0, 1]` to `d a (b c)`.  The hypotheses hold, the permuted operation yields different cells, and substituting
the transposed tensor gives the original cells. -/
example :
    let a := Dim.axis ⟨"a", 2, false⟩; let b := Dim.axis ⟨"b", 2, false⟩
    let c := Dim.axis ⟨"c", 1, false⟩; let d := Dim.axis ⟨"d", 3, false⟩
    let v := [a, Dim.flat [b, c], d]; let v' := [d, a, Dim.flat [b, c]]; let u := [d, b]
    let w := [Dim.flat [d, a], c, b]
    let ins := [(v, viewShape v), (u, viewShape u)]
    let ins' := ins.set 0 (v', viewShape v')
    ins.all (fun p => p.2 == viewShape p.1 && Dim.concatFreeL p.1) = true ∧
    ins.all (fun p => consistentB (Dim.leavesL p.1 ++ Dim.leavesL w)) = true ∧
    isPermOf [2, 0, 1] v.length = true ∧
    (match planInstr (ins.map (·.2)) (.transpose 0 [2, 0, 1]) with
      | .ok plan =>
        (match ewCells "add" ins' w (viewShape w), ewCells "add" ins w (viewShape w) with
          | some c', some c =>
            Cell.beqL (c'.map (subst (ins'.zipIdx.map (fun q =>
              if q.2 = 0 then (⟨plan.shape, plan.cells⟩ : Tensor Cell) else symInput q.2 q.1.2)))) c
              && !Cell.beqL c' c && c.length == 12
          | _, _ => false)
      | _ => false) = true := by
  decide +kernel

/-! ### The functional form is the loop form: any number of tensors, and elementwise -/

/-- **Tie to `Denote/Expr.lean`, several tensors.**  For concatenation-free input and output expressions (any
number; the k-th output is the k-th input) the loop form `Denote.denoteId` and the functional form
`Denote.denoteIdFun` succeed on the same operations and return the same symbolic tensors. -/
theorem denoteId_fun_agree_multi (exprsIn exprsOut : List Expr)
    (hin : Expr.concatFreeL exprsIn = true) (hout : Expr.concatFreeL exprsOut = true) :
    okOpt (denoteId exprsIn exprsOut) = okOpt (denoteIdFun exprsIn exprsOut) :=
  denoteId_eq_denoteIdFun_multi exprsIn exprsOut hin hout

/-- **Tie to `Denote/Expr.lean`, elementwise.**  For concatenation-free expressions the loop form
`Denote.denoteElementwise` (the one the C01 validator uses) and the functional form
`Denote.denoteElementwiseFun` succeed on the same operations and return the same symbolic tensor. -/
theorem denoteElementwise_fun_agree (f : String) (exprsIn : List Expr) (exprOut : Expr)
    (hin : Expr.concatFreeL exprsIn = true) (hout : exprOut.concatFree = true) :
    okOpt (denoteElementwise f exprsIn exprOut) = okOpt (denoteElementwiseFun f exprsIn exprOut) :=
  denoteElementwise_eq_fun f exprsIn exprOut hin hout

/-- Non-vacuity: `a (b c), d a -> (c a) b, a d` (two tensors) and `add: a b, b c -> c a b` with
a = b = 2, c = 1, d = 3 are concatenation-free, and both forms are defined on them. -/
example :
    let a := Expr.axis "a" 2; let b := Expr.axis "b" 2; let c := Expr.axis "c" 1; let d := Expr.axis "d" 3
    let ins := [Expr.list [a, .flat (.list [b, c])], Expr.list [d, a]]
    let outs := [Expr.list [.flat (.list [c, a]), b], Expr.list [a, d]]
    let ews := [Expr.list [a, b], Expr.list [b, c]]
    let ewo := Expr.list [c, a, b]
    Expr.concatFreeL ins = true ∧ Expr.concatFreeL outs = true ∧ Expr.concatFreeL ews = true ∧ ewo.concatFree = true ∧
    (match okOpt (denoteId ins outs), okOpt (denoteIdFun ins outs) with
      | some [t1, t2], some [u1, u2] => Tensor.beq t1 u1 && Tensor.beq t2 u2 && t1.shape == [2, 2] && t2.shape == [2, 3]
      | _, _ => false) = true ∧
    (match okOpt (denoteElementwise "add" ews ewo), okOpt (denoteElementwiseFun "add" ews ewo) with
      | some t, some u => Tensor.beq t u && t.shape == [1, 2, 2]
      | _, _ => false) = true := by
  decide +kernel

/-! ### Renaming that is injective on the names in use; transfer to the loop form -/

/-- **Consistent renaming, weak hypothesis.**  It suffices that `ρ` is injective on the axis names that occur in
the operation (`Expr.namesL`: all names, also inside concatenations and brackets). -/
theorem denote_rename_on {ρ : String → String} (exprsIn exprsOut : List Expr)
    (hρ : InjOn ρ (Expr.namesL exprsIn ++ Expr.namesL exprsOut)) :
    denoteIdFun (Expr.renameL ρ exprsIn) (Expr.renameL ρ exprsOut) = denoteIdFun exprsIn exprsOut :=
  denoteIdFun_rename_on exprsIn exprsOut hρ

theorem denote_rename_elementwise_on {ρ : String → String} (f : String) (exprsIn : List Expr) (exprOut : Expr)
    (hρ : InjOn ρ (Expr.namesL exprsIn ++ exprOut.names)) :
    denoteElementwiseFun f (Expr.renameL ρ exprsIn) (exprOut.rename ρ) = denoteElementwiseFun f exprsIn exprOut :=
  denoteElementwiseFun_rename_on f exprsIn exprOut hρ

/-- **Renaming, for the executable loop form `Denote.denoteId`** (through the tie): on concatenation-free
operations a renaming injective on the names in use leaves the result unchanged. -/
theorem denoteId_rename {ρ : String → String} (exprsIn exprsOut : List Expr)
    (hin : Expr.concatFreeL exprsIn = true) (hout : Expr.concatFreeL exprsOut = true)
    (hρ : InjOn ρ (Expr.namesL exprsIn ++ Expr.namesL exprsOut)) :
    okOpt (denoteId (Expr.renameL ρ exprsIn) (Expr.renameL ρ exprsOut)) = okOpt (denoteId exprsIn exprsOut) := by
  rw [denoteId_fun_agree_multi _ _ (by rw [concatFreeL_rename]; exact hin) (by rw [concatFreeL_rename]; exact hout),
    denoteId_fun_agree_multi _ _ hin hout, denote_rename_on _ _ hρ]

/-- The same for `Denote.denoteElementwise`. -/
theorem denoteElementwise_rename {ρ : String → String} (f : String) (exprsIn : List Expr) (exprOut : Expr)
    (hin : Expr.concatFreeL exprsIn = true) (hout : exprOut.concatFree = true)
    (hρ : InjOn ρ (Expr.namesL exprsIn ++ exprOut.names)) :
    okOpt (denoteElementwise f (Expr.renameL ρ exprsIn) (exprOut.rename ρ)) = okOpt (denoteElementwise f exprsIn exprOut) := by
  rw [denoteElementwise_fun_agree _ _ _ (by rw [concatFreeL_rename]; exact hin) (by rw [concatFree_rename]; exact hout),
    denoteElementwise_fun_agree _ _ _ hin hout, denote_rename_elementwise_on _ _ _ hρ]

/-- A renaming that is *not* injective (every unknown name goes to `"w"`), but injective on `a b c d`. -/
def collapseNames (n : String) : String :=
  if n = "a" then "b" else if n = "b" then "a" else if n = "c" then "x" else if n = "d" then "c" else "w"

/-- Non-vacuity: `collapseNames` is not injective, is injective on the names of `a (b c), d a -> (c a) b, a d`
(sizes 2, 2, 1, 3), changes the expressions, and the theorem applies to the loop form. -/
example :
    let a := Expr.axis "a" 2; let b := Expr.axis "b" 2; let c := Expr.axis "c" 1; let d := Expr.axis "d" 3
    let ins := [Expr.list [a, .flat (.list [b, c])], Expr.list [d, a]]
    let outs := [Expr.list [.flat (.list [c, a]), b], Expr.list [a, d]]
    collapseNames "p" = collapseNames "q" ∧
    okOpt (denoteId (Expr.renameL collapseNames ins) (Expr.renameL collapseNames outs)) = okOpt (denoteId ins outs) :=
  ⟨by decide, denoteId_rename _ _ (by decide +kernel) (by decide +kernel) (by unfold InjOn; decide +kernel)⟩

example :
    let a := Expr.axis "a" 2; let b := Expr.axis "b" 2; let c := Expr.axis "c" 1; let d := Expr.axis "d" 3
    let ins := [Expr.list [a, .flat (.list [b, c])], Expr.list [d, a]]
    let outs := [Expr.list [.flat (.list [c, a]), b], Expr.list [a, d]]
    (match okOpt (denoteId (Expr.renameL collapseNames ins) (Expr.renameL collapseNames outs)) with
      | some [t1, t2] => t1.shape == [2, 2] && t2.shape == [2, 3] && Cell.beqL (t2.data.take 3) [.src 1 0, .src 1 2, .src 1 4]
      | _ => false) = true := by decide +kernel

/-! ### Transfer of the permutation laws to the loop form -/

/-- **Input permutation law for the executable loop form `Denote.denoteId`.** -/
theorem denoteId_permute_input (e e' eo : Expr) (perm : List Nat)
    (he : e.concatFree = true) (he' : e'.concatFree = true) (heo : eo.concatFree = true)
    (hperm : isPermOf perm (rootDims e).length = true) (hp : permuteL perm (rootDims e) = some (rootDims e'))
    (hcons : consistentB (Dim.leavesL (rootDims e) ++ Dim.leavesL (rootDims eo)) = true) :
    ∃ plan, planInstr [shapeOf e] (.transpose 0 perm) = .ok plan ∧ plan.shape = shapeOf e' ∧
      (okOpt (denoteId [e'] [eo])).map (List.map (substT [⟨plan.shape, plan.cells⟩])) = okOpt (denoteId [e] [eo]) := by
  obtain ⟨plan, hplan, hs, h⟩ := denote_permute_input_expr e e' eo perm he he' heo hperm hp hcons
  refine ⟨plan, hplan, hs, ?_⟩
  rw [denoteId_fun_agree e' eo he' heo, denoteId_fun_agree e eo he heo, ← h, okOpt_map]

/-- **Output permutation law for the executable loop form `Denote.denoteId`.** -/
theorem denoteId_permute_output (e eo eo' : Expr) (perm : List Nat) (T T' : Tensor Cell)
    (he : e.concatFree = true) (heo : eo.concatFree = true) (heo' : eo'.concatFree = true)
    (hperm : isPermOf perm (rootDims eo).length = true) (hp : permuteL perm (rootDims eo) = some (rootDims eo'))
    (hcons : consistentB (Dim.leavesL (rootDims eo)) = true)
    (h : okOpt (denoteId [e] [eo]) = some [T]) (h' : okOpt (denoteId [e] [eo']) = some [T']) :
    ∃ plan, planInstr [shapeOf eo] (.transpose 0 perm) = .ok plan ∧ runPlan symAlg [T] plan = T' := by
  rw [denoteId_fun_agree e eo he heo] at h
  rw [denoteId_fun_agree e eo' he heo'] at h'
  exact denote_permute_output_expr e eo eo' perm T T' hperm hp hcons (ok_of_okOpt h) (ok_of_okOpt h')

/-! ### Reductions (executable loop form `Denote.denoteReduce`) -/

/-- **Reductions are invariant under consistent renaming.**  For concatenation-free expressions and a renaming
that is injective on the axis names in use, `Denote.denoteReduce` (the loop form the C01 validator uses; bracketed
axes are the marked leaves) returns the same symbolic tensor -- the same canonical reduction cell at every output
position -- and fails with the same message. -/
theorem denote_reduce_rename {ρ : String → String} (f : String) (e eo : Expr)
    (he : e.concatFree = true) (heo : eo.concatFree = true) (hρ : InjOn ρ (e.names ++ eo.names)) :
    denoteReduce f (e.rename ρ) (eo.rename ρ) = denoteReduce f e eo :=
  denoteReduce_rename_on f e eo he heo hρ

/- Reordering the bracketed axes of a reduction among themselves: `C08b.denote_reduce_bracket_order`,
`C08b.denote_reduce_permute_input`. -/

/-- Non-vacuity: `sum: a [b c] d -> d a` with a = b = 2, c = 1, d = 3 under the non-injective `collapseNames`
(injective on `a b c d`): the theorem applies, the renamed expressions differ, and the result holds genuine
two-element reductions. -/
example :
    let a := Expr.axis "a" 2; let b := Expr.axis "b" 2; let c := Expr.axis "c" 1; let d := Expr.axis "d" 3
    let e := Expr.list [a, .br (.list [b, c]), d]; let eo := Expr.list [d, a]
    denoteReduce "sum" (e.rename collapseNames) (eo.rename collapseNames) = denoteReduce "sum" e eo :=
  denote_reduce_rename "sum" _ _ (by decide +kernel) (by decide +kernel) (by unfold InjOn; decide +kernel)

example :
    let a := Expr.axis "a" 2; let b := Expr.axis "b" 2; let c := Expr.axis "c" 1; let d := Expr.axis "d" 3
    let e := Expr.list [a, .br (.list [b, c]), d]; let eo := Expr.list [d, a]
    (match denoteReduce "sum" (e.rename collapseNames) (eo.rename collapseNames) with
      | .ok t => t.shape == [3, 2] && Cell.beqL (t.data.take 2)
          [.app "red:sum" [.src 0 0, .src 0 3], .app "red:sum" [.src 0 6, .src 0 9]]
      | _ => false) = true := by decide +kernel

end Einx.C08
