import EinxModel.Proofs.OptimizeSound
/-!
C05 — graph optimisation never changes what an operation computes, and terminates.

All statements are about `IR.evalProg` / `IR.planInstr` -- the evaluator and the numpy primitive plans that
the validator (C01) and the driver kind `equiv` execute -- for **every** element algebra (so for every
tensor content and every meaning of the elementary functions), every rank, shape and permutation.
`Extracted.*` is regenerated from `einx/_src/tracer/optimizer/classical.py` on every run
(tools/extract/kernels.py), so the obligations below are proved against the source as it stands.

A rewrite is sound when the rewritten program yields the same result whenever the original program runs;
registers are appended by every instruction, so "the operand of the second instruction is the result of
the first" is written `regs.length`.

Whole passes: `Term.evalWith` / `Term.eval` (Optimize/Rules.lean) give the term model of the six patterns the
semantics of the same executor (every node is one `step` = one instruction of `evalProg` on the values of its
operands); `rule_sound` / `rewrites_sound` prove that the patterns applied anywhere, in any order, preserve what a
term computes, `rewrite_sound` that one pass of the model does, `optimize_sound` that the optimiser loop
does, `optimize_sound_fixpoint` adds that the result is a fixed point of the pass.  Sharing: `rebuild_preserves`
/ `optimize_lets_sound` for graphs given as lists of let-bound terms (a shared value is rewritten once, all
consumers read the rewritten value), `unfold_sound` / `unfold_rewrite_sound` for their tree unfolding.
-/
namespace Einx.Optimize
open Einx Einx.IR

/-! ## The permutation composition of `SkipTranspose` (classical.py:58) -/

/-- Obligation (T-src): the expression the source assigns to `new_perm` is `perm1[p] for p in perm2` with
Option-valued indexing.  Fails to build if the source composes the other way round. -/
theorem composePerm_spec (p1 p2 : List Nat) :
    Extracted.composePerm p1 p2 = p2.mapM (fun q => p1[q]?) := rfl

/-- On permutations of the same rank the extracted composition is defined (no index is out of range) ... -/
theorem composePerm_defined (p1 p2 : List Nat) (n : Nat) (h1 : isPerm p1 n = true) (h2 : isPerm p2 n = true) :
    (Extracted.composePerm p1 p2).isSome = true :=
  Option.isSome_iff_exists.2 ⟨_, composePerm_eq (isPerm_iff.1 h1) (isPerm_iff.1 h2)⟩

/-- ... and is again a permutation of that rank. -/
theorem composePerm_isPerm (p1 p2 p : List Nat) (n : Nat) (h1 : isPerm p1 n = true) (h2 : isPerm p2 n = true)
    (hc : Extracted.composePerm p1 p2 = some p) : isPerm p n = true := by
  obtain rfl := Option.some.inj (hc.symm.trans (composePerm_eq (isPerm_iff.1 h1) (isPerm_iff.1 h2)))
  exact isPerm_iff.2 (compose_permOK (isPerm_iff.1 h1) (isPerm_iff.1 h2))

/-- **transpose_transpose**: for permutations `p1`, `p2` of the rank of the operand, the program
`y = transpose(x, p1); z = transpose(y, p2)` and the program `z' = transpose(x, p)` with
`p = Extracted.composePerm p1 p2` (what `SkipTranspose` builds) compute the same tensor `z = z'` --
same shape, same elements -- over every element algebra. -/
theorem transpose_transpose {α : Type} (A : Alg α) (regs : List (Tensor α)) (x : Nat) (t : Tensor α)
    (p1 p2 p : List Nat) (hx : regs[x]? = some t)
    (h1 : isPerm p1 t.shape.length = true) (h2 : isPerm p2 t.shape.length = true)
    (hc : Extracted.composePerm p1 p2 = some p) :
    ∃ y z, evalProg A [.transpose x p1, .transpose regs.length p2] regs = .ok (regs ++ [y] ++ [z]) ∧
      evalProg A [.transpose x p] regs = .ok (regs ++ [z]) := by
  have e1 := (step_transpose_ok A hx).2 ⟨h1, rfl⟩
  have h2' : isPerm p2 (permShape p1 t.shape).length = true := by rwa [permShape_length, (isPerm_iff.1 h1).len]
  have e2 := (step_transpose_ok A (List.getElem?_concat_length (l := regs)
    (a := pick A t (permShape p1 t.shape) (transposeIdx p1 t.shape)))).2 ⟨h2', rfl⟩
  exact ⟨_, _, (evalProg_cons_ok A _ _ _ _).2 ⟨_, e1, (step_iff_evalProg A _ _ _).1 e2⟩,
    (step_iff_evalProg A _ _ _).1 (transpose_transpose_step A hx e1 List.getElem?_concat_length e2 hc)⟩

/-- **transpose_id**: transposing by the identity permutation returns the operand. -/
theorem transpose_id {α : Type} (A : Alg α) (regs : List (Tensor α)) (x : Nat) (t : Tensor α) (perm : List Nat)
    (hx : regs[x]? = some t) (hwf : t.data.length = prod t.shape)
    (h : Extracted.transposeNoop perm t.shape.length = true) :
    evalProg A [.transpose x perm] regs = .ok (regs ++ [t]) := by
  rw [transposeNoop_sound perm _ h]
  exact (step_iff_evalProg A _ _ _).1 (transpose_id_step A hx hwf)

/-- **reshape_same**: a reshape to the operand's own shape returns the operand. -/
theorem reshape_same {α : Type} (A : Alg α) (regs : List (Tensor α)) (x : Nat) (t : Tensor α) (shape : List Nat)
    (hx : regs[x]? = some t) (hwf : t.data.length = prod t.shape)
    (h : Extracted.reshapeNoop shape t.shape = true) :
    evalProg A [.reshape x shape] regs = .ok (regs ++ [t]) := by
  rw [reshapeNoop_sound _ _ h]
  exact (step_iff_evalProg A _ _ _).1 (reshape_same_step A hx hwf)

/-- **reshape_reshape**: whenever `y = reshape(x, s1); z = reshape(y, s2)` runs, `reshape(x, s2)` (what
`SkipReshape` builds: the inner operand with the OUTER shape) runs and gives the same `z`. -/
theorem reshape_reshape {α : Type} (A : Alg α) (regs : List (Tensor α)) (x : Nat) (t : Tensor α)
    (s1 s2 : List Nat) (hx : regs[x]? = some t) (r : List (Tensor α))
    (hrun : evalProg A [.reshape x s1, .reshape regs.length s2] regs = .ok r) :
    ∃ y z, r = regs ++ [y] ++ [z] ∧ evalProg A [.reshape x s2] regs = .ok (regs ++ [z]) := by
  obtain ⟨y, f1, hrun⟩ := (evalProg_cons_ok A _ _ _ _).1 hrun
  obtain ⟨z, f2, hrun⟩ := (evalProg_cons_ok A _ _ _ _).1 hrun
  exact ⟨y, z, (Except.ok.inj hrun).symm,
    (step_iff_evalProg A _ _ _).1 (reshape_reshape_step A hx f1 List.getElem?_concat_length f2)⟩

/-- Obligations (structural anchors): the merged nodes are built from the inner node's operand, with the
outer shape (reshape) and with `new_perm` where `perm1` is the inner and `perm2` the outer permutation. -/
theorem merge_operands : Extracted.reshapeMergeOperands = true ∧ Extracted.transposeMergeOperands = true :=
  ⟨rfl, rfl⟩

/-- **broadcast_same**: broadcasting to the operand's own shape returns the operand. -/
theorem broadcast_same {α : Type} (A : Alg α) (regs : List (Tensor α)) (x : Nat) (t : Tensor α) (shape : List Nat)
    (hx : regs[x]? = some t) (hwf : t.data.length = prod t.shape)
    (h : Extracted.broadcastNoop shape t.shape = true) :
    evalProg A [.broadcastTo x shape] regs = .ok (regs ++ [t]) := by
  rw [broadcastNoop_sound _ _ h]
  exact (step_iff_evalProg A _ _ _).1 (broadcast_same_step A hx hwf)

/-- **concat_singleton**: concatenating a single tensor (along a valid axis) returns that tensor. -/
theorem concat_singleton {α : Type} (A : Alg α) (regs : List (Tensor α)) (xs : List Nat) (x axis : Nat) (t : Tensor α)
    (h : Extracted.concatNoop xs.length = true) (h0 : xs[0]? = some x)
    (hx : regs[x]? = some t) (hwf : t.data.length = prod t.shape) (hax : axis < t.shape.length) :
    evalProg A [.concat xs axis] regs = .ok (regs ++ [t]) := by
  obtain ⟨x', rfl⟩ := concatNoop_sound xs h
  obtain rfl := Option.some.inj h0
  exact (step_iff_evalProg A _ _ _).1 ((step_concat1_ok A hx).2 ⟨hax, (pick_id A t rfl hwf fun _ _ => rfl).symm⟩)

/-- Obligations (structural anchors of `optimizer.py` and of the numpy backend's pattern list). -/
theorem optimizer_structure :
    Extracted.optimizerMemoFirst = true ∧ Extracted.optimizerLoop = true ∧
    Extracted.numpyPatterns = [("SkipReshape", "np.reshape"), ("SkipTranspose", "np.transpose"),
      ("SkipBroadcastTo", "np.broadcast_to"), ("SkipConcatenate", "np.concatenate"), ("InlineGraph", ""), ("SkipCast", "")] :=
  ⟨rfl, rfl, rfl⟩

/-- **pass_decreases** (term model of the six patterns, built from the `Extracted.*` tests and composition): a pass
that reports a change strictly decreases the number of call/cast nodes of the tree; a pass never increases it. -/
theorem pass_decreases (t : Term) :
    (rewrite t).1.size ≤ t.size ∧ ((rewrite t).2 = true → (rewrite t).1.size < t.size) :=
  ⟨(rewrite_facts t).1, (rewrite_facts t).2.1⟩

/-- A pass that reports no change returns the graph it was given. -/
theorem pass_unchanged (t : Term) (h : (rewrite t).2 = false) : (rewrite t).1 = t :=
  (rewrite_facts t).2.2 h

/-- **optimize_terminates**: if every pass that reports a change strictly decreases the measure, the loop
`while True: x = pass(x); if not changed: break` stops after at most `measure g + 1` passes: the
fuel-bounded loop with that much fuel completes and agrees with the loop defined by well-founded recursion. -/
theorem optimize_terminates {G : Type} (P : PassModel G) (g : G) :
    P.iter (P.measure g + 1) g = some (P.fix g) ∧ (P.fix g).2 ≤ P.measure g + 1 :=
  fix_iter P g _ (Nat.le_refl _)

/-- The loop ends with a pass that reported no change, and returns that pass's graph. -/
theorem optimize_fixpoint {G : Type} (P : PassModel G) (g : G) :
    ∃ g', (P.pass g').2 = false ∧ (P.fix g).1 = (P.pass g').1 := by
  induction g using PassModel.fix.induct P with
  | case1 g hc ih => rw [fix_unfold, if_pos hc]; exact ih
  | case2 g hc => rw [fix_unfold, if_neg hc]; exact ⟨g, Bool.eq_false_iff.2 hc, rfl⟩

/-! `Term.evalWith A O inputs t` runs the term over the element algebra `A` with the IR executor: every node is one
`step` (= one instruction of `IR.evalProg`, `step_iff_evalProg`) on the register file that holds the values of
its operands; the calls the patterns never inspect (`op2 f`) mean `O f` -- any partial function of the two operand
values whose results have the size their shapes say (`O.WF`).  `Term.eval A` is the instance in which they are
elementwise numpy calls executed by `Instr.ewise` (`ewiseOp`, `ewiseOp_wf`), so that the whole term is executed by
the primitive plans of IR/Prim.lean (`rewrite_sound_prim`, `optimize_sound_prim`, `rebuild_preserves_prim`).  The statements
hold for every element algebra (every tensor content, every meaning of the elementary functions), every rank, shape,
permutation and every nesting of nodes.  Inputs are tensors whose data have the size their shapes say (`hin`; the same
hypothesis as in `equiv_sound`).

Soundness is stated the way the rule theorems state it: *if the original term runs* (its traced shapes are
true, every numpy call is valid), the rewritten term runs and yields the same tensor.  The converse direction
is false and not wanted: a pass may remove a call that would have raised (`concatenate([x], axis)` with an
invalid axis is removed by `SkipConcatenate`; witness below). -/

/-- **rule_sound**: one application of a pattern at the root of a term -- the pattern's own test (`Extracted.*Noop`)
and replacement (inner operand with the outer shape / with `Extracted.composePerm`) -- preserves what the term
evaluates to.  These are the rule theorems above, on the one-register file `Term.evalWith` uses. -/
theorem rule_sound {α : Type} (A : Alg α) (O : Op2 α) (hO : O.WF) (inputs : List (Tensor α))
    (hin : ∀ x ∈ inputs, x.data.length = prod x.shape) {t t' : Term} (hr : Rule t t') :
    ∀ v, t.evalWith A O inputs = .ok v → t'.evalWith A O inputs = .ok v := by
  intro v h
  cases hr with
  | reshapeNoop x s hn => exact eval_reshape_noop A O inputs hO hin _ s v (reshapeNoop_sound _ _ hn) h
  | reshapeMerge x s1 s => exact eval_reshape_merge A O inputs x x s1 s v (fun _ hw => hw) h
  | transposeNoop x p hn => exact eval_transpose_noop A O inputs hO hin _ p v (transposeNoop_sound _ _ hn) h
  | transposeMerge x p1 p2 p hc => exact eval_transpose_merge A O inputs x x p1 p2 p v hc (fun _ hw => hw) h
  | broadcastNoop x s hn => exact eval_broadcastTo_noop A O inputs hO hin _ s v (broadcastNoop_sound _ _ hn) h
  | concatNoop x axis hn => exact eval_concat1_noop A O inputs hO hin _ axis v h
  | skipCast x => rwa [eval_cast] at h

/-- **rewrites_sound**: patterns applied anywhere in a term, any number of times, in any order -- whatever the
traversal strategy and whatever is memoised -- preserve what the term evaluates to. -/
theorem rewrites_sound {α : Type} (A : Alg α) (O : Op2 α) (hO : O.WF) (inputs : List (Tensor α))
    (hin : ∀ x ∈ inputs, x.data.length = prod x.shape) {t t' : Term} (hr : Rewrites t t') :
    ∀ v, t.evalWith A O inputs = .ok v → t'.evalWith A O inputs = .ok v := by
  induction hr with
  | refl t => intro v h; exact h
  | rule hr => exact rule_sound A O hO inputs hin hr
  | trans _ _ ih1 ih2 => intro v h; exact ih2 v (ih1 v h)
  | reshape s _ ih => intro v h; exact (node1_reshape s).congr ih h
  | transpose p _ ih => intro v h; exact (node1_transpose p).congr ih h
  | broadcastTo s _ ih => intro v h; exact (node1_broadcastTo s).congr ih h
  | concat1 axis _ ih => intro v h; exact (node1_concat1 axis).congr ih h
  | concat2 axis _ _ ihx ihy => intro v h; exact eval_concat2_congr A O inputs inputs _ _ _ _ axis v ihx ihy h
  | cast _ ih => intro v h; rw [eval_cast] at h ⊢; exact ih v h
  | op2 f s _ _ ihx ihy => intro v h; exact eval_op2_congr A O inputs inputs f _ _ _ _ s v ihx ihy h

/-- **rewrite_sound** (value form): whatever a term evaluates to, the term after one pass of the six patterns
evaluates to the same tensor: the pass is a strategy of the rewrite system (`rewrite_rewrites`, by induction along the
case analysis of `rewrite`). -/
theorem rewrite_sound_ok {α : Type} (A : Alg α) (O : Op2 α) (hO : O.WF) (inputs : List (Tensor α))
    (hin : ∀ x ∈ inputs, x.data.length = prod x.shape) (t : Term) :
    ∀ v, t.evalWith A O inputs = .ok v → (rewrite t).1.evalWith A O inputs = .ok v :=
  rewrites_sound A O hO inputs hin (rewrite_rewrites t)

/-- **rewrite_sound**: whenever a term runs, the term after one pass computes the same. -/
theorem rewrite_sound {α : Type} (A : Alg α) (O : Op2 α) (hO : O.WF) (inputs : List (Tensor α))
    (hin : ∀ x ∈ inputs, x.data.length = prod x.shape) (t : Term) (hrun : ∃ v, t.evalWith A O inputs = .ok v) :
    (rewrite t).1.evalWith A O inputs = t.evalWith A O inputs := by
  obtain ⟨v, hv⟩ := hrun
  rw [hv]
  exact rewrite_sound_ok A O hO inputs hin t v hv

/-- The traced shape of a term that runs is the shape of its value (so the patterns, which read traced
shapes, read the run-time shapes), and values have the size their shapes say. -/
theorem eval_shape_wf {α : Type} (A : Alg α) (O : Op2 α) (hO : O.WF) (inputs : List (Tensor α))
    (hin : ∀ x ∈ inputs, x.data.length = prod x.shape) (t : Term) (v : Tensor α) (h : t.evalWith A O inputs = .ok v) :
    v.shape = t.shape ∧ v.data.length = prod v.shape :=
  eval_shape A O hO inputs hin t v h

/-- **optimize_sound**: the optimiser loop (passes repeated until one reports no change) returns a term that
computes the same as the term it was given. -/
theorem optimize_sound {α : Type} (A : Alg α) (O : Op2 α) (hO : O.WF) (inputs : List (Tensor α))
    (hin : ∀ x ∈ inputs, x.data.length = prod x.shape) (t : Term) (hrun : ∃ v, t.evalWith A O inputs = .ok v) :
    (termPassModel.fix t).1.evalWith A O inputs = t.evalWith A O inputs := by
  obtain ⟨v, hv⟩ := hrun
  rw [hv]
  exact fix_invariant termPassModel (fun g => g.evalWith A O inputs = .ok v)
    (fun g hg => rewrite_sound_ok A O hO inputs hin g v hg) t hv

/-- **optimize_sound_fixpoint**: the optimiser model stops after at most `size t + 1` passes at a fixed point
of the pass that computes the same function of the inputs as the original term -- for every element algebra
and all well-formed inputs on which the original runs. -/
theorem optimize_sound_fixpoint (t : Term) :
    (termPassModel.fix t).2 ≤ t.size + 1 ∧
    rewrite (termPassModel.fix t).1 = ((termPassModel.fix t).1, false) ∧
    ∀ {α : Type} (A : Alg α) (O : Op2 α), O.WF → ∀ inputs : List (Tensor α), (∀ x ∈ inputs, x.data.length = prod x.shape) →
      (∃ v, t.evalWith A O inputs = .ok v) → (termPassModel.fix t).1.evalWith A O inputs = t.evalWith A O inputs := by
  refine ⟨(optimize_terminates termPassModel t).2, ?_, fun A O hO inputs hin hrun => optimize_sound A O hO inputs hin t hrun⟩
  -- the loop returns the result of a pass that reported no change, and such a pass returns its argument
  obtain ⟨g', hg, he⟩ : ∃ g', (rewrite g').2 = false ∧ (termPassModel.fix t).1 = (rewrite g').1 :=
    optimize_fixpoint termPassModel t
  have hid := pass_unchanged g' hg
  rw [he, hid]
  exact Prod.ext hid hg

/-! Real graphs are DAGs and `Optimizer._optimize` rebuilds them with the memo `id_to_newobj`: a node is rewritten
once and every consumer receives the same rewritten object.  Model: a graph is a list of let-bound terms
(`evalLets`: binding `k` is a term over `inputs ++ [values of bindings < k]`; a shared value is a binding read by
several later leaves), a memoised pass is `rewriteLets` (every binding rewritten once; consumers keep reading it by
position).  In this model patterns do not look through a binding; what the real patterns do across a shared node
(e.g. merging a reshape into a *shared* inner reshape, which duplicates the inner node's operand edge) is covered
by the tree unfolding (`unfold_rewrite_sound`): for pure nodes the unfolding computes the same values, and any
number of passes on it is sound.  Nodes that mutate their operand in place are not pure; they are outside the term
model and stay with the per-graph check (driver kind `equiv` and the node-by-node evaluator of tools/props/c05.py). -/

/-- **rebuild_preserves**: if the bindings run, the bindings after one memoised pass run and produce the same
register file: every binding -- in particular a value with two or more consumers -- is rewritten once, computes the
same tensor, and all its consumers read that tensor. -/
theorem rebuild_preserves {α : Type} (A : Alg α) (O : Op2 α) (hO : O.WF) (inputs : List (Tensor α))
    (hin : ∀ x ∈ inputs, x.data.length = prod x.shape) (bs : List Term) (regs : List (Tensor α))
    (h : evalLetsWith A O bs inputs = .ok regs) : evalLetsWith A O (rewriteLets bs).1 inputs = .ok regs :=
  evalLets_map A O hO (fun b => (rewrite b).1) (fun env henv t v hv => rewrite_sound_ok A O hO env henv t v hv) bs inputs regs hin h

/-- The memoised pass reports a change only when the total node count strictly decreased (termination of the loop
on bindings). -/
theorem rebuild_decreases (bs : List Term) :
    ((rewriteLets bs).1.map Term.size).sum ≤ (bs.map Term.size).sum ∧
      ((rewriteLets bs).2 = true → ((rewriteLets bs).1.map Term.size).sum < (bs.map Term.size).sum) :=
  rewriteLets_facts bs

/-- **optimize_lets_sound**: the optimiser loop on bindings returns bindings that produce the same register file,
after at most (total node count + 1) passes. -/
theorem optimize_lets_sound {α : Type} (A : Alg α) (O : Op2 α) (hO : O.WF) (inputs : List (Tensor α))
    (hin : ∀ x ∈ inputs, x.data.length = prod x.shape) (bs : List Term) (regs : List (Tensor α))
    (h : evalLetsWith A O bs inputs = .ok regs) :
    evalLetsWith A O (letsPassModel.fix bs).1 inputs = .ok regs ∧ (letsPassModel.fix bs).2 ≤ (bs.map Term.size).sum + 1 :=
  ⟨fix_invariant letsPassModel (fun g => evalLetsWith A O g inputs = .ok regs)
      (fun g hg => rebuild_preserves A O hO inputs hin g regs hg) bs h,
    (optimize_terminates letsPassModel bs).2⟩

/-- **unfold_sound**: sharing is invisible to pure nodes -- the tree unfolding of binding `j` (every read of an
earlier binding replaced by that binding's tree) computes, from the graph inputs alone, the value register
`inputs.length + j` holds after running the bindings. -/
theorem unfold_sound {α : Type} (A : Alg α) (O : Op2 α) (inputs : List (Tensor α)) (bs : List Term) (regs : List (Tensor α))
    (h : evalLetsWith A O bs inputs = .ok regs) (j : Nat) (t : Term) (hj : (unfoldLets inputs.length bs [])[j]? = some t) :
    ∃ v, regs[inputs.length + j]? = some v ∧ t.evalWith A O inputs = .ok v := by
  obtain ⟨ws, rfl, he⟩ := unfoldLets_eval A O inputs bs [] [] regs rfl (by rwa [List.append_nil])
  have := congrArg (·[j]?) he
  simp only [List.getElem?_map, hj, Option.map_some] at this
  obtain ⟨v, hv, hev⟩ := Option.map_eq_some_iff.1 this.symm
  exact ⟨v, by rw [List.getElem?_append_right (Nat.le_add_right _ _), Nat.add_sub_cancel_left, hv], hev.symm⟩

/-- **unfold_rewrite_sound**: the optimiser loop on the tree unfolding of a binding (where the patterns see through
shared nodes) still computes the value of that binding. -/
theorem unfold_rewrite_sound {α : Type} (A : Alg α) (O : Op2 α) (hO : O.WF) (inputs : List (Tensor α))
    (hin : ∀ x ∈ inputs, x.data.length = prod x.shape) (bs : List Term) (regs : List (Tensor α))
    (h : evalLetsWith A O bs inputs = .ok regs) (j : Nat) (t : Term) (hj : (unfoldLets inputs.length bs [])[j]? = some t) :
    ∃ v, regs[inputs.length + j]? = some v ∧ (termPassModel.fix t).1.evalWith A O inputs = .ok v := by
  obtain ⟨v, hv, he⟩ := unfold_sound A O inputs bs regs h j t hj
  exact ⟨v, hv, by rw [optimize_sound A O hO inputs hin t ⟨v, he⟩]; exact he⟩

/-- `rewrite_sound` for terms whose `op2` nodes are elementwise numpy calls (`Instr.ewise`). -/
theorem rewrite_sound_prim {α : Type} (A : Alg α) (inputs : List (Tensor α))
    (hin : ∀ x ∈ inputs, x.data.length = prod x.shape) (t : Term) (hrun : ∃ v, t.eval A inputs = .ok v) :
    (rewrite t).1.eval A inputs = t.eval A inputs :=
  rewrite_sound A (ewiseOp A) (ewiseOp_wf A) inputs hin t hrun

/-- `optimize_sound` for that instance. -/
theorem optimize_sound_prim {α : Type} (A : Alg α) (inputs : List (Tensor α))
    (hin : ∀ x ∈ inputs, x.data.length = prod x.shape) (t : Term) (hrun : ∃ v, t.eval A inputs = .ok v) :
    (termPassModel.fix t).1.eval A inputs = t.eval A inputs :=
  optimize_sound A (ewiseOp A) (ewiseOp_wf A) inputs hin t hrun

/-- `rebuild_preserves` for that instance. -/
theorem rebuild_preserves_prim {α : Type} (A : Alg α) (inputs : List (Tensor α))
    (hin : ∀ x ∈ inputs, x.data.length = prod x.shape) (bs : List Term) (regs : List (Tensor α))
    (h : evalLets A bs inputs = .ok regs) : evalLets A (rewriteLets bs).1 inputs = .ok regs :=
  rebuild_preserves A (ewiseOp A) (ewiseOp_wf A) inputs hin bs regs h

/-- **equiv_sound**: if `equivProgs` accepts two programs over the base instruction set `Instr`, then for all integer
inputs of those shapes, all interpretations of the elementary functions and any value for out-of-range reads both
programs run and their output registers are equal.  (The driver kind `equiv` runs `IR.equivG planInstrX` on programs
over `InstrX`; that check is covered by `Props/C01.lean: equiv_sound_extended`.) -/
theorem equiv_sound (prog1 : List Instr) (outs1 : List Nat) (prog2 : List Instr) (outs2 : List Nat)
    (I : String → List Int → Int) (bad : Int) (xs : List (Tensor Int))
    (hlen : ∀ x ∈ xs, x.data.length = prod x.shape)
    (h : equivProgs prog1 outs1 prog2 outs2 (xs.map (·.shape)) = true) :
    ∃ regs1 regs2, evalProg (intAlgOf I bad) prog1 xs = .ok regs1 ∧
      evalProg (intAlgOf I bad) prog2 xs = .ok regs2 ∧
      outs1.map (fun r => regs1[r]?) = outs2.map (fun r => regs2[r]?) := by
  unfold equivProgs at h
  cases h2 : symRun prog2 (xs.map (·.shape)) outs2 with
  | error e => rw [h2] at h; cases h
  | ok exp =>
    -- the first program validates against the symbolic result of the second
    rw [h2] at h
    have h : validateG planInstr prog1 (xs.map (·.shape)) outs1 exp = true := validate_eq_validateG .. ▸ h
    obtain ⟨regs1, r1, o1⟩ := validateG_sound planInstr (intAlgOf I bad) prog1 outs1 exp xs hlen h
    obtain ⟨regs2, r2, o2⟩ := symRun_sound prog2 outs2 exp I bad xs hlen h2
    exact ⟨regs1, regs2, (evalProg_eq_evalProgG _ _ _).trans r1, r2, o1.trans o2.symm⟩

/-- The extracted composition on concrete permutations of rank 3 ... -/
example : Extracted.composePerm [1, 2, 0] [0, 2, 1] = some [1, 0, 2] := by decide

/-- ... the hypotheses of `transpose_transpose` are met (rank 3, distinct non-involutive permutations) ... -/
example : isPerm [1, 2, 0] 3 = true ∧ isPerm [0, 2, 1] 3 = true := by decide

/-- ... `equivProgs` accepts the merge on a tensor whose axis lengths coincide (shape (2,2,2): shapes cannot
tell the two composition orders apart) ... -/
example : equivProgs [.transpose 0 [1, 2, 0], .transpose 1 [0, 2, 1]] [2] [.transpose 0 [1, 0, 2]] [1] [[2, 2, 2]] = true := by
  decide +kernel

/-- ... and rejects the reversed composition `perm2[p] for p in perm1` = [2, 1, 0] on the same tensor. -/
example : equivProgs [.transpose 0 [1, 2, 0], .transpose 1 [0, 2, 1]] [2] [.transpose 0 [2, 1, 0]] [1] [[2, 2, 2]] = false := by
  decide +kernel

/-- The term model on `add(transpose(transpose(x, [1,2,0]), [0,2,1]), cast(reshape(reshape(y, [6,4]), [2,3,4])))`: two passes
(the merges and the cast removal fire in the first; the second removes the reshape that has become a no-op; the third reports
unchanged), result `add(transpose(x, [1,0,2]), y)`. -/
example : termPassModel.iter 5 (.op2 "add" (.transpose (.transpose (.input 0 [2, 3, 4]) [1, 2, 0]) [0, 2, 1])
      (.cast (.reshape (.reshape (.input 1 [2, 3, 4]) [6, 4]) [2, 3, 4])) [3, 2, 4])
    = some (.op2 "add" (.transpose (.input 0 [2, 3, 4]) [1, 0, 2]) (.input 1 [2, 3, 4]) [3, 2, 4], 3) := by
  rfl

/-- A pass model that fires until a counter reaches 0: three passes fire from 3, the fourth reports unchanged. -/
example : (PassModel.fix ⟨fun n => (n - 1, decide (0 < n)), id, by intro g h; simp at h ⊢; omega⟩ 3) = (0, 4) := by
  simp [fix_unfold]

/-- Equality of concrete tensors is decided componentwise; it lets the kernel alone evaluate the runs below. -/
local instance {α : Type} [DecidableEq α] : DecidableEq (Tensor α) := fun a b =>
  decidable_of_iff (a.shape = b.shape ∧ a.data = b.data) (by cases a; cases b; simp)

/-- `add(transpose(transpose(x, [1,0]), [1,0]), cast(reshape(reshape(y, [6]), [2,3])))` over the integers with
`add` = sum of the arguments: the term runs on well-formed inputs (hypotheses of `rewrite_sound` met) ... -/
example : (Term.op2 "add" (.transpose (.transpose (.input 0 [2, 3]) [1, 0]) [1, 0])
      (.cast (.reshape (.reshape (.input 1 [3, 2]) [6]) [2, 3])) [2, 3]).eval (intAlgOf (fun _ args => args.sum) (-1))
      [⟨[2, 3], [1, 2, 3, 4, 5, 6]⟩, ⟨[3, 2], [10, 20, 30, 40, 50, 60]⟩]
    = .ok ⟨[2, 3], [11, 22, 33, 44, 55, 66]⟩ := by decide +kernel

/-- ... three patterns fire in the first pass (transposes merged, cast removed, reshapes merged) ... -/
example : rewrite (Term.op2 "add" (.transpose (.transpose (.input 0 [2, 3]) [1, 0]) [1, 0])
      (.cast (.reshape (.reshape (.input 1 [3, 2]) [6]) [2, 3])) [2, 3])
    = (.op2 "add" (.transpose (.input 0 [2, 3]) [0, 1]) (.reshape (.input 1 [3, 2]) [2, 3]) [2, 3], true) := by rfl

/-- ... and the loop ends with `add(x, reshape(y, [2,3]))`, which computes the same tensor. -/
example : (termPassModel.iter 5 (Term.op2 "add" (.transpose (.transpose (.input 0 [2, 3]) [1, 0]) [1, 0])
      (.cast (.reshape (.reshape (.input 1 [3, 2]) [6]) [2, 3])) [2, 3])).map (fun r =>
        (r.1, r.1.eval (intAlgOf (fun _ args => args.sum) (-1))
          [⟨[2, 3], [1, 2, 3, 4, 5, 6]⟩, ⟨[3, 2], [10, 20, 30, 40, 50, 60]⟩]))
    = some (.op2 "add" (.input 0 [2, 3]) (.reshape (.input 1 [3, 2]) [2, 3]) [2, 3],
        .ok ⟨[2, 3], [11, 22, 33, 44, 55, 66]⟩) := by rfl

/-- The rewrite system covers what `rewrite` does not do in one pass: the merge through `_skip_id`
(`reshape(cast(reshape(x, s1)), s)` becomes `reshape(x, s)`), for every `x`. -/
example (x : Term) (s1 s : List Nat) : Rewrites (.reshape (.cast (.reshape x s1)) s) (.reshape x s) :=
  .trans (.reshape s (.rule (.skipCast _))) (.rule (.reshapeMerge x s1 s))

/-- `O.WF` is met by calls that are not elementwise, e.g. every `op2` read as `concatenate([a, b], axis=0)`. -/
example {α : Type} (A : Alg α) : Op2.WF (fun _ a b => step A [a, b] (.concat [0, 1] 0)) :=
  fun _ a b r h => (step_concat2_wf A a b 0 r h).2

/-- A transpose that is not an involution is distinguished by the semantics (the data move). -/
example : (Term.transpose (.input 0 [2, 3]) [1, 0]).eval (intAlgOf (fun _ args => args.sum) (-1))
      [⟨[2, 3], [1, 2, 3, 4, 5, 6]⟩] = .ok ⟨[3, 2], [1, 4, 2, 5, 3, 6]⟩ := by decide +kernel

/-- The hypothesis "the original runs" is needed: `concatenate([x], axis=5)` raises, the pass removes the call. -/
example : (Term.concat1 (.input 0 [2, 3]) 5).eval (intAlgOf (fun _ args => args.sum) (-1)) [⟨[2, 3], [1, 2, 3, 4, 5, 6]⟩]
      = .error "concatenate: invalid axis" ∧
    (rewrite (Term.concat1 (.input 0 [2, 3]) 5)).1.eval (intAlgOf (fun _ args => args.sum) (-1)) [⟨[2, 3], [1, 2, 3, 4, 5, 6]⟩]
      = .ok ⟨[2, 3], [1, 2, 3, 4, 5, 6]⟩ := by decide +kernel

/-- A term with a false traced shape does not run (the premise of `rewrite_sound` excludes it). -/
example : (Term.input 0 [3, 2]).eval (intAlgOf (fun _ args => args.sum) (-1)) [⟨[2, 3], [1, 2, 3, 4, 5, 6]⟩]
    = .error "input 0: traced shape [3, 2], actual shape [2, 3]" := by decide +kernel

/-- Sharing: `y = reshape(reshape(x, [6]), [3,2])` is bound once (register 1) and read twice by `add(y, transpose(transpose(y)))`.
The bindings run; the memoised pass rewrites the shared binding once (merge) and its consumer once (merge to a transpose that
the next pass removes); the register file is the same. -/
example : evalLets (intAlgOf (fun _ args => args.sum) (-1))
      [.reshape (.reshape (.input 0 [2, 3]) [6]) [3, 2],
       .op2 "add" (.input 1 [3, 2]) (.transpose (.transpose (.input 1 [3, 2]) [1, 0]) [1, 0]) [3, 2]]
      [⟨[2, 3], [1, 2, 3, 4, 5, 6]⟩]
    = .ok [⟨[2, 3], [1, 2, 3, 4, 5, 6]⟩, ⟨[3, 2], [1, 2, 3, 4, 5, 6]⟩, ⟨[3, 2], [2, 4, 6, 8, 10, 12]⟩] := by decide +kernel

example : rewriteLets [.reshape (.reshape (.input 0 [2, 3]) [6]) [3, 2],
       .op2 "add" (.input 1 [3, 2]) (.transpose (.transpose (.input 1 [3, 2]) [1, 0]) [1, 0]) [3, 2]]
    = ([.reshape (.input 0 [2, 3]) [3, 2], .op2 "add" (.input 1 [3, 2]) (.transpose (.input 1 [3, 2]) [0, 1]) [3, 2]], true) := by rfl

example : evalLets (intAlgOf (fun _ args => args.sum) (-1))
      (rewriteLets [.reshape (.reshape (.input 0 [2, 3]) [6]) [3, 2],
       .op2 "add" (.input 1 [3, 2]) (.transpose (.transpose (.input 1 [3, 2]) [1, 0]) [1, 0]) [3, 2]]).1
      [⟨[2, 3], [1, 2, 3, 4, 5, 6]⟩]
    = .ok [⟨[2, 3], [1, 2, 3, 4, 5, 6]⟩, ⟨[3, 2], [1, 2, 3, 4, 5, 6]⟩, ⟨[3, 2], [2, 4, 6, 8, 10, 12]⟩] := by decide +kernel

/-- Its tree unfolding: the shared binding is substituted into both reads. -/
example : unfoldLets 1 [.reshape (.reshape (.input 0 [2, 3]) [6]) [3, 2],
       .op2 "add" (.input 1 [3, 2]) (.transpose (.transpose (.input 1 [3, 2]) [1, 0]) [1, 0]) [3, 2]] []
    = [.reshape (.reshape (.input 0 [2, 3]) [6]) [3, 2],
       .op2 "add" (.reshape (.reshape (.input 0 [2, 3]) [6]) [3, 2])
         (.transpose (.transpose (.reshape (.reshape (.input 0 [2, 3]) [6]) [3, 2]) [1, 0]) [1, 0]) [3, 2]] := by rfl

end Einx.Optimize
