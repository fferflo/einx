import EinxModel.Proofs.Adapt
import EinxModel.Extracted.Adapt
/-!
C15 — adapted user functions follow loop-notation semantics; their outputs are checked.

Property theorems only (helper lemmas live in `Proofs/Adapt.lean`).  `Extracted/Adapt.lean` is regenerated
from `/repo` on every run: the obligations `extracted_*` are re-checked against what `_make_iskwarg`,
`adapt_numpylike_*`, `op.inner`, `reduce.inner`/`elementwise.inner`, `_expr_to_axis` and `_ensure_output`
say now.
-/
namespace Einx.Adapt
open Einx Einx.Denote

/-! ### Source obligations -/

/-- Obligation regenerated from the source: the adapters are configured as the model assumes — option names
are exactly the keyword-only parameters (`**kwargs` is refused), the reduce adapter excludes `axis`, einx
consumes `keepdims` itself for reductions, and the bracketed positions travel as `axis=`. -/
theorem extracted_cfg :
    Einx.Extracted.Adapt.reduceCfg = reduceCfg ∧ Einx.Extracted.Adapt.elementwiseCfg = elementwiseCfg := ⟨rfl, rfl⟩

/-- Obligation regenerated from the source: `op.inner` rejects clashing axis names before it splits, the split
loop has the two-way shape modelled by `splitKwargs`, the solver receives `parameters`, the wrapped operation
`**kwargs`; the decomposed-level adapters call the function as modelled by `reduceNodes`/`elementwiseNodes`;
`_ensure_output` traces isinstance-assert, shape-assert, cast, in that order. -/
theorem extracted_call_path :
    Einx.Extracted.Adapt.clashCheckBeforeSplit = true ∧ Einx.Extracted.Adapt.splitLoopPartitions = true
    ∧ Einx.Extracted.Adapt.solverGetsParameters = true ∧ Einx.Extracted.Adapt.opGetsOptions = true
    ∧ Einx.Extracted.Adapt.reduceCallShape = true ∧ Einx.Extracted.Adapt.reduceExpectedShape = true
    ∧ Einx.Extracted.Adapt.elementwiseCallShape = true ∧ Einx.Extracted.Adapt.elementwiseExpectedShape = true
    ∧ Einx.Extracted.Adapt.adaptersPassExpectedType = true
    ∧ Einx.Extracted.Adapt.ensureOutputChecks = ["isinstance", "shape", "cast"] :=
  ⟨rfl, rfl, rfl, rfl, rfl, rfl, rfl, rfl, rfl, rfl⟩

/-- Obligation regenerated from the source: the loop of `_expr_to_axis`, translated statement by statement,
computes the model's `exprToAxis` — for every flat expression. -/
theorem extracted_expr_to_axis (marks : List Bool) : Einx.Extracted.Adapt.exprToAxis marks = exprToAxis marks := by
  simp only [Einx.Extracted.Adapt.exprToAxis, exprToAxis]
  have := extracted_exprToAxis_from marks 0 []
  simpa using this

/-! ### Keyword-only options -/

/-- `split_partition`: the options forwarded to the user function followed by the parameters handed to the
solver are a permutation of the call's keywords — nothing is lost, duplicated or invented; each half keeps the
call order (it is a filter of the keyword list). -/
theorem split_partition {α : Type} (isk : String → Bool) (kwargs : List (String × α)) :
    ((splitKwargs isk kwargs).1 ++ (splitKwargs isk kwargs).2).Perm kwargs
    ∧ (splitKwargs isk kwargs).1 = kwargs.filter (fun kv => isk kv.1)
    ∧ (splitKwargs isk kwargs).2 = kwargs.filter (fun kv => !isk kv.1) := by
  rw [splitKwargs_eq]
  exact ⟨List.filter_append_perm _ _, rfl, rfl⟩

/-- `kwonly_never_axis`, for every adapter configuration, signature, keyword list and description: when `op.inner`
accepts the call, every call keyword whose name satisfies `iskwarg` (and is not consumed by einx itself) is among the
forwarded options with its value verbatim, and no keyword with an `iskwarg` name — whatever its value — is among the
parameters handed to the solver; and a description that uses such a name as an axis name is rejected with a
SemanticError naming it. -/
theorem kwonly_never_axis {α : Type} (cfg : Cfg) (isk : String → Bool) (used : List String) (kwargs : List (String × α)) :
    (∀ opts prms, opInner cfg isk used kwargs = .ok (opts, prms) →
        (∀ k v, (k, v) ∈ kwargs → isk k = true → cfg.reserved.contains k = false → (k, v) ∈ opts)
        ∧ (∀ k v, (k, v) ∈ prms → isk k = false)
        ∧ (∀ k v, (k, v) ∈ opts → (k, v) ∈ kwargs ∧ isk k = true)
        ∧ (∀ k, k ∈ used → isk k = false))
    ∧ (∀ k, k ∈ used → isk k = true →
        ∃ names, opInner cfg isk used kwargs = .error (.semantic names) ∧ k ∈ names) := by
  constructor
  · intro opts prms h
    simp only [opInner] at h
    split at h
    · cases h
    · rename_i hused
      simp only [Except.ok.injEq] at h
      rw [splitKwargs_eq] at h
      cases h
      refine ⟨?_, ?_, ?_, ?_⟩
      · intro k v hm hk hr
        have hr' : ¬ k ∈ cfg.reserved := by simpa using hr
        simp [List.mem_filter, hm, hk, hr']
      · intro k v hm
        simp only [List.mem_filter] at hm
        simpa using hm.2
      · intro k v hm
        simp only [List.mem_filter] at hm
        exact ⟨hm.1.1, hm.2⟩
      · intro k hk
        cases hi : isk k with
        | false => rfl
        | true => exact absurd (List.any_eq_true.2 ⟨k, hk, hi⟩) hused
  · intro k hk hi
    refine ⟨used.filter isk, ?_, List.mem_filter.2 ⟨hk, hi⟩⟩
    simp only [opInner]
    rw [if_pos (List.any_eq_true.2 ⟨k, hk, hi⟩)]

/-- The predicate the adapters hand to `op.inner` is true exactly for the keyword-only parameters of the user
function (minus the names the adapter excludes): with the configuration extracted from the source, for the reduce
adapter every keyword-only parameter other than `axis`, for the elementwise adapter every keyword-only parameter;
and never for `axis` (reduce) or for a name that is not a keyword-only parameter. -/
theorem iskwarg_iff_kwonly (ps : List Param) :
    (∀ names, kwargNames Einx.Extracted.Adapt.reduceCfg ps = .ok names →
      ∀ n, iskwarg Einx.Extracted.Adapt.reduceCfg names n = true ↔ (n ≠ "axis" ∧ ∃ p ∈ ps, p.kind = .kwOnly ∧ p.name = n))
    ∧ (∀ names, kwargNames Einx.Extracted.Adapt.elementwiseCfg ps = .ok names →
      ∀ n, iskwarg Einx.Extracted.Adapt.elementwiseCfg names n = true ↔ (∃ p ∈ ps, p.kind = .kwOnly ∧ p.name = n)) := by
  rw [extracted_cfg.1, extracted_cfg.2]
  refine ⟨fun names h n => ?_, fun names h n => ?_⟩
  · rw [iskwarg_iff _ _ _ h]
    simp [reduceCfg]
  · rw [iskwarg_iff _ _ _ h]
    simp [elementwiseCfg]

/-! ### `_expr_to_axis` -/

/-- `expr_to_axis_correct`: `exprToAxis` returns exactly the positions `i` whose root dim is marked, strictly
increasing, each below the rank. -/
theorem expr_to_axis_correct (marks : List Bool) :
    (∀ i, i ∈ exprToAxis marks ↔ marks[i]? = some true)
    ∧ (exprToAxis marks).Pairwise (· < ·)
    ∧ (∀ i ∈ exprToAxis marks, i < marks.length) := by
  exact ⟨mem_exprToAxis marks, exprToAxisFrom_sorted 0 marks,
    fun i hi => (List.getElem?_eq_some_iff.1 ((mem_exprToAxis marks i).1 hi)).1⟩

/-! ### Loop-notation semantics of the adapted reduction -/

/-- `position_interleave` (the index lemma `reduce_axis_semantics` rests on): for a flat input expression with distinct
axis names, the position that the loop notation assigns to (un-bracketed axes ↦ `ρ`, bracketed axes ↦ `τ`) is the
interleaving of `ρ` and `τ` along the marks that the tuple `_expr_to_axis(expr)` of bracketed positions determines —
i.e. "index `ρ` outside `axis`, `τ` inside `axis`" addresses the same element as the named assignment. -/
theorem position_interleave (ls : List Leaf) (hnd : (ls.map (·.name)).Nodup) (ρ τ : List Nat)
    (hρ : ρ.length = (axesOfMarked false ls).length) (hτ : τ.length = (axesOfMarked true ls).length) :
    position (ls.map Dim.axis) (((axesOfMarked false ls).map (·.1)).zip ρ ++ ((axesOfMarked true ls).map (·.1)).zip τ)
      = some (interleave (marksAt (exprToAxis (marksOf ls)) ls.length) ρ τ) := by
  have hl : ls.length = (marksOf ls).length := by simp [marksOf]
  rw [hl, marksAt_exprToAxis, axesOfMarked_names, axesOfMarked_names]
  simp only [axesOfMarked, List.length_map] at hρ hτ
  have hnd' : ((ls.filter (fun l => l.marked == false)).map (·.name) ++ (ls.filter (fun l => l.marked == true)).map (·.name)).Nodup := by
    rw [← List.map_append]
    exact ((filter_marked_perm ls).map (·.name)).nodup_iff.2 hnd
  have hz := get_zip_append _ _ ρ τ hnd' (by rw [hρ, List.length_map])
  exact position_interleave_of_get ls ρ τ _ hρ hτ (fun p hp => hz p (List.mem_append_left _ hp))
    (fun p hp => hz p (List.mem_append_right _ hp))

/-- `reduce_axis_semantics`: let `F` be a whole-tensor function that satisfies the documented numpy-like contract with
elementary operation `Fel` (`F(x, axis=A)[ρ] = Fel(x[ρ, :])`, hypothesis `NumpyLike`).  For every flat concat-free input
expression with distinct axis names, every input tensor and every assignment `σ` of the un-bracketed axes, the value
the adapter computes (`F` on the whole aligned tensor with `axis = _expr_to_axis(expr)`) at the output position of `σ`
is the loop-notation denotation: `Fel` applied to the sub-tensor gathered over all assignments of the bracketed axes
through `Denote.position`. -/
theorem reduce_axis_semantics {α β : Type} (F : List Nat → List Nat → Flat α → Flat β) (Fel : List Nat → List α → β)
    (hF : NumpyLike F Fel) (ls : List Leaf) (hnd : (ls.map (·.name)).Nodup) (x : Flat α)
    (σ : Assign) (hσ : σ ∈ assignments (axesOfMarked false ls)) :
    ∃ po, outPosition ls σ = some po ∧ denoteReduceAt Fel ls x σ = some (adaptReduce F ls x po) := by
  rw [assignments_eq_allIdx] at hσ
  obtain ⟨ρ, hρm, rfl⟩ := List.mem_map.1 hσ
  have hρv := allIdx_valid _ ρ hρm
  have hρl : ρ.length = (axesOfMarked false ls).length := by rw [valid_length hρv]; simp
  have hl : ls.length = (marksOf ls).length := by simp [marksOf]
  have hsel : ∀ b, select b (marksAt (exprToAxis (marksOf ls)) (ls.map (·.size)).length) (ls.map (·.size))
      = (axesOfMarked b ls).map (·.2) := by
    intro b
    rw [List.length_map, hl, marksAt_exprToAxis, select_marks, axesOfMarked_sizes]
  refine ⟨ravel (reduceOutShape ls) ρ, ?_, ?_⟩
  · -- the output position of σ
    simp only [outPosition]
    have hnd' : ((ls.filter (fun l => l.marked == false)).map (·.name)).Nodup :=
      (List.Nodup.sublist ((List.filter_sublist).map _) hnd)
    have := position_axes (ls.filter (fun l => l.marked == false)) ρ ((axesOfMarked false ls).map (·.1) |>.zip ρ)
      (by simpa [axesOfMarked] using hρl)
      (by rw [axesOfMarked_names]; exact get_zip_of_nodup _ ρ hnd')
    rw [this]; rfl
  · -- the gathered sub-tensor
    simp only [denoteReduceAt, adaptReduce]
    rw [assignments_eq_allIdx, List.mapM_map]
    have hsub : ∀ τ ∈ allIdx ((axesOfMarked true ls).map (·.2)),
        ((fun τ => (position (ls.map Dim.axis) (((axesOfMarked false ls).map (·.1)).zip ρ ++ τ)).map
          (fun p => x (ravel (ls.map (·.size)) p))) ∘ fun idx => ((axesOfMarked true ls).map (·.1)).zip idx) τ
        = some (x (ravel (ls.map (·.size)) (interleave (marksAt (exprToAxis (marksOf ls)) ls.length) ρ τ))) := by
      intro τ hτ
      have hτl : τ.length = (axesOfMarked true ls).length := by rw [valid_length (allIdx_valid _ τ hτ)]; simp
      simp only [Function.comp_apply, position_interleave ls hnd ρ τ hρl hτl, Option.map_some]
    rw [mapM_eq_some_map _ _ _ hsub]
    have hc := hF (ls.map (·.size)) (exprToAxis (marksOf ls)) x ρ (by rw [hsel]; exact hρv)
    rw [hsel false] at hc
    have hro : reduceOutShape ls = (axesOfMarked false ls).map (·.2) := by rw [axesOfMarked_sizes]; rfl
    have hsel' := hsel true
    simp only [List.length_map] at hsel'
    rw [hro, hc, hsel true]
    simp only [subTensor, List.length_map, hsel']
    rfl

/-- The shape the elementwise adapter asserts on the result is defined exactly when the aligned inputs have equal rank, and is
then their pointwise maximum: at every position it bounds every input's length and is attained by one of them.  For the
broadcast-compatible inputs the adapter documents (every length is 1 or the common one) this is numpy's broadcast shape. -/
theorem elementwise_expected_shape (shapes : List (List Nat)) (out : List Nat) (h : elementwiseOutShape shapes = some out) :
    (∀ t ∈ shapes, t.length = out.length)
    ∧ ∀ i, i < out.length → (∀ t ∈ shapes, t.getD i 0 ≤ out.getD i 0) ∧ ∃ t ∈ shapes, out.getD i 0 = t.getD i 0 := by
  cases shapes with
  | nil => simp [elementwiseOutShape] at h
  | cons s ss =>
    simp only [elementwiseOutShape] at h
    split at h
    · rename_i hall
      simp only [Option.some.injEq] at h
      have hlen : ∀ t ∈ ss, t.length = s.length := by
        intro t ht
        have := List.all_eq_true.1 hall t ht
        simpa using this
      obtain ⟨h1, h2⟩ := foldl_zipWith_max s.length ss s rfl hlen out h
      refine ⟨List.forall_mem_cons.2 ⟨h1.symm, fun t ht => (hlen t ht).trans h1.symm⟩, fun i _ => ?_⟩
      obtain ⟨ha, hs, ho⟩ := h2 i
      refine ⟨List.forall_mem_cons.2 ⟨ha, hs⟩, ?_⟩
      rcases ho with ho | ⟨t, ht, ho⟩
      · exact ⟨s, List.mem_cons_self .., ho⟩
      · exact ⟨t, List.mem_cons_of_mem _ ht, ho⟩
    · cases h

/-! ### The result is checked (model of the graph builder) -/

/-- `adapt_result_checked` (model): the nodes the reduce adapter traces are the call of the user function on the whole
aligned tensor with `axis =` the bracketed positions and the forwarded options, then the isinstance assert, then the
assert of the shape without the bracketed positions, and only then the cast that lets the value be used as a tensor. -/
theorem adapt_result_checked {α : Type} (ls : List Leaf) (opts : List (String × α)) :
    reduceNodes ls opts =
      [.callUser [ls.map (·.size)] (some (exprToAxis (marksOf ls))) opts, .assertIsinstance,
       .assertShape ((ls.filter (fun l => l.marked == false)).map (·.size)),
       .castTensor ((ls.filter (fun l => l.marked == false)).map (·.size))] := rfl

/-- `adaptOK_sound`: a real traced graph accepted by the checker `adaptOK` (the function the driver runs on the serialised
graph of every generated adapter call) has exactly one constant node, which holds an opaque Python object (the user function);
that constant is used exactly once in the whole graph, as the function of exactly one call; the call's positional arguments are
tracers with the aligned shapes of the specification, its keywords are *equal* to `axis=<tuple of the bracketed positions>`
followed by the forwarded options (names and values, in order); the raw result is used exactly twice — by
`isinstance(result, numpy.ndarray)` and by the assert on that condition —, the asserted value exactly twice — by `.shape`
and by the assert on `tuple(shape) == <expected shape>` —, and the twice-asserted value exactly once, by the cast to a
tensor of the expected traced shape.  So nothing can consume the function's result before both asserts. -/
theorem adaptOK_sound (g : Graph) (s : Spec) (h : adaptOK g s = true) :
    ∃ k c fn args r xs1 c1 r1 xs2 c2 r2 ci r3,
      g.apps.filter isAnyConstant = [.constant (.obj k) c]
      ∧ g.apps.filter (isCallOf c) = [.call fn args s.kwargs (.ref r)] ∧ g.uses c = 1
      ∧ ArgsAre g args s.argShapes
      ∧ g.apps.filter (isAssertOn r) = [.assert_ xs1 (.ref c1) r1] ∧ IsinstanceCond g c1 r ∧ g.uses r = 2
      ∧ g.apps.filter (isAssertOn r1) = [.assert_ xs2 (.ref c2) r2] ∧ ShapeCond g c2 r1 s.outShape
      ∧ g.uses r1 = 2 ∧ g.uses r2 = 1
      ∧ g.apps.filter (isCastOf r2) = [.cast ci (.ref r3)] ∧ g.shapeOf r3 = some s.outShape := by
  unfold adaptOK at h
  split at h
  case h_2 => cases h
  rename_i k c hconst
  split at h
  case h_2 => cases h
  rename_i fn args kwargs r hcall
  simp only [Bool.and_eq_true, beq_iff_eq] at h
  obtain ⟨⟨⟨hu, ha⟩, hk⟩, h⟩ := h
  cases kwBeq_eq _ _ hk
  split at h
  case h_2 => cases h
  rename_i xs1 c1 r1 hass1
  simp only [Bool.and_eq_true, beq_iff_eq] at h
  obtain ⟨⟨hi, hur⟩, h⟩ := h
  split at h
  case h_2 => cases h
  rename_i xs2 c2 r2 hass2
  simp only [Bool.and_eq_true, beq_iff_eq] at h
  obtain ⟨⟨⟨hs, hur1⟩, hur2⟩, h⟩ := h
  split at h
  case h_2 => cases h
  rename_i ci r3 hcast
  exact ⟨k, c, fn, args, r, xs1, c1, r1, xs2, c2, r2, ci, r3, hconst, hcall, hu, argsOK_sound g _ _ ha,
    hass1, isinstanceCond_sound g _ _ hi, hur, hass2, shapeCond_sound g _ _ _ hs, hur1, hur2, hcast, beq_iff_eq.1 h⟩

/-! ### Non-vacuity -/

example : opInner reduceCfg (iskwarg reduceCfg ["scale", "axis"]) ["a", "b"] [("b", 3), ("scale", 2), ("keepdims", 1)]
    = .ok ([("scale", 2)], [("b", 3)]) := by rfl
example : opInner reduceCfg (iskwarg reduceCfg ["scale"]) ["a", "scale"] [("scale", 2)] = .error (.semantic ["scale"]) := by rfl
example : kwargNames reduceCfg [⟨"x", .posOrKw⟩, ⟨"axis", .posOrKw⟩, ⟨"scale", .kwOnly⟩] = .ok ["scale"] := by rfl
example : exprToAxis [false, true, false, true] = [1, 3] := by decide
example : elementwiseOutShape [[1, 2, 3], [4, 1, 3]] = some [4, 2, 3] := by decide


/-- The graph of `adapt_numpylike_reduce(f)("a [b] c", x, scale=2)` with `x.shape = (2, 3, 4)`, as traced by einx. -/
def exampleGraph : Graph :=
  { apps := [.import_ "numpy" 1, .constant (.obj 0) 3,
      .call (.ref 3) [.ref 0] [("axis", intsVal [1]), ("scale", .int 2)] (.ref 7),
      .builtin "isinstance" 8, .getattr (.ref 1) "ndarray" 9, .call (.ref 8) [.ref 7, .ref 9] [] (.ref 10),
      .assert_ (.ref 7) (.ref 10) 11,
      .builtin "tuple" 12, .getattr (.ref 11) "shape" 13, .call (.ref 12) [.ref 13] [] (.ref 14),
      .operator "==" [.ref 14, intsVal [2, 4]] 15, .assert_ (.ref 11) (.ref 15) 16, .cast (.ref 16) (.ref 17)],
    shapes := [(0, [2, 3, 4]), (17, [2, 4])], output := .ref 17 }

def exampleSpec : Spec := { argShapes := [[2, 3, 4]], axis := some [1], options := [("scale", .int 2)], outShape := [2, 4] }

example : adaptOK exampleGraph exampleSpec = true := by decide +kernel
/-- the same graph is refused for another option value, another axis tuple, … -/
example : adaptOK exampleGraph { exampleSpec with options := [("scale", .float "2.0")] } = false := by decide +kernel
example : adaptOK exampleGraph { exampleSpec with axis := some [2] } = false := by decide +kernel
/-- … and a graph that uses the raw result (here: returns it) is refused. -/
example : adaptOK { exampleGraph with output := .ref 7 } exampleSpec = false := by decide +kernel
/-- … as is one without the shape assert. -/
example : adaptOK { exampleGraph with apps := exampleGraph.apps.filter (fun a => !isAssertOn 11 a) } exampleSpec = false := by decide +kernel

/-- A function with the numpy-like contract (the hypothesis of `reduce_axis_semantics` is satisfiable): summation along `A`. -/
def sumAlong (shape A : List Nat) (x : Flat Nat) : Flat Nat := fun k =>
  (subTensor shape A x (unravel (select false (marksAt A shape.length) shape) k)).sum

example : NumpyLike sumAlong (fun _ sub => sub.sum) := by
  intro shape A x ρ hv
  simp only [sumAlong, unravel_ravel hv]

/-- `"a [b]"` on the 2×3 tensor `0 … 5`: the loop notation gives `3 + 4 + 5` for `a = 1`, stored at output position 1,
and that is what the adapter computes with `axis = (1,)`. -/
example : denoteReduceAt (fun _ sub => sub.sum) [⟨"a", 2, false⟩, ⟨"b", 3, true⟩] (fun k => k) [("a", 1)] = some 12
    ∧ outPosition [⟨"a", 2, false⟩, ⟨"b", 3, true⟩] [("a", 1)] = some 1
    ∧ adaptReduce sumAlong [⟨"a", 2, false⟩, ⟨"b", 3, true⟩] (fun k => k) 1 = 12
    ∧ exprToAxis (marksOf [⟨"a", 2, false⟩, ⟨"b", 3, true⟩]) = [1] := by decide +kernel

end Einx.Adapt
