import EinxModel.Proofs.CseTreesSound
import EinxModel.Proofs.CseTreesDischarge
import EinxModel.Proofs.CseTreesDecEq
/-!
C02, CSE part — **the model of the whole of `stage2/cse.py` preserves the solution set**.

`cseTrees` (`Solve/CseTrees.lean`) is the executable model of `cse()`: candidate search, all filters, selection order
and tree surgery; on every run of the check its output is compared structurally with the output of the real `cse` on
the stage-2 expressions of real calls (`tools/props/c02_cse.py`, stream (D)).  `forestSys` (`Solve/CseCheck.lean`) is the
value system stage 3 states for a list of stage-2 expressions `exprs1 ++ exprs2`.

The theorems here are about `cseTrees` itself, for *every* input that passes the decidable side conditions
`cseCheck` (well-formed trees + `traceOK` of the replacement walk).  The driver evaluates `cseCheck` on every real
input (request kind `cse_check`); on the pinned tree it fails exactly for the four inputs of the open defects D19
(a user axis called `cse.<n>`), D20 (a bracketed second occurrence at root level) and D21 (overlapping slice
candidates), which `Props/C02Cse2.lean` reproduces.

What `cseCheck` demands (all of it computed from the input by the model, nothing supplied by the harness):
* `wfForest`: a `ConcatenatedAxis` has at least two children, none of them a `List` (facts of stage2/tree.py);
* per replaced part `e` (`usedOK`): lower bounds positive, an unknown value has an unbounded range, and a part replaced
  at root level has one dimension.  That every replaced part passed the filter of `cse` — `_value_range(e)` is not
  `None`, no axis repeats — is **not** demanded: it is proved for every input (`cse_trees_is_cse_step`);
* per pair of events (`pairOK`): parts replaced by the same `cse.<k>` have the same shape (print alike, same unknown
  axes); parts replaced by different `cse.<k>` have disjoint unknown axes; an unknown axis that is copied to the output
  is neither inside a replaced part nor called `cse.<k>`.
-/
namespace Einx.Solve.CseT
open Einx.Solve

/-- what a checked input provides: well-formed trees and the facts about the events of its walk -/
theorem cseCheck_facts {opts : Opts} {rs : List (Option VExpr)} (hchk : cseCheck opts rs = true) :
    wfForest rs = true ∧ TraceFacts (cseEvents opts rs) := by
  simp only [cseCheck, Bool.and_eq_true] at hchk
  exact ⟨hchk.1, traceOK_facts hchk.2 (filt_cseEvents opts rs)⟩

/-- **CSE preserves the solution set** (whole algorithm, all candidates at once).  Let `out = cseTrees opts rs` for an
input `rs = exprs1 ++ exprs2` that passes `cseCheck`.  Then
(a) every solution `σ` of the stage-3 system before CSE, extended by `cse.<k> :=` value of the part it replaces, is a
    solution of the system after CSE;
(b) every solution `σ'` after CSE comes from a solution `σ` before CSE that differs from it only on the unknown axes
    inside the replaced parts, and under which every replaced part with an unknown value has the value of its axis. -/
theorem cseTrees_preserves_sols_partial (opts : Opts) (rs out : List (Option VExpr))
    (hrun : cseTrees opts rs = .ok out) (hchk : cseCheck opts rs = true) :
    (∀ σ, Sat (forestSys rs) σ → Sat (forestSys out) (extend σ (cseEvents opts rs))) ∧
    (∀ σ', Sat (forestSys out) σ' →
      ∃ σ, Sat (forestSys rs) σ ∧ (∀ x, x ∉ innerNames (cseEvents opts rs) → σ x = σ' x) ∧
        ∀ k e len r, Ev.used k e len r ∈ cseEvents opts rs → valueOf e = none → evalV σ e = σ' (cseName k)) :=
  have ⟨hwf, hf⟩ := cseCheck_facts hchk
  sols_of_events (accounts_replaceRoots hrun hwf (evPos_of_filt hf.filt)) hf

/-- CSE does not change whether the constraints are solvable. -/
theorem cseTrees_solvable_iff_partial (opts : Opts) (rs out : List (Option VExpr))
    (hrun : cseTrees opts rs = .ok out) (hchk : cseCheck opts rs = true) :
    (∃ σ, Sat (forestSys rs) σ) ↔ (∃ σ', Sat (forestSys out) σ') := by
  obtain ⟨ha, hb⟩ := cseTrees_preserves_sols_partial opts rs out hrun hchk
  exact ⟨fun ⟨σ, h⟩ => ⟨_, ha σ h⟩, fun ⟨σ', h⟩ => let ⟨σ, hσ, _⟩ := hb σ' h; ⟨σ, hσ⟩⟩

/-- CSE does not change what is forced outside the replaced parts: an axis `x` that is copied to the output
(a `surv` event: it is neither inside a replaced part nor one of the new axes) is forced to `v` before CSE iff it is
forced to `v` after CSE. -/
theorem cseTrees_forced_iff_partial (opts : Opts) (rs out : List (Option VExpr))
    (hrun : cseTrees opts rs = .ok out) (hchk : cseCheck opts rs = true) (x : Var) (m : Nat)
    (hx : Ev.surv x m ∈ cseEvents opts rs) (v : Nat) :
    (∀ σ, Sat (forestSys rs) σ → σ x = v) ↔ (∀ σ', Sat (forestSys out) σ' → σ' x = v) := by
  obtain ⟨ha, hb⟩ := cseTrees_preserves_sols_partial opts rs out hrun hchk
  have hf := (cseCheck_facts hchk).2
  constructor
  · intro h σ' hσ'
    obtain ⟨σ, hσ, hfr, _⟩ := hb σ' hσ'
    rw [← hfr x (surv_not_inner hf hx)]; exact h σ hσ
  · intro h σ hσ
    have := h _ (ha σ hσ)
    have hg : extend σ (cseEvents opts rs) x = σ x := good_forward hf σ _ hx
    rw [← hg]; exact this

/-- The new axis reports the value of what it replaces: `cse.<k>` is forced to `v` after CSE iff the value of the
replaced part `e` is forced to `v` before. -/
theorem cseTrees_value_forced_iff_partial (opts : Opts) (rs out : List (Option VExpr))
    (hrun : cseTrees opts rs = .ok out) (hchk : cseCheck opts rs = true) (k : Nat) (e : VExpr) (len : Nat) (r : Bool)
    (hu : Ev.used k e len r ∈ cseEvents opts rs) (hv : valueOf e = none) (v : Nat) :
    (∀ σ, Sat (forestSys rs) σ → evalV σ e = v) ↔ (∀ σ', Sat (forestSys out) σ' → σ' (cseName k) = v) := by
  obtain ⟨ha, hb⟩ := cseTrees_preserves_sols_partial opts rs out hrun hchk
  have hf := (cseCheck_facts hchk).2
  constructor
  · intro h σ' hσ'
    obtain ⟨σ, hσ, _, hval⟩ := hb σ' hσ'
    rw [← hval k e len r hu hv]; exact h σ hσ
  · intro h σ hσ
    have := h _ (ha σ hσ)
    have hg := (good_forward hf σ _ hu).2.1 hv
    rw [← hg]; exact this

/-- **Every replacement performed by `cseTrees` passed the filter — for every input and both options, no side
condition** (the facts `CseStep.range`, `CseStep.norep` of the one-step theory `Proofs/SolveCse.lean` ask for; no
`CseStep` is built from a run of `cseTrees`: the theorem about a whole run is `cseTrees_preserves_sols_partial`, through
`sols_of_events`): what is replaced (a node, or a run of children of a `List`) is an exprlist of a
final candidate (the two searches of `replace` find nothing else, and an exprlist consists of the nodes at its
identities), and every exprlist of a final candidate passed `_value_range(...) is not None and not
_has_repeated_axis(...)`; no later step of `cse` adds exprlists. -/
theorem cse_trees_is_cse_step (opts : Opts) (rs : List (Option VExpr)) (k : Nat) (e : VExpr) (len : Nat) (r : Bool)
    (hu : Ev.used k e len r ∈ cseEvents opts rs) :
    0 < len ∧ (∃ m ub, valueRange e = some (m, ub)) ∧ hasRepeatedAxis e = false := by
  obtain ⟨h1, hrep⟩ := filt_cseEvents opts rs _ hu
  exact ⟨h1, hrep.range, hrep.2⟩

/-- … and on a checked input what `CseStep.minpos`, `.fixed`, `.decl` say of the replaced expression holds too
(`valueRange_spec` applies to it): bounds positive, an unknown value has an unbounded range, and the new axis is
declared with the minimum `_value_range` reports.  (`CseStep.only`, `.outside` are not concluded.) -/
theorem cse_trees_is_cse_step_partial (opts : Opts) (rs out : List (Option VExpr))
    (hrun : cseTrees opts rs = .ok out) (hchk : cseCheck opts rs = true) (k : Nat) (e : VExpr) (len : Nat) (r : Bool)
    (hu : Ev.used k e len r ∈ cseEvents opts rs) :
    ∃ m ub, valueRange e = some (m, ub) ∧ hasRepeatedAxis e = false ∧ MinPos e ∧
      (valueOf e = none → ub = true ∧ (cseName k, m) ∈ (forestSys out).vars) := by
  have hf := (cseCheck_facts hchk).2
  obtain ⟨_, ⟨m, ub, hrange, hub⟩, hnorep, hminpos, _⟩ := hf.used_spec hu
  obtain ⟨hdo, _⟩ := roots_decls (candidates opts rs) rs 0 out hrun (evPos_of_filt hf.filt)
  refine ⟨m, ub, hrange, hnorep, hminpos, fun hv => ⟨hub hv, ?_⟩⟩
  show (cseName k, m) ∈ rootDecls out
  rw [hdo]; exact List.mem_flatMap.mpr ⟨_, hu, by simp [outDecls, hv, hrange]⟩

/-! ### Non-vacuity -/

/-- `a (b c), (b c) d` against `(2, 6), (6, 5)` as `cse` receives it: `exprs1 ++ exprs2` (shapes are lists of valued
unnamed axes). -/
def exIn : List (Option VExpr) :=
  [some (.list [.axis "a" none 1, .flat (.list [.axis "b" none 1, .axis "c" none 1])]),
   some (.list [.flat (.list [.axis "b" none 1, .axis "c" none 1]), .axis "d" none 1]),
   some (.list [.axis "unnamed.0" (some 2) 1, .axis "unnamed.1" (some 6) 1]),
   some (.list [.axis "unnamed.2" (some 6) 1, .axis "unnamed.3" (some 5) 1])]

def exOut : List (Option VExpr) :=
  [some (.list [.axis "a" none 1, .axis "cse.0" none 1]),
   some (.list [.axis "cse.0" none 1, .axis "d" none 1]),
   some (.list [.axis "unnamed.0" (some 2) 1, .axis "unnamed.1" (some 6) 1]),
   some (.list [.axis "unnamed.2" (some 6) 1, .axis "unnamed.3" (some 5) 1])]

/-- The run on `exIn`, evaluated once: the output, and the events of the walk (from which `cseCheck` and its parts are
computed). -/
theorem exIn_run : cseTrees {} exIn = .ok exOut ∧ cseEvents {} exIn =
    [.surv "a" 1, .used 0 (.list [.flat (.list [.axis "b" none 1, .axis "c" none 1])]) 1 true,
     .used 0 (.list [.flat (.list [.axis "b" none 1, .axis "c" none 1])]) 1 true, .surv "d" 1] := by decide +kernel

theorem cseCheck_exIn : cseCheck {} exIn = true := by
  rw [cseCheck, exIn_run.2]
  decide +kernel

/-- the model replaces both occurrences of `(b c)` by `cse.0` (the real `cse` does the same: harness stream (D)) -/
example : cseTrees {} exIn = .ok exOut := exIn_run.1
/-- … and the input passes the side conditions -/
example : cseCheck {} exIn = true := cseCheck_exIn

/-- The theorem applies and its conclusion is not empty: the system after CSE has the solution `a=2, cse.0=6, d=5`,
hence the system before CSE is solvable. -/
example : ∃ σ, Sat (forestSys exIn) σ := by
  apply (cseTrees_solvable_iff_partial {} exIn exOut exIn_run.1 cseCheck_exIn).mpr
  refine ⟨toFun [("a", 2), ("cse.0", 6), ("d", 5)], ?_⟩
  unfold Sat
  decide +kernel

/-- `(b 3)`, `(b 3)` (D3): `b 3` takes only multiples of 3, the filter rejects it and nothing is replaced. -/
example : cseTrees {} [some (.flat (.list [.axis "b" none 1, .axis "unnamed.0" (some 3) 1])),
                       some (.flat (.list [.axis "b" none 1, .axis "unnamed.1" (some 3) 1])), none, none]
    = .ok [some (.flat (.list [.axis "b" none 1, .axis "unnamed.0" (some 3) 1])),
           some (.flat (.list [.axis "b" none 1, .axis "unnamed.1" (some 3) 1])), none, none] := by decide +kernel

/-- The side conditions are not always true: with a user axis called `cse.0` (einx: `"(a b) cse..., (a b)"`) the new
axis collides with it, `cseCheck` is `false` — and indeed the real call fails although the constraints are solvable
(defect D19). -/
example : cseCheck {} [some (.list [.flat (.list [.axis "a" none 1, .axis "b" none 1]), .axis "cse.0" none 1]),
                       some (.flat (.list [.axis "a" none 1, .axis "b" none 1])), none, none] = false := by decide +kernel

end Einx.Solve.CseT
