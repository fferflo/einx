import EinxModel.Proofs.Concurrent
import EinxModel.Extracted.Registry
/-!
C10 — concurrent use from several threads behaves like some serial order.

Property theorems only (the simulation invariant and its preservation are in `Proofs/Concurrent.lean`).
`Extracted.registryLocked`, `registryLockKind`, `threadLocalStacks`, `threadLocalAdapterStacks`,
`cacheWrappers` and `sysModulesIterations` are regenerated from `/repo` on every run, so the `extracted_*` obligations are re-checked
against what the source says now.
-/
namespace Einx.Registry.Conc
open Einx.Registry

/-! ### Obligations regenerated from the source -/

/-- Every public `BackendRegistry` method reads and replaces `self.state` inside `with self.use_lock`. -/
theorem extracted_all_locked : (Einx.Extracted.registryLocked.all (·.2)) = true := by decide +kernel

/-- The same fact in the form the theorems use. -/
theorem extracted_cfg_all_locked : (LockCfg.ofTable Einx.Extracted.registryLocked).allLocked = true := by decide +kernel

/-- `use_lock` is a mutual-exclusion lock of the `threading` module. -/
theorem extracted_lock_is_mutex :
    Einx.Extracted.registryLockKind = "RLock" ∨ Einx.Extracted.registryLockKind = "Lock" := by decide +kernel

/-- The tracing stack `_dependon` of `tracer/graph.py` is a `threading.local()`. -/
theorem thread_local_stacks :
    Einx.Extracted.threadLocalStacks.all (·.2.2) = true ∧ Einx.Extracted.threadLocalStacks ≠ [] := by decide +kernel

/-- The device stack (torch adapter), the namespace stack (array-api adapter) and the retrace-warning flag of
`util/lru_cache.py` are kept in `threading.local()` objects, and all three anchors were found. -/
theorem thread_local_adapter_stacks :
    Einx.Extracted.threadLocalAdapterStacks.all (·.2.2) = true ∧ Einx.Extracted.threadLocalAdapterStacks.length = 3 := by
  decide +kernel

/-- The graph cache is `functools.cache` / `functools.lru_cache` (safe for concurrent callers: its dictionary is
only touched with the GIL held and a racing first call computes the value twice, never a torn entry). -/
theorem extracted_cache_is_functools :
    Einx.Extracted.cacheWrappers ≠ [] ∧ Einx.Extracted.cacheWrappers.all (fun w => w == "cache" || w == "lru_cache") = true := by
  decide +kernel

/-- The model reads `sys.modules` atomically.  The source may do so only through snapshots (`list(sys.modules)` …):
a loop over the live dictionary raises `RuntimeError` when another thread imports a module meanwhile. -/
theorem extracted_sys_modules_snapshot : Einx.Extracted.sysModulesIterations.all (·.2) = true := by decide +kernel

/-! ### Linearizability of the locked registry -/

/-- **Invariant at any time** of any execution of any number of threads with any programs under any schedule,
if every method is locked: the shared registry state and `sys.modules` are exactly what the sequential model
reaches by running the committed calls one after the other in commit order, every committed call had the
outcome it has in that serial run, commit order respects every thread's program order, a thread inside a
method owns the lock, and a snapshot held between read and store is never stale. -/
theorem locked_invariant (rc : Cfg) (lc : LockCfg) (hl : lc.allLocked = true) (w0 : World)
    (progs : List (List Op)) (sched : List Nat) : Inv rc w0 progs (run rc lc (init w0 progs) sched) :=
  inv_run hl sched (inv_init rc w0 progs)

/-- **Linearizability.**  If every method is locked then for every execution (any number of threads, any
programs, any schedule) that runs to completion there is a serial order of all calls – a merge of the
threads' programs, so consistent with each thread's program order – such that running the calls in that
order on the sequential model `runOps` yields the final shared state and, call by call, the outcomes the
threads observed.  In particular a call fails in the concurrent run only if it fails in that serial run. -/
theorem locked_linearizable (rc : Cfg) (lc : LockCfg) (hl : lc.allLocked = true) (w0 : World)
    (progs : List (List Op)) (sched : List Nat) :
    let c := run rc lc (init w0 progs) sched
    c.finished = true →
    ∃ order : List (Nat × Op × Out),
      (∀ i p, progs[i]? = some p → opsOf i order = p) ∧
      (∀ e ∈ order, e.1 < progs.length) ∧
      runOps rc w0 (order.map (·.2.1)) = (⟨c.st, c.mods⟩, order.map (·.2.2)) ∧
      (∀ i th, c.threads[i]? = some th → th.outs = outsOf i order) := by
  intro c hfin
  have h : Inv rc w0 progs c := locked_invariant rc lc hl w0 progs sched
  refine ⟨c.lin, ?_, h.tids, h.serial, fun i th hi => (h.thr i th hi).outs⟩
  intro i p hp
  have hlt : i < c.threads.length := h.len ▸ (List.getElem?_eq_some_iff.1 hp).1
  have hd : c.threads[i].done = true := List.all_eq_true.mp hfin c.threads[i] (List.getElem_mem hlt)
  simp only [Thread.done, Bool.and_eq_true, List.isEmpty_iff] at hd
  -- a finished thread has no program left: its committed calls are its whole program
  have := (h.thr i _ (List.getElem?_eq_getElem hlt)).prog
  rw [hd.2, List.append_nil, hp] at this
  exact (Option.some.inj this).symm

/-- The corollary for the lock discipline extracted from the current source. -/
theorem extracted_linearizable (w0 : World) (progs : List (List Op)) (sched : List Nat) :
    let c := run Einx.Extracted.registryCfg (LockCfg.ofTable Einx.Extracted.registryLocked) (init w0 progs) sched
    c.finished = true →
    ∃ order : List (Nat × Op × Out),
      (∀ i p, progs[i]? = some p → opsOf i order = p) ∧
      (∀ e ∈ order, e.1 < progs.length) ∧
      runOps Einx.Extracted.registryCfg w0 (order.map (·.2.1)) = (⟨c.st, c.mods⟩, order.map (·.2.2)) ∧
      (∀ i th, c.threads[i]? = some th → th.outs = outsOf i order) :=
  locked_linearizable _ _ extracted_cfg_all_locked w0 progs sched

/-- **No deadlock**: with every method locked, an execution that is not finished always has an enabled thread
(so no call is blocked for ever by another thread's activity). -/
theorem locked_no_deadlock (rc : Cfg) (lc : LockCfg) (hl : lc.allLocked = true) (w0 : World)
    (progs : List (List Op)) (sched : List Nat) :
    let c := run rc lc (init w0 progs) sched
    c.finished = false → ∃ i, (stepThread rc lc c i).isSome = true := by
  intro c hfin
  exact enabled_of_inv hl (locked_invariant rc lc hl w0 progs sched) hfin

/-- **Progress**: with every method locked, every execution can be completed – whatever has been scheduled so far,
some continuation of the schedule finishes all programs (and every step decreases `Conf.measure`, so no
schedule lets a call spin or wait for ever while steps are being taken).  In particular the hypothesis
`finished` of `locked_linearizable` is satisfiable for all programs. -/
theorem locked_can_finish (rc : Cfg) (lc : LockCfg) (hl : lc.allLocked = true) (w0 : World)
    (progs : List (List Op)) (sched : List Nat) :
    ∃ ext, (run rc lc (init w0 progs) (sched ++ ext)).finished = true :=
  Sched.can_finish Conf.measure Conf.finished (fun _ i _ h hs => inv_step hl h i hs)
    (fun _ i _ hs => step_measure_lt i hs) (fun _ h hfin => enabled_of_inv hl h hfin) (inv_init rc w0 progs) sched

/-! ### The set of serial outcomes computed by the driver is complete (`interleave_complete` in `Proofs/Concurrent.lean`) -/

/-- **Outcome form of linearizability** (the form the harness and the driver use): the observable outcome of a
finished run – outcomes per thread, final registry state, final `sys.modules` – is one of the outcomes of the
serial interleavings at call granularity. -/
theorem locked_outcome_serial (rc : Cfg) (lc : LockCfg) (hl : lc.allLocked = true) (w0 : World)
    (progs : List (List Op)) (sched : List Nat) :
    let c := run rc lc (init w0 progs) sched
    c.finished = true → c.outcome ∈ serialOutcomes rc w0 progs := by
  intro c hfin
  obtain ⟨order, hops, htid, hser, houts⟩ := locked_linearizable rc lc hl w0 progs sched hfin
  have hinv : Inv rc w0 progs c := locked_invariant rc lc hl w0 progs sched
  simp only [serialOutcomes, List.mem_map]
  refine ⟨order.map (fun e => (e.1, e.2.1)), ?_, ?_⟩
  · apply interleave_complete _ _ _ (Nat.le_refl _)
    · intro i p hp
      have := hops i p hp
      simpa [opsOf, List.filter_map, Function.comp_def] using this
    · intro e he
      simp only [List.mem_map] at he
      obtain ⟨e', he', rfl⟩ := he
      exact htid e' he'
  · have hmap : (order.map (fun e => (e.1, e.2.1))).map (·.2) = order.map (·.2.1) := by simp
    simp only [serialOutcome, hmap, hser, Conf.outcome]
    congr 1
    apply List.ext_getElem?
    intro i
    by_cases hi : i < progs.length
    · have hi' : i < c.threads.length := by rw [hinv.len]; exact hi
      have := houts i _ (List.getElem?_eq_getElem hi')
      simp only [List.getElem?_map, List.getElem?_range hi, Option.map_some, List.getElem?_eq_getElem hi', this]
      simp [outsOf, List.zip_map', List.filter_map, Function.comp_def]
    · have hi' : ¬ i < c.threads.length := by rw [hinv.len]; exact hi
      simp [Nat.not_lt.mp hi, Nat.not_lt.mp hi']

/-! ### What goes wrong without the lock (defect D9) – the replay witness when `extracted_all_locked` fails -/

namespace Witness

def numpyB : Backend := { uid := 1, name := "numpy", priority := 0, accepts := [3], invalid := false }
def otherB : Backend := { uid := 2, name := "other", priority := 0, accepts := [4], invalid := false }
def rc : Cfg := { registerClearsMemo := true }
def w0 : World := { st := { backends := [numpyB, otherB], names := [("numpy", numpyB), ("other", otherB)] }, mods := [] }
/-- Thread 0 (A): a lookup by argument type.  Thread 1 (B): `with other:` around nothing. -/
def progs : List (List Op) := [[.get .none [3]], [.enter otherB, .exit otherB]]
def getUnlocked : LockCfg := { LockCfg.all with get := false }
/-- A reads `self.state`; B completes `enter`; A stores the state computed from its stale snapshot;
B runs `exit`. -/
def schedule : List Nat := [0, 1, 1, 1, 1, 0, 1, 1, 1, 1]

end Witness

open Witness in
/-- With an unlocked `get`: thread A is inside `get` between its read and its store while thread B completes
`enter`; A's store then discards B's `use_stack` entry, and B's `exit` fails – an outcome that no serial order
of the three calls produces. -/
theorem unlocked_get_loses_update :
    let c := run rc getUnlocked (init w0 progs) schedule
    c.finished = true ∧
    c.st.stack = [] ∧
    c.threads.map (·.outs) = [[.backend 1], [.unit, .error .assertion]] ∧
    c.outcome ∉ serialOutcomes rc w0 progs := by
  decide +kernel

open Witness in
/-- The same programs under the same schedule with every method locked: A has to wait, nothing is lost. -/
theorem locked_get_keeps_update :
    let c := run rc LockCfg.all (init w0 progs) (schedule ++ [0, 0, 1, 1, 1, 1, 1, 1, 1, 1])
    c.finished = true ∧ c.threads.map (·.outs) = [[.backend 1], [.unit, .unit]] ∧
    c.outcome ∈ serialOutcomes rc w0 progs := by
  decide +kernel

open Witness in
/-- An unlocked `enter` loses an entry in the same way (A = `enter`, B = `enter … exit`). -/
theorem unlocked_enter_loses_update :
    let progs' : List (List Op) := [[.enter numpyB], [.enter otherB, .exit otherB]]
    let c := run rc { LockCfg.all with enter := false } (init w0 progs') [0, 1, 1, 0, 1, 1, 1, 1]
    c.finished = true ∧ c.outcome ∉ serialOutcomes rc w0 progs' := by
  decide +kernel

/-! ### Context stacks -/

/-- **Thread-local stacks do not interfere**: when the storage is thread-local, under any interleaving of the
stack operations of any number of threads each thread's stack contents and outcomes are exactly those of
running its own operations alone. -/
theorem thread_local_noninterference (σ : Nat → List Nat) (sched : List (Nat × SOp)) (t : Nat) :
    let r := stackRun true σ sched
    (r.1 t, (r.2.filter (·.1 == t)).map (·.2)) = stackAlone (σ t) ((sched.filter (·.1 == t)).map (·.2)) := by
  induction sched generalizing σ with
  | nil => simp [stackRun, stackAlone]
  | cons e rest ih =>
    obtain ⟨u, op⟩ := e
    by_cases hut : u = t
    · subst hut
      have := ih (fun j => if j = u then (stackOp (σ u) op).1 else σ j)
      simp only [↓reduceIte] at this
      simp only [stackRun, ↓reduceIte, List.filter_cons, beq_self_eq_true, List.map_cons, stackAlone]
      rw [← this]
    · have hut' : (u == t) = false := by simpa using hut
      have htu : ¬ t = u := fun e => hut e.symm
      have := ih (fun j => if j = u then (stackOp (σ u) op).1 else σ j)
      simp only [htu, ↓reduceIte] at this
      simp only [stackRun, ↓reduceIte, List.filter_cons, hut', Bool.false_eq_true]
      exact this

/-- With a plain module-level object instead of `threading.local()` a thread sees the other thread's entries. -/
theorem shared_stack_interferes :
    let sched : List (Nat × SOp) := [(0, .push 1), (1, .push 2), (0, .peek), (0, .pop), (1, .pop)]
    ((stackRun false (fun _ => []) sched).2.filter (·.1 == 0)).map (·.2)
      ≠ (stackAlone [] ((sched.filter (·.1 == 0)).map (·.2))).2 := by
  decide +kernel

/-! ### Non-vacuity -/

/-- The hypotheses of `locked_linearizable` are met by a non-trivial instance: three threads (a lookup that
registers the memo, a `with` block, a registration plus an import) under a schedule with context switches inside
methods run to completion, and the lock is really contended (thread 1 is refused while thread 0 owns it). -/
example :
    let progs : List (List Op) :=
      [[.get .none [3]], [.enter Witness.otherB, .exit Witness.otherB],
       [.register { uid := 3, name := "late", priority := 5, accepts := [3], invalid := false }, .importModule "m"]]
    let c1 := run Witness.rc LockCfg.all (init Witness.w0 progs) [0, 0]
    let c := run Witness.rc LockCfg.all (init Witness.w0 progs) [0, 0, 1, 2, 0, 2, 0, 1, 2, 1, 2, 1, 2, 1, 2, 2, 1, 2, 1, 2, 1, 1, 2, 1, 1, 1, 1]
    stepThread Witness.rc LockCfg.all c1 1 = none ∧ c1.finished = false ∧
    c.finished = true ∧ c.lin.length = 5 ∧ c.outcome ∈ serialOutcomes Witness.rc Witness.w0 progs := by
  decide +kernel

end Einx.Registry.Conc
