import EinxModel.Proofs.Cache
import EinxModel.Extracted.Cache
/-!
C06 — a call's outcome does not depend on earlier calls (cache transparency).

Property theorems only (helper lemmas live in `Proofs/Cache.lean` and `Proofs/CacheEq.lean`).  `Extracted/Cache.lean` is regenerated
from `/repo` on every run: the dispatch table of `_freeze_value`, the shape of `_freeze_args` / `lru_cache`,
and the `__exit__` methods behind the two context stacks.  Obligations over it are discharged by `decide`.
-/
namespace Einx.Cache
open Einx.Extracted

/-! ### Obligations regenerated from the source -/

/-- Every branch of `_freeze_value` is one the model interprets. -/
theorem extracted_table_known : freezeTable.known = true := by decide

/-- Containers (`ndarray`, `list`/`tuple`, `dict`, `SimpleNamespace`, `inspect.Parameter`) are rewritten as on the
pinned tree and strings, `None`, types, identity objects and tracer placeholders fall through. -/
theorem extracted_table_respects : freezeTable.respects = true := by decide +kernel

/-- `_freeze_args` freezes every value and is the outermost wrapper around `functools.cache`. -/
theorem extracted_freeze_args_outermost : freezeArgsOutermost = true := by decide

/-- `Use.__exit__` / `DependOn.__exit__` pop on every path and do not swallow exceptions; tracing runs inside
`with tracer.depend_on(...)`. -/
theorem extracted_stack_cfg_ok : stackCfg.ok = true := by decide

/-! ### The memo machine -/

section Memo
variable {C K F : Type} (key : C → K) (hit : K → K → Bool) (trim : Memo K F → Memo K F) (compute : C → Outcome F)

/-- Cache transparency relative to a predicate `P` on calls: the hypothesis on colliding keys is only needed for the
calls that actually occur, as long as all of them satisfy `P`. -/
theorem memo_transparent_on (P : C → Prop)
    (htrim : ∀ m e, e ∈ trim m → e ∈ m)
    (hcomp : ∀ a b, P a → P b → hit (key a) (key b) = true → compute a = compute b)
    (h : List C) (c : C) (hall : ∀ x ∈ c :: h, P x) :
    (step key hit trim compute (after key hit trim compute [] h) c).2 = compute c :=
  (step_spec key hit trim compute P htrim hcomp _
    (run_nil_spec key hit trim compute P htrim hcomp h fun x hx => hall x (List.mem_cons_of_mem _ hx)).2 c
    (hall c (List.mem_cons_self ..))).1

/-- **Cache transparency.** If calls with colliding keys have the same fresh outcome, then after *any* history
of calls (of any length, including failing ones, under any eviction policy that only drops entries) the
outcome of a call is the outcome of computing it afresh. -/
theorem memo_transparent
    (htrim : ∀ m e, e ∈ trim m → e ∈ m)
    (hcomp : ∀ a b, hit (key a) (key b) = true → compute a = compute b)
    (h : List C) (c : C) :
    (step key hit trim compute (after key hit trim compute [] h) c).2 = compute c :=
  memo_transparent_on key hit trim compute (fun _ => True) htrim (fun a b _ _ => hcomp a b) h c fun _ _ => trivial

/-- Every outcome along a history is the fresh outcome of that call. -/
theorem memo_history_outcomes
    (htrim : ∀ m e, e ∈ trim m → e ∈ m)
    (hcomp : ∀ a b, hit (key a) (key b) = true → compute a = compute b)
    (h : List C) :
    (run key hit trim compute [] h).2 = h.map compute :=
  (run_nil_spec key hit trim compute (fun _ => True) htrim (fun a b _ _ => hcomp a b) h fun _ _ => trivial).1

/-- A call that raised leaves the memo exactly as it found it (no hypothesis on `compute`). -/
theorem memo_error_not_stored (m : Memo K F) (c : C) (e : String)
    (h : (step key hit trim compute m c).2 = .raised e) :
    (step key hit trim compute m c).1 = m := by
  unfold step at h ⊢
  cases hf : m.find? (fun e => hit (key c) e.1) with
  | some x => rfl
  | none =>
    cases hc : compute c with
    | ok f => simp [hf, hc] at h
    | raised e' => rfl

/-- The same for a whole einx call (compile through the memo, then run the compiled function on the data):
its result after any history is `exec (compile c) data`. -/
theorem call_outcome_history_independent {D R : Type} (exec : F → D → R) (raisedR : String → R)
    (htrim : ∀ m e, e ∈ trim m → e ∈ m)
    (hcomp : ∀ a b, hit (key a) (key b) = true → compute a = compute b)
    (h : List C) (c : C) (d : D) :
    (callStep key hit trim compute exec raisedR (after key hit trim compute [] h) c d).2 =
      (match compute c with
        | .ok f => exec f d
        | .raised e => raisedR e) := by
  have := memo_transparent key hit trim compute htrim hcomp h c
  unfold callStep
  generalize step key hit trim compute (after key hit trim compute [] h) c = r at this
  obtain ⟨m', o⟩ := r
  simp only at this
  subst this
  cases compute c <;> rfl

end Memo

/-! ### The key refines the observation -/

/-- Value level: under a table that tags every scalar with its type, equal frozen values have equal typed
observations. -/
theorem frozen_eq_typed (T : Table) (hr : T.respects = true) (ht : T.tagsAll = true) (x y : PyVal)
    (h : pyEq (freeze T x) (freeze T y) = true) : typedEq (observe x) (observe y) = true := by
  have r := respects_of hr
  rw [freeze_factor T r (tagsAll_of ht) x, freeze_factor T r (tagsAll_of ht) y] at h
  exact tag_typed _ _ h

/-- **`key_refines_observation`.**  For every dispatch table that treats containers as the pinned one
(`respects`) and freezes every scalar together with its type (`tagsAll`) – both `decide`d on the extracted
table – two calls whose cache keys are `==` have the same typed observation: same `api` object, same
description, same tensor kinds and shapes, same backend object, same keyword names, and keyword values that
agree in structure, numeric class and value. -/
theorem key_refines_observation (T : Table) (hr : T.respects = true) (ht : T.tagsAll = true) (a b : Call)
    (h : pyEq (keyOf T a) (keyOf T b) = true) : typedEq (observeCall a) (observeCall b) = true := by
  simp only [keyOf, pyEq, pyEqList, Bool.and_true, Bool.and_eq_true, beq_iff_eq] at h
  obtain ⟨hop, _, hargs, _, hkw⟩ := h
  have h1 := frozen_eq_typed T hr ht _ _ hargs
  have h2 := frozen_eq_typed T hr ht _ _ hkw
  simp only [observe] at h1 h2
  simp only [observeCall, keyOf, hop, typedEq, typedEqList, BEq.rfl, h1, h2, Bool.and_self]

/-- **Partial version for tables that do not tag scalars** (the pinned tree): the conclusion holds for calls all of
whose numbers (keyword values, other non-tensor arguments) belong to one numeric class `c` – e.g. axis sizes that
are all integers, which is the documented use. -/
theorem key_refines_observation_partial (T : Table) (hr : T.respects = true) (hn : T.tagsNone = true)
    (c : NumClass) (a b : Call)
    (ha : singleClass c (observeCall a) = true) (hb : singleClass c (observeCall b) = true)
    (h : pyEq (keyOf T a) (keyOf T b) = true) : typedEq (observeCall a) (observeCall b) = true := by
  have e : ∀ x, keyOf T x = observeCall x := by
    intro x; simp [observeCall, keyOf, freeze_untagged hr hn]
  rw [e a, e b] at h
  exact single_typed c _ _ ha hb h

/-- The two calls of D8: `einx.id("a b -> a b c", x, c=2)` and the same with `c=2.0`. -/
def d8a : Call := { op := 0, args := [.str "a b -> a b c", .tensor [2, 3]], kwargs := [("c", .num .pyInt ⟨2, 0⟩), ("backend", .obj 1)] }
def d8b : Call := { op := 0, args := [.str "a b -> a b c", .tensor [2, 3]], kwargs := [("c", .num .pyFloat ⟨2, 0⟩), ("backend", .obj 1)] }
/-- … and `c=1` vs `c=True`. -/
def d8c : Call := { op := 0, args := [.str "a b -> a b c", .tensor [2, 3]], kwargs := [("c", .num .pyInt ⟨1, 0⟩), ("backend", .obj 1)] }
def d8d : Call := { op := 0, args := [.str "a b -> a b c", .tensor [2, 3]], kwargs := [("c", .num .pyBool ⟨1, 0⟩), ("backend", .obj 1)] }

/-- **Refutation on the pinned table (D8).** Without tags the keys of `c=2` / `c=2.0` (and `c=1` / `c=True`) are
`==` although the observations differ: `key_refines_observation` is false for `pinnedTable`. -/
theorem key_refines_observation_refuted_pinned :
    (pyEq (keyOf pinnedTable d8a) (keyOf pinnedTable d8b) = true ∧ typedEq (observeCall d8a) (observeCall d8b) = false) ∧
    (pyEq (keyOf pinnedTable d8c) (keyOf pinnedTable d8d) = true ∧ typedEq (observeCall d8c) (observeCall d8d) = false) := by
  decide +kernel

/-- **Status of the tree being checked.** Either the extracted table tags every scalar, and then the key refines
the observation for all calls; or it is the D8 situation, witnessed on the extracted table itself. -/
theorem extracted_table_status :
    (freezeTable.tagsAll = true ∧ ∀ a b : Call, pyEq (keyOf freezeTable a) (keyOf freezeTable b) = true →
        typedEq (observeCall a) (observeCall b) = true) ∨
    (freezeTable.tagsNone = true ∧ pyEq (keyOf freezeTable d8a) (keyOf freezeTable d8b) = true ∧
        typedEq (observeCall d8a) (observeCall d8b) = false) := by
  first
  | exact Or.inl ⟨by decide +kernel, key_refines_observation freezeTable (by decide +kernel) (by decide +kernel)⟩
  | exact Or.inr (by decide +kernel)

/-- Container kinds are erased: a list, a tuple and an array with the same `tolist()` give the same key. -/
theorem freeze_erases_container_kind (T : Table) (hr : T.respects = true) (xs : List PyVal) (d : NumKind) :
    freeze T (.list xs) = freeze T (.tuple xs) ∧ freeze T (.ndarray d (.list xs)) = freeze T (.tuple xs) := by
  have r := respects_of hr
  simp [freeze, r.list, r.tuple, r.ndarray, finishSeq]

/-! ### End to end: the cache of `api.py` -/

/-- **If tracing depends only on the typed observation** (which is what `_to_tracer` establishes for tensor
arguments: shapes and kinds only) **and the table tags scalars, the compiled-function cache is transparent**:
after any history the outcome of `construct_graph_with_cache` is that of a fresh `_construct_graph`. -/
theorem einx_cache_transparent {F : Type} (T : Table) (hr : T.respects = true) (ht : T.tagsAll = true) (env : HashEnv)
    (compute : Call → Outcome F)
    (hobs : ∀ a b, typedEq (observeCall a) (observeCall b) = true → compute a = compute b)
    (h : List Call) (c : Call) :
    (step (keyOf T) (keyHit T env) id compute (after (keyOf T) (keyHit T env) id compute [] h) c).2 = compute c := by
  apply memo_transparent
  · intro m e he; exact he
  · intro a b hk
    simp only [keyHit, Bool.and_eq_true] at hk
    exact hobs a b (key_refines_observation T hr ht a b hk.2)

/-- **What holds on the pinned table**: the cache is transparent along every history in which all numbers that reach a
key belong to one numeric class (all keyword values integers, say). -/
theorem einx_cache_transparent_partial {F : Type} (T : Table) (hr : T.respects = true) (hn : T.tagsNone = true) (env : HashEnv)
    (c0 : NumClass) (compute : Call → Outcome F)
    (hobs : ∀ a b, typedEq (observeCall a) (observeCall b) = true → compute a = compute b)
    (h : List Call) (c : Call) (hall : ∀ x ∈ c :: h, singleClass c0 (observeCall x) = true) :
    (step (keyOf T) (keyHit T env) id compute (after (keyOf T) (keyHit T env) id compute [] h) c).2 = compute c := by
  apply memo_transparent_on (keyOf T) (keyHit T env) id compute (fun x => singleClass c0 (observeCall x) = true)
  · intro m e he; exact he
  · intro a b ha hb hk
    simp only [keyHit, Bool.and_eq_true] at hk
    exact hobs a b (key_refines_observation_partial T hr hn c0 a b ha hb hk.2)
  · exact hall

/-! ### The context stacks -/

/-- **`stack_restored`.** Whatever a program does with `with backend:` blocks and `with depend_on(...)` blocks –
nested in any way, with exceptions raised anywhere and caught or not – when it is done the `use_stack` and the
`_dependon` stack are exactly as before, and `registry.exit` never fails its assertion. -/
theorem stack_restored (cfg : StackCfg) (hc : cfg.ok = true) (p : Prog) (s : Stacks) :
    (exec cfg p s).1 = s ∧ (exec cfg p s).2 ≠ .corrupt :=
  exec_restores cfg hc p s

/-- … in particular for one einx call on the tree being checked, failing at trace time or at run time, inside any
nest of user `with` blocks. -/
theorem failing_call_restores_stacks (deps : List Nat) (traceRaises runRaises : Bool) (inner : Prog) (bs : List Nat) (s : Stacks) :
    (exec stackCfg (bs.foldr (fun b p => Prog.withBackend b p) (einxCall deps traceRaises runRaises inner)) s).1 = s :=
  (exec_restores stackCfg extracted_stack_cfg_ok _ s).1

/-! ### Non-vacuity -/

/-- The fixed table (a branch `isinstance(x, bool | int | float | np.generic) → (type(x), x)` before the
fall-through) satisfies the hypotheses of `key_refines_observation`, and separates the D8 calls. -/
example :
    let T : Table := { pinnedTable with rows := pinnedTable.rows ++ [⟨[.bool, .int, .float, .complex, .npGeneric], .tagType⟩] }
    T.respects = true ∧ T.tagsAll = true ∧ T.known = true ∧ pyEq (keyOf T d8a) (keyOf T d8b) = false ∧
      pyEq (keyOf T d8a) (keyOf T d8a) = true := by decide +kernel

/-- A fix that forgets numpy scalars is recognised as incomplete. -/
example :
    let T : Table := { pinnedTable with rows := pinnedTable.rows ++ [⟨[.bool, .int, .float], .tagType⟩] }
    T.tagsAll = false ∧ T.tagsNone = false := by decide +kernel

/-- The hypotheses of `key_refines_observation_partial` are met by a non-trivial pair: equal keys from a list and an
array of integers (`b=[2, 3]` vs `b=np.array([2, 3])`). -/
example :
    let a : Call := { op := 0, args := [.str "(a b)... -> a... b...", .tensor [4, 6]], kwargs := [("b", .list [.num .pyInt ⟨2, 0⟩, .num .pyInt ⟨3, 0⟩])] }
    let b : Call := { a with kwargs := [("b", .ndarray .npInt64 (.list [.num .pyInt ⟨2, 0⟩, .num .pyInt ⟨3, 0⟩]))] }
    pinnedTable.respects = true ∧ pinnedTable.tagsNone = true ∧ singleClass .integer (observeCall a) = true ∧
      singleClass .integer (observeCall b) = true ∧ pyEq (keyOf pinnedTable a) (keyOf pinnedTable b) = true := by decide +kernel

/-- The memo machine on a concrete history: a miss, a hit through an equal-but-not-identical key, a failing call
that is not stored and fails again. -/
example :
    let key : Nat → Nat := fun c => c % 10
    let compute : Nat → Outcome Nat := fun c => if c % 10 == 7 then .raised "ValueError" else .ok (c % 10 + 100)
    (run key (· == ·) id compute [] [3, 13, 7, 7, 3]).2 = [.ok 103, .ok 103, .raised "ValueError", .raised "ValueError", .ok 103] ∧
    (run key (· == ·) id compute [] [3, 13, 7, 7, 3]).1 = [(3, 103)] := by decide +kernel

/-- A `with` nest with a failing call in the middle, and what goes wrong if `__exit__` skipped the pop on exceptions. -/
example :
    let p := Prog.tryExcept (.withBackend 1 (.withBackend 2 (einxCall [7] true false (.prim false))))
    exec stackCfg p ⟨[], []⟩ = (⟨[], []⟩, .normal) ∧
    (exec { stackCfg with useExitUnconditional := false } p ⟨[], []⟩).1 = ⟨[1, 2], []⟩ := by decide +kernel

end Einx.Cache
