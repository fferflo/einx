import EinxModel.Proofs.ErrorsEllipsis
import EinxModel.Errors.Classify
import EinxModel.Errors.Sites
/-!
# C03 — ill-formed calls are rejected with documented errors, never computed

What is proved here (DESIGN.md, C03, reading (a)–(c)):

* **Error reporting cannot fail with `AssertionError`.**  `indicator_pos_in_range`: every caret position that the model of
  `ExpressionIndicator.get_pos_for_{exprs,axisnames,concat,brackets}` computes from a tree returned by the parser model on the
  caller's own description `s` — or from a sub-expression of it, or from one of the rewrites `_parse_op` applies to such a
  sub-expression (`remove brackets`, `[output.axis]`, `mark_reduced_axes`) — satisfies `0 ≤ p < s.length`, which is the test of the
  `assert` in the indicator methods and in the constructors of `SyntaxError`/`RankError`/`AxisSizeError`/`SemanticError`.
  Nodes that smart constructors create at position `-1` contribute no caret (`indicator_never_negative`).
  `get_pos_for_ellipses` (`range(end_pos - 3, end_pos)`) is covered by `indicator_ellipses_in_range`, through the additional
  invariant that every ellipsis node of parser output ends with a `...` token (`parse_tree_ellipses_ok`; the driver also
  evaluates it on every correspondence case).
* **Obligations over the extracted source facts** (by evaluation): the indicator formulas and range asserts are the ones the model
  mirrors; the error-class hierarchy is as documented; every `assert`/`raise <internal type>` site of the front end is a reviewed one.
* **The classification the harness applies** is a total function whose five verdicts are exhaustive and mutually exclusive, and
  which never lets an internal exception type pass as an argument error.

The rejection theorems of the parser are in Props/C03Reject.lean and Props/C03Grammar.lean, those of `_parse_op` (`elab_total`
and one theorem per rule) in Props/C03Elab.lean; what lies behind `_parse_op` is checked behaviourally (corruptions that are
ill-formed by construction).
-/
namespace Einx.Props.C03
open Einx.Notation Einx.Errors

/-! ## (i) Caret positions -/

/-- `get_pos_for_exprs` on roots that satisfy the position invariant: its `assert` holds. -/
theorem indicator_exprs_in_range {n : Nat} {roots : List Expr} (h : ∀ x ∈ roots, PosOK n x) :
    posAssert n (posForExprs roots) = true := by
  rw [posAssert_iff]
  exact List.forall_mem_flatMap.mpr fun x hx => posRange_inR (h x hx).range

/-- `get_pos_for_axisnames`, for every list of axis names. -/
theorem indicator_axisnames_in_range {n : Nat} {roots : List (Option Expr)} (names : List Str) (h : RootsOK n roots) :
    posAssert n (posForAxisnames roots names) = true := by
  rw [posAssert_iff]
  exact List.forall_mem_flatMap.mpr fun y hy => axisnamePos_inR names (rootNodes_ok h y hy)

/-- `get_pos_for_concat` -/
theorem indicator_concat_in_range {n : Nat} {roots : List (Option Expr)} (h : RootsOK n roots) :
    posAssert n (posForConcat roots) = true := by
  rw [posAssert_iff]
  exact List.forall_mem_flatMap.mpr fun y hy => concatPos_inR (rootNodes_ok h y hy)

/-- `get_pos_for_brackets`: both carets of every bracket pair that has a source position. -/
theorem indicator_brackets_in_range {n : Nat} {roots : List (Option Expr)} (h : RootsOK n roots) :
    posAssert n (posForBrackets roots) = true := by
  rw [posAssert_iff]
  exact List.forall_mem_flatMap.mpr fun y hy => bracketsPos_inR (rootNodes_ok h y hy)

/-- `get_pos_for_ellipses` under the decidable hypothesis that every ellipsis node with a source position ends at least
    three characters into the string and inside it (true of parser output, whose ellipsis nodes end with a `...` token:
    `parse_tree_ellipses_ok` below; the driver also evaluates `ellOK` on every correspondence case). -/
theorem indicator_ellipses_in_range_partial {n : Nat} {roots : List (Option Expr)}
    (h : ∀ x, some x ∈ roots → ellOK n x = true) : posAssert n (posForEllipses roots) = true := by
  rw [posAssert_iff]
  refine List.forall_mem_flatMap.mpr fun y hy => ellipsisPos_inR ?_
  exact forall_mem_rootNodes (fun x hx => List.all_eq_true.mp (h x hx)) y hy

/-- `get_pos_for_literal` (used for `->` and `,`): inside the string for every literal and every string. -/
theorem indicator_literal_in_range (l text : Str) : posAssert text.length (posForLiteral l text 0) = true := by
  rw [posAssert_iff]
  exact arrows_ok l text

/-- The set of trees covered: sub-expressions of the parsed description closed under the three rewrites. -/
inductive FromDescription (x : Expr) : Expr → Prop
  | node {y} : y ∈ nodes x → FromDescription x y
  | sub {y z} : FromDescription x y → z ∈ nodes y → FromDescription x z
  | removeBrackets {y} : FromDescription x y → FromDescription x (removeBrackets y)
  | toOutput {y} : FromDescription x y → FromDescription x (toOutput y)
  | markAxes {y} (names : List Str) : FromDescription x y → FromDescription x (markAxes names y)

/-- Every node-wise predicate whose condition sees heads only and that holds of the two nodes `_parse_op` makes (`[output.axis]`,
    the brackets of `mark_reduced_axes`) holds of all trees `FromDescription` reaches. -/
theorem fromDescription_nodeWise {q P : Expr → Prop} (h : NodeWise q P) (hl : HeadOnly q)
    (hout : P (mkBrackets (.axis (lit "output.axis") none (-1) (-1)) (-1) (-1)))
    (hmark : ∀ n v b e, P (.axis n v b e) → P (.brackets (.axis n v b e) (-1) (-1)))
    {x : Expr} (hx : P x) : ∀ {y}, FromDescription x y → P y := by
  intro y hy
  induction hy with
  | node hn => exact h.nodes x hx _ hn
  | sub _ hz ih => exact h.nodes _ ih _ hz
  | removeBrackets _ ih => exact h.removeBrackets hl ih
  | toOutput _ ih => exact h.toOutput hl hout ih
  | markAxes names _ ih => exact h.markAxes hl hmark names ih

theorem fromDescription_ok {n : Nat} {x : Expr} (hx : PosOK n x) : ∀ {y}, FromDescription x y → PosOK n y :=
  fromDescription_nodeWise (posOK_nodeWise n) (posNode_headOnly n)
    ((posOK_nodeWise n).mkBrackets ⟨rangeOK_neg1 n, by omega⟩ (rangeOK_neg1 n))
    (fun _ _ _ _ ha => ⟨⟨rangeOK_neg1 n, by omega⟩, ha⟩) hx

theorem fromDescription_ell {n : Nat} {x : Expr} (hx : EllP n x) : ∀ {y}, FromDescription x y → EllP n y :=
  fromDescription_nodeWise (ellP_nodeWise n) (ellNode_headOnly n) ((ellP_nodeWise n).mkBrackets trivial trivial)
    (fun _ _ _ _ _ => trivial) hx

/-- The roots `_parse_op` and the solver stages hand to the indicator: every sub-expression `y` of the parsed description, and
    the rewrites of `y` that `_parse_op` builds (implicit outputs and automatic bracket marking) satisfy the invariant. -/
theorem parse_tree_roots_ok (text : Str) (x : Expr) (h : parseOp text = .ok x) :
    ∀ y ∈ nodes x, PosOK text.length y ∧ PosOK text.length (removeBrackets y) ∧ PosOK text.length (toOutput y) ∧
      ∀ names, PosOK text.length (markAxes names y) := by
  have hx := posOK_of_exprOK x ((parseOp_ok text).ok h)
  intro y hy
  exact ⟨fromDescription_ok hx (.node hy), fromDescription_ok hx (.removeBrackets (.node hy)),
    fromDescription_ok hx (.toOutput (.node hy)), fun names => fromDescription_ok hx (.markAxes names (.node hy))⟩

/-- The hypothesis of `indicator_ellipses_in_range_partial` is a theorem for parser output: every `Ellipsis` node of a tree
    returned by the parser model ends with the three characters of a `...` token inside the string (a token is as long as its
    text, from the lexer through the delimiter stack to `parse`; the passes after `parse` keep the node-wise invariant `EllP`). -/
theorem parse_tree_ellipses_ok (text : Str) (x : Expr) (h : parseOp text = .ok x) : ellOK text.length x = true :=
  ellOK_of_EllP ((parseOp_ell text).ok h)

/-- `get_pos_for_ellipses` at full strength on the trees of `indicator_pos_in_range`. -/
theorem indicator_ellipses_in_range (text : Str) (x : Expr) (h : parseOp text = .ok x)
    (roots : List (Option Expr)) (hr : ∀ y, some y ∈ roots → FromDescription x y) :
    posAssert text.length (posForEllipses roots) = true :=
  indicator_ellipses_in_range_partial fun y hy => ellOK_of_EllP (fromDescription_ell ((parseOp_ell text).ok h) (hr y hy))

/-- **`indicator_pos_in_range`.**  For every description `text` that the parser model accepts, and every list of roots taken
    from its tree (sub-expressions, closed under `_parse_op`'s rewrites; `none` for absent equation sides), the range `assert`
    of `get_pos_for_exprs`, `get_pos_for_axisnames` (any names), `get_pos_for_concat` and `get_pos_for_brackets` holds: no
    caret is negative or beyond the end of the caller's string, so neither these asserts nor the ones in the error
    constructors can fire for positions obtained this way. -/
theorem indicator_pos_in_range (text : Str) (x : Expr) (h : parseOp text = .ok x)
    (roots : List (Option Expr)) (hr : ∀ y, some y ∈ roots → FromDescription x y) (names : List Str) :
    posAssert text.length (posForExprs (roots.filterMap id)) = true ∧
    posAssert text.length (posForAxisnames roots names) = true ∧
    posAssert text.length (posForConcat roots) = true ∧
    posAssert text.length (posForBrackets roots) = true := by
  have hx := posOK_of_exprOK x ((parseOp_ok text).ok h)
  have hroots : RootsOK text.length roots := fun y hy => fromDescription_ok hx (hr y hy)
  refine ⟨indicator_exprs_in_range ?_, indicator_axisnames_in_range names hroots, indicator_concat_in_range hroots,
    indicator_brackets_in_range hroots⟩
  intro y hy
  simp only [List.mem_filterMap, id] at hy
  obtain ⟨a, ha, rfl⟩ := hy
  exact hroots y ha

/-- No indicator function returns a negative position (in particular never `-1`) on such trees: nodes created at the default
    position contribute nothing.  (A `-1` here would be an `AssertionError` while reporting another error.) -/
theorem indicator_never_negative {n : Nat} {roots : List (Option Expr)} (h : RootsOK n roots) (names : List Str) :
    ∀ p, (p ∈ posForAxisnames roots names ∨ p ∈ posForConcat roots ∨ p ∈ posForBrackets roots) → 0 ≤ p := by
  intro p hp
  rcases hp with hp | hp | hp
  · exact (posAssert_iff.mp (indicator_axisnames_in_range names h) p hp).1
  · exact (posAssert_iff.mp (indicator_concat_in_range h) p hp).1
  · exact (posAssert_iff.mp (indicator_brackets_in_range h) p hp).1

/-- The caret line of `create` is exactly as long as the expression, whatever the positions: a caret outside the string is
    silently dropped by `create`, which is why the constructors assert the range separately. -/
theorem create_length (text : Str) (pos : List Int) :
    (create text pos).length = 13 + text.length + 2 + 13 + text.length := by
  have h1 : (lit "Expression: \"").length = 13 := by decide +kernel
  have h2 : (lit "\"\n").length = 2 := by decide +kernel
  simp only [create, List.length_append, List.length_map, List.length_range, List.length_replicate, h1, h2]

/-! ## (ii) Obligations over the extracted source facts -/

/-- The indicator methods are the ones the model mirrors: node selection, `None` handling, the `begin_pos >= 0` guard and the
    expression appended to `pos`, in source order. -/
theorem indicator_formulas_are_the_models :
    Einx.Extracted.indicatorMethods =
      [⟨"get_pos_for_literal", [], false, false, false, false, ["range(i, i + len(literal))"], "pos < len(self.text)"⟩,
       ⟨"get_pos_for_exprs", [], false, false, false, false, ["range(expr.begin_pos, expr.end_pos)"], "pos < len(self.text)"⟩,
       ⟨"get_pos_for_axisnames", ["stage1.Axis", "stage2.Axis", "stage3.Axis"], true, true, false, true,
          ["range(expr.begin_pos, expr.end_pos)"], "pos < len(self.text)"⟩,
       ⟨"get_pos_for_ellipses", ["stage1.Ellipsis"], true, true, true, false, ["range(expr.end_pos - 3, expr.end_pos)"], "pos < len(self.text)"⟩,
       ⟨"get_pos_for_concat", ["stage1.ConcatenatedAxis"], true, true, true, false, ["range(expr.begin_pos, expr.end_pos)"], "pos < len(self.text)"⟩,
       ⟨"get_pos_for_brackets", ["stage1.Brackets"], true, true, true, false, ["[expr.begin_pos, expr.end_pos - 1]"], "pos < len(self.text)"⟩] :=
  rfl

/-- The four constructors that take caret positions assert exactly the range `0 ≤ p < len(expression)` (`posAssert`), and the
    other classes take no positions. -/
theorem position_asserts_are_range_checks :
    Einx.Extracted.errorClasses.map (fun c => (c.name, c.posAssert)) =
      [("EinxError", ""), ("SyntaxError", "self.pos < len(expression)"), ("RankError", "self.pos < len(invocation.expression)"),
       ("AxisSizeError", "self.pos < len(invocation.expression)"), ("SemanticError", "self.pos < len(invocation.expression)"),
       ("OperationNotSupportedError", ""), ("ImportBackendError", ""), ("BackendResolutionError", ""), ("CallOperationError", "")] :=
  rfl

/-- The three facts about the error classes below, in one evaluation: each reads `einxMro` / `raisedEinx` of the same nine class
    names off the extracted table, and decoding the table's strings is most of what such an evaluation costs. -/
theorem error_classes_facts :
    (∀ d ∈ documentedClasses,
      (Einx.Extracted.errorClasses.any (fun c => c.name == d && c.exported) && Einx.Extracted.errorsPublic.contains d &&
        (einxMro d).contains "einx.errors.EinxError" && (einxMro d).contains "builtins.Exception") = true) ∧
    (Einx.Extracted.errorsPublic.map (fun c => (c, classify (raisedEinx c))) =
      [("EinxError", .undocumented), ("SyntaxError", .documented), ("RankError", .documented), ("AxisSizeError", .documented),
       ("SemanticError", .documented), ("OperationNotSupportedError", .documented), ("ImportBackendError", .undocumented),
       ("BackendResolutionError", .documented), ("CallOperationError", .runtime)]) ∧
    (∀ c ∈ Einx.Extracted.errorClasses, (isInternal (raisedEinx c.name) || isArgType (raisedEinx c.name)) = false) := by
  decide +kernel

/-- Every class the property names exists in `errors.py`, is exported to `einx.errors`, is re-exported by `einx/errors.py`, and
    derives from the library's base class `EinxError`, which derives from `Exception`. -/
theorem documented_classes_derive_from_base :
    ∀ d ∈ documentedClasses,
      (Einx.Extracted.errorClasses.any (fun c => c.name == d && c.exported) && Einx.Extracted.errorsPublic.contains d &&
        (einxMro d).contains "einx.errors.EinxError" && (einxMro d).contains "builtins.Exception") = true :=
  error_classes_facts.1

/-- The set of exception classes of einx's own that the public API may raise, with the verdict of each: exactly the six named
    classes are `documented`; `CallOperationError` is `runtime`; the abstract base and `ImportBackendError` are not accepted. -/
theorem einx_classes_verdicts :
    Einx.Extracted.errorsPublic.map (fun c => (c, classify (raisedEinx c))) =
      [("EinxError", .undocumented), ("SyntaxError", .documented), ("RankError", .documented), ("AxisSizeError", .documented),
       ("SemanticError", .documented), ("OperationNotSupportedError", .documented), ("ImportBackendError", .undocumented),
       ("BackendResolutionError", .documented), ("CallOperationError", .runtime)] :=
  error_classes_facts.2.1

/-- None of einx's own error classes inherits from an internal exception type or from `ValueError`/`TypeError`: the verdicts do
    not overlap on the library's classes. -/
theorem einx_classes_not_internal :
    ∀ c ∈ Einx.Extracted.errorClasses, (isInternal (raisedEinx c.name) || isArgType (raisedEinx c.name)) = false :=
  error_classes_facts.2.2

/-- "Every front-end site is reviewed" with `inFront` evaluated once per run of sites with the same file: `front` is its
    value on `f`, the file of the previous site.  (The extracted table is sorted by file, and a prefix test on strings is
    slow in the kernel.) -/
def frontReviewed : List Einx.Extracted.Site → String → Bool → Bool
  | [], _, _ => true
  | s :: ss, f, front =>
    match (if s.file == f then front else inFront s.file) with
    | false => frontReviewed ss s.file false
    | true => isReviewed s && frontReviewed ss s.file true

theorem frontReviewed_sound : ∀ (sites : List Einx.Extracted.Site) (f : String) (front : Bool),
    front = inFront f → frontReviewed sites f front = true → ∀ s ∈ sites, inFront s.file = true → isReviewed s = true
  | [], _, _, _, _ => by simp
  | s :: ss, f, front, hfront, h => by
    have hb : (if s.file == f then front else inFront s.file) = inFront s.file := by
      split
      · rename_i hf; rw [hfront, eq_of_beq hf]
      · rfl
    rw [frontReviewed, hb] at h
    intro s' hs' hs'f
    cases hfs : inFront s.file <;> rw [hfs] at h
    · rcases List.mem_cons.mp hs' with rfl | hs'
      · rw [hfs] at hs'f; cases hs'f
      · exact frontReviewed_sound ss _ _ hfs.symm h s' hs' hs'f
    · rw [Bool.and_eq_true] at h
      rcases List.mem_cons.mp hs' with rfl | hs'
      · exact h.1
      · exact frontReviewed_sound ss _ _ hfs.symm h.2 s' hs' hs'f

/-- Every `assert` / `raise <internal type>` statement of the front end is a reviewed site (Errors/Sites.lean). -/
theorem front_sites_reviewed :
    (Einx.Extracted.assertSites.all (fun s => !inFront s.file || isReviewed s)) = true := by
  rw [List.all_eq_true]
  intro s hs
  cases hf : inFront s.file
  · rfl
  · rw [frontReviewed_sound _ "" (inFront "") rfl (by decide +kernel) s hs hf]; rfl

/-! ## (iii) The classification applied by the harness -/

/-- `classify` returns the verdict whose declarative reading holds. -/
theorem classify_spec (r : Raised) : Holds r (classify r) := by
  unfold classify
  cases h1 : isDocumented r
  · cases h2 : isRuntime r
    · cases h3 : isInternal r
      · cases h4 : isArgType r
        · simp [Holds, h1, h2, h3, h4]
        · cases h5 : argAccepted r <;> simp [Holds, h1, h2, h3, h4, h5]
      · simp [Holds, h1, h2, h3]
    · simp [Holds, h1, h2]
  · simp [Holds, h1]

/-- Exhaustive and disjoint: exactly one verdict holds for every exception. -/
theorem verdicts_exhaustive_disjoint (r : Raised) : ∃ v, Holds r v ∧ ∀ w, Holds r w → w = v := by
  refine ⟨classify r, classify_spec r, fun w hw => ?_⟩
  unfold classify
  cases w <;> simp only [Holds] at hw
  · simp [hw]
  · simp [hw.1, hw.2]
  · obtain ⟨h1, h2, h3, h4, h5⟩ := hw
    simp [h1, h2, h3, h4, h5]
  · simp [hw.1, hw.2.1, hw.2.2]
  · obtain ⟨h1, h2, h3, h4⟩ := hw
    rcases h4 with h4 | h4 <;> simp [h1, h2, h3, h4]

/-- An exception whose MRO contains one of the eight internal types (and no einx class) is `internal`, whatever else it inherits
    from and wherever it was raised — e.g. numpy's `AxisError(ValueError, IndexError)` cannot pass as an argument error. -/
theorem internal_never_accepted (r : Raised) (h : isInternal r = true) (hd : isDocumented r = false) (hr : isRuntime r = false) :
    classify r = .internal ∧ acceptedRejection (classify r) = false := by
  simp [classify, h, hd, hr, acceptedRejection]

/-- A `ValueError`/`TypeError` is accepted only from the interpreter's call protocol or from a `raise` statement of one of the
    listed argument-validation functions. -/
theorem argument_only_from_validation (r : Raised) (h : classify r = .argument) :
    r.origin = .caller ∨ (r.origin = .einxRaise ∧ (r.file, r.func) ∈ argSites) := by
  have ha : argAccepted r = true := (h ▸ classify_spec r : Holds r .argument).2.2.2.2
  simpa only [argAccepted, Bool.or_eq_true, Bool.and_eq_true, beq_iff_eq, List.contains_iff_mem] using ha

/-! ## Non-vacuity -/

/-- The position theorem applies to a tree with every node kind, and the positions are real: the carets under the two
    bracket pairs and under the concatenation of `"a [b c] (d + 1) [e] -> a"`. -/
example :
    (match parseOp "a [b c] (d + 1) [e] -> a".toList with
     | .ok x => (posForBrackets [some x], posForConcat [some x], posForAxisnames [some x] ["a".toList], ellOK 24 x)
     | .error _ => ([], [], [], false)) =
    ([2, 6, 16, 18], [9, 10, 11, 12, 13], [0, 23], true) := by decide +kernel

/-- Nodes at position `-1`: after `mark_reduced_axes` the new `Brackets` nodes have no source position and contribute no
    caret, while the axes inside them keep theirs. -/
example :
    (match parseOp "a b".toList with
     | .ok x => (posForBrackets [some (markAxes ["a".toList] x)], posForAxisnames [some (markAxes ["a".toList] x)] ["b".toList])
     | .error _ => ([0], [])) = ([], [2]) := by decide +kernel

/-- The ellipsis hypothesis holds on parser output with nested ellipses, and the carets are the three dots. -/
example :
    (match parseOp "b (a c)... ...".toList with
     | .ok x => (ellOK 14 x, posForEllipses [some x])
     | .error _ => (false, [])) = (true, [7, 8, 9, 11, 12, 13]) := by decide +kernel

/-- The classification separates the cases observed on /repo: a bare `AssertionError` from `_parse_op` is internal, einx's
    `ValueError` for a wrong tensor count is an argument error, the `TypeError` about `numpy.float64` raised by
    `stage2.Axis.__init__` is not, and neither is a `ValueError` from `int()` inside `frontend/util.py`. -/
example :
    [classify ⟨["builtins.AssertionError", "builtins.Exception"], .einxOther, "adapter/einx_from_namedtensor.py", "_parse_op"⟩,
     classify ⟨["builtins.ValueError", "builtins.Exception"], .einxRaise, "adapter/einx_from_namedtensor.py", "op.inner"⟩,
     classify ⟨["builtins.TypeError", "builtins.Exception"], .einxRaise, "namedtensor/stage2/tree.py", "Axis.__init__"⟩,
     classify ⟨["builtins.ValueError", "builtins.Exception"], .einxOther, "frontend/util.py", "_exprs_to_axes.<genexpr>"⟩,
     classify ⟨["numpy.exceptions.AxisError", "builtins.ValueError", "builtins.IndexError", "builtins.Exception"], .foreign, "", ""⟩] =
    [.internal, .argument, .undocumented, .undocumented, .internal] := by decide +kernel

end Einx.Props.C03
