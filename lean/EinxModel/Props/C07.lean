import EinxModel.Proofs.Elab
/-!
# C07 — documented shorthand forms mean exactly their documented expansions

The statements are about `Einx.Elab.parseOpTree` / `parseOpModel` (model M2a of `_to_el_expr` and `_parse_op`, tree mode of the
elementary signature) and the M1 parser `Einx.Notation.parseOp` -- the definitions the driver executes.  They quantify over
*all stage-1 trees* (a superset of the parser's outputs), so no parser invariant is assumed.  `parseOpTree mode fam fl kd ins outs`
is `_parse_op` after `stage1.parse_op(description)`: `ins` are the input expressions, `outs = none` means "no `->`".
The flags `fl` of the theorems are instantiated by the obligations `flags_*` (extracted from the source on every run).

Below this level: the shorthands about solved sizes (a number is a fresh axis *with that length*, an ellipsis equals its
repetition, a scalar constraint equals the repeated tuple) are theorems about the solving model in Props/C07Stage2.lean; those about
generated code (`([x])` equals `[x]` for a one-dimensional bracket, `[a] [b]` equals `[a b]` for the backend call, a unit
coordinate axis) are left to the behavioural tie of tools/props/c07.py (pairs of real calls).
-/
namespace Einx.Props.C07
open Einx.Notation Einx.Elab

/-! ## Obligations over the facts extracted from /repo on every run -/

/-- `einx.rearrange` returns `einx.id(description, *tensors, backend=backend, **parameters)`: the call in its `return` statement goes
    to `frontend/ops.py:id`, passes exactly the wrapper's own parameters, and the only other statement is the deprecation warning.
    (That `einx.rearrange` / `einx.id` are these two functions is checked on the imported package by the harness.) -/
theorem rearrange_is_id :
    Einx.Extracted.rearrangeTarget = ".ops.id" ∧ Einx.Extracted.rearrangeForwardsAllArguments = true ∧
      Einx.Extracted.rearrangeOtherStatements = ["warnings.warn"] := ⟨rfl, rfl, rfl⟩

/-- The flags with which the wrappers call `op(...)` (the instances of `fl` in the theorems below). -/
theorem flags_reduce : flagsOf .reduce = some { implicit := .bijective, allowConcat := false, markReduced := true, addKeepdims := true, allowDupEl := true, noElPermute := false } := by decide +kernel
theorem flags_dot : flagsOf .dot = some { implicit := .bijective, allowConcat := false, markReduced := true, addKeepdims := false, allowDupEl := false, noElPermute := false } := by decide +kernel
theorem flags_elementwise : flagsOf .elementwise = some { implicit := .bijective, allowConcat := false, markReduced := false, addKeepdims := false, allowDupEl := true, noElPermute := false } := by decide +kernel
theorem flags_id : flagsOf .id = some { implicit := .bijective, allowConcat := true, markReduced := false, addKeepdims := false, allowDupEl := true, noElPermute := false } := by decide +kernel
theorem flags_get_at : flagsOf .getAt = some { implicit := .bijective, allowConcat := false, markReduced := false, addKeepdims := false, allowDupEl := true, noElPermute := false } := by decide +kernel
theorem flags_update_at : flagsOf .updateAt = some { implicit := .index 0, allowConcat := false, markReduced := false, addKeepdims := false, allowDupEl := true, noElPermute := true } := by decide +kernel
theorem flags_argfind : flagsOf .argfind = some { implicit := .bijective, allowConcat := false, markReduced := false, addKeepdims := false, allowDupEl := true, noElPermute := false } := by decide +kernel
theorem flags_preserve_shape : flagsOf .preserveShape = some { implicit := .bijective, allowConcat := false, markReduced := false, addKeepdims := false, allowDupEl := true, noElPermute := true } := by decide +kernel

/-- `_parse_op`'s own defaults (what a wrapper that does not pass a flag gets) are the ones `flagsOf` assumes. -/
theorem parse_op_defaults :
    Einx.Extracted.parseOpDefaults = [("allow_concat", "False"), ("allow_duplicate_el_axes", "True"), ("implicit_output", "None"),
      ("keepdims", "False"), ("mark_reduced_axes", "False")] := rfl

/-- The `el_op` builders are the ones `elOpText` / `elOpTree` were written against (source text of every builder). -/
theorem el_op_builders_pinned :
    Einx.Extracted.elOpSources.map (fun p => (p.1, p.2.length)) =
      [("id", 272), ("elementwise", 132), ("dot", 48), ("reduce", 60), ("get_at", 86), ("update_at", 122), ("argfind", 214), ("preserve_shape", 89)] ∧
    (Einx.Extracted.elOpSources.lookup "reduce") = some "def el_op(op):\n    return f'{op.children[0].children[0]} ->'" ∧
    (Einx.Extracted.elOpSources.lookup "dot") = some "def el_op(op):\n    return f'{op.children[0]} ->'" ∧
    (Einx.Extracted.elOpSources.lookup "preserve_shape") = some "def el_op(op):\n    return f'{op.children[0].children[0]} -> {op.children[0].children[0]}'" ∧
    (Einx.Extracted.elOpSources.lookup "update_at") =
      some "def el_op(op):\n    return ', '.join((str(c) for c in op.children[0].children[:-1])) + f', -> {op.children[0].children[0]}'" := by
  refine ⟨?_, rfl, rfl, rfl, rfl⟩
  -- Unfolding `String.length` makes the kernel decode UTF-8.  It reads a literal as `String.ofList` of its characters,
  -- so `String.length_ofList` turns each length into that of a character list.
  rw [Einx.Extracted.elOpSources]
  iterate 8 rw [List.map_cons, String.length_ofList]
  decide +kernel

/-- The implicit arg-operation output axis and the anonymous ellipsis axis have fixed names that no caller can write
    (neither is an axis name, a number or a literal), so they cannot collide with an axis of the description. -/
theorem generated_names_not_writable :
    Einx.Extracted.outputAxisName = "output.axis" ∧ validToken outputAxisName = false ∧
    Einx.Extracted.anonymousVariableName = ".anonymous_ellipsis_axis" ∧ validToken anonName = false := by
  refine ⟨rfl, ?_, rfl, ?_⟩
  · rw [outputAxisName, Einx.Extracted.outputAxisName, String.toList_ofList]; decide +kernel
  · rw [anonName, Einx.Extracted.anonymousVariableName, String.toList_ofList]; decide +kernel

/-! ## Omitted output = the per-operation default output -/

/-- `implicit_output_superset` (element-wise operations, two or more inputs): if exactly one input expression contains the axis names
    (other than 1s) of all others -- the code's `len(valid_parents) == 1` --, the description without `->` elaborates exactly like the
    description with that input written as output: same trees or same error. -/
theorem implicit_output_superset (fl : Flags) (kd : Bool) (ins : List Expr) (p : Expr)
    (hfl : fl.implicit = .bijective) (hlen : ins.length ≠ 1) (hp : validParents ins = [p]) :
    parseOpTree .tree .elementwise fl kd ins none = parseOpTree .tree .elementwise fl kd ins (some [p]) := by
  apply implicit_eq_input _ _ _ _ p (validParents_mem (by rw [hp]; simp))
  · simp [elOpTree]
  · rw [implicitOut_elementwise kd hfl hlen, hp]

/-- `implicit_output_elementwise_single`: a single-input `id` / element-wise description without `->` is the description with the input
    replicated as output. -/
theorem implicit_output_elementwise_single (fam : Family) (hfam : fam = .id ∨ fam = .elementwise) (fl : Flags) (kd : Bool) (x : Expr)
    (hfl : fl.implicit = .bijective) :
    parseOpTree .tree fam fl kd [x] none = parseOpTree .tree fam fl kd [x] (some [x]) := by
  rcases hfam with rfl | rfl <;>
    exact implicit_eq_input _ _ _ _ x (List.mem_singleton_self x) (by simp [elOpTree])
      (by simp [implicitOut, hfl, elOpTree, pyEqL, pyEq_emptyList])

/-- `implicit_output_same` (shape-preserving operations): without `->` the output is the input expression -- provided the bracketed part
    contains no number: the code re-parses the printed signature, two parses of a number are different axes, and `sort("a [2]")`
    then takes the arg-operation rule instead (`a [output.axis]`); the hypothesis is exactly the code's `el_in == el_out`. -/
theorem implicit_output_same (fl : Flags) (kd : Bool) (x : Expr) (hfl : fl.implicit = .bijective)
    (hnum : pyEq (toEl x) (refreshUnnamed (toEl x)) = true) :
    parseOpTree .tree .preserveShape fl kd [x] none = parseOpTree .tree .preserveShape fl kd [x] (some [x]) := by
  apply implicit_eq_input _ _ _ _ x (List.mem_singleton_self x)
  · simp [elOpTree]
  · simp [implicitOut, hfl, elOpTree, pyEqL, hnum]

/-- `implicit_output_update` (`implicit_output=0`): without `->` the output is the first input expression. -/
theorem implicit_output_update (fl : Flags) (kd : Bool) (x : Expr) (rest : List Expr) (hfl : fl.implicit = .index 0) :
    parseOpTree .tree .updateAt fl kd (x :: rest) none = parseOpTree .tree .updateAt fl kd (x :: rest) (some [x]) := by
  apply implicit_eq_input _ _ _ _ x List.mem_cons_self
  · simp [elOpTree]
  · simp [implicitOut, hfl]

/-- `implicit_output_reduce` and `keepdims`: a reduction whose input has a (non-scalar) bracketed part and no `->` elaborates exactly
    like the description with the output written out: the input with every bracket removed (`keepdims=False`), or with every bracket
    replaced by `()` (`keepdims=True`). -/
theorem implicit_output_reduce (fl : Flags) (kd : Bool) (x : Expr) (hfl : fl.implicit = .bijective) (hcat : fl.allowConcat = false)
    (hbr : isScalar (toEl x) = false) :
    parseOpTree .tree .reduce fl kd [x] none =
      parseOpTree .tree .reduce fl kd [x] (some [if kd then keepdimsBr x else removeBr x]) := by
  have hne : pyEq (toEl x) emptyList = false := by
    cases h : pyEq (toEl x) emptyList
    · rfl
    · rw [pyEq_emptyList_scalar h] at hbr; cases hbr
  -- neither rewriting of the brackets creates a concatenation
  have key : hasConcat x = false → hasConcat (if kd then keepdimsBr x else removeBr x) = false := by
    intro hx
    cases kd
    · exact removeBr_noConcat hx
    · exact keepdimsBr_noConcat hx
  apply implicit_eq_explicit
  · simp [elOpTree]
  · simp only [implicitOut, hfl, elOpTree, List.map_cons, List.map_nil, List.headD_cons, List.length_singleton, pyEqL, hne]
    have : isScalar emptyList = true := rfl
    cases kd <;> simp [this]
  · intro h
    simp only [List.any_cons, List.any_nil, Bool.or_false] at h ⊢
    exact key h
  · intro h _
    simp only [hcat, Bool.not_false, Bool.true_and, List.any_cons, List.any_nil, Bool.or_false] at h ⊢
    exact noConcat_noTouch false _ (key h)

/-- `keepdims_is_parenthesised`, output side: the implicit output of the description with every bracket wrapped in parentheses
    (`[x]` ↦ `([x])`, what the deprecation message of `keepdims` tells the caller to write) is the `keepdims=True` output of the
    original description.  That `([x])` and `[x]` denote the same *input* (for a one-dimensional bracket) is below this level. -/
theorem keepdims_is_parenthesised (x : Expr) : removeBr (wrapBr x) = keepdimsBr x := removeBr_wrapBr x

/-! ## Un-bracketed reduction / dot = brackets around the axes missing from the output -/

/-- `auto_brackets`: for `reduce` and `dot` (`mark_reduced_axes=True`), a description with an explicit output, no brackets in any input
    and no axis name twice in one input elaborates exactly like the description in which every input axis that does not occur in the
    output is wrapped in its own bracket (`markAxes`), whenever at least one axis is missing (otherwise the two descriptions coincide).
    `hnc`: reductions and dot products reject concatenations anyway. -/
theorem auto_brackets (fam : Family) (hfam : fam = .reduce ∨ fam = .dot) (fl : Flags) (kd : Bool) (ins : List Expr) (out : Expr)
    (hmark : fl.markReduced = true) (hnb : ins.any hasBrackets = false) (hnd : ∀ x ∈ ins, hasDup (axisNames x) = false)
    (hnc : (ins ++ [out]).any hasConcat = false)
    (hsome : (ins.map (markAxes (axisNames out))).any hasBrackets = true) :
    parseOpTree .tree fam fl kd ins (some [out]) =
      parseOpTree .tree fam fl kd (ins.map (markAxes (axisNames out))) (some [out]) := by
  have hnc' : (ins.map (markAxes (axisNames out)) ++ [out]).any hasConcat = false := by
    simp only [List.any_append, Bool.or_eq_false_iff] at hnc ⊢
    exact ⟨any_map_markAxes_noConcat _ _ hnc.1, hnc.2⟩
  rw [parseOpTree_noConcat fam fl kd hnc, parseOpTree_noConcat fam fl kd hnc']
  rcases hfam with rfl | rfl
  · -- reduce: the signature is the first elementary input
    simp only [elOpTree, List.length_singleton, List.length_map]
    by_cases hlen : ins.length = 1
    · match ins, hlen with
      | [x], _ =>
        simp only [List.length_singleton, bne_self_eq_false, Bool.false_eq_true, if_false, List.map_cons, List.map_nil, List.headD_cons]
        exact finish_auto fl _ _ [x] out hmark hnb hnd hsome rfl (bracketCheck_self _ _ _) (bracketCheck_self _ _ _)
    · have : (1 != ins.length) = true := by simpa using fun h => hlen h.symm
      simp [this]
  · -- dot: the signature is the list of elementary inputs
    simp only [elOpTree, List.length_map, bne_self_eq_false, Bool.false_eq_true, if_false]
    exact finish_auto fl _ _ ins out hmark hnb hnd hsome rfl (bracketCheck_self _ _ _) (bracketCheck_self _ _ _)

/-! ## Adjacent brackets -/

/-- `[a] [b]` and `[a b]` (two adjacent bracketed axes vs one bracket around both) inside any list: the same elementary
    expression, the same implicit reduction output, and the same marked axes in the same order. -/
theorem adjacent_brackets_merge (pre post : List Expr) (n1 n2 : Str) (v1 v2 : Option Nat) (b1 e1 b2 e2 b3 e3 b4 e4 b5 e5 b6 e6 b e : Int) :
    let a1 := Expr.axis n1 v1 b1 e1
    let a2 := Expr.axis n2 v2 b2 e2
    let short := Expr.list (pre ++ [.brackets a1 b3 e3, .brackets a2 b4 e4] ++ post) b e
    let long := Expr.list (pre ++ [.brackets (.list [a1, a2] b5 e5) b6 e6] ++ post) b e
    toEl short = toEl long ∧ removeBr short = removeBr long ∧ axisOccs false short = axisOccs false long := by
  intro a1 a2 short long
  refine ⟨?_, ?_, ?_⟩
  · simp only [short, long, toEl, toElKeep_append, mkList, flattenAll_append]
    simp [toElKeep, toEl, a1, a2, Expr.ndim, ndimSum, flattenAll, flattenOne]
  · simp only [short, long, removeBr, mapExpr, removeBrF, Option.getD_none, mapExprL_append, mkList, flattenAll_append]
    simp [mapExprL, mapExpr, removeBrF, flattenAll, flattenOne, emptyList]
  · simp only [short, long, axisOccs, axisOccsL_append]
    simp [axisOccsL, axisOccs, a1, a2]

/-! ## Numbers and anonymous ellipses (tree level) -/

/-- `number_is_fresh_axis`, tree level: a number token becomes an axis with that value and the name `unnamed.<id>` with an id that is
    unique per token (its position; the code draws a uuid) ... -/
theorem number_is_fresh_axis (t : Token) (h1 : isDigitStr t.text = true) (h2 : t.text.all isDecimalChar = true) :
    parseAxis t = .ok (.axis (unnamedName t.b) (some (intOfDecimals t.text)) t.b t.e) := by
  simp [parseAxis, h1, h2]

/-- ... and that name cannot be written by a caller, so it is fresh with respect to every named axis. -/
theorem unnamed_not_writable (k : Nat) : isAxisName (unnamedName k) = false := by
  simp [unnamedName, lit, isAxisName, isNameCont, isNameStart, isAsciiLetter, isAsciiDigit]

/-! ## Spaces (from C12) -/

/-- `spaces_irrelevant`, token level (C12): `_parse_op` sees the description only through `parseOp`, whose token sequence does not depend on
    the number of adjacent spaces; leading spaces are invisible.  The lift to trees up to positions is `space_invariance` (Props/C12.lean). -/
theorem spaces_irrelevant_tokens (xs ys : List Token) (s s' : Token) (hs : s.isSpace = true) (hs' : s'.isSpace = true) (f : Bool) :
    dedupSpaces (xs ++ s :: s' :: ys) f = dedupSpaces (xs ++ s :: ys) f :=
  dedup_adjacent xs ys s s' hs hs' f

theorem parseOpModel_depends_on_parse_only (mode : ElMode) (fam : Family) (kd : Bool) (d1 d2 : Str) (h : parseOp d1 = parseOp d2) :
    parseOpModel mode fam kd d1 = parseOpModel mode fam kd d2 := by
  unfold parseOpModel; rw [h]

/-! ## Nested `->` and `,` — tested on the parser model (a `decide` on samples is a test, not a theorem) -/

def sameStructure (a b : String) : Bool :=
  match parseOp a.toList, parseOp b.toList with
  | .ok x, .ok y => x.shape.beq y.shape
  | _, _ => false

/-- `sameStructure` on two literals, which the kernel reads as `String.ofList` of their characters: without this step it
    would compute `toList` by encoding the characters and decoding the bytes again. -/
theorem sameStructure_ofList (a b : List Char) :
    sameStructure (String.ofList a) (String.ofList b) =
      (match parseOp a, parseOp b with
       | .ok x, .ok y => x.shape.beq y.shape
       | _, _ => false) := by
  rw [sameStructure, String.toList_ofList, String.toList_ofList]

/-- The tutorial's examples and variations: the nested form parses to the structure of its top-level distribution. -/
theorem nested_arrow_comma_samples :
    ([("a [b -> c]", "a [b] -> a [c]"), ("b p [i,->]", "b p [i], b p -> b p"), ("(a -> b) c", "(a) c -> (b) c"), ("a (b, c) -> a b c", "a (b), a (c) -> a b c"),
      ("a [b c -> 2] d", "a [b c] d -> a [2] d"), ("x (a b -> b a)...", "x (a b)... -> x (b a)..."), ("[k] (a, c) -> a c", "[k] (a), [k] (c) -> a c"),
      ("a [b, c -> d]", "a [b], a [c] -> a [d]")].all (fun p => sameStructure p.1 p.2)) = true := by
  rw [List.all_eq_true]
  intro p hp
  simp only [List.mem_cons, List.not_mem_nil, or_false] at hp
  rcases hp with rfl | rfl | rfl | rfl | rfl | rfl | rfl | rfl <;>
    (rw [sameStructure_ofList]; decide +kernel)

/-! ## Non-vacuity -/

def render (r : PRes (List Expr × List Expr)) : Option (List String × List String) :=
  match r with
  | .ok (i, o) => some (i.map (fun x => String.ofList x.print), o.map (fun x => String.ofList x.print))
  | .error _ => none

def A (n : String) : Expr := .axis n.toList none 0 0
def L (cs : List Expr) : Expr := .list cs 0 0
def B (x : Expr) : Expr := .brackets x 0 0
def FL : Flags := { implicit := .bijective, allowConcat := false, markReduced := true, addKeepdims := true, allowDupEl := true, noElPermute := false }

/-- superset: `a b, a` has the unique parent `a b`; both sides elaborate to `a b, a -> a b`. -/
example : parseOpTree .tree .elementwise FL false [L [A "a", A "b"], A "a"] none =
    parseOpTree .tree .elementwise FL false [L [A "a", A "b"], A "a"] (some [L [A "a", A "b"]]) :=
  implicit_output_superset FL false _ _ rfl (by decide) rfl
example : render (parseOpTree .tree .elementwise FL false [L [A "a", A "b"], A "a"] none) = some (["a b", "a"], ["a b"]) := by decide +kernel

/-- reduce: `a [b c]` ≡ `a [b c] -> a`; with keepdims ≡ `a [b c] -> a ()`. -/
example : parseOpTree .tree .reduce FL false [L [A "a", B (L [A "b", A "c"])]] none =
    parseOpTree .tree .reduce FL false [L [A "a", B (L [A "b", A "c"])]] (some [A "a"]) :=
  implicit_output_reduce FL false _ rfl rfl (by decide +kernel)
example : render (parseOpTree .tree .reduce FL true [L [A "a", B (L [A "b", A "c"])]] none) = some (["a [b c]"], ["a ()"]) := by decide +kernel
example : String.ofList (removeBr (wrapBr (L [A "a", B (A "b")]))).print = "a ()" ∧ String.ofList (wrapBr (L [A "a", B (A "b")])).print = "a ([b])" := by decide +kernel

/-- auto brackets: `a b c -> a` ≡ `a [b] [c] -> a` (hypotheses hold, result non-trivial). -/
example : parseOpTree .tree .reduce FL false [L [A "a", A "b", A "c"]] (some [A "a"]) =
    parseOpTree .tree .reduce FL false ([L [A "a", A "b", A "c"]].map (markAxes (axisNames (A "a")))) (some [A "a"]) :=
  auto_brackets .reduce (Or.inl rfl) FL false _ _ rfl (by decide +kernel) (by decide +kernel) (by decide +kernel) (by decide +kernel)
example : render (parseOpTree .tree .reduce FL false [L [A "a", A "b", A "c"]] (some [A "a"])) = some (["a [b] [c]"], ["a"]) := by decide +kernel
example : render (parseOpTree .tree .dot { FL with allowDupEl := false } false [L [A "a", A "b"], L [A "b", A "c"]] (some [L [A "a", A "c"]])) =
    some (["a [b]", "[b] c"], ["a c"]) := by decide +kernel

/-- single input / same / update. -/
example : render (parseOpTree .tree .id { FL with allowConcat := true, markReduced := false } false [L [A "a", A "b"]] none) = some (["a b"], ["a b"]) := by decide +kernel
example : render (parseOpTree .tree .preserveShape { FL with markReduced := false } false [L [A "a", B (A "b")]] none) = some (["a [b]"], ["a [b]"]) := by decide +kernel
example : pyEq (toEl (L [A "a", B (A "b")])) (refreshUnnamed (toEl (L [A "a", B (A "b")]))) = true := by decide +kernel
example : render (parseOpTree .tree .updateAt { FL with implicit := .index 0, markReduced := false } false [L [A "p", B (A "h")], A "p", A "p"] none) =
    some (["p [h]", "p", "p"], ["p [h]"]) := by decide +kernel

/-- description level: the model on real descriptions (both modes), including the arg-operation rule and a D11 description where
    the two modes differ (string mode: the printed signature `{a b}... ->` does not parse again). -/
example : render (parseOpModel .string .reduce false "a b c -> a".toList) = some (["a [b] [c]"], ["a"]) ∧
    render (parseOpModel .tree .argfind false "a [b c]".toList) = some (["a [b c]"], ["a [output.axis]"]) ∧
    render (parseOpModel .string .elementwise false "a b, a".toList) = some (["a b", "a"], ["a b"]) := by decide +kernel
example : Einx.Extracted.ellipsisOpen = "{" →
    render (parseOpModel .string .reduce false "[a b]...".toList) = none ∧ render (parseOpModel .tree .reduce false "[a b]...".toList) = some (["[a b]..."], [""]) := by
  decide +kernel

end Einx.Props.C07
