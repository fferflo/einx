import EinxModel.Proofs.LowerDenote
import EinxModel.Props.C01
/-!
C01 (lowering algorithm) — the decomposer's lowering of `einx.id` computes the loop-notation meaning, for
**all** descriptions in the model's domain and **all** axis lengths.

`Props/C01.lean` proves `validate_sound` and the harness applies the validator to every *traced* call.
Here the validator's acceptance is proved once and for all for the *algorithm*: `Generic.lowerId`
(`Generic/Stb.lean`) is the line-by-line model of `Decomposer.__call__` around the identity for one input and
one output (`_decompose_single`: unflatten parenthesised groups with reshapes, remove unit axes;
`_squeeze_transpose_broadcast`: align axes by name — transpose, insert unit dimensions, `broadcast_to`;
`_compose_next`: reshape to the grouped output shape), with the no-op tests of the numpy wrappers.  The model
is tied to the real traced graphs of `einx.id` on every run (driver kind `stb_model`, `tools/props/c17.py`).

Domain: input and output are arbitrary nestings of parenthesised groups over named axes (`Generic.G`); any
permutation; unit axes anywhere (removed from the input, inserted into the output); output axes that the input
does not have (broadcast); zero-length axes.  Not in the domain: concatenation, repeated axis names (the
model rejects a repeated name in the input itself; a repeated name in the output and inconsistent lengths are
excluded by the two decidable hypotheses — einx's solver never produces them for `id`).

* `lower_id_correct`      run on the symbolic input = `Denote.denoteId` of the corresponding stage-3 expressions
* `lower_id_validates`    … equivalently: the validator of C01 accepts, for every such description
* `lower_id_all_inputs`   … hence (by `validate_sound`) for all integer tensor contents and interpretations
* `theorem_instance_holds` the instance the driver recomputes on every traced call of the `stb_model` stream

The conversion `rootExpr : List G → Denote.Expr` and the hypotheses live in `Generic/StbDenote.lean`.  The driver
builds `G` from einx's solved stage-3 tree by flattening nested lists (`Driver/Generic.lean:toG`), exactly as
`Denote.dims` does, so `dims false` of einx's tree and of `rootExpr` coincide: the denotation in the theorem is
the denotation C01 validates traced calls against.
-/
namespace Einx.Lower
open Einx Einx.IR Einx.Generic Einx.Denote

/-- **Correctness of the lowering algorithm for `id`.**  For every input expression `gi` and output expression
`go` (flat or grouped to any depth, unit axes, broadcast output axes, any permutation, any axis lengths) whose
output names are pairwise different and whose lengths are consistent: if the model of einx's decomposer returns
a program `s.prog` with result register `s.reg`, then

* the loop-notation denotation of `id` for the corresponding stage-3 expressions is defined, and
* running the program on the symbolic input of shape `gShape gi` succeeds and leaves in `s.reg` exactly the
  denotation: the same shape and, for every output position, the same input element. -/
theorem lower_id_correct (gi go : List G) (s : St)
    (hout : noDup (names (G.leavesL go)) = true)
    (hcons : consistentLens (G.leavesL gi) (G.leavesL go) = true)
    (h : lowerId gi go = .ok s) :
    ∃ T, denoteId [rootExpr gi] [rootExpr go] = .ok [T] ∧
      T.shape = gShape go ∧
      symRun s.prog [gShape gi] [s.reg] = .ok [T] := by
  obtain ⟨regs, cs, hev, hreg, hcs⟩ := lowerId_cells hout hcons h
  exact ⟨_, denoteId_of_cells hcs, rfl, symRun_one (shapes := [_]) hev hreg⟩

/-- **The validator accepts the lowering of every description.**  The check that C01 performs per traced
call (`validate` of the traced program against `denoteId`) succeeds for every program the lowering model
emits. -/
theorem lower_id_validates (gi go : List G) (s : St)
    (hout : noDup (names (G.leavesL go)) = true)
    (hcons : consistentLens (G.leavesL gi) (G.leavesL go) = true)
    (h : lowerId gi go = .ok s) :
    ∃ exp, denoteId [rootExpr gi] [rootExpr go] = .ok exp ∧
      validate s.prog [gShape gi] [s.reg] exp = true := by
  obtain ⟨T, hd, _, hrun⟩ := lower_id_correct gi go s hout hcons h
  exact ⟨[T], hd, by simp [validate, hrun, tensorsBeq_refl]⟩

/-- **For all tensor contents.**  By `validate_sound`: for every integer tensor `x` of the input shape, every
interpretation of the elementary function symbols and any value for out-of-range reads, the lowered program
runs on `x` and its result register holds the loop-notation denotation evaluated on `x`. -/
theorem lower_id_all_inputs (gi go : List G) (s : St)
    (hout : noDup (names (G.leavesL go)) = true)
    (hcons : consistentLens (G.leavesL gi) (G.leavesL go) = true)
    (h : lowerId gi go = .ok s)
    (I : String → List Int → Int) (bad : Int) (x : Tensor Int)
    (hx : x.shape = gShape gi) (hlen : x.data.length = prod x.shape) :
    ∃ T regs, denoteId [rootExpr gi] [rootExpr go] = .ok [T] ∧
      evalProg (intAlgOf I bad) s.prog [x] = .ok regs ∧
      regs[s.reg]? = some (T.map (evalCell (intAlgOf I bad) [x])) := by
  obtain ⟨T, hd, _, hrun⟩ := lower_id_correct gi go s hout hcons h
  have hv : validate s.prog ([x].map (·.shape)) [s.reg] [T] = true := by
    simp [validate, hx, hrun, tensorsBeq_refl]
  obtain ⟨regs, hev, hout'⟩ := validate_sound s.prog [s.reg] [T] I bad [x] (by simpa using hlen) hv
  exact ⟨T, regs, hd, hev, by simpa using hout'⟩

/-- The instance of the theorem that the driver computes on every traced `einx.id` call of the `stb_model`
stream (`Generic/StbDenote.lean`: `inTheoremDomain`, `theoremInstance`) is `true` whenever the hypotheses
hold and the lowering succeeds; the harness reports how many traced calls are in the domain. -/
theorem theorem_instance_holds (gi go : List G) (s : St) (hd : inTheoremDomain gi go = true)
    (h : lowerId gi go = .ok s) : theoremInstance gi go = true := by
  simp only [inTheoremDomain, Bool.and_eq_true] at hd
  obtain ⟨exp, hden, hv⟩ := lower_id_validates gi go s hd.1 hd.2 h
  simp only [theoremInstance, h, hden, hv]

/-- `a (b c) -> c 1 (a b) d` with `a=2, b=3, c=2`, a unit axis and a broadcast axis `d=2`. -/
def exIn : List G := [.ax ⟨"a", 2⟩, .grp [.ax ⟨"b", 3⟩, .ax ⟨"c", 2⟩]]
def exOut : List G := [.ax ⟨"c", 2⟩, .ax ⟨"u", 1⟩, .grp [.ax ⟨"a", 2⟩, .ax ⟨"b", 3⟩], .ax ⟨"d", 2⟩]

/-- Primitive, operand register and shape/permutation of every instruction (for comparing programs). -/
def instrCode : Instr → List Nat
  | .reshape x s => 0 :: x :: s
  | .transpose x p => 1 :: x :: p
  | .broadcastTo x s => 2 :: x :: s
  | _ => [9]

/-- The hypotheses hold, the lowering succeeds with the five-instruction program
`reshape (2,3,2); transpose (2,0,1); reshape (2,1,2,3,1); broadcast_to (2,1,2,3,2); reshape (2,1,6,2)`,
and the validator accepts it against the denotation (which is not the identity rearrangement). -/
example :
    noDup (names (G.leavesL exOut)) = true ∧ consistentLens (G.leavesL exIn) (G.leavesL exOut) = true ∧
    (match lowerId exIn exOut, denoteId [rootExpr exIn] [rootExpr exOut] with
      | .ok s, .ok exp =>
        s.prog.map instrCode == [[0, 0, 2, 3, 2], [1, 1, 2, 0, 1], [0, 2, 2, 1, 2, 3, 1], [2, 3, 2, 1, 2, 3, 2], [0, 4, 2, 1, 6, 2]]
          && s.reg == 5 && validate s.prog [gShape exIn] [s.reg] exp
          && !tensorsBeq exp [symInput 0 [2, 1, 6, 2]]
      | _, _ => false) = true := by
  decide +kernel

/-- The theorem applied to the example. -/
example : ∃ s exp, lowerId exIn exOut = .ok s ∧ denoteId [rootExpr exIn] [rootExpr exOut] = .ok exp ∧
    validate s.prog [gShape exIn] [s.reg] exp = true := by
  have hok : (match lowerId exIn exOut with | .ok _ => true | .error _ => false) = true := by decide +kernel
  cases h : lowerId exIn exOut with
  | error e => simp [h] at hok
  | ok s =>
    obtain ⟨exp, hd, hv⟩ := lower_id_validates exIn exOut s (by decide +kernel) (by decide +kernel) h
    exact ⟨s, exp, rfl, hd, hv⟩

/-- The hypotheses are needed: with a repeated output name (`a -> a a`, `a=2`) the model emits
`reshape (2,2)` of a 2-element tensor, which does not run, and the denotation is undefined. -/
example :
    (match lowerId [.ax ⟨"a", 2⟩] [.ax ⟨"a", 2⟩, .ax ⟨"a", 2⟩] with
      | .ok s => (match symRun s.prog [[2]] [s.reg] with | .ok _ => false | .error _ => true)
      | .error _ => false) = true
    ∧ (match denoteId [rootExpr [.ax ⟨"a", 2⟩]] [rootExpr [.ax ⟨"a", 2⟩, .ax ⟨"a", 2⟩]] with
      | .ok _ => false | .error _ => true) = true := by
  decide +kernel

end Einx.Lower
