import EinxModel.Props.C07Stage2
import EinxModel.Proofs.SolveNamesParse
/-!
C07 / C02, name hygiene of the solving model as a theorem (continues `Props/C07Stage2.lean`).

The stage-2/3 shorthand theorems assume the decidable side conditions `namesOK`, `freshVars`,
`renOK` (evaluated per case by the driver).  They are consequences of a purely syntactic condition on
the axis names the user wrote (`Solve/Names.lean`):

* `plainName s` — `s` contains no `#`, and no `.` at all or its last character is not a digit (so it does not end in
  `.digits`; stronger than that: `a.b1` is not plain); every identifier
  `[a-zA-Z_][a-zA-Z0-9_]*` is plain (`ident_name_plain`) and so is the anonymous ellipsis axis
  (`anonymous_name_plain`), and these are the only names the stage-1 parser model gives a named axis
  (`parser_names_plain`);
* `plainNames inp` — every axis name occurring in an expression of `inp` is plain.

The proofs (`Proofs/SolveNamesChars.lean`, `Proofs/SolveNames.lean`) are a unique-decoding argument
for the strings the model generates: node variables `#t/k(+/k….i.j` and axis variables `name.i.j`.
-/
namespace Einx.Solve

/-! ### The generated variable names decode uniquely -/

/-- **Node variables never collide** — for every input and all counts, with no condition on the axis
names: two different flattened / concatenated nodes (or two repetitions of one node) get different
variables `#t/k(….i.j`. -/
theorem node_variables_distinct (inp : Input) (ρ : Var → Nat) : (inp.nodeKeys ρ).Nodup :=
  inputNodeKeys_nodup inp ρ

/-- Every node variable contains `#`; an axis variable `name.i.j` contains one only if `name` does. -/
theorem node_variables_have_hash (inp : Input) (ρ : Var → Nat) : ∀ k ∈ inp.nodeKeys ρ, '#' ∈ k.toList :=
  inputNodeKeys_hash inp ρ

/-- **`namesOK` holds** as soon as no axis name contains `#`; the written-out long form of such an
input is hygienic too (its names `a.0.1` are not plain, but still free of `#`). -/
theorem names_ok_of_hash_free (inp : Input) (ρ ρ' : Var → Nat) (h : hashFree inp = true) :
    namesOK inp ρ = true ∧ namesOK (unrollInput inp ρ) ρ' = true :=
  ⟨namesOK_of_hashFree inp ρ h, namesOK_unroll_of_hashFree inp ρ ρ' h⟩

/-- **Expanded axis variables decode uniquely**: with plain names, `name.i.j` determines the name and
the indices. -/
theorem axis_variables_decode (inp : Input) (ρ : Var → Nat) (h : plainNames inp = true)
    (a b : String × List Nat × Var) (ha : a ∈ inp.axes ρ) (hb : b ∈ inp.axes ρ) (he : a.2.2 = b.2.2) :
    a.1 = b.1 ∧ a.2.1 = b.2.1 :=
  axisVar_inj h ha hb he

/-- **All three side conditions hold for plain names**: `namesOK`, `freshVars` for every name, and
`renOK` for every renaming that is injective on the axis names and maps them to plain names. -/
theorem side_conditions_of_plain_names (inp : Input) (ρ : Var → Nat) (h : plainNames inp = true) :
    namesOK inp ρ = true ∧ (∀ n, freshVars inp ρ n = true) ∧
    (∀ f : String → String, (∀ n ∈ inp.axisNames, plainName (f n) = true) →
      (∀ a ∈ inp.axisNames, ∀ b ∈ inp.axisNames, f a = f b → a = b) → renOK f inp ρ = true) :=
  ⟨namesOK_of_hashFree inp ρ (hashFree_of_plainNames h), fun n => freshVars_of_plainNames inp ρ n h,
    fun f hf hinj => renOK_of_plainNames f inp ρ h hf hinj⟩

/-- Every identifier `[a-zA-Z_][a-zA-Z0-9_]*` is a plain name. -/
theorem ident_name_plain (s : String) (h : identName s = true) : plainName s = true := identChars_plain h

/-- `identName` is the parser model's `isAxisName` (the pattern `_axis_name` of `stage1/parse.py`,
whose text C12's `axis_name_pattern_exact` records). -/
theorem ident_name_is_axis_name (s : String) : identName s = Einx.Notation.isAxisName s.toList :=
  identChars_eq_isAxisName s.toList

/-- T-src: the axis-name pattern of the source (regenerated on every run) is the identifier
pattern `identName` decides. -/
theorem axis_name_pattern_is_ident : Einx.Extracted.axisNamePattern = "[a-zA-Z_][a-zA-Z0-9_]*" := rfl

/-- The anonymous ellipsis axis of the source (regenerated on every run) is a plain name. -/
theorem anonymous_name_plain : plainName anonAxis = true := anonName_plain

/-- **The parser model produces plain names only**: for every description `text` that
`Notation.parseOp` accepts, every input whose tensor expressions are operands of the result
(converted by `toSolve`, the Lean counterpart of `tools/props/c02.py:tree_json`) satisfies `plainNames`
— whatever shapes and constraints are attached.  (By the grammar of `parseOp`'s results,
`NF.parseOp_NRoot`: a named axis is an identifier or, directly under an ellipsis, the anonymous name.) -/
theorem parser_names_plain (text : Einx.Notation.Str) (t : Einx.Notation.Expr)
    (h : Einx.Notation.parseOp text = .ok t) (inp : Input)
    (hts : ∀ tn ∈ inp.tensors, tn.expr ∈ operandExprs t) : plainNames inp = true :=
  parseOp_plainNames text t h inp hts

theorem examples_plain : plainNames exEll = true ∧ plainNames exNum = true ∧ plainNames exAnon = true := by
  refine ⟨by decide +kernel, by decide +kernel, ?_⟩
  -- the anonymous name is long and occurs twice; `anonymous_name_plain` answers for both occurrences
  have h : exAnon.axisNames = [anonAxis, "c", anonAxis] := by decide +kernel
  rw [plainNames, h]
  simp only [List.all_cons, List.all_nil, anonymous_name_plain, Bool.and_true, Bool.true_and]
  decide +kernel

/-- Non-vacuity / sharpness: the names of the examples are plain; `#0` (imitates a node variable) and
`b.0` (imitates an expanded axis) are not; with the axis `#0/0` (the name `valueSystemA` gives the node variable of the
flattened axis) next to a flattened axis `namesOK` fails, so the condition cannot be dropped. -/
example : plainNames exEll = true ∧ plainNames exNum = true ∧ plainNames exAnon = true ∧
    plainName "#0" = false ∧ plainName "b.0" = false ∧ plainName "a1" = true ∧ identName "a1" = true ∧
    identName "1a" = false ∧
    namesOK ⟨[⟨.list [.flat (.axis "a"), .axis "#0/0"], none⟩], []⟩ (toFun []) = false :=
  ⟨examples_plain.1, examples_plain.2.1, examples_plain.2.2, by decide +kernel⟩

/-- Non-vacuity of `parser_names_plain`: the parser model accepts `"(a b)... c, ... -> b"`; its operand
expressions, converted, are the trees below (three tensors), and they contain the anonymous name. -/
example : (Einx.Notation.parseOp "(a b)... c, ... -> b".toList).toOption.map (fun t => (operandExprs t).map Expr.render) =
    some ["{(a b)}... c", "{.anonymous_ellipsis_axis}...", "b"] := by
  -- `toList` of a literal is a theorem about `String.ofList`; evaluating it in the kernel is dear
  rw [String.toList_ofList]
  decide +kernel

/-! ### The shorthand theorems without per-case premises -/

/-- `value_system_complete` for hash-free names. -/
theorem value_system_complete_plain (inp : Input) (ρ τ : Var → Nat) (hp : hashFree inp = true)
    (h : SemSat inp ρ τ) :
    ∃ σ, Sat (valueSystem inp ρ) σ ∧ (∀ a ∈ inp.axes ρ, σ a.2.2 = τ a.2.2) ∧
      shapesOf inp ρ σ = semShapes inp ρ τ :=
  value_system_complete inp ρ τ (namesOK_of_hashFree inp ρ hp) h

/-- **Ellipsis = written-out repetition**, without name premises: for an input whose axis names
contain no `#` (in particular: plain names, parser output), counts `ρ` admitted by the rank system and
well-formed constraint arrays, the solutions of `inp` with counts `ρ` and the solutions of the long
form `unrollInput inp ρ` correspond one to one on all axis variables, with the same tensor shapes. -/
theorem ellipsis_unroll_plain (inp : Input) (ρ : Var → Nat) (hp : hashFree inp = true)
    (hρ : Sat (rankSystem true inp) ρ)
    (hwf : ∀ c ∈ inp.constraints, c.vals.length = c.shape.foldr (· * ·) 1) :
    (unrollInput inp ρ).ellIds = [] ∧
    (∀ ρ', Sat (rankSystem true (unrollInput inp ρ)) ρ') ∧
    (∀ σ ρ', Sols inp ρ σ →
        ∃ σ', Sols (unrollInput inp ρ) ρ' σ' ∧ (∀ a ∈ inp.axes ρ, σ' a.2.2 = σ a.2.2) ∧
          shapesOf (unrollInput inp ρ) ρ' σ' = shapesOf inp ρ σ) ∧
    (∀ σ' ρ', Sols (unrollInput inp ρ) ρ' σ' →
        ∃ σ, Sols inp ρ σ ∧ (∀ a ∈ inp.axes ρ, σ a.2.2 = σ' a.2.2) ∧
          shapesOf inp ρ σ = shapesOf (unrollInput inp ρ) ρ' σ') := by
  obtain ⟨h1, h2, h3, h4⟩ := ellipsis_unroll inp ρ hρ hwf
  exact ⟨h1, h2, fun σ ρ' hs => h3 σ ρ' hs (namesOK_unroll_of_hashFree inp ρ ρ' hp),
    fun σ' ρ' hs => h4 σ' ρ' hs (namesOK_of_hashFree inp ρ hp)⟩

theorem numForm_axisNames_sub (inp : Input) (n : String) (v : Nat) :
    ∀ m ∈ (numForm inp n v).axisNames, m ∈ inp.axisNames := by
  intro m hm
  simp only [Input.axisNames, numForm_occs, List.mem_map, List.mem_filter] at hm ⊢
  obtain ⟨p, ⟨hp, _⟩, rfl⟩ := hm
  exact ⟨p, hp, rfl⟩

/-- **Number = fresh axis with that size**, without name premises: `inp` has plain names (the
candidate name `n` among them), `n` carries no other constraint, all its occurrences stand under the
same ellipses, `v ≥ 1`. -/
theorem number_is_fresh_axis_plain (inp : Input) (n : String) (v : Nat) (hp : plainNames inp = true)
    (hv : 1 ≤ v) (hcn : ∀ c ∈ inp.constraints, c.name ≠ n) (hstack : sameStack inp n = true) (ρ : Var → Nat) :
    (Sat (rankSystem true (numForm inp n v)) ρ ↔ Sat (rankSystem true (withNumConstraint inp n v)) ρ) ∧
    (∀ σ, Sols (withNumConstraint inp n v) ρ σ →
      ∃ σ', Sols (numForm inp n v) ρ σ' ∧ (∀ a ∈ (numForm inp n v).axes ρ, σ' a.2.2 = σ a.2.2) ∧
        shapesOf (numForm inp n v) ρ σ' = shapesOf (withNumConstraint inp n v) ρ σ) ∧
    (∀ σ, Sols (numForm inp n v) ρ σ →
      ∃ σ', Sols (withNumConstraint inp n v) ρ σ' ∧
        (∀ a ∈ inp.axes ρ, a.1 ≠ n → σ' a.2.2 = σ a.2.2) ∧ (∀ a ∈ inp.axes ρ, a.1 = n → σ' a.2.2 = v) ∧
        shapesOf (withNumConstraint inp n v) ρ σ' = shapesOf (numForm inp n v) ρ σ) := by
  obtain ⟨h1, h2, h3⟩ := number_is_fresh_axis inp n v hv hcn hstack ρ
  have hh := hashFree_of_plainNames hp
  have hnum : hashFree (numForm inp n v) = true :=
    (hashFree_iff _).mpr fun m hm => (hashFree_iff inp).mp hh m (numForm_axisNames_sub inp n v m hm)
  have hlong : hashFree (withNumConstraint inp n v) = true := hh
  exact ⟨h1, fun σ hs => h2 σ hs (namesOK_of_hashFree _ ρ hnum),
    fun σ hs => h3 σ hs (freshVars_of_plainNames inp ρ n hp) (namesOK_of_hashFree _ ρ hlong)⟩

theorem renameInput_axisNames (f : String → String) (inp : Input) :
    (renameInput f inp).axisNames = inp.axisNames.map f := by
  simp only [Input.axisNames, renameInput_occs, List.map_map]
  rfl

/-- **Renaming preserves the solutions**, without variable-level premises: `inp` has plain names,
`f` is injective on the names of `inp` and maps the axis names to plain names. -/
theorem rename_preserves_sols_plain (f : String → String) (inp : Input) (hp : plainNames inp = true)
    (hf : ∀ n ∈ inp.axisNames, plainName (f n) = true)
    (hinj : ∀ a ∈ inp.names, ∀ b ∈ inp.names, f a = f b → a = b) (ρ : Var → Nat) :
    (Sat (rankSystem true (renameInput f inp)) ρ ↔ Sat (rankSystem true inp) ρ) ∧
    (∀ σ, Sols inp ρ σ →
      ∃ σ', Sols (renameInput f inp) ρ σ' ∧ (∀ a ∈ inp.axes ρ, σ' (renVar f a) = σ a.2.2) ∧
        shapesOf (renameInput f inp) ρ σ' = shapesOf inp ρ σ) ∧
    (∀ σ', Sols (renameInput f inp) ρ σ' →
      ∃ σ, Sols inp ρ σ ∧ (∀ a ∈ inp.axes ρ, σ a.2.2 = σ' (renVar f a)) ∧
        shapesOf inp ρ σ = shapesOf (renameInput f inp) ρ σ') := by
  have hsub : ∀ a ∈ inp.axisNames, a ∈ inp.names := fun a ha => List.mem_append_left _ ha
  have hok := renOK_of_plainNames f inp ρ hp hf (fun a ha b hb => hinj a (hsub a ha) b (hsub b hb))
  obtain ⟨h1, h2, h3⟩ := rename_preserves_sols f inp hinj ρ hok
  have hren : hashFree (renameInput f inp) = true := by
    rw [hashFree_iff, renameInput_axisNames]
    intro m hm
    obtain ⟨n, hn, rfl⟩ := List.mem_map.mp hm
    exact ((plainChars_iff _).mp (hf n hn)).1
  exact ⟨h1, fun σ hs => h2 σ hs (namesOK_of_hashFree _ ρ hren),
    fun σ' hs => h3 σ' hs (namesOK_of_hashFree inp ρ (hashFree_of_plainNames hp))⟩

/-- **Anonymous `...` = one shared named ellipsis**, without variable-level premises: `inp` has plain
names (e.g. it comes from the parser, `parser_names_plain`), `s` is a plain name (e.g. an
identifier) not used in `inp`. -/
theorem anonymous_ellipsis_shared_plain (inp : Input) (s : String) (hp : plainNames inp = true)
    (hsp : plainName s = true) (hs : s ∉ inp.names) (ρ : Var → Nat) :
    let long := renameInput (swapName anonAxis s) inp
    (Sat (rankSystem true long) ρ ↔ Sat (rankSystem true inp) ρ) ∧
    (∀ σ, Sols inp ρ σ →
      ∃ σ', Sols long ρ σ' ∧ (∀ a ∈ inp.axes ρ, σ' (renVar (swapName anonAxis s) a) = σ a.2.2) ∧
        shapesOf long ρ σ' = shapesOf inp ρ σ) ∧
    (∀ σ', Sols long ρ σ' →
      ∃ σ, Sols inp ρ σ ∧ (∀ a ∈ inp.axes ρ, σ a.2.2 = σ' (renVar (swapName anonAxis s) a)) ∧
        shapesOf inp ρ σ = shapesOf long ρ σ') := by
  apply rename_preserves_sols_plain _ inp hp _ (swapName_inj anonAxis s inp.names hs) ρ
  intro n hn
  unfold swapName
  split
  · exact hsp
  · simp only [plainNames, List.all_eq_true] at hp
    exact hp n hn

/-- Non-vacuity: the hypotheses of the four premise-free theorems hold for the examples of
`Props/C07Stage2.lean` (whose solutions are computed there). -/
example : hashFree exEll = true ∧ checkSat (rankSystem true exEll) [("e0", 2)] = true ∧
    plainNames exNum = true ∧ sameStack exNum "n" = true ∧
    plainNames exAnon = true ∧ plainName "s" = true ∧ "s" ∉ exAnon.names :=
  ⟨hashFree_of_plainNames examples_plain.1, exEll_hyps.1, examples_plain.2.1, exNum_hyps.1, examples_plain.2.2,
    by decide +kernel, exAnon_hyps.2.1⟩

/-! ### The reference solver on the short and the long form (partial)

That `solveAll` returns literally the same verdict on both forms is NOT proved (unit propagation
depends on the order and multiplicity of the equations, and the two value systems differ in both).
What follows from the correspondences above and C02's `solveAll_sound`: the verdicts never
contradict each other — if the solver determines one form completely (`unique`), it cannot refute the
other (`rankNone` / `valueNone`). -/

/-- A solution excludes the verdicts `rankNone` / `valueNone`. -/
theorem solveAll_not_none_of_sol (inp : Input) (ρ σ : Var → Nat) (h : Sols inp ρ σ) :
    solveAll inp ≠ .rankNone ∧ ∀ c, solveAll inp ≠ .valueNone c := by
  have hs := solveAll_sound inp
  constructor
  · intro he; rw [he] at hs; exact hs ρ σ h
  · intro c he; rw [he] at hs; exact hs ρ σ h

/-- The verdict `unique c v` carries a solution. -/
theorem solveAll_unique_sol (inp : Input) (c v : Assign) (h : solveAll inp = .unique c v) :
    Sols inp (toFun c) (toFun v) := by
  have hs := solveAll_sound inp
  rw [h] at hs
  exact hs.1

/-- **Ellipsis = repetition, verdicts (partial)**: if the reference solver solves the short form
(`unique c v`), it does not refute the long form written out with these counts; and if it solves the
long form written out with admissible counts `ρ`, it does not refute the short form. -/
theorem ellipsis_unroll_verdicts_partial (inp : Input) (hp : hashFree inp = true)
    (hwf : ∀ c ∈ inp.constraints, c.vals.length = c.shape.foldr (· * ·) 1) :
    (∀ c v, solveAll inp = .unique c v →
      solveAll (unrollInput inp (toFun c)) ≠ .rankNone ∧ ∀ c', solveAll (unrollInput inp (toFun c)) ≠ .valueNone c') ∧
    (∀ ρ, Sat (rankSystem true inp) ρ → ∀ c' v', solveAll (unrollInput inp ρ) = .unique c' v' →
      solveAll inp ≠ .rankNone ∧ ∀ c, solveAll inp ≠ .valueNone c) := by
  constructor
  · intro c v h
    have hs := solveAll_unique_sol inp c v h
    obtain ⟨_, _, h3, _⟩ := ellipsis_unroll_plain inp (toFun c) hp hs.1 hwf
    obtain ⟨σ', hs', _⟩ := h3 (toFun v) (toFun []) hs
    exact solveAll_not_none_of_sol _ _ σ' hs'
  · intro ρ hρ c' v' h
    have hs := solveAll_unique_sol _ c' v' h
    obtain ⟨_, _, _, h4⟩ := ellipsis_unroll_plain inp ρ hp hρ hwf
    obtain ⟨σ, hs', _⟩ := h4 (toFun v') (toFun c') hs
    exact solveAll_not_none_of_sol inp ρ σ hs'

/-- **Anonymous = named ellipsis, verdicts (partial)**: a `unique` verdict on either form excludes a
refutation of the other. -/
theorem anonymous_ellipsis_verdicts_partial (inp : Input) (s : String) (hp : plainNames inp = true)
    (hsp : plainName s = true) (hs : s ∉ inp.names) :
    let long := renameInput (swapName anonAxis s) inp
    (∀ c v, solveAll inp = .unique c v → solveAll long ≠ .rankNone ∧ ∀ c', solveAll long ≠ .valueNone c') ∧
    (∀ c v, solveAll long = .unique c v → solveAll inp ≠ .rankNone ∧ ∀ c', solveAll inp ≠ .valueNone c') := by
  intro long
  constructor
  · intro c v h
    have hsol := solveAll_unique_sol inp c v h
    obtain ⟨_, h2, _⟩ := anonymous_ellipsis_shared_plain inp s hp hsp hs (toFun c)
    obtain ⟨σ', hs', _⟩ := h2 (toFun v) hsol
    exact solveAll_not_none_of_sol _ _ σ' hs'
  · intro c v h
    have hsol := solveAll_unique_sol long c v h
    obtain ⟨_, _, h3⟩ := anonymous_ellipsis_shared_plain inp s hp hsp hs (toFun c)
    obtain ⟨σ, hs', _⟩ := h3 (toFun v) hsol
    exact solveAll_not_none_of_sol inp _ σ hs'

/-- Non-vacuity: both forms of the examples are solved (`unique`) — `Props/C07Stage2.lean` computes the
verdicts; here only their kind. -/
example : (match solveAll exEll with | .unique .. => true | _ => false) = true ∧
    (match solveAll (unrollInput exEll (toFun [("e0", 2)])) with | .unique .. => true | _ => false) = true ∧
    (match solveAll exAnon with | .unique .. => true | _ => false) = true ∧
    (match solveAll (renameInput (swapName anonAxis "s") exAnon) with | .unique .. => true | _ => false) = true := by
  rw [exEll_solved, exEll_long_solved, exAnon_solved.1, exAnon_solved.2]
  exact ⟨rfl, rfl, rfl, rfl⟩

end Einx.Solve
