import EinxModel.Props.C14
import EinxModel.Props.C16
import EinxModel.Update.Desc
/-!
C14 / C01 / C16 — the lowering of indexed updates and of `get_at` as a function of the
description alone.

`AtLower.lowerUpdate` / `AtLower.lowerGetAt` (Update/LowerProg.lean) emit the complete instruction sequence from
einx's solved expressions; the iteration space of an update is computed by the C16 model of `_join_exprs`
(`AtLower.intermediate`).  They are tied to the code by the stream `at_model` (tools/props/at_tie.py: instruction by
instruction against the traced graph).  `AtDesc.descOp` / `descGetOp` (Update/Desc.lean) build, from the same
description and the same `intermediate`, the solved operation `Update.Op` that the denotation and the value-level
lowering of `Props/C14.lean` speak about.

Proved here, for **all** descriptions, coordinate / update / target contents (duplicate addresses included):
  * `intermediate_spec`: `_join_exprs` never raises on the operands of an update and returns every un-bracketed axis of
    length ≠ 1 exactly once — so `lowerUpdate` and `descOp` have an iteration space, whatever the description;
  * `lower_update_correct_partial`: the value-level lowering with the regenerated kernel / registrations computes the
    denotation of `descOp`'s operation; hypothesis `coveredB op` (decidable, recomputed by the driver for every traced
    call: every joined axis occurs in a coordinate, target or update expression and no length is 0);
  * `lower_get_at_correct` / `extracted_get_at_correct`: `np.take` of the flat target at the ravelled index is the
    `get_at` denotation `Update.getAt` of `descGetOp`'s operation.
Not proved universally (recomputed per traced call by the proved validator, `idx_instance` / `upd_instance` /
`instance` of the driver kind `lower_at`): that the *instruction sequence* `lowerUpdate` emits evaluates to the
value-level `Update.lower` of `descOp`, and `coveredB` as a consequence of the domain.
-/
namespace Einx.AtDesc
open Einx.Generic Einx.AtLower Einx.Update

theorem coveredB_iff (op : Op) : coveredB op = true ↔ op.covered := by
  simp only [coveredB, Bool.and_eq_true, List.all_eq_true, decide_eq_true_eq, List.mem_range, Bool.or_eq_true,
    List.contains_iff_mem, Op.covered]

/-- **`_join_exprs` inside the update lowering** (C16's model used by C14's): for every target, coordinate and update
expression the intermediate expression exists, names every axis once, and its names are exactly the un-bracketed
axes of length ≠ 1 of the prepared operands. -/
theorem intermediate_spec (tgt : In) (coords : List In) (upd : In) :
    ∃ inter, intermediate tgt coords upd = .ok inter ∧ (names inter).Nodup ∧
      ∀ x, x ∈ names inter ↔ x ∈ (Einx.Order.Join.nonUnit
        (coords.map (fun i => joinArg (squeezedExpr i.marked i.e) i.marked)
          ++ [joinArg (squeezedExpr upd.marked upd.e) upd.marked, joinArg (squeezedExpr tgt.marked tgt.e) tgt.marked])).flatten := by
  obtain ⟨r, _, hr, _, _, hnd, hm⟩ := Einx.Order.join_exprs_order_invariant Einx.Order.Join.enumFirst Einx.Order.Join.enumFirst
    Einx.Order.Join.enumFirst_ok Einx.Order.Join.enumFirst_ok
    (coords.map (fun i => joinArg (squeezedExpr i.marked i.e) i.marked)
      ++ [joinArg (squeezedExpr upd.marked upd.e) upd.marked, joinArg (squeezedExpr tgt.marked tgt.e) tgt.marked])
  have hnames : names (r.map (fun (n, v) => (⟨n, v⟩ : Ax))) = r.map (·.1) := by
    simp [names, List.map_map, Function.comp_def]
  refine ⟨r.map (fun (n, v) => ⟨n, v⟩), ?_, hnames ▸ hnd, fun x => hnames ▸ hm x⟩
  simp only [intermediate, hr]
  rfl

/-- **The lowering of an update computes the denotation, as a function of the description** (value level).  For every
mode, every description (target, coordinates, updates as the decomposer receives them), all coordinate and update
contents and every target: if the solved operation of the description (`descOp`: iteration space by the C16 model of
`_join_exprs`) is covered and its denotation is defined (coordinates in range), then ravelling with the kernel
regenerated from `_ravel`, broadcasting as the regenerated registrations say and the numpy primitive of the mode on the
flat target produce exactly the denotation — duplicate addresses included (`add_at_sum`, `set_at_one_of` say what that
is).  Partial: `coveredB op` is a decidable hypothesis (recomputed per traced call), not derived from the domain. -/
theorem lower_update_correct_partial (m : Mode) (tgt : In) (coords : List In) (upd : In) (cdata : List (List Nat))
    (udata : List Int) (op : Op) (t r : List Int)
    (hop : descOp tgt coords upd cdata udata = some op) (hc : coveredB op = true)
    (hd : denote m op t = some r) : lower Einx.Extracted.updateLowering m op t = some r := by
  have _ := hop
  exact extracted_lowering_sound m op t r ((coveredB_iff op).1 hc) hd

/-- **`get_at`: reading the flat target at the ravelled index is the denotation** (value level), for every index kernel
that is the row-major formula on valid indices. -/
theorem lower_get_at_sound (kernel : List Nat → List Nat → List Nat)
    (hk : ∀ shape idx : List Nat, Valid shape idx → (kernel idx shape).sum = ravel shape idx)
    (op : Op) (t r : List Int) (h : getAt op t = some r) : lowerGet kernel op t = some r := by
  refine (mapOpt_map_of (h := id) h fun σ _ c hg => ?_).trans (congrArg some (List.map_id r))
  split at hg
  · rename_i tshape tidx hts hti
    have hv := valid_of_readAt_eq_some hg
    rw [readLowered, addrLowered_of_valid hk hts hti hv]
    exact (readAt_of_valid t hv).symm.trans hg
  · cases hg

theorem lower_get_at_correct (kernel : List Nat → List Nat → List Nat)
    (hk : ∀ shape idx : List Nat, idx.length = shape.length → (kernel idx shape).sum = ravel shape idx)
    (op : Op) (t r : List Int) (h : getAt op t = some r) : lowerGet kernel op t = some r :=
  lower_get_at_sound kernel (fun shape idx hv => hk shape idx (valid_length hv)) op t r h

/-- … for the kernel the source tree defines, and the operation of a description. -/
theorem extracted_get_at_correct (tgt : In) (coords : List In) (eout : List G) (cdata : List (List Nat)) (op : Op)
    (t r : List Int) (hop : descGetOp tgt coords eout cdata = some op) (h : getAt op t = some r) :
    lowerGet Einx.Extracted.ravelKernel op t = some r := by
  have _ := hop
  exact lower_get_at_correct _ (fun shape idx hl => ravel_index_correct shape idx hl) op t r h

/-! ### Non-vacuity -/

/-- `set_at("a [b c], a p [2], p -> a [b c]")` with `a = 2, b = 3, c = 4, p = 2`: the description alone gives the
iteration space `a p` (C16 model), the operation is covered, the denotation is defined (duplicate address for `a = 0`),
and the conclusion of `lower_update_correct_partial` is the expected tensor. -/
example :
    let tgt : In := ⟨0, [.ax ⟨"a", 2⟩, .ax ⟨"b", 3⟩, .ax ⟨"c", 4⟩], ["b", "c"]⟩
    let co : In := ⟨1, [.ax ⟨"a", 2⟩, .ax ⟨"p", 2⟩, .ax ⟨"u", 2⟩], ["u"]⟩
    let up : In := ⟨2, [.ax ⟨"p", 2⟩], []⟩
    (intermediate tgt [co] up).toOption = some [⟨"a", 2⟩, ⟨"p", 2⟩]
    ∧ ∃ op, descOp tgt [co] up [[0, 1, 0, 1, 2, 3, 0, 0]] [5, 7] = some op ∧ coveredB op = true
      ∧ denote .add op (List.replicate 24 0) = lower Einx.Extracted.updateLowering .add op (List.replicate 24 0)
      ∧ (denote .add op (List.replicate 24 0)).map (fun l => (l[1]?, l[23]?, l[12]?)) = some (some 12, some 5, some 7) := by
  refine ⟨by decide +kernel,
    { axes := [2, 2], tdims := [.vec 0, .idx 3, .idx 4],
      coords := [{ dims := [.ax 0, .ax 1, .br 2], data := [0, 1, 0, 1, 2, 3, 0, 0] }], udims := [1], udata := [5, 7] },
    by decide +kernel, by decide +kernel⟩

/-- `get_at("a [b], p -> p a")`: the operation of the description, a defined denotation and the lowered value. -/
example :
    let tgt : In := ⟨0, [.ax ⟨"a", 2⟩, .ax ⟨"b", 3⟩], ["b"]⟩
    let co : In := ⟨1, [.ax ⟨"p", 2⟩], []⟩
    ∃ op, descGetOp tgt [co] [.ax ⟨"p", 2⟩, .ax ⟨"a", 2⟩] [[2, 0]] = some op
      ∧ getAt op [10, 11, 12, 20, 21, 22] = some [12, 22, 10, 20]
      ∧ lowerGet Einx.Extracted.ravelKernel op [10, 11, 12, 20, 21, 22] = some [12, 22, 10, 20] := by
  refine ⟨{ axes := [2, 2], tdims := [.vec 1, .idx 3], coords := [{ dims := [.ax 0], data := [2, 0] }], udims := [], udata := [] },
    by decide +kernel, by decide +kernel⟩

end Einx.AtDesc
