import EinxModel.Proofs.Solve
import EinxModel.Proofs.SolveCse
import EinxModel.Extracted.Cse
/-!
C02 — axis and rank solving is sound, unambiguous and exact.

The theorems are stated about the definitions the driver executes (`propagate`, `checkSat`, `solveAll`,
`checkAll`); the loop invariant and the arithmetic of `_value_range` are in `Proofs/Solve.lean` and
`Proofs/SolveCse.lean`.

Arithmetic is over `Nat`, so every statement holds beyond 2^31 by construction (an `example` below
evaluates a product of 2^32 * 2^32).

Reading: `Sols inp ρ σ` (counts `ρ`, lengths `σ`) is the set of assignments satisfying all stated
constraints; a reported quantity is admissible iff `Sols ≠ ∅` and it has one value on `Sols`.
-/
namespace Einx.Solve

/-- The Boolean checker decides the specification (and demands that every variable is bound). -/
theorem checkSat_iff (sys : System) (a : Assign) :
    checkSat sys a = true ↔ (∀ x ∈ sys.allVars, (a.lookup x).isSome = true) ∧ Sat sys (toFun a) :=
  checkSat_eq_true_iff sys a

/-- The partial assignment carried by a verdict (nothing for `none`). -/
def Verdict.known : Verdict → Assign
  | .unique a => a
  | .stuck a => a
  | .none => []

/-- **Forcedness.** Every value derived by the reference solver holds in *every* satisfying
assignment (invariant of the loop: the partial assignment is contained in every solution). -/
theorem propagate_forced (sys : System) (τ : Var → Nat) (hτ : Sat sys τ) (x : Var) (v : Nat)
    (h : (propagate sys).known.lookup x = some v) : τ x = v := by
  have hg := propagate_good sys
  cases hp : propagate sys with
  | none => rw [hp] at h; simp [Verdict.known] at h
  | unique a => rw [hp] at hg h; exact hg.1 τ hτ x v h
  | stuck a => rw [hp] at hg h; exact hg.1 τ hτ x v h

/-- Verdict `none` ⇒ there is no satisfying assignment. -/
theorem propagate_none (sys : System) (h : propagate sys = .none) : ¬ ∃ τ, Sat sys τ := by
  have hg := propagate_good sys
  rw [h] at hg
  rintro ⟨τ, hτ⟩
  exact hg τ hτ

/-- Verdict `unique a` ⇒ `a` is a solution and every solution coincides with it on all variables
of the system: `Sols = {a}`. -/
theorem propagate_unique (sys : System) (a : Assign) (h : propagate sys = .unique a) :
    Sat sys (toFun a) ∧ ∀ τ, Sat sys τ → ∀ x ∈ sys.allVars, τ x = toFun a x := by
  have hg := propagate_good sys
  rw [h] at hg
  obtain ⟨hforced, hcheck⟩ := hg
  rw [checkSat_iff] at hcheck
  refine ⟨hcheck.2, ?_⟩
  exact fun τ hτ x hx => ((hforced τ hτ).toFun_eq (hcheck.1 x hx)).symm

/-- Verdict `stuck a` is not a disguised `unique`: some variable of the system is still unknown,
and it is a genuine fixpoint — no equation has exactly one (linear) unknown left.  (The fuel
`propagate` passes to the loop, the number of variables, is enough.) -/
theorem propagate_stuck_fixpoint (sys : System) (a : Assign) (h : propagate sys = .stuck a) :
    (∃ x ∈ sys.allVars, a.lookup x = none) ∧ scan sys a sys.eqns = .skip := by
  have hg := propagate_good sys
  rw [h] at hg
  exact hg.2

/-! ### Rank level and the two-level solver -/

theorem evalPoly_under (ρ : Var → Nat) (id : Var) (p : Poly) :
    evalPoly ρ (p.map (fun m => ⟨m.coef, id :: m.vars⟩)) = ρ id * evalPoly ρ p := by
  induction p with
  | nil => simp [evalPoly]
  | cons m ms ih =>
    simp only [List.map, evalPoly, evalMono, prodVars, ih, Nat.mul_add]
    rw [Nat.mul_left_comm]

/-- The rank equation of a tensor says what it should: the width polynomial evaluates to the
semantic width (number of root-level items after expansion with counts `ρ`). -/
theorem widthPoly_eval (ρ : Var → Nat) : ∀ e : Expr, evalPoly ρ (widthPoly e) = width ρ e := by
  intro e
  induction e using Expr.induct with
  | axis _ | num _ | flat _ _ | concat _ _ | nil => rfl
  | brackets e ih => exact ih
  | ellipsis id e ih => simp only [widthPoly, width, evalPoly_under]; rw [ih]
  | cons c cs ihc ihcs =>
    dsimp only [widthPoly, widthPolyL, width, widthL] at ihcs ⊢
    rw [evalPoly_append, ihc, ihcs]

theorem widthPolyL_eval (ρ : Var → Nat) : ∀ cs : List Expr, evalPoly ρ (widthPolyL cs) = widthL ρ cs :=
  fun cs => widthPoly_eval ρ (.list cs)

/-- Counts derived at the rank level are forced: they hold in every solution. -/
theorem rank_propagate_forced (inp : Input) (ρ σ : Var → Nat) (h : Sols inp ρ σ) (id : Var) (n : Nat)
    (hk : (propagate (rankSystem true inp)).known.lookup id = some n) : ρ id = n :=
  propagate_forced _ ρ h.1 id n hk

/-- Every ellipsis id of the input is a variable of the rank system. -/
theorem ellIds_subset_allVars (b : Bool) (inp : Input) : ∀ id ∈ inp.ellIds, id ∈ (rankSystem b inp).allVars := by
  intro id hid
  unfold System.allVars rankSystem
  apply List.mem_append_left
  simp only [List.map_map, List.mem_map]
  exact ⟨id, hid, rfl⟩

/-- Unique counts: the value system of any solution is the one the solver expanded. -/
theorem rank_unique (inp : Input) (c : Assign) (h : propagate (rankSystem true inp) = .unique c) :
    Sat (rankSystem true inp) (toFun c) ∧
    ∀ ρ, Sat (rankSystem true inp) ρ →
      (∀ id ∈ inp.ellIds, ρ id = toFun c id) ∧ valueSystem inp ρ = valueSystem inp (toFun c) := by
  obtain ⟨h1, h2⟩ := propagate_unique _ c h
  refine ⟨h1, ?_⟩
  intro ρ hρ
  have hag : ∀ id ∈ inp.ellIds, ρ id = toFun c id :=
    fun id hid => h2 ρ hρ id (ellIds_subset_allVars true inp id hid)
  refine ⟨hag, ?_⟩
  unfold valueSystem tabulate
  congr 1
  apply List.map_congr_left
  intro id hid
  rw [hag id hid]

/-- `propagate_unique` at the weaker rank system `rankSystem false inp` (what the implementation derives from constraint
arrays): its verdict `unique` fixes the ellipsis counts in every solution OF THAT SYSTEM.  That a solution of the full
system `rankSystem true inp` is one of the weaker system (same variables, a subset of the equations) is not proved. -/
theorem strictRank_sound (inp : Input) (c : Assign) (h : propagate (rankSystem false inp) = .unique c)
    (ρ : Var → Nat) (hρ : Sat (rankSystem false inp) ρ) : ∀ id ∈ inp.ellIds, ρ id = toFun c id :=
  fun id hid => (propagate_unique _ c h).2 ρ hρ id (ellIds_subset_allVars false inp id hid)

/-- **Soundness of the two-level reference solver.**
* `rankNone` / `valueNone`: no assignment satisfies the stated constraints;
* `unique c v`: `(c, v)` is a solution and every solution has these counts on all ellipses and
  these lengths on all variables of the expanded system;
* `rankStuck` / `valueStuck`: every derived count / length is forced. -/
theorem solveAll_sound (inp : Input) :
    match solveAll inp with
    | .rankNone => ∀ ρ σ, ¬ Sols inp ρ σ
    | .valueNone _ => ∀ ρ σ, ¬ Sols inp ρ σ
    | .unique c v =>
        Sols inp (toFun c) (toFun v) ∧
        ∀ ρ σ, Sols inp ρ σ → (∀ id ∈ inp.ellIds, ρ id = toFun c id) ∧
          (∀ x ∈ (valueSystem inp (toFun c)).allVars, σ x = toFun v x)
    | .rankStuck c => ∀ ρ σ, Sols inp ρ σ → ∀ id n, c.lookup id = some n → ρ id = n
    | .valueStuck c v =>
        ∀ ρ σ, Sols inp ρ σ → (∀ id ∈ inp.ellIds, ρ id = toFun c id) ∧
          (∀ x n, v.lookup x = some n → σ x = n) := by
  unfold solveAll
  have hg := propagate_good (rankSystem true inp)
  cases hr : propagate (rankSystem true inp) with
  | none => rw [hr] at hg; exact fun ρ σ hs => hg ρ hs.1
  | stuck c => rw [hr] at hg; exact fun ρ σ hs => hg.1 ρ hs.1
  | unique c =>
    simp only
    obtain ⟨hc1, hc2⟩ := rank_unique inp c hr
    -- every solution has the counts `c`, so its lengths solve the value system the solver expanded
    have hval : ∀ ρ σ, Sols inp ρ σ →
        (∀ id ∈ inp.ellIds, ρ id = toFun c id) ∧ Sat (valueSystem inp (toFun c)) σ :=
      fun ρ σ hs => ⟨(hc2 ρ hs.1).1, (hc2 ρ hs.1).2 ▸ hs.2⟩
    have hg' := propagate_good (valueSystem inp (toFun c))
    cases hv : propagate (valueSystem inp (toFun c)) with
    | none => rw [hv] at hg'; exact fun ρ σ hs => hg' σ (hval ρ σ hs).2
    | stuck v => rw [hv] at hg'; exact fun ρ σ hs => ⟨(hval ρ σ hs).1, hg'.1 σ (hval ρ σ hs).2⟩
    | unique v =>
      obtain ⟨hv1, hv2⟩ := propagate_unique _ v hv
      exact ⟨⟨hc1, hv1⟩, fun ρ σ hs => ⟨(hval ρ σ hs).1, hv2 σ (hval ρ σ hs).2⟩⟩

/-- The checker for complete answers accepts exactly the solutions (with all variables bound). -/
theorem checkAll_iff (inp : Input) (c v : Assign) :
    checkAll inp c v = true ↔
      ((∀ id ∈ (rankSystem true inp).allVars, (c.lookup id).isSome = true) ∧
       (∀ x ∈ (valueSystem inp (toFun c)).allVars, (v.lookup x).isSome = true)) ∧
      Sols inp (toFun c) (toFun v) := by
  unfold checkAll Sols
  rw [Bool.and_eq_true, checkSat_iff, checkSat_iff]
  constructor
  · rintro ⟨⟨a, b⟩, ⟨c', d⟩⟩; exact ⟨⟨a, c'⟩, ⟨b, d⟩⟩
  · rintro ⟨⟨a, c'⟩, ⟨b, d⟩⟩; exact ⟨⟨a, b⟩, ⟨c', d⟩⟩

/-! ### Non-vacuity: concrete systems with each verdict -/

/-- `(a b) (c + 2)` against `(6, 5)` with `a = 2`: flatten + concat, uniquely solved. -/
def exUnique : Input :=
  { tensors := [⟨.list [.flat (.list [.axis "a", .axis "b"]), .concat [.axis "c", .num 2]], some [6, 5]⟩],
    constraints := [⟨"a", [], [2]⟩] }

example : solveAll exUnique =
    .unique [] [("b", 3), ("a", 2), ("c", 3), ("#0/1", 5), ("#0/0", 6)] := by decide +kernel

example : checkAll exUnique [] [("b", 3), ("a", 2), ("c", 3), ("#0/1", 5), ("#0/0", 6)] = true := by decide +kernel

/-- D3's input: `(b 3)` against 4 has no solution — `none` by divisibility. -/
def exNone : Input := { tensors := [⟨.flat (.list [.axis "b", .num 3]), some [4]⟩], constraints := [] }

example : solveAll exNone = .valueNone [] := by decide +kernel
example : ¬ ∃ ρ σ, Sols exNone ρ σ := by
  have h := solveAll_sound exNone
  have e : solveAll exNone = .valueNone [] := by decide +kernel
  rw [e] at h
  rintro ⟨ρ, σ, hs⟩
  exact h ρ σ hs

/-- `(a b)` against 6: two unknowns in the only product — `stuck`, and indeed ambiguous. -/
def exStuck : Input := { tensors := [⟨.flat (.list [.axis "a", .axis "b"]), some [6]⟩], constraints := [] }

example : solveAll exStuck = .valueStuck [] [("#0", 6)] := by decide +kernel
example : checkAll exStuck [] [("#0", 6), ("a", 2), ("b", 3)] = true ∧
          checkAll exStuck [] [("#0", 6), ("a", 3), ("b", 2)] = true := by decide +kernel

/-- `a... b` against rank 3: one unknown count in the rank equation, solved (`a = [2, 3]`, `b = 4`). -/
def exRank : Input :=
  { tensors := [⟨.list [.ellipsis "e0" (.axis "a"), .axis "b"], some [2, 3, 4]⟩], constraints := [] }

example : solveAll exRank = .unique [("e0", 2)] [("b", 4), ("a.1", 3), ("a.0", 2)] := by decide +kernel

/-- `a... b...` against rank 3: two unknown counts — stuck at the rank level. -/
example : solveAll { tensors := [⟨.list [.ellipsis "e0" (.axis "a"), .ellipsis "e1" (.axis "b")], some [2, 3, 4]⟩],
                     constraints := [] } = .rankStuck [] := by decide +kernel

/-- Exactness beyond 2^31 / 2^63: `(a b)` with `a = b = 2^32`. -/
example : solveAll { tensors := [⟨.flat (.list [.axis "a", .axis "b"]), none⟩],
                     constraints := [⟨"a", [], [4294967296]⟩, ⟨"b", [], [4294967296]⟩] } =
    .unique [] [("#0", 18446744073709551616), ("b", 4294967296), ("a", 4294967296)] := by decide +kernel


/-! ### Common-subexpression elimination (`stage2/cse.py`) is in the proved model

`Solve/Cse.lean`: `valueRange` = `_value_range`, `hasRepeatedAxis` = `_has_repeated_axis`,
`replaceable` = the filter of `cse`; `instantiate sys' c e` = the value system before CSE when
`sys'` is the one after CSE replaced `e` by the axis `c` (`CseStep`, `Proofs/SolveCse.lean`). -/

/-- `_has_repeated_axis` is `false` exactly when no axis name occurs twice. -/
theorem hasRepeatedAxis_iff (e : VExpr) : hasRepeatedAxis e = false ↔ (axisNames e).Nodup :=
  hasDup_false_iff _

/-- **`_value_range` is exact, unbounded case.**  If `_value_range(e) = (m, True)` and no axis
repeats in `e`, the values `e` takes when its unknown axes range over all admissible lengths are
exactly the integers `>= m`. -/
theorem valueRange_spec (e : VExpr) (m : Nat) (h : valueRange e = some (m, true))
    (hrep : hasRepeatedAxis e = false) (hpos : MinPos e) (n : Nat) :
    (∃ σ, Admissible e σ ∧ evalV σ e = n) ↔ m ≤ n :=
  (valueRange_values h hrep hpos n).trans okT_true

/-- **`_value_range` is exact, single-value case**: `_value_range(e) = (m, False)` ⇒ the set of
values is `{m}`. -/
theorem valueRange_spec_fixed (e : VExpr) (m : Nat) (h : valueRange e = some (m, false))
    (hrep : hasRepeatedAxis e = false) (hpos : MinPos e) (n : Nat) :
    (∃ σ, Admissible e σ ∧ evalV σ e = n) ↔ n = m :=
  (valueRange_values h hrep hpos n).trans okT_false

/-- Surjectivity with a frame: the witness assignment changes only the unknown axes of `e`
(this is what lets a solution of the system after CSE be extended to one before CSE). -/
theorem valueRange_surj (e : VExpr) (m : Nat) (h : valueRange e = some (m, true))
    (hrep : hasRepeatedAxis e = false) (hpos : MinPos e) (σ₀ : Var → Nat) (n : Nat) (hn : m ≤ n) :
    ∃ σ, (∀ x, x ∉ freeNames e → σ x = σ₀ x) ∧ Admissible e σ ∧ evalV σ e = n :=
  valueRange_onto h hrep hpos σ₀ n (okT_true.mpr hn)

/-- What the system before CSE says, in terms of the system after: the bounds of the other
variables, the bounds of the axes of `e`, and the equations with `c` read as the value of `e`. -/
theorem sat_instantiate_iff (sys' : System) (c : Var) (e : VExpr) (σ : Var → Nat) :
    Sat (instantiate sys' c e) σ ↔
      (∀ p ∈ sys'.vars, p.1 ≠ c → p.2 ≤ σ p.1) ∧ Admissible e σ ∧
      (∀ eq ∈ sys'.eqns, evalPoly (update σ c (evalV σ e)) eq.lhs = evalPoly (update σ c (evalV σ e)) eq.rhs) := by
  simp only [Sat, instantiate, List.forall_mem_append, List.mem_filter, List.forall_mem_map, substEqn,
    evalPoly_substPoly, evalPoly_polyOf, Admissible, bne_iff_ne, ne_eq, and_imp, and_assoc]

/-- **CSE preserves the solution set.**  Let `sys'` be the value system after CSE replaced `e` by
the axis `c` (`CseStep`), and `instantiate sys' c e` the system before.  Then
(a) every solution before CSE is one after CSE with `c :=` value of `e`, and
(b) every solution after CSE extends to one before CSE that differs only on the unknown axes of
    `e`, whose product/sum is the value of `c`.
`c` may occur any number of times in `sys'` (the `k >= 1` occurrences of `e`, also several in one
product).  This is one step, for a system of the form `instantiate sys' c e`; a whole run of `cse` on trees, with
several candidates, is `cseTrees_preserves_sols_partial` (`Props/C02Cse.lean`), proved independently of this theorem:
candidates that are used may share axes (D21), so `CseStep.outside` does not hold at every step of a real run. -/
theorem cse_preserves_sols (sys' : System) (c : Var) (e : VExpr) (m : Nat) (ub : Bool)
    (hs : CseStep sys' c e m ub) :
    (∀ σ, Sat (instantiate sys' c e) σ → Sat sys' (update σ c (evalV σ e))) ∧
    (∀ σ', Sat sys' σ' → ∃ σ, (∀ x, x ∉ freeNames e → σ x = σ' x) ∧ evalV σ e = σ' c ∧
        Sat (instantiate sys' c e) σ) := by
  have hlow := valueRange_lower hs.range hs.norep hs.minpos
  have hex := valueRange_onto hs.range hs.norep hs.minpos
  simp only [sat_instantiate_iff]
  constructor
  · rintro σ ⟨hb, hadm, he⟩
    have hm : m ≤ evalV σ e := okT_le (hlow σ hadm)
    refine ⟨fun p hp => ?_, he⟩
    by_cases hpc : p.1 = c
    · have := hs.only p hp hpc
      simp only [update, hpc, if_true]; omega
    · simpa [update, hpc] using hb p hp hpc
  · rintro σ' ⟨hb, he⟩
    have hok : okT (m, ub) (σ' c) := by
      cases hub : ub with
      | true => exact okT_true.mpr (hb (c, m) hs.decl)
      | false =>
        have := he _ (hs.fixed hub)
        simpa [okT, varConst, evalPoly, evalMono, prodVars] using this
    obtain ⟨σ, h1, h2, h3⟩ := hex σ' (σ' c) hok
    -- `σ` with `c := value of e` is `σ'` on the variables of `sys'` (the axes of `e` do not occur there),
    -- so it solves `sys'`
    have hsat : Sat sys' (update σ c (evalV σ e)) := by
      refine sat_congr (σ := σ') (fun x hx => ?_) ⟨hb, he⟩
      by_cases hxc : x = c
      · simp [update, hxc, h3]
      · simp only [update, hxc, if_false]
        exact (h1 x (fun hf => hs.outside x hf hx)).symm
    exact ⟨σ, h1, h3, fun p hp hpc => by simpa [update, hpc] using hsat.1 p hp, h2, hsat.2⟩

/-- CSE does not change the verdict: the system before is solvable iff the system after is. -/
theorem cse_solvable_iff (sys' : System) (c : Var) (e : VExpr) (m : Nat) (ub : Bool)
    (hs : CseStep sys' c e m ub) :
    (∃ σ, Sat (instantiate sys' c e) σ) ↔ (∃ σ', Sat sys' σ') := by
  obtain ⟨ha, hb⟩ := cse_preserves_sols sys' c e m ub hs
  constructor
  · rintro ⟨σ, hσ⟩; exact ⟨_, ha σ hσ⟩
  · rintro ⟨σ', hσ'⟩; obtain ⟨σ, _, _, h⟩ := hb σ' hσ'; exact ⟨σ, h⟩

/-- CSE does not change what is reported outside the replaced sub-expression: a variable `x`
other than `c` and the unknown axes of `e` (a root dimension, another axis, another node) is
forced to `v` before CSE iff it is forced to `v` after CSE. -/
theorem cse_forced_iff (sys' : System) (c : Var) (e : VExpr) (m : Nat) (ub : Bool)
    (hs : CseStep sys' c e m ub) (x : Var) (hx : x ∉ freeNames e) (hxc : x ≠ c) (v : Nat) :
    (∀ σ, Sat (instantiate sys' c e) σ → σ x = v) ↔ (∀ σ', Sat sys' σ' → σ' x = v) := by
  obtain ⟨ha, hb⟩ := cse_preserves_sols sys' c e m ub hs
  constructor
  · intro h σ' hσ'
    obtain ⟨σ, h1, _, h3⟩ := hb σ' hσ'
    rw [← h1 x hx]; exact h σ h3
  · intro h σ hσ
    have := h _ (ha σ hσ)
    simpa [update, hxc] using this

/-- The replacement axis reports the value of the sub-expression: `c` is forced to `v` after CSE
iff the value of `e` is forced to `v` before. -/
theorem cse_value_forced_iff (sys' : System) (c : Var) (e : VExpr) (m : Nat) (ub : Bool)
    (hs : CseStep sys' c e m ub) (v : Nat) :
    (∀ σ, Sat (instantiate sys' c e) σ → evalV σ e = v) ↔ (∀ σ', Sat sys' σ' → σ' c = v) := by
  obtain ⟨ha, hb⟩ := cse_preserves_sols sys' c e m ub hs
  constructor
  · intro h σ' hσ'
    obtain ⟨σ, _, h2, h3⟩ := hb σ' hσ'
    rw [← h2]; exact h σ h3
  · intro h σ hσ
    have := h _ (ha σ hσ)
    simpa [update] using this

/-- Transfer of the proved reference solver's verdicts across CSE: whatever `propagate` derives on
the system *after* CSE — unsolvability, or a forced value of a variable outside `e` — holds for
the system *before* CSE. -/
theorem cse_propagate_sound (sys' : System) (c : Var) (e : VExpr) (m : Nat) (ub : Bool)
    (hs : CseStep sys' c e m ub) :
    (propagate sys' = .none → ¬ ∃ σ, Sat (instantiate sys' c e) σ) ∧
    (∀ x v, (propagate sys').known.lookup x = some v → x ≠ c →
      ∀ σ, Sat (instantiate sys' c e) σ → σ x = v) := by
  obtain ⟨ha, _⟩ := cse_preserves_sols sys' c e m ub hs
  constructor
  · intro hn hex
    exact propagate_none sys' hn ((cse_solvable_iff sys' c e m ub hs).mp hex)
  · intro x v hk hxc σ hσ
    have := propagate_forced sys' _ (ha σ hσ) x v hk
    simpa [update, hxc] using this

/-! What CSE does **not** preserve: the unknown axes *inside* `e` are no variables of the system
after CSE.  Before CSE they may be forced (`(b 1)` against 5 forces `b = 5`) or ambiguous (`(b c)`
against 6) — after CSE neither is visible.  This is by design: `solve_axes` (which reports every
axis) runs with `cse=False`; `solve_shapes`, `matches` and the operations run with `cse=True`,
and their stage-3 trees contain the axis `cse.<n>` in place of `e`, so only quantities outside `e`
and the value of `e` itself (`cse_value_forced_iff`) are reported.  Examples below. -/

/-! #### Non-vacuity and the D3 witnesses -/

/-- `b c`, `b 3`, `a a`, `a + b` as stage-2 expressions (the literal `3` is an unnamed axis). -/
def exBC : VExpr := .list [.axis "b" none 1, .axis "c" none 1]
def exB3 : VExpr := .list [.axis "b" none 1, .axis "unnamed.0" (some 3) 1]
def exAA : VExpr := .list [.axis "a" none 1, .axis "a" none 1]
def exAplusB : VExpr := .concat [.axis "a" none 1, .axis "b" none 1]
/-- `(a + b) c d 1`: the product rule with one child of minimum 2 -/
def exMixed : VExpr :=
  .list [.flat (.concat [.axis "a" none 1, .axis "b" none 1]), .axis "c" none 1, .axis "d" none 1,
         .axis "unnamed.1" (some 1) 1]

example : valueRange exBC = some (1, true) ∧ replaceable exBC = true := by decide +kernel
example : valueRange exAplusB = some (2, true) ∧ replaceable exAplusB = true := by decide +kernel
example : valueRange exMixed = some (2, true) ∧ replaceable exMixed = true := by decide +kernel
example : valueRange (.list [.axis "u" (some 2) 1, .axis "v" (some 3) 1]) = some (6, false) := by decide +kernel
/-- two children with minimum above 1: `(a + b) (c + d)` takes no prime value -/
example : valueRange (.list [exAplusB, .concat [.axis "c" none 1, .axis "d" none 1]]) = none := by decide +kernel

/-- **D3, fixed code**: `b 3` is not replaced (`_value_range` is `None`: only multiples of 3);
`a a` is not replaced (repeated axis), although its range alone would pass. -/
example : valueRange exB3 = none ∧ replaceable exB3 = false := by decide +kernel
example : valueRange exAA = some (1, true) ∧ hasRepeatedAxis exAA = true ∧ replaceable exAA = false := by decide +kernel

/-- `valueRange_spec` applies to `(a + b) c d 1`: its values are exactly the integers `>= 2`. -/
example (n : Nat) : (∃ σ, Admissible exMixed σ ∧ evalV σ exMixed = n) ↔ 2 ≤ n :=
  valueRange_spec exMixed 2 (by decide +kernel) (by decide +kernel) (by decide +kernel) n

example (n : Nat) : (∃ σ, Admissible (.list [.axis "u" (some 2) 1, .axis "v" (some 3) 1]) σ ∧
    evalV σ (.list [.axis "u" (some 2) 1, .axis "v" (some 3) 1]) = n) ↔ n = 6 :=
  valueRange_spec_fixed _ 6 (by decide +kernel) (by decide +kernel) (by decide +kernel) n

/-- The value system of `a (cse.0), (cse.0) d` against `(2, 6), (6, 5)` — after CSE. -/
def exAfter : Input :=
  { tensors := [⟨.list [.axis "a", .flat (.axis "cse.0")], some [2, 6]⟩,
                ⟨.list [.flat (.axis "cse.0"), .axis "d"], some [6, 5]⟩],
    constraints := [] }
/-- `a (b c), (b c) d` against the same shapes — before CSE. -/
def exBefore : Input :=
  { tensors := [⟨.list [.axis "a", .flat (.list [.axis "b", .axis "c"])], some [2, 6]⟩,
                ⟨.list [.flat (.list [.axis "b", .axis "c"]), .axis "d"], some [6, 5]⟩],
    constraints := [] }

/-- `instantiate` of the model's own value system after CSE *is* (equations identical, the same
declarations) the model's own value system before CSE. -/
example : (instantiate (valueSystemA exAfter []) "cse.0" exBC).eqns = (valueSystemA exBefore []).eqns ∧
    (∀ p ∈ (instantiate (valueSystemA exAfter []) "cse.0" exBC).vars, p ∈ (valueSystemA exBefore []).vars) ∧
    (∀ p ∈ (valueSystemA exBefore []).vars, p ∈ (instantiate (valueSystemA exAfter []) "cse.0" exBC).vars) := by
  decide +kernel

/-- The hypotheses of `cse_preserves_sols` are met by this instance. -/
theorem exAfter_step : CseStep (valueSystemA exAfter []) "cse.0" exBC 1 true where
  range := by decide +kernel
  norep := by decide +kernel
  minpos := by decide +kernel
  decl := by decide +kernel
  only := by decide +kernel
  fixed := by intro h; cases h
  outside := by decide +kernel

theorem exAfter_propagate : propagate (valueSystemA exAfter []) =
    .unique [("d", 5), ("#1/0", 6), ("cse.0", 6), ("#0/1", 6), ("a", 2)] := by decide +kernel

/-- … and its conclusion is not empty: after CSE the solver reaches `unique`; before CSE every
root dimension and `a`, `d` are therefore forced to the same values, while `b`, `c` stay ambiguous
(the reference solver is `stuck` on them) — the purpose of CSE. -/
example : propagate (valueSystemA exAfter []) =
    .unique [("d", 5), ("#1/0", 6), ("cse.0", 6), ("#0/1", 6), ("a", 2)] := exAfter_propagate
example : ∀ σ, Sat (instantiate (valueSystemA exAfter []) "cse.0" exBC) σ → σ "d" = 5 ∧ σ "#0/1" = 6 := by
  intro σ hσ
  have h := (cse_propagate_sound _ _ _ _ _ exAfter_step).2
  rw [exAfter_propagate] at h
  exact ⟨h "d" 5 (by decide +kernel) (by decide +kernel) σ hσ, h "#0/1" 6 (by decide +kernel) (by decide +kernel) σ hσ⟩
example : propagate (instantiate (valueSystemA exAfter []) "cse.0" exBC) =
    .stuck [("d", 5), ("#1/0", 6), ("#0/1", 6), ("a", 2)] := by decide +kernel

/-- Not preserved, other direction: `(b 1)` against 5 forces the inner axis `b = 5` before CSE;
after CSE (`(cse.0)` against 5) `b` is not a variable any more. -/
def exB1 : VExpr := .list [.axis "b" none 1, .axis "unnamed.0" (some 1) 1]
def exAfterB1 : System := valueSystemA { tensors := [⟨.flat (.axis "cse.0"), some [5]⟩], constraints := [] } []
example : replaceable exB1 = true ∧
    propagate (instantiate exAfterB1 "cse.0" exB1) = .unique [("b", 5), ("#0", 5)] ∧
    "b" ∉ exAfterB1.allVars := by decide +kernel

/-- **D3, old code** (every candidate replaced by a free axis with minimum 1) was unsound:
`(b 3)` against 4.  After the old replacement the system `(cse.0) = 4` has a solution; before it
there is none. -/
def exOldB3 : System := valueSystemA { tensors := [⟨.flat (.axis "cse.0"), some [4]⟩], constraints := [] } []
example : (∃ σ', Sat exOldB3 σ') ∧ ¬ ∃ σ, Sat (instantiate exOldB3 "cse.0" exB3) σ := by
  constructor
  · exact ⟨toFun [("cse.0", 4), ("#0", 4)], ((checkSat_iff _ _).mp (by decide +kernel)).2⟩
  · exact propagate_none _ (by decide +kernel)

/-- D3, old code, `(a a)` against 8: after the old replacement `(cse.0) = 8` has a solution; before it
`a * a = 8` has none (squareness is lost) — the reason for the `_has_repeated_axis` half of the filter. -/
def exOldAA : System := valueSystemA { tensors := [⟨.flat (.axis "cse.0"), some [8]⟩], constraints := [] } []
example : (∃ σ', Sat exOldAA σ') ∧ ¬ ∃ σ, Sat (instantiate exOldAA "cse.0" exAA) σ := by
  constructor
  · exact ⟨toFun [("cse.0", 8), ("#0", 8)], ((checkSat_iff _ _).mp (by decide +kernel)).2⟩
  · rintro ⟨σ, _, he⟩
    have e : (instantiate exOldAA "cse.0" exAA).eqns =
        [⟨[⟨1, ["#0"]⟩], [⟨1, ["a", "a"]⟩]⟩, ⟨[⟨1, ["#0"]⟩], [⟨8, []⟩]⟩] := by decide +kernel
    rw [e] at he
    have h1 := he _ (List.mem_cons_self)
    have h2 := he _ (List.mem_cons_of_mem _ List.mem_cons_self)
    simp [evalPoly, evalMono, prodVars] at h1 h2
    rw [h2] at h1
    rcases Nat.lt_or_ge (σ "a") 3 with h | h
    · have : σ "a" = 0 ∨ σ "a" = 1 ∨ σ "a" = 2 := by omega
      rcases this with h' | h' | h' <;> rw [h'] at h1 <;> omega
    · have := Nat.mul_le_mul h h
      omega

/-- D3, old code, `c (a + b)` against `(2, 1)`: replaced by a free axis with minimum 1 the system
has the solution `cse.0 = 1`; before the replacement `a + b = 1` has none.  With the recorded
minimum 2 (`min_value`, checked by stage3/solve.py) the system after CSE has none either. -/
def exOldSum (minValue : Nat) : System :=
  { vars := [("c", 1), ("cse.0", minValue)], eqns := [varConst "c" 2, varConst "cse.0" 1] }
example : (∃ σ', Sat (exOldSum 1) σ') ∧ ¬ (∃ σ, Sat (instantiate (exOldSum 1) "cse.0" exAplusB) σ) ∧
    propagate (exOldSum 2) = .none := by
  refine ⟨⟨toFun [("c", 2), ("cse.0", 1)], ((checkSat_iff _ _).mp (by decide +kernel)).2⟩, ?_, by decide +kernel⟩
  rintro ⟨σ, hb, he⟩
  have e : instantiate (exOldSum 1) "cse.0" exAplusB =
      { vars := [("c", 1), ("a", 1), ("b", 1)],
        eqns := [⟨[⟨1, ["c"]⟩], [⟨2, []⟩]⟩, ⟨[⟨1, ["a"]⟩, ⟨1, ["b"]⟩], [⟨1, []⟩]⟩] } := by decide +kernel
  rw [e] at hb he
  have h1 := hb ("a", 1) (by decide +kernel)
  have h2 := hb ("b", 1) (by decide +kernel)
  have h3 := he ⟨[⟨1, ["a"]⟩, ⟨1, ["b"]⟩], [⟨1, []⟩]⟩ (by decide +kernel)
  simp [evalPoly, evalMono, prodVars] at h1 h2 h3
  omega


/-! #### Obligations over the regenerated source facts (`Extracted/Cse.lean`, from /repo on every run) -/

/-- The `Axis` rule of `_value_range` as translated from the source is the model's. -/
theorem extracted_axis_rule (n : String) (v : Option Nat) (m : Nat) :
    valueRange (.axis n v m) = some (Extracted.Cse.valueRangeAxis v m) := by
  cases v <;> rfl

/-- The combination rule of `_value_range` (any-None guard, sum rule, product of constants, product
rule) as translated from the source is `combineRanges`, for all inputs. -/
theorem extracted_combine_eq (isConcat : Bool) (ranges : List (Option (Nat × Bool))) :
    Extracted.Cse.valueRangeCombine isConcat ranges = combineRanges isConcat ranges := by
  simp only [Extracted.Cse.valueRangeCombine, combineRanges, unboundedMins, fixedMins, beq_iff_eq]
  rfl

mutual
/-- **The model's `valueRange` is the source's `_value_range`** (as translated on this run), on
every expression. -/
theorem extracted_valueRange_eq : ∀ e : VExpr, Extracted.Cse.valueRangeX e = valueRange e
  | .axis n v m => (extracted_axis_rule n v m).symm
  | .flat e => extracted_valueRange_eq e
  | .brackets e => extracted_valueRange_eq e
  | .list cs => by
    simp only [Extracted.Cse.valueRangeX, valueRange, extracted_combine_eq]; rw [extracted_valueRanges_eq cs]
  | .concat cs => by
    simp only [Extracted.Cse.valueRangeX, valueRange, extracted_combine_eq]; rw [extracted_valueRanges_eq cs]
theorem extracted_valueRanges_eq : ∀ cs : List VExpr, Extracted.Cse.valueRangesX cs = valueRanges cs
  | [] => rfl
  | c :: cs => by
    simp only [Extracted.Cse.valueRangesX, valueRanges]
    rw [extracted_valueRange_eq c, extracted_valueRanges_eq cs]
end

/-- The filter `replaceable` is in the source: `cse` keeps a candidate only if every occurrence
passes `_value_range(…) is not None and not _has_repeated_axis(…)`, nothing enlarges the candidate
list afterwards, and `_has_repeated_axis` is the duplicate test over all axis names. -/
theorem extracted_cse_filter :
    Extracted.Cse.filterPresent = true ∧ Extracted.Cse.filterFinal = true ∧
    Extracted.Cse.hasRepeatedAxisRecognised = true := by decide +kernel

/-- The `decl` / `only` / `fixed` hypotheses of `CseStep` are in the source: the replacement axis
is built with `min_value=_value_range(…)[0]` and the value of what it replaces, `stage2.Axis`
keeps `min_value` (default 1), and stage 3 rejects a value below `min_value`. -/
theorem extracted_cse_min_value :
    Extracted.Cse.replacementRecordsMin = true ∧ Extracted.Cse.replacementKeepsValue = true ∧
    Extracted.Cse.stage3ChecksMin = true ∧ Extracted.Cse.axisDefaultMin = 1 ∧
    Extracted.Cse.axisKeepsMin = true := by decide +kernel

end Einx.Solve
