import EinxModel.Proofs.LowerEwDenote
import EinxModel.Proofs.LowerRedDenote
import EinxModel.Props.C01
/-!
C01 (lowering algorithm, elementwise operations and reductions) — the decomposer's lowering of elementwise
operations and of reductions computes the loop-notation meaning, for **all** descriptions in the model's domain, any
number of operands and **all** axis lengths.

`Generic.lowerElementwise` (`Generic/LowerOps.lean`) is the line-by-line model of `Decomposer.__call__` around
`decomposednamedtensor_from_classical.elementwise` for the numpy backend: every input is decomposed
(`_decompose_single`: parenthesised groups are unflattened with reshapes), its unit axes are removed, it is
aligned with the output expression without broadcast axes by `_squeeze_transpose_broadcast(…,
broadcast_to_unitary=True)` (transpose, insert unit dimensions), the numpy function is called (once for the
operations of fixed arity; as a left fold of binary calls for the operations wrapped by
`_associative_binary_to_nary`), the output expression is chosen by `np.argmax` over the aligned axis lengths and
checked by `_ensure_output`, and the result is broadcast to the flat output and reshaped to the grouped output
(`_compose_next`); with the no-op tests of the numpy wrappers.  The model is tied to the real traced graphs on every
run (driver kind `lower_model`, stream `lower_model` of `tools/props/lower_tie.py`, run by C01 and C17).

Domain: every input and the output are arbitrary nestings of parenthesised groups over named axes (`Generic.G`);
any number of inputs ≥ 1 (the arity the numpy wrapper demands for the operation); any permutation; unit axes
anywhere; output axes that no input has (broadcast); inputs that lack output axes (numpy broadcasting).  Not in the
domain: concatenation, a repeated axis name inside one expression (the model rejects a repeated name in an input;
a repeated name in the output and inconsistent lengths are excluded by the decidable hypothesis `ewDomain` —
einx's solver never produces them), Python scalars as operands.

* `lower_elementwise_correct`     run on the symbolic inputs = `Denote.denoteElementwise` (operations of fixed
                                  arity) / `Denote.denoteElementwiseFold` (n-ary operations: the left fold of the
                                  binary function) of the corresponding stage-3 expressions
* `lower_elementwise_validates`   … equivalently: the validator of C01 accepts, for every such description
* `lower_elementwise_all_inputs`  … hence (by `validate_sound`) for all integer tensor contents and interpretations
* `ew_instance_holds`             the instance the driver recomputes on every traced call of the stream

Reductions: `Generic.lowerReduce` models `Decomposer.__call__` around `decomposednamedtensor_from_classical.reduce`
(one input whose bracketed axes are reduced, one output): the input is decomposed, its unit axes that are *not* in
brackets are removed, `np.f(x, axis=_expr_to_axis(expr))` is called once (never `keepdims`: einx expresses it in the
output expression), `_ensure_output` checks the static shape, the result is transposed / broadcast to the flat
output and reshaped to the grouped output.  Domain as above, plus: the output names no bracketed axis (`redDomain`);
the ten reductions that `classical_from_numpy.ops` wraps with `reduce(np.f)` (not `logsumexp`).

* `lower_reduce_correct`          run on the symbolic input (generic executor over `planInstrX`) = `Denote.denoteReduce`
* `lower_reduce_validates`        … the validator of C01 (`validateG planInstrX`) accepts, for every such description
* `lower_reduce_all_inputs`       … hence (by `validate_sound_extended`) for all integer tensor contents and interpretations
* `red_instance_holds`            the instance the driver recomputes on every traced reduction of the stream
-/
namespace Einx.Lower
open Einx Einx.IR Einx.Generic Einx.Denote

/-- **Correctness of the lowering algorithm for elementwise operations.**  For every operation name `f`, every list
of input expressions `ins` and output expression `go` (flat or grouped to any depth, unit axes, broadcast output
axes, operands that lack output axes, any permutation, any axis lengths) whose output names are pairwise different
and whose lengths are consistent: if the model of einx's decomposer returns a program `s.prog` with result register
`s.reg`, then

* the loop-notation denotation of the operation for the corresponding stage-3 expressions is defined
  (`ewExpected`: `denoteElementwise f`, i.e. `f` applied to the operands' elements, for the operations of fixed
  arity; `denoteElementwiseFold f`, the left fold of the binary `f`, for the operations that take any number of
  operands), and
* running the program on the symbolic inputs of shapes `ins.map gShape` succeeds and leaves in `s.reg` exactly the
  denotation: the same shape and, for every output position, the same application of `f` to input elements. -/
theorem lower_elementwise_correct (f : String) (ins : List (List G)) (go : List G) (s : St)
    (hd : ewDomain ins go = true) (h : lowerElementwise f ins go = .ok s) :
    ∃ T, ewExpected f ins go = .ok T ∧ T.shape = gShape go ∧
      symRun s.prog (ins.map gShape) [s.reg] = .ok [T] := by
  obtain ⟨kind, _, _, hk, _, _, _, _, _, regs, cs, hev, hreg, hden⟩ := lowerElementwise_cells hd h
  exact ⟨_, ewExpected_of_cells hk hden, rfl, symRun_one hev hreg⟩

/-- **The validator accepts the lowering of every elementwise description.** -/
theorem lower_elementwise_validates (f : String) (ins : List (List G)) (go : List G) (s : St)
    (hd : ewDomain ins go = true) (h : lowerElementwise f ins go = .ok s) :
    ∃ exp, ewExpected f ins go = .ok exp ∧
      validate s.prog (ins.map gShape) [s.reg] [exp] = true := by
  obtain ⟨T, hden, _, hrun⟩ := lower_elementwise_correct f ins go s hd h
  exact ⟨T, hden, by simp [validate, hrun, tensorsBeq_refl]⟩

/-- **For all tensor contents.**  By `validate_sound`: for all integer tensors `xs` of the input shapes, every
interpretation of the elementary function symbols and any value for out-of-range reads, the lowered program runs on
`xs` and its result register holds the loop-notation denotation evaluated on `xs`. -/
theorem lower_elementwise_all_inputs (f : String) (ins : List (List G)) (go : List G) (s : St)
    (hd : ewDomain ins go = true) (h : lowerElementwise f ins go = .ok s)
    (I : String → List Int → Int) (bad : Int) (xs : List (Tensor Int))
    (hx : xs.map (·.shape) = ins.map gShape) (hlen : ∀ x ∈ xs, x.data.length = prod x.shape) :
    ∃ T regs, ewExpected f ins go = .ok T ∧
      evalProg (intAlgOf I bad) s.prog xs = .ok regs ∧
      regs[s.reg]? = some (T.map (evalCell (intAlgOf I bad) xs)) := by
  obtain ⟨T, hden, hv⟩ := lower_elementwise_validates f ins go s hd h
  rw [← hx] at hv
  obtain ⟨regs, hev, hout'⟩ := validate_sound s.prog [s.reg] [T] I bad xs hlen hv
  exact ⟨T, regs, hden, hev, by simpa using hout'⟩

/-- The instance of the theorem that the driver computes on every traced elementwise call of the `lower_model`
stream (`Generic/LowerOpsDenote.lean`: `ewDomain`, `ewInstance`) is `true` whenever the hypotheses hold and the
lowering succeeds; the harness reports how many traced calls are in the domain. -/
theorem ew_instance_holds (f : String) (ins : List (List G)) (go : List G) (s : St) (hd : ewDomain ins go = true)
    (h : lowerElementwise f ins go = .ok s) : ewInstance f ins go = true := by
  obtain ⟨exp, hden, hv⟩ := lower_elementwise_validates f ins go s hd h
  simp only [ewInstance, h, hden, hv]

/-- `a (b c), c a 1, b -> b a c d` with `a=2, b=2, c=3`, a unit axis, an operand that lacks `c` and a broadcast
axis `d=4`. -/
def ewIn : List (List G) :=
  [[.ax ⟨"a", 2⟩, .grp [.ax ⟨"b", 2⟩, .ax ⟨"c", 3⟩]], [.ax ⟨"c", 3⟩, .ax ⟨"a", 2⟩, .ax ⟨"u", 1⟩], [.ax ⟨"b", 2⟩]]
def ewOut : List G := [.ax ⟨"b", 2⟩, .ax ⟨"a", 2⟩, .ax ⟨"c", 3⟩, .ax ⟨"d", 4⟩]

/-- Primitive, operand registers and shape/permutation of every instruction (for comparing programs). -/
def instrCodeE : Instr → List Nat
  | .reshape x s => 0 :: x :: s
  | .transpose x p => 1 :: x :: p
  | .broadcastTo x s => 2 :: x :: s
  | .ewise _ args => 3 :: args.map (fun a => match a with | .reg r => r | .lit _ => 999)
  | _ => [9]

/-- The hypotheses hold and the lowering of the three-operand `add` succeeds with the ten-instruction program that
einx emits for `einx.add("a (b c), c a 1, b -> b a c d", x, y, z, d=4)`:
`reshape x (2,2,3); transpose (1,0,2); reshape y (3,2); transpose (1,0); reshape (1,2,3); add; reshape z (2,1,1); add;
reshape (2,2,3,1); broadcast_to (2,2,3,4)`; the validator accepts it against the denotation. -/
example :
    ewDomain ewIn ewOut = true ∧
    (match lowerElementwise "add" ewIn ewOut, ewExpected "add" ewIn ewOut with
      | .ok s, .ok exp =>
        s.prog.map instrCodeE == [[0, 0, 2, 2, 3], [1, 3, 1, 0, 2], [0, 1, 3, 2], [1, 5, 1, 0], [0, 6, 1, 2, 3], [3, 4, 7],
            [0, 2, 2, 1, 1], [3, 8, 9], [0, 10, 2, 2, 3, 1], [2, 11, 2, 2, 3, 4]]
          && s.reg == 12 && validate s.prog (ewIn.map gShape) [s.reg] [exp]
      | _, _ => false) = true := by
  decide +kernel

/-- The theorem applied to the example (a binary operation of fixed arity on the first two operands). -/
example : ∃ s exp, lowerElementwise "subtract" (ewIn.take 2) ewOut = .ok s ∧
    ewExpected "subtract" (ewIn.take 2) ewOut = .ok exp ∧
    validate s.prog ((ewIn.take 2).map gShape) [s.reg] [exp] = true := by
  have hok : (match lowerElementwise "subtract" (ewIn.take 2) ewOut with | .ok _ => true | .error _ => false) = true := by
    decide +kernel
  cases h : lowerElementwise "subtract" (ewIn.take 2) ewOut with
  | error e => simp [h] at hok
  | ok s =>
    obtain ⟨exp, hd, hv⟩ := lower_elementwise_validates "subtract" (ewIn.take 2) ewOut s (by decide +kernel) h
    exact ⟨s, exp, rfl, hd, hv⟩

/-- The arity check of the numpy wrapper is part of the model: `subtract` with three operands is rejected. -/
example : (match lowerElementwise "subtract" ewIn ewOut with | .ok _ => false | .error _ => true) = true := by
  decide +kernel

/-- The hypothesis is needed: with inconsistent lengths (`a=2` in the input, `a=3` in the output) the model emits
`broadcast_to`-free code whose result shape is not the output's, and the run fails. -/
example :
    ewDomain [[.ax ⟨"a", 2⟩]] [.ax ⟨"a", 3⟩] = false ∧
    (match lowerElementwise "exp" [[.ax ⟨"a", 2⟩]] [.ax ⟨"a", 3⟩] with
      | .ok s => (match symRun s.prog [[2]] [s.reg] with | .ok _ => false | .error _ => true)
      | .error _ => true) = true := by
  decide +kernel

/-- **Correctness of the lowering algorithm for reductions.**  For every numpy-wrapped reduction `f`, every input
expression `gi` whose axes named in `m` are in brackets and every output expression `go` (flat or grouped to any depth,
unit axes in or outside brackets, broadcast output axes, any permutation, any axis lengths) such that the output names
are pairwise different and not bracketed and the lengths are consistent: if the model of einx's decomposer returns the
program `l.prog` with result register `l.reg`, then

* the loop-notation denotation `denoteReduce f` of the corresponding stage-3 expressions is defined, and
* running the program on the symbolic input of shape `gShape gi` succeeds and leaves in `l.reg` exactly the
  denotation: the same shape and, for every output position, the canonical reduction cell over the same input
  elements. -/
theorem lower_reduce_correct (f : String) (m : List String) (gi go : List G) (l : LX)
    (hd : redDomain m gi go = true) (h : lowerReduce f m gi go = .ok l) :
    ∃ T, denoteReduce f (rootExprM m gi) (rootExpr go) = .ok T ∧ T.shape = gShape go ∧
      symRunG planInstrX l.prog [gShape gi] [l.reg] = .ok [T] := by
  obtain ⟨_, _, _, _, _, _, _, regs, cs, hev, hreg, hden⟩ := lowerReduce_cells hd h
  exact ⟨_, denoteReduce_of_cells hden, rfl, symRunG_one (shapes := [_]) hev hreg⟩

/-- **The validator accepts the lowering of every reduction.** -/
theorem lower_reduce_validates (f : String) (m : List String) (gi go : List G) (l : LX)
    (hd : redDomain m gi go = true) (h : lowerReduce f m gi go = .ok l) :
    ∃ exp, denoteReduce f (rootExprM m gi) (rootExpr go) = .ok exp ∧
      validateG planInstrX l.prog [gShape gi] [l.reg] [exp] = true := by
  obtain ⟨T, hden, _, hrun⟩ := lower_reduce_correct f m gi go l hd h
  exact ⟨T, hden, by simp [validateG, hrun, tensorsBeq_refl]⟩

/-- **For all tensor contents.**  By `validate_sound_extended`: for every integer tensor `x` of the input shape, every
interpretation of the function symbols (in particular of `red:f`, applied to the canonical multiset of the reduced
elements) and any value for out-of-range reads, the lowered program runs on `x` and its result register holds the
loop-notation denotation evaluated on `x`. -/
theorem lower_reduce_all_inputs (f : String) (m : List String) (gi go : List G) (l : LX)
    (hd : redDomain m gi go = true) (h : lowerReduce f m gi go = .ok l)
    (I : String → List Int → Int) (bad : Int) (x : Tensor Int)
    (hx : x.shape = gShape gi) (hlen : x.data.length = prod x.shape) :
    ∃ T regs, denoteReduce f (rootExprM m gi) (rootExpr go) = .ok T ∧
      evalProgG planInstrX (intAlgOf I bad) l.prog [x] = .ok regs ∧
      regs[l.reg]? = some (T.map (evalCell (intAlgOf I bad) [x])) := by
  obtain ⟨T, hden, hv⟩ := lower_reduce_validates f m gi go l hd h
  have hv' : validateG planInstrX l.prog ([x].map (·.shape)) [l.reg] [T] = true := by simpa [hx] using hv
  obtain ⟨regs, hev, hout'⟩ := validate_sound_extended l.prog [l.reg] [T] I bad [x] (by simpa using hlen) hv'
  exact ⟨T, regs, hden, hev, by simpa using hout'⟩

/-- The instance of the theorem that the driver computes on every traced reduction of the `lower_model` stream. -/
theorem red_instance_holds (f : String) (m : List String) (gi go : List G) (l : LX) (hd : redDomain m gi go = true)
    (h : lowerReduce f m gi go = .ok l) : redInstance f m gi go = true := by
  obtain ⟨exp, hden, hv⟩ := lower_reduce_validates f m gi go l hd h
  simp only [redInstance, h, hden, hv]

/-- `a [b] (c [d]) 1 -> c a 1` with `a=2, b=3, c=2, d=2` (einx: `einx.sum("a [b] (c [d]) 1 -> c a 1", x, c=2)`). -/
def redIn : List G := [.ax ⟨"a", 2⟩, .ax ⟨"b", 3⟩, .grp [.ax ⟨"c", 2⟩, .ax ⟨"d", 2⟩], .ax ⟨"u", 1⟩]
def redOut : List G := [.ax ⟨"c", 2⟩, .ax ⟨"a", 2⟩, .ax ⟨"v", 1⟩]

def instrCodeX : InstrX → List Nat
  | .base i => instrCodeE i
  | .reduce _ x axes k => 4 :: x :: (if k then 1 else 0) :: axes
  | _ => [9]

/-- The hypotheses hold, the lowering succeeds with the program einx emits
(before optimisation: `reshape (2,3,2,2,1); reshape (2,3,2,2); sum axis=(1,3); transpose (1,0); reshape (2,2,1)`), the validator accepts it against the
denotation, and the denotation is a genuine reduction (its first cell is a `red:sum` of six input elements). -/
example :
    redDomain ["b", "d"] redIn redOut = true ∧
    (match lowerReduce "sum" ["b", "d"] redIn redOut, denoteReduce "sum" (rootExprM ["b", "d"] redIn) (rootExpr redOut) with
      | .ok l, .ok exp =>
        l.prog.map instrCodeX == [[0, 0, 2, 3, 2, 2, 1], [0, 1, 2, 3, 2, 2], [4, 2, 0, 1, 3], [1, 3, 1, 0], [0, 4, 2, 2, 1]]
          && l.reg == 5 && validateG planInstrX l.prog [gShape redIn] [l.reg] [exp]
          && (match exp.data.head? with
              | some (.app g args) => g == "red:sum" && args.length == 6
              | _ => false)
      | _, _ => false) = true := by
  decide +kernel

/-- The theorem applied to the example. -/
example : ∃ l exp, lowerReduce "max" ["b", "d"] redIn redOut = .ok l ∧
    denoteReduce "max" (rootExprM ["b", "d"] redIn) (rootExpr redOut) = .ok exp ∧
    validateG planInstrX l.prog [gShape redIn] [l.reg] [exp] = true := by
  have hok : (match lowerReduce "max" ["b", "d"] redIn redOut with | .ok _ => true | .error _ => false) = true := by
    decide +kernel
  cases h : lowerReduce "max" ["b", "d"] redIn redOut with
  | error e => simp [h] at hok
  | ok l =>
    obtain ⟨exp, hd, hv⟩ := lower_reduce_validates "max" ["b", "d"] redIn redOut l (by decide +kernel) h
    exact ⟨l, exp, rfl, hd, hv⟩

/-- `logsumexp` is not a numpy-wrapped reduction: the model declines. -/
example : (match lowerReduce "logsumexp" ["b"] redIn redOut with | .ok _ => false | .error _ => true) = true := by
  decide +kernel

end Einx.Lower
