import EinxModel.Proofs.CacheHash
import EinxModel.Props.C06
/-!
C06, second property file — hash consistency of the cache key and the exact characterisation of key equality.

* `pyEq_hash`: `a == b → hash(a) == hash(b)` for the whole value universe of M9 (numbers of all kinds, strings,
  `None`, types, identity objects, tuples, lists, frozendicts irrespective of item order, `_Scalar` wrappers
  (= `(type(x), x)`), `inspect.Parameter`, `Tensor` and `ConvertibleTensor` placeholders), where `==` is the
  comparison the tree being checked performs (`keyEq`: `ConvertibleTensor.__eq__` compares the frozen `concrete`,
  obligation `extracted_conv_eq_frozen`) and `hash` is the exact CPython hash model of `Cache/Hash.lean`.
  The only guard is that mappings have pairwise different keys (`wfKeys`; every Python `dict` does).
* `frozen_key_eq_iff`: two cache keys are `==` **iff** the exact observations of the two calls agree.

Helper lemmas live in `Proofs/CacheHash.lean`; what relates the comparisons (`pyEq`, `typedEq`, `keyEq`, `exactEq`) to one
another is in `Proofs/CacheEq.lean`.
-/
namespace Einx.Cache
open Einx.Extracted

/-! ### Obligation regenerated from the source -/

/-- `ConvertibleTensor.__eq__` compares `_freeze_value(self.concrete) == _freeze_value(other.concrete)` – the value
that `ConvertibleTensor.__hash__` hashes.  (`keyEq` models this comparison; with the raw comparison of the pinned
tree hash consistency fails once scalars are tagged: `pyEq_hash_raw_refuted`.) -/
theorem extracted_conv_eq_frozen : convEqFrozen = true := by decide

/-! ### Hash consistency -/

/-- **`pyEq_hash`.**  For every dispatch table of `_freeze_value`, every hash environment (string / type / identity
hashes, `hash(None)`) and all values `a`, `b` of the modelled universe: if `a == b` (as the cache compares keys) and
the mappings inside `a` have pairwise different keys, then `hash(a) == hash(b)`.  Numbers of different types with
the same value (`1`, `1.0`, `True`, `np.int64(1)`), frozendicts with the same items in another order,
placeholders whose `concrete` differ only in container kinds are all covered. -/
theorem pyEq_hash (T : Table) (env : HashEnv) (a b : PyVal) (hw : wfKeys a = true) (h : keyEq T a b = true) :
    pyHash T env a = pyHash T env b :=
  keyEq_hash T env a b hw h

/-- The same for the raw comparison `pyEq` of `Value.lean` (the pinned `ConvertibleTensor.__eq__`), on the values
without `ConvertibleTensor` placeholders – the largest sub-universe on which it holds for every table
(`pyEq_hash_raw_refuted`). -/
theorem pyEq_hash_partial (T : Table) (env : HashEnv) (a b : PyVal) (hw : wfKeys a = true) (hc : noConv a = true)
    (h : pyEq a b = true) : pyHash T env a = pyHash T env b :=
  keyEq_hash T env a b hw (by rw [keyEq_noConv T a b hc]; exact h)

/-- Inside a placeholder (`hash(_freeze_value(concrete))`): raw `==` implies equal hash, no guard on placeholders. -/
theorem pyEq_hash_concrete (env : HashEnv) (a b : PyVal) (hw : wfKeys a = true) (h : pyEq a b = true) :
    hash0 env a = hash0 env b :=
  pyEq_hash0 env a b hw h

/-- Hash consistency for the keys of two calls. -/
theorem key_hash_consistent (T : Table) (env : HashEnv) (a b : Call) (hw : a.wf = true)
    (h : keyEq T (keyOf T a) (keyOf T b) = true) : pyHash T env (keyOf T a) = pyHash T env (keyOf T b) := by
  apply keyEq_hash T env _ _ _ h
  simp only [Call.wf, Bool.and_eq_true] at hw
  simp [keyOf, wfKeys, wfKeysList, freeze_wfKeys T _ hw.1, freeze_wfKeys T _ hw.2]

/-- **The hash comparison never hides an equal key**: a stored key is found (`equal hash and ==`) exactly when it
is `==`.  Hence the `hit` relation of the memo machine is `keyEq` itself. -/
theorem key_hit_iff_eq (T : Table) (env : HashEnv) (k k' : PyVal) (hw : wfKeys k = true) :
    keyHitF T env k k' = keyEq T k k' := by
  unfold keyHitF
  cases h : keyEq T k k' with
  | false => simp
  | true => simp [keyEq_hash T env k k' hw h]

/-- The dispatch table with the scalar branch `isinstance(x, bool | int | float | complex | np.generic) → _Scalar(x)`
(used for witnesses and examples, so that they do not depend on the tree being checked). -/
def taggedTable : Table :=
  { pinnedTable with rows := pinnedTable.rows ++ [⟨[.bool, .int, .float, .complex, .npGeneric], .tagType⟩] }

/-- Witness environment for the refutation below. -/
def witnessEnv : HashEnv :=
  { str := fun s => (s.length : Int) + 11, cls := fun s => (s.length : Int) + 101, obj := fun i => (i : Int) + 1001, none := 7 }

/-- Placeholder of a tensor factory `def f(shape, scale=2)` … -/
def factoryInt : PyVal :=
  .conv (.ns [("type", .cls "function"), ("parameters", .dict [("scale", .param "scale" (.num .pyInt ⟨2, 0⟩) (.cls "inspect._empty") 1)])]) Option.none
/-- … and of `def f(shape, scale=2.0)`. -/
def factoryFloat : PyVal :=
  .conv (.ns [("type", .cls "function"), ("parameters", .dict [("scale", .param "scale" (.num .pyFloat ⟨2, 0⟩) (.cls "inspect._empty") 1)])]) Option.none

/-- **Why `extracted_conv_eq_frozen` is an obligation.**  With the raw comparison of `concrete` and a table that
tags scalars (a test on one instance): the two factory placeholders are `==` but hash differently (whether the
second call hits would depend on the layout of the hash table); under `keyEq` they are simply different keys. -/
theorem pyEq_hash_raw_refuted :
    pyEq factoryInt factoryFloat = true ∧ pyHash taggedTable witnessEnv factoryInt ≠ pyHash taggedTable witnessEnv factoryFloat ∧
      keyEq taggedTable factoryInt factoryFloat = false := by
  decide +kernel

/-- **Numbers.**  On normal forms (`exp = 0` or odd numerator; the driver rejects anything else) two dyadic
rationals denote the same mathematical value only if they are structurally equal – so `pyEq` on numbers is
equality of values across all kinds, and `numHash`, a function of the normal form, gives them one hash. -/
theorem dy_normal_unique (a b : Dy) (ha : a.normal = true) (hb : b.normal = true)
    (h : a.num * 2 ^ b.exp = b.num * 2 ^ a.exp) : a = b := by
  obtain ⟨n, e⟩ := a
  obtain ⟨m, f⟩ := b
  simp only [Dy.normal, Bool.or_eq_true, beq_iff_eq, bne_iff_ne, ne_eq] at ha hb
  simp only at h
  rcases Nat.lt_trichotomy e f with hlt | heq | hgt
  · exfalso
    obtain ⟨d, rfl⟩ : ∃ d, f = e + d + 1 := ⟨f - e - 1, by omega⟩
    rcases hb with hb | hb
    · omega
    · exact hb (even_of_mul_two_pow_succ n m e d h)
  · subst heq
    have h2 : (2 : Int) ^ e ≠ 0 := Int.pow_ne_zero (by decide)
    rw [Int.eq_of_mul_eq_mul_right h2 h]
  · exfalso
    obtain ⟨d, rfl⟩ : ∃ d, e = f + d + 1 := ⟨e - f - 1, by omega⟩
    rcases ha with ha | ha
    · omega
    · exact ha (even_of_mul_two_pow_succ m n f d h.symm)

/-- Equal mathematical value ⇒ `==` and equal hash, for numbers of any two kinds. -/
theorem num_value_eq_hash (T : Table) (env : HashEnv) (k k' : NumKind) (a b : Dy) (ha : a.normal = true) (hb : b.normal = true)
    (h : a.num * 2 ^ b.exp = b.num * 2 ^ a.exp) :
    pyEq (.num k a) (.num k' b) = true ∧ pyHash T env (.num k a) = pyHash T env (.num k' b) := by
  have := dy_normal_unique a b ha hb h
  subst this
  simp [pyEq, pyHash]

/-! ### Key equality ⇔ equality of exact observations -/

/-- Value level: under a table that treats containers as the pinned one and tags every scalar, two frozen values
are `==` exactly when their exact observations agree. -/
theorem frozen_value_eq_iff (T : Table) (hr : T.respects = true) (ht : T.tagsAll = true) (x y : PyVal)
    (hx : flatConv x = true) : keyEq T (freeze T x) (freeze T y) = exactEq (observeX x) (observeX y) := by
  have r := respects_of hr
  rw [freeze_factor T r (tagsAll_of ht) x, freeze_factor T r (tagsAll_of ht) y]
  exact key_exact T r (tagsAll_of ht) _ _ (freeze_allConv _ pinnedTable x hx)

/-- **`frozen_key_eq_iff`.**  For every dispatch table that treats containers as the pinned one (`respects`) and
freezes every scalar together with its type (`tagsAll`) – both `decide`d on the extracted table – the cache keys of
two calls are `==` **if and only if** the exact observations of the calls are equal: same `api` object, positional
and keyword values equal after erasing container kinds (list / tuple / array, dict / namespace, `Parameter`), mapping
items irrespective of order, every number with its exact Python / numpy type and value, placeholders by kind,
shape and frozen `concrete`.  Guard: the `concrete` of a `ConvertibleTensor` contains no further placeholder. -/
theorem frozen_key_eq_iff (T : Table) (hr : T.respects = true) (ht : T.tagsAll = true) (a b : Call) (ha : a.flat = true) :
    keyEq T (keyOf T a) (keyOf T b) = true ↔ exactEq (observeCallX a) (observeCallX b) = true := by
  simp only [Call.flat, Bool.and_eq_true] at ha
  have h1 := frozen_value_eq_iff T hr ht (.list a.args) (.list b.args) ha.1
  have h2 := frozen_value_eq_iff T hr ht (.dict a.kwargs) (.dict b.kwargs) ha.2
  simp only [observeX] at h1 h2
  simp only [keyOf, keyEq, keyEqList, BEq.rfl, h1, h2, Bool.and_true, Bool.true_and, Bool.and_eq_true,
    beq_iff_eq, observeCallX, normConv, normConvList, exactEq, exactEqList]

/-- `frozen_key_eq_iff` on the tree being checked. -/
theorem extracted_key_eq_iff (a b : Call) (ha : a.flat = true) :
    keyEq freezeTable (keyOf freezeTable a) (keyOf freezeTable b) = true ↔ exactEq (observeCallX a) (observeCallX b) = true :=
  frozen_key_eq_iff freezeTable extracted_table_respects (by decide +kernel) a b ha

/-- **No redundant retrace**: a call whose exact observation equals that of a stored call hits the cache (equal
hash *and* `==`). -/
theorem exact_observation_hits (T : Table) (hr : T.respects = true) (ht : T.tagsAll = true) (env : HashEnv) (a b : Call)
    (ha : a.flat = true) (hw : a.wf = true) (h : exactEq (observeCallX a) (observeCallX b) = true) :
    keyHitF T env (keyOf T a) (keyOf T b) = true := by
  have hk := (frozen_key_eq_iff T hr ht a b ha).mpr h
  simp [keyHitF, hk, key_hash_consistent T env a b hw hk]

/-- The exact observation refines the typed observation of `key_refines_observation` (values without
`ConvertibleTensor` placeholders): exact type ⇒ numeric class. -/
theorem exact_refines_typed (x y : PyVal) (hx : noConv x = true) (h : exactEq x y = true) : typedEq x y = true := by
  have _ := hx  -- not needed: `exact_typed` holds with placeholders as well
  exact exact_typed x y h

/-- `id("a b -> a b c", x, c=2)` and the same call with `c=np.int64(2)`. -/
def retraceA : Call := { op := 0, args := [.str "a b -> a b c", .tensor [2, 3]], kwargs := [("c", .num .pyInt ⟨2, 0⟩), ("backend", .obj 1)] }
def retraceB : Call := { op := 0, args := [.str "a b -> a b c", .tensor [2, 3]], kwargs := [("c", .num .npInt64 ⟨2, 0⟩), ("backend", .obj 1)] }

/-- **The converse of `key_refines_observation` is false** (witness, decided on the table with the scalar branch): the two calls
have the same *typed* observation (an integer 2 – tracing cannot tell them apart) but different keys, because the key
keeps the exact type.  Harmless: the second call is traced again and, by `memo_transparent`, gets the same outcome. -/
theorem typed_observation_not_key_witness :
    typedEq (observeCall retraceA) (observeCall retraceB) = true ∧
      exactEq (observeCallX retraceA) (observeCallX retraceB) = false ∧
      keyEq taggedTable (keyOf taggedTable retraceA) (keyOf taggedTable retraceB) = false := by
  decide +kernel

/-- **Cache transparency with the comparison of the tree being checked**: if tracing depends only on the exact
observation, then after any history of (flat) calls the outcome of a call is that of a fresh `_construct_graph`. -/
theorem einx_cache_transparent_exact {F : Type} (T : Table) (hr : T.respects = true) (ht : T.tagsAll = true) (env : HashEnv)
    (compute : Call → Outcome F)
    (hobs : ∀ a b, exactEq (observeCallX a) (observeCallX b) = true → compute a = compute b)
    (h : List Call) (c : Call) (hall : ∀ x ∈ c :: h, x.flat = true) :
    (step (keyOf T) (keyHitF T env) id compute (after (keyOf T) (keyHitF T env) id compute [] h) c).2 = compute c := by
  apply memo_transparent_on (keyOf T) (keyHitF T env) id compute (fun x => x.flat = true)
  · intro m e he; exact he
  · intro a b ha _ hk
    simp only [keyHitF, Bool.and_eq_true] at hk
    exact hobs a b ((frozen_key_eq_iff T hr ht a b ha).mp hk.2)
  · exact hall

/-! ### Non-vacuity -/

/-- `pyEq_hash`: a mapping with reordered items, `2` vs `2.0`, `1` vs `True` – `==` holds, the guard holds. -/
example :
    let a : PyVal := .dict [("b", .num .pyInt ⟨2, 0⟩), ("c", .tuple [.num .pyInt ⟨1, 0⟩, .str "x"])]
    let b : PyVal := .dict [("c", .tuple [.num .pyBool ⟨1, 0⟩, .str "x"]), ("b", .num .pyFloat ⟨2, 0⟩)]
    wfKeys a = true ∧ keyEq pinnedTable a b = true ∧ a.shape = b.shape := by decide +kernel

/-- `pyEq_hash` on placeholders: factories with default `[1, 2]` and `(1, 2)` are `==` for the tree being checked
(frozen comparison) although the raw comparison says no. -/
example :
    let f (d : PyVal) : PyVal := .conv (.ns [("type", .cls "function"), ("parameters", .dict [("init", .param "init" d (.cls "inspect._empty") 1)])]) Option.none
    let a := f (.list [.num .pyInt ⟨1, 0⟩, .num .pyInt ⟨2, 0⟩])
    let b := f (.tuple [.num .pyInt ⟨1, 0⟩, .num .pyInt ⟨2, 0⟩])
    wfKeys a = true ∧ keyEq taggedTable a b = true ∧ pyEq a b = false := by decide +kernel

/-- The guard of `pyEq_hash` cannot be dropped: association lists with a repeated key (not Python dicts). -/
example :
    let a : PyVal := .dict [("x", .num .pyInt ⟨1, 0⟩), ("x", .num .pyInt ⟨1, 0⟩)]
    let b : PyVal := .dict [("x", .num .pyInt ⟨1, 0⟩), ("y", .num .pyInt ⟨2, 0⟩)]
    keyEq pinnedTable a b = true ∧ wfKeys a = false := by decide +kernel

/-- `frozen_key_eq_iff`: keyword order, list vs array, list vs tuple default of a factory – hypotheses hold on the
tagged table and both sides are true; and a pair on which both sides are false. -/
example :
    let f (d : PyVal) : PyVal := .conv (.ns [("type", .cls "function"), ("parameters", .dict [("init", .param "init" d (.cls "inspect._empty") 1)])]) Option.none
    let a : Call := { op := 0, args := [.str "a b, b -> a b", .tensor [2, 3], f (.list [.num .pyInt ⟨1, 0⟩])],
                      kwargs := [("b", .list [.num .pyInt ⟨3, 0⟩]), ("backend", .obj 1)] }
    let b : Call := { op := 0, args := [.str "a b, b -> a b", .tensor [2, 3], f (.tuple [.num .pyInt ⟨1, 0⟩])],
                      kwargs := [("backend", .obj 1), ("b", .ndarray .npInt64 (.list [.num .pyInt ⟨3, 0⟩]))] }
    let c : Call := { b with kwargs := [("backend", .obj 1), ("b", .ndarray .npFloat64 (.list [.num .pyFloat ⟨3, 0⟩]))] }
    taggedTable.respects = true ∧ taggedTable.tagsAll = true ∧ a.flat = true ∧ a.wf = true ∧
      keyEq taggedTable (keyOf taggedTable a) (keyOf taggedTable b) = true ∧ exactEq (observeCallX a) (observeCallX b) = true ∧
      keyEq taggedTable (keyOf taggedTable a) (keyOf taggedTable c) = false ∧ exactEq (observeCallX a) (observeCallX c) = false := by
  decide +kernel

/-- `dy_normal_unique`: hypotheses met by `5/2` in normal form; the guard is needed: `4/2` (not normal) and `2/1`
denote the same value and differ structurally. -/
example : (⟨5, 1⟩ : Dy).normal = true ∧ (⟨4, 1⟩ : Dy).normal = false ∧ (4 : Int) * 2 ^ 0 = 2 * 2 ^ 1 ∧ (⟨4, 1⟩ : Dy) ≠ ⟨2, 0⟩ := by
  decide

end Einx.Cache
