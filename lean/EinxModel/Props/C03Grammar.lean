import EinxModel.Proofs.GrammarParse
import EinxModel.Props.C03Reject
/-!
# C03 / C12 (parser) — the grammar of the notation: operator rules as string-level rejection theorems, `parse` ⇔ grammar

Continues `Props/C03Reject.lean`.  All statements are about the executable model M1 (`Einx.Notation.parseOp/parseArgs/parseArg`,
`parse`), the definitions the driver runs and the C12 correspondence / stream R compare with `stage1/parse.py`.

String-level defects (`Notation/Grammar.lean`): `countDepth0 l s []` — the number of occurrences of the literal `l` in `s`
outside every pair of delimiters (scan of `Notation/Spec.lean`).

* `parse_rejects_multiple_arrows` — two `->` outside all delimiters: never a tree (l.374 "must not contain more than one '->'",
  or an earlier `SyntaxError`).
* `parse_args_rejects_arrow` — `parse_args` on a description with a `->` outside all delimiters: exactly the l.412 error
  whenever `parse_op` accepts the description; never an `Args` tree.
* `parse_arrow_two_sides` — an accepted description with a `->` outside all delimiters has exactly two sides.
* `parse_iff_gram` — the first layer of a declarative characterisation of acceptance, both directions, ellipses included: `parse`
  succeeds on a token tree iff the tree is in the attribute grammar `Gram` (one rule per syntactic form; no positions, no error
  sites), and the kind attribute is the kind of the returned expression.
* `parse_stage_ok_iff` — string level: lexer + delimiter stack + `parse` succeed iff `WF0 s`; `token_tree_iff` — a token tree
  exists iff all tokens are valid and the delimiters balanced.
* `parse_ok_wf` — necessary direction for `parseOp` in full: `parseOp s = .ok t → WF s`.
* `parse_ok_iff_staged` — `parseOp s` succeeds iff `WF0 s` and the remaining passes (`finish`: both `move_up` passes, the count of
  sides, the bracket check) succeed on the tree of `parseStage s`.  The passes after `parse` are *not* characterised declaratively
  (see docs/wp/parsegrammar.md).
-/
namespace Einx.Props.C03Grammar
open Einx.Notation

/-! ## Operator rules, stated on the string -/

/-- **`parse_rejects_multiple_arrows`**: a string with two `->` outside every pair of delimiters is rejected with a
    `SyntaxError` (carets inside the string) — for every such string, whatever else it contains. -/
theorem parse_rejects_multiple_arrows (text : Str) (h : 2 ≤ countDepth0 arrowLit text []) :
    ∃ k pos alts, parseOp text = .error (.syntax k pos alts) ∧ ∀ p ∈ pos, 0 ≤ p ∧ p < text.length :=
  C03Reject.parse_rejected_is_syntax_error text (parseOp_two_arrows_depth0 text h)

/-- An accepted description with a `->` outside all delimiters has two sides (`Op[Args, Args]`). -/
theorem parse_arrow_two_sides (text : Str) (t : Expr) (h : parseOp text = .ok t) (hc : 1 ≤ countDepth0 arrowLit text []) :
    ∃ ins b1 e1 outs b2 e2 b e, t = .op [.args ins b1 e1, .args outs b2 e2] b e :=
  parseOp_arrow_shape h hc

/-- **`parse_args_rejects_arrow`**: `parse_args` (used by `solve_axes`, `matches`, the tensor-wise shorthand) on a description
    with a `->` outside all delimiters never returns; if `parse_op` accepts the description the error is exactly the l.412
    `SyntaxError` "must not contain a '->' operator" with the carets on every `->`. -/
theorem parse_args_rejects_arrow (text : Str) (hc : 1 ≤ countDepth0 arrowLit text []) :
    (∀ a, parseArgs text ≠ .ok a) ∧ (∀ a, parseArg text ≠ .ok a) ∧
    (∀ t, parseOp text = .ok t → parseArgs text = .error (.syntax .argsHasArrow (posForLiteral (lit "->") text 0) [])) := by
  have h := parseArgs_arrow_depth0 hc
  refine ⟨h.2, ?_, h.1⟩
  intro a ha
  unfold parseArg at ha
  cases hp : parseArgs text with
  | error err => rw [hp] at ha; cases ha
  | ok x => exact h.2 x hp

/-! ## `parse` ⇔ grammar -/

/-- **`parse_iff_gram`** (layer 0): `parse` returns a tree for a token list iff the list is in the grammar, for either value of
    `is_parent_composition` and any positions; the grammar's kind is the kind of the tree. -/
theorem parse_iff_gram (ts : List Tok) (b e : Nat) (ipc : Bool) (k : Kind) :
    (∃ x, parse ts b e ipc = .ok x ∧ exprKind x = k) ↔ Gram ipc ts k := by
  constructor
  · rintro ⟨x, hx, rfl⟩
    exact parse_gram hx
  · intro h
    exact gram_parse h b e

/-- A token tree exists iff every token of the lexer's segmentation is valid and the delimiters are balanced. -/
theorem token_tree_iff (s : Str) :
    (∃ tree, tokTree s = some tree) ↔ (∀ t ∈ segment literals s 0 0 [], validToken t.text = true) ∧ balanced s = true := by
  constructor
  · rintro ⟨tree, h⟩
    obtain ⟨toks, hl, hb⟩ := tokTree_eq_some.mp h
    obtain ⟨rfl, hvalid⟩ := lex_ok_tokens hl
    exact ⟨hvalid, (C03Reject.stack_accepts_iff_balanced s _ hl).mp ⟨tree, hb⟩⟩
  · rintro ⟨hv, hb⟩
    have hl := lex_of_valid hv
    obtain ⟨tree, ht⟩ := (C03Reject.stack_accepts_iff_balanced s _ hl).mpr hb
    exact ⟨tree, tokTree_eq_some.mpr ⟨_, hl, ht⟩⟩

/-- **`parse_stage_ok_iff`**: lexer, delimiter stack and `parse` succeed on a string iff the string is `WF0`. -/
theorem parse_stage_ok_iff (s : Str) : (∃ x, parseStage s = .ok x) ↔ WF0 s := by
  constructor
  · rintro ⟨x, h⟩
    obtain ⟨tree, ht, hp⟩ := parseStage_eq_ok.mp h
    exact ⟨tree, exprKind x, ht, parse_gram hp⟩
  · rintro ⟨tree, k, ht, hg⟩
    obtain ⟨x, hx, _⟩ := gram_parse hg 0 (lastEnd tree 0)
    exact ⟨x, parseStage_eq_ok.mpr ⟨tree, ht, hx⟩⟩

/-- `parseOp` is `parseStage` followed by `finish` (both `move_up` passes, redundant brackets, the two post-checks). -/
theorem parseOp_eq_stage (s : Str) :
    parseOp s = match parseStage s with
      | .error err => .error err
      | .ok x => finish (posForLiteral (lit "->") s 0) x := by
  rw [parseOp_eq]
  unfold parseStage
  cases lex s with
  | error err => rfl
  | ok toks =>
    simp only
    cases buildTree (dedupSpaces toks false) [] [] with
    | error err => rfl
    | ok tree => rfl

/-- The declarative necessary condition for acceptance. -/
def WF (s : Str) : Prop :=
  (∀ c ∈ s, alphabetChar c = true) ∧ balanced s = true ∧ WF0 s ∧ countDepth0 arrowLit s [] ≤ 1 ∧ atDepth0 '+' s [] = false

/-- **`parse_ok_wf`** (the direction `parseOp s = .ok t → WF s`, for every string): an accepted description consists of alphabet
    characters, is balanced, its token tree is in the grammar `Gram`, it has at most one `->` outside delimiters and no `+`
    outside delimiters. -/
theorem parse_ok_wf (s : Str) (t : Expr) (h : parseOp s = .ok t) : WF s := by
  have hn := C03Reject.parse_ok_necessary s t h
  refine ⟨hn.2, hn.1, ?_, ?_, ?_⟩
  · obtain ⟨toks, tree, y, hl, hb, hp, _⟩ := parseOp_ok_inv h
    exact ⟨tree, exprKind y, tokTree_eq_some.mpr ⟨toks, hl, hb⟩, parse_gram hp⟩
  · cases Nat.lt_or_ge 1 (countDepth0 arrowLit s []) with
    | inl h2 => exact absurd h (parseOp_two_arrows_depth0 s h2 t)
    | inr h1 => exact h1
  · cases hp : atDepth0 '+' s [] with
    | false => rfl
    | true => exact absurd h (parseOp_plus_depth0 s hp t)

/-- **`parse_ok_iff_staged`**: acceptance = grammar of `parse` (declarative, `WF0`) + success of the later passes on the tree. -/
theorem parse_ok_iff_staged (s : Str) :
    (∃ t, parseOp s = .ok t) ↔ WF0 s ∧ ∃ x t, parseStage s = .ok x ∧ finish (posForLiteral (lit "->") s 0) x = .ok t := by
  rw [parseOp_eq_stage]
  constructor
  · rintro ⟨t, h⟩
    cases hp : parseStage s with
    | error err => rw [hp] at h; cases h
    | ok x =>
      rw [hp] at h
      exact ⟨(parse_stage_ok_iff s).mp ⟨x, hp⟩, x, t, rfl, h⟩
  · rintro ⟨_, x, t, hx, ht⟩
    rw [hx]
    exact ⟨t, ht⟩

/-! ## Non-vacuity and instances -/

def errOf : Res Expr → Option Err
  | .ok _ => none
  | .error err => some err

/-- The defect predicates on examples. -/
example : countDepth0 arrowLit "a -> b -> c".toList [] = 2 ∧ countDepth0 arrowLit "a -> (b -> c)".toList [] = 1 ∧
    countDepth0 arrowLit "(a -> b) (c -> d)".toList [] = 0 ∧ countDepth0 arrowLit "a, b -> c ->".toList [] = 2 := by
  repeat rewrite [String.toList_ofList]
  decide +kernel

/-- The reported sites: l.374 for two arrows; l.412 for `parse_args`; nested arrows at the same level are accepted. -/
example :
    [errOf (parseOp "a -> b -> c".toList), errOf (parseOp "a, b -> c ->".toList), errOf (parseOp "(a -> b) (c -> d)".toList),
     errOf (parseArgs "a b -> c".toList), errOf (parseArgs "a b, c".toList)] =
    [some (.syntax .multipleArrows [2, 3, 7, 8] []), some (.syntax .multipleArrows [5, 6, 10, 11] []), none,
     some (.syntax .argsHasArrow [4, 5] []), none] := by
  repeat rewrite [String.toList_ofList]
  decide +kernel

example : ∃ k pos alts, parseOp "a, b -> c ->".toList = .error (.syntax k pos alts) ∧ ∀ p ∈ pos, 0 ≤ p ∧ p < 12 := by
  rewrite [String.toList_ofList]
  exact parse_rejects_multiple_arrows _ (by decide +kernel)

example : parseArgs "a b -> c".toList = .error (.syntax .argsHasArrow (posForLiteral (lit "->") "a b -> c".toList 0) []) := by
  rewrite [String.toList_ofList]
  obtain ⟨t, ht⟩ := ok_of_isOk (r := parseOp ['a', ' ', 'b', ' ', '-', '>', ' ', 'c']) (by decide +kernel)
  exact (parse_args_rejects_arrow _ (by decide +kernel)).2.2 t ht

/-- The grammar is inhabited by every syntactic form: `WF0` holds for a description using all of them (via the theorem, from the
    model's success), and fails for one with a concatenation outside parentheses. -/
example : WF0 "a [b c]... (d + 1) () -> a, (d e) ...".toList := by
  rewrite [String.toList_ofList]
  exact (parse_stage_ok_iff _).mp (ok_of_isOk (by decide +kernel))

example : ¬ WF0 "a [b + c]".toList := by
  rewrite [String.toList_ofList]
  intro h
  obtain ⟨x, hx⟩ := (parse_stage_ok_iff _).mpr h
  have : errOf (parseStage ['a', ' ', '[', 'b', ' ', '+', ' ', 'c', ']']) =
      some (.syntax .concatNotWrapped [3, 4, 5, 6, 7] []) := by decide +kernel
  rw [hx] at this; cases this

/-- A derivation written out by hand: `a b` is a juxtaposition of two axes (kind `other`). -/
example : Gram false [.atom ⟨['a'], 0, 1⟩, .atom ⟨[' '], 1, 2⟩, .atom ⟨['b'], 2, 3⟩] .other := by
  refine Gram.nary (op := lit " ") (fun _ => Kind.axis) (t0 := .atom ⟨['a'], 0, 1⟩) (rest := [.atom ⟨[' '], 1, 2⟩, .atom ⟨['b'], 2, 3⟩])
    (by rfl) (by decide +kernel) ?_ (by decide +kernel)
  intro o ho
  have hops : keepOperands (lit " ") (operands (lit " ") [.atom ⟨['a'], 0, 1⟩, .atom ⟨[' '], 1, 2⟩, .atom ⟨['b'], 2, 3⟩]) =
      [⟨[.atom ⟨['a'], 0, 1⟩], 0, 1⟩, ⟨[.atom ⟨['b'], 2, 3⟩], 2, 3⟩] := by rfl
  rw [hops] at ho
  rcases List.mem_cons.mp ho with rfl | ho
  · exact Gram.axis (t := ⟨['a'], 0, 1⟩) (by rfl) (by decide +kernel) (by decide +kernel) (Or.inr (by decide +kernel))
  · cases List.mem_singleton.mp ho
    exact Gram.axis (t := ⟨['b'], 2, 3⟩) (by rfl) (by decide +kernel) (by decide +kernel) (Or.inr (by decide +kernel))

end Einx.Props.C03Grammar
