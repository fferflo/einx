import EinxModel.Proofs.LowerGenericB
/-!
C17 (lowering part, whole pipelines) — the program that the decomposer emits for an elementwise operation or a
reduction is size-generic: its skeleton depends only on the description and on which axis lengths are 1.

`Generic.lowerElementwise` / `Generic.lowerReduce` (`Generic/LowerOps.lean`) are the line-by-line models of
`Decomposer.__call__` around `decomposednamedtensor_from_classical.elementwise` / `reduce` for the numpy backend, tied
to the real traced graphs on every run (driver kind `lower_model`, `tools/props/lower_tie.py`).  `Generic.gsimL`
(`Generic/LowerSim.lean`, decidable) relates two solved expressions that are the same description — same nesting of
parenthesised groups, same axis names — under two length assignments that agree on which lengths are 1.
`progSkeleton` / `progSkeletonX` keep primitive, registers, permutations, axes and ranks and abstract shapes.

* `reshape_noop_test_generic`        the no-op test `tuple(x.shape) == shape` of a reshape between a grouped shape and the
                                     list of its members (products of lengths against lengths; with empty groups `()` the
                                     two lists can have the same rank) depends only on which members are 1 — for all
                                     naturals, zero included
* `lower_elementwise_size_generic`   for **every** operation, any number of operands, **every** pair of descriptions of
                                     `ewDomain` related by `gsimLL` / `gsimL`: if the model lowers both, the two programs
                                     have the same skeleton and the same result register
* `lower_reduce_size_generic`        the same for reductions (`redDomain`), over the extended instruction set
* `lower_elementwise_zero_length_witness`  what is *not* size-generic: whether the lowering is defined.  With a
                                     zero-length axis that only some operands have, `np.argmax` over the aligned lengths
                                     `{0, 1}` chooses the unit axis and `_ensure_output` raises, while the same description
                                     with length 2 is lowered (same 1-pattern).  Not reachable in einx: the solver rejects
                                     zero lengths (`AxisSizeError`).
-/
namespace Einx.Lower
open Einx Einx.IR Einx.Generic Einx.Denote

/-- **The reshape no-op test between a grouped shape and its members is size-generic.**  `Gs` lists, per root dimension,
the lengths of its members; `Gs.map lprod` is the grouped shape, `Gs.flatten` the shape after `_decompose_single`'s
step (or, read backwards, before `_compose_next`'s reshape).  If `Gs` and `Gs'` have the same structure and agree on
which members are 1, the test `Gs.map lprod == Gs.flatten` has the same outcome. -/
theorem reshape_noop_test_generic (Gs Gs' : List (List Nat)) (h : Gs.map pat1 = Gs'.map pat1) :
    (Gs.map lprod == Gs.flatten) = (Gs'.map lprod == Gs'.flatten) :=
  groups_cmp_generic Gs Gs' h

/-- Non-vacuity: `(a b) () -> a b` is a no-op exactly when `b = 1` (also for `a = 0`), and the hypothesis is needed
(`[[2, 1], []]` vs `[[2, 3], []]`). -/
example : ([[2, 1], []].map lprod == [[2, 1], []].flatten) = true
    ∧ ([[7, 1], []].map lprod == [[7, 1], []].flatten) = true
    ∧ ([[0, 1], []].map lprod == [[0, 1], []].flatten) = true
    ∧ ([[2, 3], []].map lprod == [[2, 3], []].flatten) = false
    ∧ [[2, 1], []].map pat1 = [[7, 1], []].map pat1
    ∧ [[2, 1], []].map pat1 ≠ [[2, 3], []].map pat1 := by decide +kernel

/-- **Size-genericity of the lowering of elementwise operations.**  For every operation name `f`, input expressions
`ins`, `ins'` and output expressions `go`, `go'` such that both descriptions satisfy the decidable hypotheses of
`lower_elementwise_correct` (`ewDomain`: output names pairwise different, lengths consistent per name) and are the same
description under two length assignments with the same 1-pattern (`gsimLL`, `gsimL`): if the model of einx's decomposer
lowers both, the emitted programs are equal up to shapes — the same primitives on the same registers with the same
permutations, operands and ranks — and the results are in the same register.  Every decision of the pipeline
(`_decompose_single`'s and `_compose_next`'s reshape no-op tests, the removal of unit axes, the squeeze / transpose /
unit-dimension steps of `_squeeze_transpose_broadcast`, the `np.argmax` choice of the output axes, `broadcast_to`) is
thereby a function of the description and of the `== 1` tests. -/
theorem lower_elementwise_size_generic (f : String) (ins ins' : List (List G)) (go go' : List G) (s s' : St)
    (hd : ewDomain ins go = true) (hd' : ewDomain ins' go' = true)
    (hi : gsimLL ins ins' = true) (ho : gsimL go go' = true)
    (h : lowerElementwise f ins go = .ok s) (h' : lowerElementwise f ins' go' = .ok s') :
    progSkeleton s.prog = progSkeleton s'.prog ∧ s.reg = s'.reg := by
  have := lowerElementwise_generic hd hd' hi ho h h'
  exact ⟨this.prog, this.reg⟩

/-- **Size-genericity of the lowering of reductions.**  The same for `Generic.lowerReduce` (bracketed axes named by `m`;
`redDomain`: additionally no output name is bracketed): the programs over the extended instruction set — reshapes, the
one `np.f(x, axis=…)` call with its `axis` tuple, transpose, `broadcast_to` — are equal up to shapes. -/
theorem lower_reduce_size_generic (f : String) (m : List String) (gi gi' go go' : List G) (l l' : LX)
    (hd : redDomain m gi go = true) (hd' : redDomain m gi' go' = true)
    (hi : gsimL gi gi' = true) (ho : gsimL go go' = true)
    (h : lowerReduce f m gi go = .ok l) (h' : lowerReduce f m gi' go' = .ok l') :
    progSkeletonX l.prog = progSkeletonX l'.prog ∧ l.reg = l'.reg :=
  lowerReduce_generic hd hd' hi ho h h'

/-- `a (b c), c a 1, b -> b a c d` under the assignment `a, b, c, d`. -/
def sgIn (a b c : Nat) : List (List G) :=
  [[.ax ⟨"a", a⟩, .grp [.ax ⟨"b", b⟩, .ax ⟨"c", c⟩]], [.ax ⟨"c", c⟩, .ax ⟨"a", a⟩, .ax ⟨"u", 1⟩], [.ax ⟨"b", b⟩]]
def sgOut (a b c d : Nat) : List G := [.ax ⟨"b", b⟩, .ax ⟨"a", a⟩, .ax ⟨"c", c⟩, .ax ⟨"d", d⟩]

/-- Primitive, operand registers and shape/permutation of every instruction (for comparing programs). -/
def sgCode : Instr → List Nat
  | .reshape x s => 0 :: x :: s
  | .transpose x p => 1 :: x :: p
  | .broadcastTo x s => 2 :: x :: s
  | .ewise _ args => 3 :: args.map (fun a => match a with | .reg r => r | .lit _ => 999)
  | _ => [9]

def sgCodeX : InstrX → List Nat
  | .base i => sgCode i
  | .reduce _ x axes k => 4 :: x :: (if k then 1 else 0) :: axes
  | _ => [9]

def skelOf (r : Except String St) : Option (List (List Nat)) :=
  match r with
  | .ok s => some ((progSkeleton s.prog).map sgCode)
  | .error _ => none

/-- The hypotheses are met by `(a, b, c, d) = (2, 2, 3, 4)` and `(5, 7, 2, 9)`: both in the domain, related, both lowered
(ten instructions), equal skeletons; and the hypothesis on the 1-pattern is needed: with `b = 1` the program is another. -/
example :
    ewDomain (sgIn 2 2 3) (sgOut 2 2 3 4) = true ∧ ewDomain (sgIn 5 7 2) (sgOut 5 7 2 9) = true
      ∧ gsimLL (sgIn 2 2 3) (sgIn 5 7 2) = true ∧ gsimL (sgOut 2 2 3 4) (sgOut 5 7 2 9) = true
      ∧ (skelOf (lowerElementwise "add" (sgIn 2 2 3) (sgOut 2 2 3 4))).map List.length = some 10
      ∧ skelOf (lowerElementwise "add" (sgIn 2 2 3) (sgOut 2 2 3 4)) = skelOf (lowerElementwise "add" (sgIn 5 7 2) (sgOut 5 7 2 9))
      ∧ gsimLL (sgIn 2 2 3) (sgIn 2 1 3) = false
      ∧ skelOf (lowerElementwise "add" (sgIn 2 2 3) (sgOut 2 2 3 4)) ≠ skelOf (lowerElementwise "add" (sgIn 2 1 3) (sgOut 2 1 3 4)) := by
  decide +kernel

/-- Empty groups: `exp("(a b) () -> a b")`.  With `b = 1` the reshape of `_decompose_single` is skipped (`(a, 1)` is
already the shape of the members) — for `a = 2` and for `a = 3` alike; with `b = 3` it is emitted. -/
def egIn (a b : Nat) : List (List G) := [[.grp [.ax ⟨"a", a⟩, .ax ⟨"b", b⟩], .grp []]]
def egOut (a b : Nat) : List G := [.ax ⟨"a", a⟩, .ax ⟨"b", b⟩]

example :
    ewDomain (egIn 2 1) (egOut 2 1) = true ∧ gsimLL (egIn 2 1) (egIn 3 1) = true
      ∧ skelOf (lowerElementwise "exp" (egIn 2 1) (egOut 2 1)) = skelOf (lowerElementwise "exp" (egIn 3 1) (egOut 3 1))
      ∧ (skelOf (lowerElementwise "exp" (egIn 2 1) (egOut 2 1))).map List.length = some 3
      ∧ (skelOf (lowerElementwise "exp" (egIn 2 3) (egOut 2 3))).map List.length = some 2 := by
  decide +kernel

/-- **What is not size-generic: definedness with a zero length.**  `add("a, b -> a b")` with `a = 2` is lowered; with
`a = 0` — the same 1-pattern, both in `ewDomain` — the model (like the code: `np.argmax([0, 1])` chooses the unnamed
unit axis of the second operand, then `_ensure_output` compares the shapes `(0, b)` and `(1, b)`) fails.  So
`lower_elementwise_size_generic` cannot be strengthened to "defined for one assignment iff defined for the other"
without excluding zero lengths (`posLens`).  einx's solver excludes them. -/
theorem lower_elementwise_zero_length_witness :
    let ins (a : Nat) : List (List G) := [[.ax ⟨"a", a⟩], [.ax ⟨"b", 3⟩]]
    let out (a : Nat) : List G := [.ax ⟨"a", a⟩, .ax ⟨"b", 3⟩]
    ewDomain (ins 2) (out 2) = true ∧ ewDomain (ins 0) (out 0) = true
      ∧ gsimLL (ins 2) (ins 0) = true ∧ gsimL (out 2) (out 0) = true
      ∧ (skelOf (lowerElementwise "add" (ins 2) (out 2))).isSome = true
      ∧ (skelOf (lowerElementwise "add" (ins 0) (out 0))).isSome = false
      ∧ (ins 0).all posLens = false := by
  decide +kernel

/-- Reductions: `a [b] (c [d]) 1 -> c a 1`. -/
def sgRedIn (a b c d : Nat) : List G := [.ax ⟨"a", a⟩, .ax ⟨"b", b⟩, .grp [.ax ⟨"c", c⟩, .ax ⟨"d", d⟩], .ax ⟨"u", 1⟩]
def sgRedOut (a c : Nat) : List G := [.ax ⟨"c", c⟩, .ax ⟨"a", a⟩, .ax ⟨"v", 1⟩]

def skelOfX (r : Except String LX) : Option (List (List Nat)) :=
  match r with
  | .ok l => some ((progSkeletonX l.prog).map sgCodeX)
  | .error _ => none

example :
    redDomain ["b", "d"] (sgRedIn 2 3 2 2) (sgRedOut 2 2) = true ∧ redDomain ["b", "d"] (sgRedIn 5 4 3 7) (sgRedOut 5 3) = true
      ∧ gsimL (sgRedIn 2 3 2 2) (sgRedIn 5 4 3 7) = true ∧ gsimL (sgRedOut 2 2) (sgRedOut 5 3) = true
      ∧ skelOfX (lowerReduce "sum" ["b", "d"] (sgRedIn 2 3 2 2) (sgRedOut 2 2))
          = some [[0, 0, 0, 0, 0, 0, 0], [0, 1, 0, 0, 0, 0], [4, 2, 0, 1, 3], [1, 3, 1, 0], [0, 4, 0, 0, 0]]
      ∧ skelOfX (lowerReduce "sum" ["b", "d"] (sgRedIn 2 3 2 2) (sgRedOut 2 2))
          = skelOfX (lowerReduce "sum" ["b", "d"] (sgRedIn 5 4 3 7) (sgRedOut 5 3))
      ∧ skelOfX (lowerReduce "sum" ["b", "d"] (sgRedIn 2 3 2 2) (sgRedOut 2 2))
          ≠ skelOfX (lowerReduce "sum" ["b", "d"] (sgRedIn 1 3 2 2) (sgRedOut 1 2)) := by
  decide +kernel

end Einx.Lower
