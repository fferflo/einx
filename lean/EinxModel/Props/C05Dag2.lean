import EinxModel.Props.C05Dag
import EinxModel.Proofs.OptDagMeasure
/-!
C05 (third file) — the side conditions of `Props/C05Dag.lean` from the INPUT graph only, and the termination measure.

* A pass preserves `Prog.topoOK` (topologically ordered store, no nested graphs) and produces `Prog.wfTop` (distinct fresh
  inputs), and keeps a single-output store single-output.  So `goodRun` / `fuelRun` (conditions on every pass of the run) follow
  from `wfTop` / `topoOK` of the input graph and the one genuinely run-dependent condition `noInlineRun` (`InlineGraph` never fires on
  the top-level graph object: a graph that is inlined away is no longer a graph).
* The measure `Prog.weight` (number of nodes of the output unfolded into a tree, `Optimize/DagMeasure.lean`; computed by the driver
  for every pass of every real run) strictly decreases in every pass that reports `changed`.  Hence the loop of the model never
  exhausts a budget of `weight + 1` passes, and the number of passes that report `changed` is at most `p.weight - q.weight`.
-/
namespace Einx.OptDag
open Einx Einx.IR

/-- **pass_preserves_wf**: one pass of the traversal on a graph over a topologically ordered store (on which `InlineGraph`
does not fire at the top) returns a graph over a topologically ordered store whose inputs are distinct fresh tracers. -/
theorem pass_preserves_wf (pats : List Pattern) (fuel : Nat) (p q : Prog) (ch : Bool) (ht : p.topoOK = true)
    (hni : noTopInline pats p = true) (hp : pass pats fuel p = .ok (q, ch)) : q.topoOK = true ∧ q.wfTop = true :=
  pass_preserves pats fuel p q ch ht hni hp

/-- **pass_preserves_measureOK**: … and keeps the side condition of the measure theorem (single-output applications). -/
theorem pass_preserves_measureOK (pats : List Pattern) (fuel : Nat) (p q : Prog) (ch : Bool) (ht : p.measureOK = true)
    (hni : noTopInline pats p = true) (hp : pass pats fuel p = .ok (q, ch)) : q.measureOK = true :=
  measureOK_iff.2 ⟨(pass_preserves pats fuel p q ch (measureOK_iff.1 ht).1 hni hp).1, (pass_m pats fuel p q ch ht hni hp).2⟩

/-- **goodRun_of_input**: the per-pass conditions of `optimizeDag_sound` follow from the input graph (`wfTop`, `topoOK`) and
`noInlineRun`. -/
theorem goodRun_of_input (pats : List Pattern) : ∀ (n : Nat) (p : Prog), p.wfTop = true → p.topoOK = true → noInlineRun pats n p = true →
    goodRun pats n p = true
  | 0, _, _, _, _ => rfl
  | n + 1, p, hw, ht, hr => by
    obtain ⟨hni, hrest⟩ := noInlineRun_succ.1 hr
    refine goodRun_succ.2 ⟨hw, hni, fun q hp => ?_⟩
    obtain ⟨a, b⟩ := pass_preserves pats _ p q true ht hni hp
    exact goodRun_of_input pats n q b a (hrest q hp)

/-- **fuelRun_of_input**: likewise for the per-pass condition of the termination theorems. -/
theorem fuelRun_of_input (pats : List Pattern) : ∀ (n : Nat) (p : Prog), p.topoOK = true → noInlineRun pats n p = true →
    fuelRun pats n p = true
  | 0, _, _, _ => rfl
  | n + 1, p, ht, hr => by
    obtain ⟨hni, hrest⟩ := noInlineRun_succ.1 hr
    exact fuelRun_succ.2 ⟨ht, fun q hp => fuelRun_of_input pats n q (pass_preserves pats _ p q true ht hni hp).1 (hrest q hp)⟩

/-- **optimizeDag_sound_input**: `optimizeDag_sound` with conditions on the input graph only (plus `noInlineRun`): for every
element algebra, every meaning of the uninterpreted applications, the pattern list of a backend over four different functions --
the graph returned by the model of the real optimiser loop returns what the given graph returns. -/
theorem optimizeDag_sound_input {α : Type} (A : Alg α) (O : EApp (PV α) → Except String (PV α)) (fns : NpFns) (hd : fns.distinct = true)
    (n : Nat) (p q : Prog) (log : List Bool) (hw : p.wfTop = true) (ht : p.topoOK = true) (hr : noInlineRun fns.patterns n p = true)
    (h : optimizeDag fns.patterns n p = .ok (q, log))
    (inputs : List (PV α)) (r : List (RTok (PV α))) (hev : evalProgram (irSem A O fns) p inputs = .ok r) :
    evalProgram (irSem A O fns) q inputs = .ok r :=
  optimizeDag_sound A O fns hd n p q log (goodRun_of_input fns.patterns n p hw ht hr) h inputs r hev

/-- **pass_decreases_dag**: on a graph over a topologically ordered single-output store (`Prog.measureOK`, decidable) a pass
never increases the unfolded size of the output, and a pass that reports `changed` strictly decreases it. -/
theorem pass_decreases_dag (pats : List Pattern) (fuel : Nat) (p q : Prog) (ch : Bool) (ht : p.measureOK = true)
    (hni : noTopInline pats p = true) (hp : pass pats fuel p = .ok (q, ch)) : q.weight + (if ch then 1 else 0) ≤ p.weight :=
  (pass_m pats fuel p q ch ht hni hp).1

/-- **optimizeDag_pass_bound**: the number of passes of a run that report `changed` plus the weight of the result is at most the
weight of the input: at most `p.weight` rewriting passes, at most `p.weight + 1` passes in all. -/
theorem optimizeDag_pass_bound (pats : List Pattern) : ∀ (n : Nat) (p q : Prog) (log : List Bool), p.measureOK = true →
    noInlineRun pats n p = true → optimizeDag pats n p = .ok (q, log) →
    log.count true + q.weight ≤ p.weight ∧ log.length ≤ log.count true + 1
  | 0, p, q, log, _, _, h => nomatch h
  | n + 1, p, q, log, hm, hr, h => by
    obtain ⟨hni, hrest⟩ := noInlineRun_succ.1 hr
    rcases (optimizeDag_spec pats n p).ok h with ⟨rfl, rfl⟩ | ⟨hp, rfl⟩ | ⟨p', log', hp, hq, rfl⟩
    · simp
    · have hw := (pass_m pats _ p q false hm hni hp).1
      simpa using hw
    · have hw := (pass_m pats _ p p' true hm hni hp).1
      obtain ⟨b1, b2⟩ := optimizeDag_pass_bound pats n p' q log' (pass_preserves_measureOK pats _ p p' true hm hni hp) (hrest p' hp) hq
      simp only [List.count_cons_self, List.length_cons, if_true] at hw ⊢
      omega

/-- **optimizeDag_terminates_dag**: without a measure hypothesis -- on a graph over a topologically ordered single-output store
the loop of the model never exhausts a budget of `p.weight + 1` passes (it returns a program or the exception Python would
raise), provided `InlineGraph` does not fire on the top-level graph object during the run (decidable, computed by the driver). -/
theorem optimizeDag_terminates_dag (pats : List Pattern) (p : Prog) (hm : p.measureOK = true)
    (hr : noInlineRun pats (p.weight + 1) p = true) : optimizeDag pats (p.weight + 1) p ≠ .error .fuel := by
  refine optimizeDag_terminates_inv pats Prog.weight (fun n q => q.measureOK = true ∧ noInlineRun pats n q = true)
    (fun n q q' ⟨hq, hrq⟩ hp => ?_) p ⟨hm, hr⟩ (fuelRun_of_input pats _ p (measureOK_iff.1 hm).1 hr)
  obtain ⟨hni, hrest⟩ := noInlineRun_succ.1 hrq
  have hw := pass_decreases_dag pats _ q q' true hq hni hp
  simp only [if_true] at hw
  exact ⟨⟨pass_preserves_measureOK pats _ q q' true hq hni hp, hrest q' hp⟩, hw⟩

/-! ## Non-vacuity (the example program of `Props/C05Dag.lean`) -/

theorem exInput : exProg.measureOK = true ∧ exProg.wfTop = true ∧ noInlineRun npFns.patterns 10 exProg = true := by decide +kernel

example : exProg.measureOK = true ∧ exProg.wfTop = true ∧ noInlineRun npFns.patterns 10 exProg = true := exInput

/-- With them the side conditions of `optimizeDag_sound` and of the termination theorems hold for the whole run. -/
example : goodRun npFns.patterns 10 exProg = true ∧ fuelRun npFns.patterns 10 exProg = true ∧ exProg.topoOK = true :=
  have ht : exProg.topoOK = true := (measureOK_iff.1 exInput.1).1
  ⟨goodRun_of_input _ _ _ exInput.2.1 ht exInput.2.2, fuelRun_of_input _ _ _ ht exInput.2.2, ht⟩

/-- Unfolded size of the output of `exProg`: 37; the run `[true, true, true, false]` ends at weight 15. -/
example : exProg.weight = 37 := by decide +kernel

example : (optimizeDag npFns.patterns 10 exProg).toOption.map (fun r => r.1.weight) = some 15 := by
  rw [exRun]
  decide +kernel

/-- The first pass: weight 37 -> 19. -/
example : ((pass npFns.patterns exProg.fuel exProg).toOption.map (fun r => (r.1.weight, r.2))) = some (19, true) := by decide +kernel

end Einx.OptDag
