import EinxModel.Proofs.CseTreesDischarge
import EinxModel.Proofs.CseTreesDecEq
/-!
C16, CSE part — **the result of `cse()` does not depend on the order in which the dict `str_to_common_expr` is
enumerated**, for the model of the whole of `stage2/cse.py` (`cseTreesEnum`, `Solve/CseTrees.lean`; tied to the real
`cse` structurally on every run by `tools/props/c02_cse.py`, stream (D), and `tools/props/c16.py`).

`cse()` iterates one container whose order could matter: `for str_expr in str_to_common_expr.keys()`.  (Its sets
`used_axis_ids`, `used_axis_names` are only asked for membership; `common_exprs` is a list since fix 035c94b.)  The model
takes that enumeration as the argument `enum`, any function that returns a permutation of the dict entries — an
adversary, not only the insertion order CPython uses.  The theorem: whatever `enum` is, the expressions returned are
those of the insertion order with the new axes `cse.<k>` renamed to `cse.<ρ k>`, `ρ` a bijection of the candidate
indices (an exception of the real code is the `Except.error` of that same replacement).  All filters (`usedOnlyInside` … `notInsideOther`, which compares a candidate with
all others) and both searches of `replace` (node level: first candidate; list level: longest exprlist, first of the
longest) are covered.

No hypothesis on the input is left: that the keys of the candidates are pairwise different (`candidates_keys_nodup`)
and that a list of node identities is an exprlist of one candidate only (`candidates_unique_ids`: identities determine
the nodes, the nodes determine the key, `Proofs/CseTreesCands.lean`) are proved for every input.  The driver still
evaluates the decidable form `uniqueIds` on every real input (request kinds `cse_check` / `cse_enum`) as a sanity
check of the model.
-/
namespace Einx.Solve.CseT
open Einx.Solve

/-- The dict has one entry per key, and no filter changes a key. -/
theorem candidates_keys_nodup (opts : Opts) (roots : List (Option VExpr)) :
    (candKeys (candidates opts roots)).Nodup := (candsOK_candidates opts roots).keys

/-- An exprlist (a list of node identities) belongs to one candidate only. -/
theorem candidates_unique_ids (opts : Opts) (roots : List (Option VExpr)) : UniqueIds (candidates opts roots) :=
  (candsOK_candidates opts roots).uniqueIds

/-- `cseTrees` is the replacement with the candidates of the insertion order and the names `cse.<k>`. -/
theorem cseTrees_eq (opts : Opts) (roots : List (Option VExpr)) :
    cseTrees opts roots =
      replaceRootsM cseName (matchNode (candidates opts roots)) (matchAt (candidates opts roots)) 0 roots := rfl

/-- **Order independence of the whole of `cse`.**  For every enumeration `enum` of the dict entries (a permutation,
chosen adversarially) the result — expressions or exception — is the result for the insertion order with the new axes
numbered by `ρ` instead of the identity, and `ρ` permutes the candidate indices.  The right-hand side is the walk itself
with `cse.<ρ k>` as the name for candidate `k`; at `ρ = id` it is `cseTrees opts roots` (`cseTrees_eq`).  It is not "the
output of `cseTrees` with `cse.<k>` renamed": an input axis may already be called `cse.<k>` (D19), and a renaming of the
output trees would rename it too. -/
theorem cseTrees_order_independent (enum : List Cand → List Cand) (henum : ∀ l, (enum l).Perm l)
    (opts : Opts) (roots : List (Option VExpr)) :
    ∃ ρ : Nat → Nat,
      (∀ i, i < (candidates opts roots).length → ρ i < (candidates opts roots).length) ∧
      (∀ i j, i < (candidates opts roots).length → j < (candidates opts roots).length → ρ i = ρ j → i = j) ∧
      cseTreesEnum enum opts roots =
        replaceRootsM (fun k => cseName (ρ k)) (matchNode (candidates opts roots)) (matchAt (candidates opts roots)) 0 roots :=
  have h := candsOK_candidates opts roots
  have hp : (candidates opts roots).Perm (selectFrom opts roots (enum (groupEntries (allEntries 0 roots)))) :=
    selectFrom_perm opts roots (henum _).symm
  ⟨renum _ _, fun _ hi => renum_lt hp hi, fun _ _ hi hj e => renum_inj hp h.keys hi hj e,
    replaceRootsM_perm hp h.keys h.uniqueIds cseName 0 roots⟩

/-! ### Non-vacuity -/

/-- `(a b) (c d), (a b) (c d)`: two candidates, `(a b)` ↦ `cse.0` and `(c d)` ↦ `cse.1` in insertion order. -/
def exTwo : List (Option VExpr) :=
  [some (.list [.flat (.list [.axis "a" none 1, .axis "b" none 1]), .flat (.list [.axis "c" none 1, .axis "d" none 1])]),
   some (.list [.flat (.list [.axis "a" none 1, .axis "b" none 1]), .flat (.list [.axis "c" none 1, .axis "d" none 1])]),
   none, none]

/-- The runs on `exTwo` for the insertion order and for its reverse, and two facts about its candidates, evaluated
together (the dict is built once). -/
theorem exTwo_run :
    cseTrees {} exTwo = .ok [some (.list [.axis "cse.0" none 1, .axis "cse.1" none 1]),
                             some (.list [.axis "cse.0" none 1, .axis "cse.1" none 1]), none, none] ∧
    cseTreesEnum List.reverse {} exTwo = .ok [some (.list [.axis "cse.1" none 1, .axis "cse.0" none 1]),
                                              some (.list [.axis "cse.1" none 1, .axis "cse.0" none 1]), none, none] ∧
    (candidates {} exTwo).length = 2 ∧ uniqueIds (candidates {} exTwo) = true := by decide +kernel

example : cseTrees {} exTwo = .ok [some (.list [.axis "cse.0" none 1, .axis "cse.1" none 1]),
                                   some (.list [.axis "cse.0" none 1, .axis "cse.1" none 1]), none, none] := exTwo_run.1

/-- the adversarial enumeration "reverse" numbers the new axes the other way round … -/
example : cseTreesEnum List.reverse {} exTwo = .ok [some (.list [.axis "cse.1" none 1, .axis "cse.0" none 1]),
                                                    some (.list [.axis "cse.1" none 1, .axis "cse.0" none 1]), none, none] :=
  exTwo_run.2.1

/-- … `reverse` is an admissible enumeration, so the theorem applies: the two results above differ by the bijection
`0 ↦ 1, 1 ↦ 0` of the candidate indices. -/
example : ∀ l : List Cand, (List.reverse l).Perm l := fun l => List.reverse_perm l
example : ∃ ρ : Nat → Nat, (∀ i j, i < 2 → j < 2 → ρ i = ρ j → i = j) ∧
    cseTreesEnum List.reverse {} exTwo =
      replaceRootsM (fun k => cseName (ρ k)) (matchNode (candidates {} exTwo)) (matchAt (candidates {} exTwo)) 0 exTwo := by
  obtain ⟨ρ, _, h2, h3⟩ := cseTrees_order_independent List.reverse (fun l => List.reverse_perm l) {} exTwo
  rw [exTwo_run.2.2.1] at h2
  exact ⟨ρ, h2, h3⟩
/-- the decidable form of `candidates_unique_ids` on this input -/
example : uniqueIds (candidates {} exTwo) = true := exTwo_run.2.2.2

end Einx.Solve.CseT
