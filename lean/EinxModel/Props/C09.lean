import EinxModel.Proofs.Alias
import EinxModel.Extracted.Alias
/-!
C09 — arguments are never modified (except the documented in-place `*_at` target).

Property theorems only (helper lemmas: `Proofs/Alias.lean`; definitions: `Alias/Model.lean`, the same
definitions the driver executes for kind `writes`).  `Extracted/Alias.lean` is regenerated from `/repo`
on every run: the obligations `extracted_inplace_rows`, `table_inplace_rows_traced` and
`extracted_traced_have_rows` check the alias table against what
`tracer/signature/classical/numpy.py` registers at the time of the run.

Reading of the property in the model: a call runs the compiled graph on the caller's own array objects
(graph input `k` *is* the caller's `k`-th tensor argument).  "Not modified" = the contents of the buffer
the argument lives in are the same before and after.  The harness evaluates `writes g` on every real
traced graph: `[]` for every operation that is not `*_at`, `⊆ [0]` for `set_at/add_at/subtract_at`.
Partial: numpy's view/copy/in-place behaviour is the table `aliasTable` (trusted, conformance-tested
against real numpy on every run).
-/
namespace Einx.Alias
open Einx.Util

/-! ### Source obligations (regenerated from /repo) -/

/-- The two checks of the alias table against the regenerated lists, in one evaluation: decoding the names of the
table is most of the work, and one evaluation does it once. -/
theorem coded_table_checks :
    ((Einx.Extracted.inplaceTraced.all fun f => codedTable.lookup (nameCode f) == some (.inplace 0)) &&
      (Einx.Extracted.tracedFunctions.all fun p => (codedTable.lookup (nameCode p.1)).isSome)) = true := by
  decide +kernel

/-- Every function that einx traces as in-place (`signature.classical.inplace(...)` registrations) has an
alias-table row saying that it writes positional argument 0, `signature.classical.inplace` still passes
its first argument as the written object, and the python compiler still defines the result of a
`CallInplace` / `UpdateItem` node as the written object (what `Node.inplace` assumes).  Adding a new
in-place function without a row breaks this obligation. -/
theorem extracted_inplace_rows :
    Einx.Extracted.inplaceTargetIsFirstArg = true ∧ Einx.Extracted.inplaceResultIsTarget = true ∧
      ∀ f ∈ Einx.Extracted.inplaceTraced, effectOf f = some (.inplace 0) := by
  refine ⟨rfl, rfl, fun f hf => ?_⟩
  rw [effectOf_eq_coded]
  exact eq_of_beq (List.all_eq_true.mp (Bool.and_eq_true_iff.mp coded_table_checks).1 f hf)

/-- The table has no in-place rows besides the functions einx traces as in-place. -/
theorem table_inplace_rows_traced : ∀ f ∈ inplaceRows, f ∈ Einx.Extracted.inplaceTraced := by decide +kernel

/-- Every numpy function einx traces has a row in the alias table (a function without a row makes the
driver answer `unsupported`, which the harness reports as a broken tie). -/
theorem extracted_traced_have_rows :
    ∀ p ∈ Einx.Extracted.tracedFunctions, (effectOf p.1).isSome = true := by
  intro p hp
  rw [effectOf_eq_coded]
  exact List.all_eq_true.mp (Bool.and_eq_true_iff.mp coded_table_checks).2 p hp

/-! ### Soundness of the may-alias analysis -/

/-- The analysis over-approximates the root sharing of the store semantics: after executing `g` — for
every behaviour of numpy (view or copy) and every contents — a register that denotes one of the initial
objects denotes the object of one of the inputs the analysis lists for it.  In particular a graph output
can only share memory with the inputs in `outRoots g` (checked against `np.shares_memory` by the harness). -/
theorem alias_sound {V} (g : Graph) (b : Behav V) (inObjs : List Nat) (objs : List V) (hlen : inObjs.length = g.nin)
    (r o : Nat) (hr : (exec b g inObjs objs).regs[r]? = some o) (ho : o < objs.length) :
    ∃ i ∈ rootsOf (analyse g).regs r, inObjs[i]? = some o := by
  have h := (execFrom_spec b g.nodes 0 _ _ (inv_init inObjs objs)).1
  rw [hlen] at h
  exact h.covered r o hr ho

/-- Frame property, general form (inputs may be the same object or views of one buffer): executing `g`
leaves every object of the initial store unchanged that is not the object of a may-written input. -/
theorem write_frame {V} (g : Graph) (b : Behav V) (inObjs : List Nat) (objs : List V) (hlen : inObjs.length = g.nin)
    (o : Nat) (ho : o < objs.length) (h : ∀ i ∈ writes g, inObjs[i]? ≠ some o) :
    (exec b g inObjs objs).objs[o]? = objs[o]? := by
  have hinv := inv_init inObjs objs
  rw [hlen] at hinv
  apply (execFrom_spec b g.nodes 0 _ _ hinv).2 o ho
  intro i hi
  exact h i (mem_dedup.mpr hi)

/-- If input `i` is not in `writes g` (`checkNoWrite g i = true`: no in-place node's
target may alias input `i` under the alias table), then for every store, every view/copy decision of
numpy and every written contents, executing `g` leaves the object of input `i` unchanged.  (Inputs are
distinct objects here: input `k` is object `k`; `write_frame` is the version for aliased inputs.) -/
theorem noWrite_sound {V} (g : Graph) (i : Nat) (h : checkNoWrite g i = true) (b : Behav V) (objs : List V)
    (hi : i < objs.length) : (exec b g (List.range g.nin) objs).objs[i]? = objs[i]? := by
  apply write_frame g b _ objs (by simp) i hi
  intro j hj hji
  obtain ⟨_, e⟩ := List.getElem?_eq_some_iff.mp hji
  rw [List.getElem_range] at e
  subst e
  rw [checkNoWrite, Bool.not_eq_true'] at h
  exact Bool.false_ne_true (h.symm.trans (List.contains_iff_mem.mpr hj))

/-- The obligation the harness evaluates on every captured `set_at/add_at/subtract_at`
graph is `writes g ⊆ [0]`; it implies that every argument but the first (coordinates, updates) and every
other object of the store is left unchanged. -/
theorem at_only_first {V} (g : Graph) (h : (writes g).all (· == 0) = true) (b : Behav V) (objs : List V)
    (i : Nat) (hpos : 1 ≤ i) (hi : i < objs.length) : (exec b g (List.range g.nin) objs).objs[i]? = objs[i]? := by
  apply noWrite_sound g i _ b objs hi
  simp only [checkNoWrite, Bool.not_eq_true', List.contains_eq_mem, decide_eq_false_iff_not]
  intro hmem
  have := List.all_eq_true.mp h i hmem
  simp at this
  omega

/-- A graph without in-place nodes writes nothing … -/
theorem noInplace_writes_nil (g : Graph) (h : g.nodes.all (fun nd => !nd.isInplace) = true) : writes g = [] := by
  simp [writes, analyse, analyseFrom_written_noInplace g.nodes _ h, Abs.init, dedup]

/-- … hence leaves every object of the store unchanged. -/
theorem noInplace_frame {V} (g : Graph) (h : g.nodes.all (fun nd => !nd.isInplace) = true) (b : Behav V)
    (inObjs : List Nat) (objs : List V) (hlen : inObjs.length = g.nin) (o : Nat) (ho : o < objs.length) :
    (exec b g inObjs objs).objs[o]? = objs[o]? := by
  apply write_frame g b inObjs objs hlen o ho
  simp [noInplace_writes_nil g h]

/-- The shape of the update lowering (`update_at_ravelled`: pure nodes, one in-place primitive on the
flattened target, pure nodes): the may-written inputs are exactly the inputs the target register may
alias. -/
theorem writes_single_inplace (nin : Nat) (pre post : List Node) (t : Nat) (rd outs : List Nat)
    (hpre : pre.all (fun nd => !nd.isInplace) = true) (hpost : post.all (fun nd => !nd.isInplace) = true) :
    writes { nin := nin, nodes := pre ++ [.inplace t rd] ++ post, outs := outs }
      = dedup (rootsOf (analyseFrom pre (Abs.init nin)).regs t) := by
  simp only [writes, analyse, analyseFrom_append, analyseFrom]
  rw [analyseFrom_written_noInplace post _ hpost]
  simp [Abs.step, analyseFrom_written_noInplace pre _ hpre, Abs.init]

/-- The store semantics of an in-place node is exact: it replaces the contents of the object its target
register denotes, and of no other object; the result register denotes that same object. -/
theorem inplace_step_exact {V} (b : Behav V) (n : Nat) (st : State V) (t o : Nat) (rd : List Nat)
    (ht : st.regs[t]? = some o) :
    (st.step b n (.inplace t rd)).objs = st.objs.set o (b.newVal n st) ∧
      (st.step b n (.inplace t rd)).regs = st.regs ++ [o] := by
  simp [State.step, ht]

/-- Execution defines exactly one register per node (so in a well-formed graph, `Graph.wf`, every
register a node uses is defined when the node runs: the semantics never takes its dangling-register
branch on graphs the driver accepts). -/
theorem exec_regs_length {V} (b : Behav V) (g : Graph) (inObjs : List Nat) (objs : List V) :
    (exec b g inObjs objs).regs.length = inObjs.length + g.nodes.length :=
  execFrom_regs_length b g.nodes 0 _

/-- The written set is duplicate free (the driver's answer is a set). -/
theorem writes_nodup (g : Graph) : (writes g).Nodup := dedup_nodup _

/-! ### Non-vacuity -/

/-- `einx.set_at("a [h] b, a p, b p -> b [h] a", x, idx, upd)` as captured (numpy backend), tensor steps only:
`a' = reshape(a)`, `b' = multiply(b, 3)`, `c' = broadcast_to(reshape(c))`, `put(a', b', c')`, `reshape`, `transpose`. -/
def exSetAt : Graph :=
  { nin := 3, nodes := [.view [0], .fresh [1], .view [2], .view [5], .inplace 3 [4, 6], .view [7], .view [8]], outs := [9] }

example : exSetAt.wf = true := by decide +kernel
example : writes exSetAt = [0] := by decide +kernel
example : outRoots exSetAt = [0] := by decide +kernel
/-- The coordinate tensor (input 1) and the update tensor (input 2) flow only into read positions. -/
example : checkNoWrite exSetAt 1 = true ∧ checkNoWrite exSetAt 2 = true ∧ checkNoWrite exSetAt 0 = false := by decide +kernel
example : (writes exSetAt).all (· == 0) = true := by decide +kernel

/-- The store semantics really writes: when numpy returns views, `put` lands in the caller's buffer … -/
example : (exec (V := Nat) { choose := fun _ => some 0, newVal := fun _ _ => 99 } exSetAt [0, 1, 2] [10, 20, 30]).objs
    = [99, 20, 30, 99] := by decide +kernel
/-- … and when `reshape` copies (non-contiguous target) the caller's buffer is untouched. -/
example : (exec (V := Nat) { choose := fun _ => none, newVal := fun n _ => 100 + n } exSetAt [0, 1, 2] [10, 20, 30]).objs.take 3
    = [10, 20, 30] := by decide +kernel

/-- A lowering that applied the in-place primitive to the coordinate tensor (`np.add.at(indices, …)`) is
caught: input 1 is may-written, the `at_only_first` obligation is false. -/
def exBad : Graph := { nin := 3, nodes := [.view [1], .inplace 3 [0, 2]], outs := [0] }
example : writes exBad = [1] ∧ (writes exBad).all (· == 0) = false := by decide +kernel
/-- … and the concrete semantics confirms the analysis: the object of input 1 changes. -/
example : (exec (V := Nat) { choose := fun _ => some 0, newVal := fun _ _ => 7 } exBad [0, 1, 2] [10, 20, 30]).objs[1]? = some 7 := by decide +kernel

/-- An `out=` of an input on an otherwise pure function (`np.negative(a, out=a)`): the driver turns it into
an in-place node, and `writes` is not `[]` although the operation is not `*_at`. -/
example : writes { nin := 1, nodes := [.inplace 0 [0]], outs := [1] } = [0] := by decide +kernel

/-- Aliased inputs (`einx.add_at("[h], p, p", x, idx, x)`: input 2 is the object of input 0): `write_frame`
does not promise anything for the shared object, and indeed it changes. -/
example : (exec (V := Nat) { choose := fun _ => none, newVal := fun _ _ => 5 } { nin := 3, nodes := [.inplace 0 [1, 2]], outs := [3] }
    [0, 1, 0] [10, 20]).objs = [5, 20] := by decide +kernel

end Einx.Alias
