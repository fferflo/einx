import EinxModel.Proofs.RejectInternal
import EinxModel.Proofs.NotationNFTraverse
import EinxModel.Proofs.RejectConcat
import EinxModel.Proofs.NotationCarets
/-!
# C03 (parser) — ill-formed descriptions are rejected with `SyntaxError`, never a tree, never an internal error

All statements are about `Einx.Notation.parseOp` / `parseArgs` / `parseArg` (model M1 of
`einx/_src/namedtensor/stage1/parse.py`, the definitions the driver executes; tied to the real parser by the C12
correspondence — exhaustive short strings and random strings: tree, raise site, carets — and by stream R of
`tools/props/c03_rules.py`, which generates descriptions having each defect below and compares class and raise site).

The defects are stated on the *string* (no token, no tree): `alphabetChar`, `balanced`/`delimRun`, `atDepth0` (Notation/Spec.lean).

* `parse_no_internal` — every string yields a tree or a `SyntaxError`; none of the five internal outcomes that
  `parse_total_cases` (C12) leaves open is reachable with the constants of the source as extracted on this run.
* `parse_rejects_bad_char` — a character outside the token alphabet: `SyntaxError` "The expression '…' is not allowed" (l.73).
* `parse_rejects_unwrapped_concat` — a `+` outside every pair of delimiters (`atDepth0 '+'`): `SyntaxError` ("Concatenated axes
  must be wrapped in parentheses" l.216, or an earlier one), never a tree.
* `parse_rejects_unbalanced` — delimiters `( ) [ ]` not properly nested: `SyntaxError`; if every token is valid, exactly
  "closing … not opened" (l.118) for a closer that does not match and "opening … not closed" (l.128) for leftover openers;
  conversely the delimiter stack accepts every balanced string (`stack_accepts_iff_balanced`).
-/
namespace Einx.Props.C03Reject
open Einx.Notation

/-! ## Obligations over the extracted constants -/

/-- The characters of the literals and operators: exactly `- > , + space ( [ ) ] .` -/
theorem literal_characters_exact : litChars.eraseDups = "->,+ ([)].".toList := by
  rewrite [String.toList_ofList]
  decide +kernel

/-- Every operator of `_nary_ops` has a handler in `parse` (no `raise AssertionError()` fall-through, D5 `a | a`). -/
theorem every_operator_handled : ∀ op ∈ naryOps, op ∈ modelHandled := naryOps_handled

/-- The characters the token validation accepts as digits are exactly those `int()` accepts (no `ValueError` for `²`). -/
theorem digits_are_decimal : Einx.Extracted.digitRanges = Einx.Extracted.decimalRanges := digit_ranges_decimal

/-! ## Totality without internal outcomes -/

/-- **`parse_no_internal`**: `parse_op` returns a tree or raises `SyntaxError` — for every string. -/
theorem parse_no_internal (text : Str) :
    (∃ x, parseOp text = .ok x) ∨ (∃ k pos alts, parseOp text = .error (.syntax k pos alts)) :=
  ok_or_syntax (parseOp_noint text)

/-- A string that is not accepted is rejected with a `SyntaxError` whose carets lie inside the string. -/
theorem parse_rejected_is_syntax_error (text : Str) (h : ∀ x, parseOp text ≠ .ok x) :
    ∃ k pos alts, parseOp text = .error (.syntax k pos alts) ∧ ∀ p ∈ pos, 0 ≤ p ∧ p < text.length := by
  rcases parse_no_internal text with ⟨x, hx⟩ | ⟨k, pos, alts, he⟩
  · exact absurd hx (h x)
  · refine ⟨k, pos, alts, he, ?_⟩
    have := parseOp_ok text
    rw [he] at this
    exact this.1

/-- **`parse_root_shape`**: every tree `parse_op` returns is `Op[Args(…)]` or `Op[Args(…), Args(…)]` — what `_parse_op`
    (`op.children[0].children`, `op.children[1].children`) and `parse_args` (`assert isinstance(op.children[0], Args)`) rely on. -/
theorem parse_root_shape (text : Str) (x : Expr) (h : parseOp text = .ok x) :
    (∃ ins b1 e1 b e, x = .op [.args ins b1 e1] b e) ∨
    (∃ ins b1 e1 outs b2 e2 b e, x = .op [.args ins b1 e1, .args outs b2 e2] b e) := parseOp_root text x h

/-- `parse_args` returns an `Args` tree or raises `SyntaxError` (its `assert` cannot fire); a description with an arrow is
    the `SyntaxError` "must not contain a '->' operator". -/
theorem parse_args_no_internal (text : Str) :
    (∃ cs b e, parseArgs text = .ok (.args cs b e)) ∨ (∃ k pos alts, parseArgs text = .error (.syntax k pos alts)) := by
  unfold parseArgs
  rcases parse_no_internal text with ⟨x, hx⟩ | ⟨k, pos, alts, he⟩
  · rw [hx]
    rcases parse_root_shape text x hx with ⟨ins, b1, e1, b, e, rfl⟩ | ⟨ins, b1, e1, outs, b2, e2, b, e, rfl⟩
    · left; exact ⟨ins, b1, e1, rfl⟩
    · right; exact ⟨_, _, _, rfl⟩
  · rw [he]; right; exact ⟨k, pos, alts, rfl⟩

/-- `parse_arg` returns one expression or raises `SyntaxError`. -/
theorem parse_arg_no_internal (text : Str) :
    (∃ x, parseArg text = .ok x) ∨ (∃ k pos alts, parseArg text = .error (.syntax k pos alts)) := by
  unfold parseArg
  rcases parse_args_no_internal text with ⟨cs, b, e, h⟩ | ⟨k, pos, alts, h⟩
  · rw [h]
    simp only [Expr.children]
    match cs with
    | [c] => left; exact ⟨c, rfl⟩
    | [] => right; exact ⟨_, _, _, rfl⟩
    | _ :: _ :: _ => right; exact ⟨_, _, _, rfl⟩
  · rw [h]; right; exact ⟨k, pos, alts, rfl⟩

/-! ## Characters outside the alphabet -/

/-- **`parse_rejects_bad_char`**: a string that contains a character which is neither a name character `[a-zA-Z0-9_]`, a digit
    nor a character of a literal is rejected by the lexer with the `SyntaxError` of l.73 — whatever else the string contains. -/
theorem parse_rejects_bad_char (text : Str) (c : Char) (hc : c ∈ text) (hbad : alphabetChar c = false) :
    ∃ pos, parseOp text = .error (.syntax .invalidToken pos []) := by
  obtain ⟨pos, h⟩ := lex_bad_char text c hc hbad
  exact ⟨pos, parseOp_of_lex_error h⟩

/-- The same through `parse_args` / `parse_arg` (used by `solve_axes`, `matches`, …). -/
theorem parse_arg_rejects_bad_char (text : Str) (c : Char) (hc : c ∈ text) (hbad : alphabetChar c = false) :
    (∃ pos, parseArgs text = .error (.syntax .invalidToken pos [])) ∧ (∃ pos, parseArg text = .error (.syntax .invalidToken pos [])) := by
  obtain ⟨pos, h⟩ := parse_rejects_bad_char text c hc hbad
  exact ⟨⟨pos, by unfold parseArgs; rw [h]⟩, ⟨pos, by unfold parseArg parseArgs; rw [h]⟩⟩

/-! ## Unbalanced delimiters -/

/-- After a successful lexer pass the kind of imbalance decides the error: a closing delimiter that does not match the innermost
    open one (or with nothing open) is "closing … not opened"; delimiters left open at the end are "opening … not closed". -/
theorem parse_unbalanced_kind (text : Str) (toks : List Token) (hl : lex text = .ok toks) :
    (delimRun text [] = none → ∃ pos, parseOp text = .error (.syntax .closingNotOpened pos [])) ∧
    (∀ c st, delimRun text [] = some (c :: st) → ∃ pos, parseOp text = .error (.syntax .openingNotClosed pos [])) := by
  have hs := stack_scan text toks hl
  exact ⟨fun h => (hs.1 h).imp fun _ hp => parseOp_of_stack_error hl hp,
    fun c st h => (hs.2.2 c st h).imp fun _ hp => parseOp_of_stack_error hl hp⟩

/-- **`parse_rejects_unbalanced`**: a string whose delimiters `( ) [ ]` are not properly nested and closed is rejected with a
    `SyntaxError` raised by the lexer or the delimiter stack — never a tree, never an internal error. -/
theorem parse_rejects_unbalanced (text : Str) (h : balanced text = false) :
    ∃ k pos, parseOp text = .error (.syntax k pos []) ∧ (k = .invalidToken ∨ k = .closingNotOpened ∨ k = .openingNotClosed) := by
  cases hl : lex text with
  | error err =>
    obtain ⟨pos, rfl⟩ := lex_error hl
    exact ⟨_, pos, parseOp_of_lex_error hl, Or.inl rfl⟩
  | ok toks =>
    have hk := parse_unbalanced_kind text toks hl
    cases hr : delimRun text [] with
    | none =>
      obtain ⟨pos, hp⟩ := hk.1 hr
      exact ⟨_, pos, hp, Or.inr (Or.inl rfl)⟩
    | some st =>
      cases st with
      | nil => rw [balanced_iff.mpr hr] at h; cases h
      | cons c st =>
        obtain ⟨pos, hp⟩ := hk.2 c st hr
        exact ⟨_, pos, hp, Or.inr (Or.inr rfl)⟩

/-- Converse for the first two stages: with valid tokens, the delimiter stack builds a token tree iff the string is balanced. -/
theorem stack_accepts_iff_balanced (text : Str) (toks : List Token) (hl : lex text = .ok toks) :
    (∃ tree, buildTree (dedupSpaces toks false) [] [] = .ok tree) ↔ balanced text = true := by
  have hs := stack_scan text toks hl
  rw [balanced_iff]
  refine ⟨fun ⟨_, ht⟩ => ?_, hs.2.1⟩
  match hr : delimRun text [] with
  | none => exact (hs.1 hr).elim fun _ hp => nomatch ht.symm.trans hp
  | some [] => rfl
  | some (c :: st) => exact (hs.2.2 c st hr).elim fun _ hp => nomatch ht.symm.trans hp

/-! ## Operator misuse: concatenation outside parentheses -/

/-- **`parse_rejects_unwrapped_concat`**: a string with a `+` that stands outside every pair of delimiters (`atDepth0 '+' text []`:
    the bracket scan has an empty stack at that position) is rejected with a `SyntaxError` — the rule "Concatenated axes must be
    wrapped in parentheses" (l.216) for *every* such string, whatever the rest of it looks like (another syntax error may be
    reported first; the carets are inside the string). -/
theorem parse_rejects_unwrapped_concat (text : Str) (h : atDepth0 '+' text [] = true) :
    ∃ k pos alts, parseOp text = .error (.syntax k pos alts) ∧ ∀ p ∈ pos, 0 ≤ p ∧ p < text.length :=
  parse_rejected_is_syntax_error text (parseOp_plus_depth0 text h)

/-- An accepted description is balanced and consists of alphabet characters only (necessary conditions of `parse_op`'s domain). -/
theorem parse_ok_necessary (text : Str) (x : Expr) (h : parseOp text = .ok x) :
    balanced text = true ∧ ∀ c ∈ text, alphabetChar c = true := by
  constructor
  · cases hb : balanced text with
    | true => rfl
    | false =>
      obtain ⟨k, pos, hp, _⟩ := parse_rejects_unbalanced text hb
      rw [h] at hp; cases hp
  · intro c hc
    cases ha : alphabetChar c with
    | true => rfl
    | false =>
      obtain ⟨pos, hp⟩ := parse_rejects_bad_char text c hc ha
      rw [h] at hp; cases hp

/-! ## Non-vacuity -/

def errOf : Res Expr → Option Err
  | .ok _ => none
  | .error err => some err

/-- The defects exist and the reported sites are the ones stated: a non-ASCII letter, a stray `|`, a superscript digit;
    a closer without opener, a mismatching closer, an opener left open. -/
example :
    [errOf (parseOp "a é -> a".toList), errOf (parseOp "a | a".toList), errOf (parseOp "a ² b".toList),
     errOf (parseOp "a ) b".toList), errOf (parseOp "a (b] c".toList), errOf (parseOp "a [b (c".toList)] =
    [some (.syntax .invalidToken [2] []), some (.syntax .invalidToken [2] []), some (.syntax .invalidToken [2] []),
     some (.syntax .closingNotOpened [2] []), some (.syntax .closingNotOpened [4] []), some (.syntax .openingNotClosed [5] [])] := by
  repeat rewrite [String.toList_ofList]
  decide +kernel

example : alphabetChar 'é' = false ∧ alphabetChar '|' = false ∧ alphabetChar '²' = false ∧ alphabetChar 'a' = true ∧ alphabetChar '.' = true := by
  decide +kernel

example : balanced "a (b] c".toList = false ∧ balanced "a [b (c".toList = false ∧ balanced "a [b (c)] ()".toList = true ∧
    delimRun "a (b] c".toList [] = none ∧ delimRun "a [b (c".toList [] = some [')', ']'] := by
  repeat rewrite [String.toList_ofList]
  decide +kernel

/-- `parse_rejects_bad_char` / `parse_rejects_unbalanced` instantiated. -/
example : ∃ pos, parseOp "a é -> a".toList = .error (.syntax .invalidToken pos []) := by
  rewrite [String.toList_ofList]
  exact parse_rejects_bad_char _ 'é' (by decide +kernel) (by decide +kernel)

example : ∃ k pos, parseOp "a [b (c".toList = .error (.syntax k pos []) ∧ (k = .invalidToken ∨ k = .closingNotOpened ∨ k = .openingNotClosed) := by
  rewrite [String.toList_ofList]
  exact parse_rejects_unbalanced _ (by decide +kernel)

/-- Unwrapped concatenations: the defect predicate on examples, the reported sites, and the theorem instantiated. -/
example : atDepth0 '+' "a + b".toList [] = true ∧ atDepth0 '+' "a, b + c -> d".toList [] = true ∧ atDepth0 '+' "(a + b) c".toList [] = false ∧
    atDepth0 '+' "[a + b]".toList [] = false := by
  repeat rewrite [String.toList_ofList]
  decide +kernel

example :
    [errOf (parseOp "a + b".toList), errOf (parseOp "a, b + c -> d".toList), errOf (parseOp "a + [b]".toList), errOf (parseOp "(a + b) c".toList)] =
    [some (.syntax .concatNotWrapped [0, 1, 2, 3, 4] []), some (.syntax .concatNotWrapped [3, 4, 5, 6, 7] []),
     some (.syntax .concatOperand [4, 5, 6, 2] []), none] := by
  repeat rewrite [String.toList_ofList]
  decide +kernel

example : ∃ k pos alts, parseOp "a, b + c -> d".toList = .error (.syntax k pos alts) ∧ ∀ p ∈ pos, 0 ≤ p ∧ p < 13 := by
  rewrite [String.toList_ofList]
  exact parse_rejects_unwrapped_concat _ (by decide +kernel)

/-- `parse_no_internal` has both branches inhabited. -/
example : errOf (parseOp "a [b c]... (d + 1) -> a".toList) = none ∧ errOf (parseOp "a -> b -> c".toList) = some (.syntax .multipleArrows [2, 3, 7, 8] []) := by
  repeat rewrite [String.toList_ofList]
  decide +kernel

end Einx.Props.C03Reject
