import EinxModel.Proofs.CseTreesDischarge
import EinxModel.Props.C02Cse
/-!
C02, CSE part — **which side conditions of `cseTrees_preserves_sols_partial` are theorems**.

`cseCheck` (Solve/CseCheck.lean) is what the proof of `cseTrees_preserves_sols_partial` uses.  Here its conjuncts are
sorted by status (definitions: Solve/CseCheck2.lean):

| conjunct of `cseCheck` | status |
|---|---|
| every replaced part passed the filter, `0 < len` | proved for every input (`cse_trees_is_cse_step`, Props/C02Cse.lean) |
| an unknown value has an unbounded range | **proved for every input** (`cse_used_unbounded`, from `value_range_fixed_is_value`) |
| lower bounds inside a replaced part are positive | **proved from the input fact `minPosForest`** (`cse_used_minpos`) |
| `wfForest`, `minPosForest` | facts about the output of stage 2 (input of `cse`), evaluated on every real input |
| a copied axis is not called `cse.<k>` (`freshOK`) | **false** for the real code: defect D19 — stays a hypothesis |
| a part replaced at root level has one dimension (`rootDimsOK`) | **false** for the real code: defect D20 — stays a hypothesis |
| a copied axis is not inside a replaced part (`copiedOK`) | **false** for the real code: defect D21 (overlapping slice candidates) — stays a hypothesis |
| same `cse.<k>` ⇒ same shape; different `cse.<k>` ⇒ disjoint axes (`sharedOK`) | first half: not known to fail on inputs with one `min_value` per name, **not proved** (needs injectivity of `__str__` on well-formed trees); second half: **false** for overlapping candidates (again D21, see Solve/CseCheck2.lean) — stays a hypothesis, evaluated on every real input |

`cseTrees_preserves_sols_reduced_partial` is `cseTrees_preserves_sols_partial` with exactly the last five rows as
hypotheses.
-/
namespace Einx.Solve.CseT
open Einx.Solve

/-- **`_value_range(e) == (m, False)` only if `e.value == m`** — for every stage-2 expression.  (The converse direction
of `valueRange_spec_fixed`: a bounded range is reported only for an expression all of whose axes have a value.) -/
theorem value_range_fixed_is_value (e : VExpr) (m : Nat) (h : valueRange e = some (m, false)) : valueOf e = some m :=
  valueRange_fixed_value e m h

/-- **Every part with an unknown value that `cseTrees` replaces has an unbounded value range** — for every input and both
options, no side condition.  (Together with `cse_trees_is_cse_step` this discharges the conjunct
`(valueOf e).isSome || ub` of `usedOK`.) -/
theorem cse_used_unbounded (opts : Opts) (rs : List (Option VExpr)) (k : Nat) (e : VExpr) (len : Nat) (r : Bool)
    (hu : Ev.used k e len r ∈ cseEvents opts rs) (hv : valueOf e = none) : ∃ m, valueRange e = some (m, true) := by
  obtain ⟨_, ⟨m, ub, hr⟩, _⟩ := cse_trees_is_cse_step opts rs k e len r hu
  have := unknown_value_unbounded hr hv
  subst this
  exact ⟨m, hr⟩

/-- **The lower bounds inside every replaced part are positive if those of the input are** (`minPosForest`: every
unknown axis of the input has `min_value >= 1`): a replaced part is a part of the input, its unknown axes are declared
in the system before CSE. -/
theorem cse_used_minpos (opts : Opts) (rs out : List (Option VExpr)) (hrun : cseTrees opts rs = .ok out)
    (hmin : minPosForest rs = true) (k : Nat) (e : VExpr) (len : Nat) (r : Bool)
    (hu : Ev.used k e len r ∈ cseEvents opts rs) : MinPos e :=
  used_minPos opts rs out hrun hmin hu

/-- **The reduced side conditions imply `cseCheck`** on a run that does not raise. -/
theorem cseCheck_of_reduced (opts : Opts) (rs out : List (Option VExpr)) (hrun : cseTrees opts rs = .ok out)
    (h : cseCheckReduced opts rs = true) : cseCheck opts rs = true := by
  simp only [cseCheckReduced, inputOK, Bool.and_eq_true] at h
  obtain ⟨⟨⟨⟨⟨hwf, hmin⟩, hfresh⟩, hroot⟩, hcop⟩, hsh⟩ := h
  simp only [rootDimsOK, List.all_eq_true] at hroot
  simp only [cseCheck, traceOK, Bool.and_eq_true, List.all_eq_true]
  exact ⟨hwf, fun ev hev => usedOK_of_parts opts rs out hrun hmin hev (hroot ev hev),
    fun a ha b hb => pairOK_of_parts (allPairs_spec hfresh a ha b hb) (allPairs_spec hcop a ha b hb)
      (allPairs_spec hsh a ha b hb)⟩

/-- **CSE preserves the solution set** — `cseTrees_preserves_sols_partial` with the hypotheses reduced to: the facts
about the input (`inputOK`), the three conditions that are false for the real code (`freshOK`: D19, `rootDimsOK`: D20,
`copiedOK`: D21) and the unproved conditions on pairs of replaced parts (`sharedOK`). -/
theorem cseTrees_preserves_sols_reduced_partial (opts : Opts) (rs out : List (Option VExpr))
    (hrun : cseTrees opts rs = .ok out) (hin : inputOK rs = true)
    (hfresh : freshOK (cseEvents opts rs) = true) (hroot : rootDimsOK (cseEvents opts rs) = true)
    (hcop : copiedOK (cseEvents opts rs) = true) (hsh : sharedOK (cseEvents opts rs) = true) :
    (∀ σ, Sat (forestSys rs) σ → Sat (forestSys out) (extend σ (cseEvents opts rs))) ∧
    (∀ σ', Sat (forestSys out) σ' →
      ∃ σ, Sat (forestSys rs) σ ∧ (∀ x, x ∉ innerNames (cseEvents opts rs) → σ x = σ' x) ∧
        ∀ k e len r, Ev.used k e len r ∈ cseEvents opts rs → valueOf e = none → evalV σ e = σ' (cseName k)) :=
  cseTrees_preserves_sols_partial opts rs out hrun
    (cseCheck_of_reduced opts rs out hrun (by simp [cseCheckReduced, hin, hfresh, hroot, hcop, hsh]))

/-- CSE does not change whether the constraints are solvable (reduced hypotheses). -/
theorem cseTrees_solvable_iff_reduced_partial (opts : Opts) (rs out : List (Option VExpr))
    (hrun : cseTrees opts rs = .ok out) (h : cseCheckReduced opts rs = true) :
    (∃ σ, Sat (forestSys rs) σ) ↔ (∃ σ', Sat (forestSys out) σ') :=
  cseTrees_solvable_iff_partial opts rs out hrun (cseCheck_of_reduced opts rs out hrun h)

/-! ### Non-vacuity -/

theorem cseCheckReduced_exIn : cseCheckReduced {} exIn = true := by
  rw [cseCheckReduced, exIn_run.2]
  decide +kernel

/-- the example of `Props/C02Cse.lean` (`a (b c), (b c) d` against `(2, 6), (6, 5)`) passes the reduced conditions -/
example : cseCheckReduced {} exIn = true := cseCheckReduced_exIn

example : (∃ σ, Sat (forestSys exIn) σ) ↔ (∃ σ', Sat (forestSys exOut) σ') :=
  cseTrees_solvable_iff_reduced_partial {} exIn exOut exIn_run.1 cseCheckReduced_exIn

/-- `cse_used_unbounded` is not vacuous: the run on `exIn` has a `used` event with an unknown value. -/
example : ∃ k e len r, Ev.used k e len r ∈ cseEvents {} exIn ∧ valueOf e = none :=
  ⟨0, _, 1, true, by rw [exIn_run.2]; exact List.mem_cons_of_mem _ List.mem_cons_self, by decide⟩

/-- The stage-2 expressions of `einx.solve_shapes("(a b) cse..., (a b)", zeros((6,2,3)), zeros((6,)))` as `cse` receives
them (D19). -/
def exD19 : List (Option VExpr) :=
  [some (.list [.flat (.list [.axis "a" none 1, .axis "b" none 1]), .axis "cse.0" none 1, .axis "cse.1" none 1]),
   some (.flat (.list [.axis "a" none 1, .axis "b" none 1])),
   some (.list []),
   some (.list [.axis "unnamed.0" (some 6) 1, .axis "unnamed.1" (some 2) 1, .axis "unnamed.2" (some 3) 1]),
   some (.axis "unnamed.3" (some 6) 1),
   none]

/-- the run on `exD19`, evaluated once: output and events -/
theorem exD19_run : cseTrees {} exD19 = .ok
    [some (.list [.flat (.axis "cse.0" none 1), .axis "cse.0" none 1, .axis "cse.1" none 1]),
     some (.flat (.axis "cse.0" none 1)),
     some (.list []),
     some (.list [.axis "unnamed.0" (some 6) 1, .axis "unnamed.1" (some 2) 1, .axis "unnamed.2" (some 3) 1]),
     some (.axis "unnamed.3" (some 6) 1),
     none] ∧
    cseEvents {} exD19 =
      [.used 0 (.list [.axis "a" none 1, .axis "b" none 1]) 1 false, .surv "cse.0" 1, .surv "cse.1" 1,
       .used 0 (.list [.axis "a" none 1, .axis "b" none 1]) 1 false] := by decide +kernel

/-- D19: exactly `freshOK` fails. -/
example : inputOK exD19 = true ∧ freshOK (cseEvents {} exD19) = false ∧ rootDimsOK (cseEvents {} exD19) = true ∧
    copiedOK (cseEvents {} exD19) = true ∧ sharedOK (cseEvents {} exD19) = true := by
  rw [exD19_run.2]
  decide +kernel

/-- … and the model's output for it.  Read off these trees (the example states the trees only): before CSE the system has
the solution `a b = 6`, `cse.0 = 2`, `cse.1 = 3`; after CSE (`(cse.0) cse.0 cse.1` against `6 2 3`) it has none, so the
conclusion of the theorem fails without `freshOK`. -/
example : cseTrees {} exD19 = .ok
    [some (.list [.flat (.axis "cse.0" none 1), .axis "cse.0" none 1, .axis "cse.1" none 1]),
     some (.flat (.axis "cse.0" none 1)),
     some (.list []),
     some (.list [.axis "unnamed.0" (some 6) 1, .axis "unnamed.1" (some 2) 1, .axis "unnamed.2" (some 3) 1]),
     some (.axis "unnamed.3" (some 6) 1),
     none] := exD19_run.1

/-- The stage-2 expressions of `einx.sum("a ([c d]) [c d]", zeros((4,6,2,3)))` as `cse` receives them
(`cse_in_brackets=True`; D20). -/
def exD20 : List (Option VExpr) :=
  [some (.list [.axis "a" none 1, .flat (.brackets (.list [.axis "c" none 1, .axis "d" none 1])),
                .brackets (.list [.axis "c" none 1, .axis "d" none 1])]),
   some (.list [.axis "a" none 1, .flat (.list [])]),
   some (.list [.axis "unnamed.0" (some 4) 1, .axis "unnamed.1" (some 6) 1, .axis "unnamed.2" (some 2) 1,
                .axis "unnamed.3" (some 3) 1]),
   none]

/-- D20: exactly `rootDimsOK` fails. -/
example : inputOK exD20 = true ∧ freshOK (cseEvents { cseInBrackets := true } exD20) = true ∧
    rootDimsOK (cseEvents { cseInBrackets := true } exD20) = false ∧
    copiedOK (cseEvents { cseInBrackets := true } exD20) = true ∧
    sharedOK (cseEvents { cseInBrackets := true } exD20) = true := by decide +kernel

/-- The stage-2 expressions of `einx.solve_shapes("(a 1 d), (1 d) c", zeros((6,)), zeros((3,2)))` as `cse` receives them
(D21). -/
def exD21 : List (Option VExpr) :=
  [some (.flat (.list [.axis "a" none 1, .axis "unnamed.0" (some 1) 1, .axis "d" none 1])),
   some (.list [.flat (.list [.axis "unnamed.1" (some 1) 1, .axis "d" none 1]), .axis "c" none 1]),
   some (.list []),
   some (.axis "unnamed.2" (some 6) 1),
   some (.list [.axis "unnamed.3" (some 3) 1, .axis "unnamed.4" (some 2) 1]),
   none]

/-- the run on `exD21`, evaluated once: output and events -/
theorem exD21_run : cseTrees {} exD21 = .ok
    [some (.flat (.list [.axis "cse.0" none 1, .axis "d" none 1])),
     some (.list [.flat (.axis "cse.1" none 1), .axis "c" none 1]),
     some (.list []),
     some (.axis "unnamed.2" (some 6) 1),
     some (.list [.axis "unnamed.3" (some 3) 1, .axis "unnamed.4" (some 2) 1]),
     none] ∧
    cseEvents {} exD21 =
      [.used 0 (.list [.axis "a" none 1, .axis "unnamed.0" (some 1) 1]) 2 false, .surv "d" 1,
       .used 1 (.list [.axis "unnamed.1" (some 1) 1, .axis "d" none 1]) 1 false, .surv "c" 1] := by decide +kernel

/-- D21: exactly `copiedOK` fails: the slice candidates `a 1` and `1 d` overlap in the node `1`; in `(a 1 d)` the walk
replaces `a 1` and copies `d`, in `(1 d)` it replaces `1 d` by `cse.1` — the link between `d` and `cse.1` is lost. -/
example : inputOK exD21 = true ∧ freshOK (cseEvents {} exD21) = true ∧ rootDimsOK (cseEvents {} exD21) = true ∧
    copiedOK (cseEvents {} exD21) = false ∧ sharedOK (cseEvents {} exD21) = true := by
  rw [exD21_run.2]
  decide +kernel

/-- … the model's output for it (the real `cse` returns the same: harness stream (D)).  Read off these trees (the example
states the trees only): before CSE `a d = 6`, `d = 3` determine every axis; after CSE `cse.0 d = 6`, `cse.1 = 3` do not. -/
example : cseTrees {} exD21 = .ok
    [some (.flat (.list [.axis "cse.0" none 1, .axis "d" none 1])),
     some (.list [.flat (.axis "cse.1" none 1), .axis "c" none 1]),
     some (.list []),
     some (.axis "unnamed.2" (some 6) 1),
     some (.list [.axis "unnamed.3" (some 3) 1, .axis "unnamed.4" (some 2) 1]),
     none] := exD21_run.1

end Einx.Solve.CseT
