import EinxModel.Proofs.IR
import EinxModel.IR.PrimX
import EinxModel.Denote.Expr2
import EinxModel.Denote.Expr3
import EinxModel.Proofs.DenoteViews
import EinxModel.Proofs.Peel
import EinxModel.Proofs.Arith
/-!
C01 — every built-in operation computes exactly its loop-notation meaning.

The deciding theorem is `validate_sound`: if the symbolic validator accepts the straight-line program
that was translated from a traced graph, then for **every** content of the input tensors and **every**
interpretation of the elementary function symbols the program computes the denotation.  The
loop-notation denotation is symbolic (`Denote.denoteId`, `Denote.denoteElementwise`: for each output
position a cell over the input elements); its concrete meaning is the image of those cells under
`evalCell`.  The numpy primitives' plans (`IR.planInstr`) are trusted to describe numpy and are
conformance-tested against real numpy on every run.
-/
namespace Einx.IR
open Einx

/-- **Naturality** (free theorem of the IR): a program commutes with every homomorphism of element
algebras.  This is what lets one symbolic run speak for all tensor contents. -/
theorem program_natural {α β : Type} {A : Alg α} {B : Alg β} {h : α → β} (hh : Hom A B h)
    (prog : List Instr) (regs : List (Tensor α)) :
    evalProg B prog (regs.map (Tensor.map h)) = (evalProg A prog regs).map (·.map (Tensor.map h)) := by
  simp only [evalProg_eq_evalProgG, evalProgG_map planInstr hh]

/-- **Soundness of the validator.**  If `validate` accepts `prog` against the symbolic tensors
`expected` (the denotation of the call), then for all integer input tensors `xs` of the validated
shapes (each holding `prod shape` elements), all interpretations `I` of the elementary functions and
any value `bad` for out-of-range reads, running `prog` on `xs` succeeds and its output registers are
exactly the denotation evaluated on `xs`. -/
theorem validate_sound (prog : List Instr) (outs : List Nat) (expected : List (Tensor Cell))
    (I : String → List Int → Int) (bad : Int) (xs : List (Tensor Int))
    (hlen : ∀ x ∈ xs, x.data.length = prod x.shape)
    (hv : validate prog (xs.map (·.shape)) outs expected = true) :
    ∃ regs, evalProg (intAlgOf I bad) prog xs = .ok regs ∧
      outs.map (fun r => regs[r]?) =
        expected.map (fun t => some (t.map (evalCell (intAlgOf I bad) xs))) := by
  rw [validate_eq_validateG] at hv
  rw [evalProg_eq_evalProgG]
  exact validateG_sound planInstr (intAlgOf I bad) prog outs expected xs hlen hv

/-- Naturality for the extended instruction set (reductions, einsum, matmul, flip, roll) that the driver
executes (`evalProgG planInstrX`). -/
theorem program_natural_extended {α β : Type} {A : Alg α} {B : Alg β} {h : α → β} (hh : Hom A B h)
    (prog : List InstrX) (regs : List (Tensor α)) :
    evalProgG planInstrX B prog (regs.map (Tensor.map h)) =
      (evalProgG planInstrX A prog regs).map (·.map (Tensor.map h)) :=
  evalProgG_map planInstrX hh prog regs

/-- **Soundness of the validator the driver runs** (`validateG planInstrX`): acceptance implies that for
all integer inputs of the validated shapes and all interpretations of the elementary and reduction
symbols the program computes the denotation.  (Reductions are canonical multiset cells `red:<f>`; see
`IR/PrimX.lean` for the modelling decisions about numpy that this rests on.) -/
theorem validate_sound_extended (prog : List InstrX) (outs : List Nat) (expected : List (Tensor Cell))
    (I : String → List Int → Int) (bad : Int) (xs : List (Tensor Int))
    (hlen : ∀ x ∈ xs, x.data.length = prod x.shape)
    (hv : validateG planInstrX prog (xs.map (·.shape)) outs expected = true) :
    ∃ regs, evalProgG planInstrX (intAlgOf I bad) prog xs = .ok regs ∧
      outs.map (fun r => regs[r]?) =
        expected.map (fun t => some (t.map (evalCell (intAlgOf I bad) xs))) :=
  validateG_sound planInstrX (intAlgOf I bad) prog outs expected xs hlen hv

/-- Symbolic equivalence of two programs (used for graphs before/after optimisation, C05) implies equal
outputs for all inputs and interpretations. -/
theorem equiv_sound_extended (p1 p2 : List InstrX) (outs1 outs2 : List Nat)
    (I : String → List Int → Int) (bad : Int) (xs : List (Tensor Int))
    (hlen : ∀ x ∈ xs, x.data.length = prod x.shape)
    (hv : equivG planInstrX p1 p2 (xs.map (·.shape)) outs1 outs2 = true) :
    ∃ r1 r2, evalProgG planInstrX (intAlgOf I bad) p1 xs = .ok r1 ∧
      evalProgG planInstrX (intAlgOf I bad) p2 xs = .ok r2 ∧
      outs1.map (fun r => r1[r]?) = outs2.map (fun r => r2[r]?) :=
  equivG_sound planInstrX p1 p2 outs1 outs2 I bad xs hlen hv

/-- Non-vacuity (extended set): `np.sum(x, axis=1)` on shape (2,3) is accepted against the denotation of
`a [b] -> a`, and `np.sum(x, axis=0)` is rejected. -/
example :
    let e_in := Denote.Expr.list [.axis "a" 2, .br (.axis "b" 3)]
    let e_out := Denote.Expr.axis "a" 2
    (match Denote.denoteReduce "sum" e_in e_out with
      | .ok exp => validateG planInstrX [.reduce "sum" 0 [1] false] [[2, 3]] [1] [exp]
          && !validateG planInstrX [.reduce "sum" 0 [0] false] [[2, 3]] [1] [exp]
      | .error _ => false) = true := by decide +kernel

/-- Non-vacuity: the validator accepts the program `transpose; reshape` against the denotation of
`a b c -> (c a) b` on shape (2,3,2) -- computed by the same definitions the driver runs. -/
example :
    let e_in := Denote.Expr.list [.axis "a" 2, .axis "b" 3, .axis "c" 2]
    let e_out := Denote.Expr.list [.flat (.list [.axis "c" 2, .axis "a" 2]), .axis "b" 3]
    (match Denote.denoteId [e_in] [e_out] with
      | .ok exp => validate [.transpose 0 [2, 0, 1], .reshape 1 [4, 3]] [[2, 3, 2]] [2] exp
      | .error _ => false) = true := by decide +kernel

/-- … and rejects the same program with the reversed permutation (the kind of change C01/C05 are about). -/
example :
    let e_in := Denote.Expr.list [.axis "a" 2, .axis "b" 3, .axis "c" 2]
    let e_out := Denote.Expr.list [.flat (.list [.axis "c" 2, .axis "a" 2]), .axis "b" 3]
    (match Denote.denoteId [e_in] [e_out] with
      | .ok exp => validate [.transpose 0 [1, 2, 0], .reshape 1 [4, 3]] [[2, 3, 2]] [2] exp
      | .error _ => false) = false := by decide +kernel

/-! ### n-ary elementwise, argmax/argmin, get_at, sort/argsort

`validate_sound_extended` is generic in the plan function, so it covers the instructions of these families
(`argfind`, `sortAxis`, `arange`, `take`) as it stands.  Their denotations have forms of their own
(`Denote/Expr3.lean`); the theorems below say what those forms mean. -/

/-- **Peeling = unravel.**  The coordinates that the argmax/argmin denotation builds from the flat index
by successive `divmod` with the trailing sizes are the row-major multi-index of that flat index. -/
theorem peel_eq_unravel (sizes : List Nat) (k : Nat) (h : k < prod sizes) :
    Denote.peel sizes k = unravel sizes k :=
  Denote.peel_eq_unravel sizes k h

/-- **Meaning of the coordinate cells of argmax/argmin.**  For every interpretation in which `remainder`
and `floor_divide` are `%` and `/` on non-negative integers, every register content and every flat-index
cell `k` whose value `n` lies inside the block of the bracketed axes, the cells `peelCells sizes k` that
the denotation writes along the bracketed output axis evaluate to `unravel sizes n`. -/
theorem argfind_coordinates_meaning {I : String → List Int → Int} (hI : Denote.DivModInterp I) (bad : Int)
    (xs : List (Tensor Int)) (sizes : List Nat) (k : Cell) (n : Nat)
    (hk : evalCell (intAlgOf I bad) xs k = Int.ofNat n) (hn : n < prod sizes) :
    evalCells (intAlgOf I bad) xs (Denote.peelCells sizes k) = (unravel sizes n).map Int.ofNat :=
  Denote.evalCell_peelCells hI bad xs sizes k n hk hn

/-- **Meaning of the index cell of get_at.**  For every interpretation in which `add` and `multiply` are
the integer operations: if the coordinate cells evaluate to the natural numbers `vals` (`none` = omitted
un-bracketed axis of length 1, index 0), the index cell `ravelExpr coords sizes` evaluates to the row-major
flat position `ravel sizes vals`. -/
theorem get_at_index_meaning {I : String → List Int → Int} (hI : Denote.ArithInterp I) (bad : Int)
    (xs : List (Tensor Int)) (coords : List (Option Cell)) (vals : List (Option Nat)) (sizes : List Nat)
    (hv : coords.map (Option.map (evalCell (intAlgOf I bad) xs)) = vals.map (Option.map Int.ofNat)) :
    evalCell (intAlgOf I bad) xs (Denote.ravelExpr coords sizes) =
      Int.ofNat (ravel sizes (vals.map (·.getD 0))) := by
  rw [Denote.evalCell_ravelExpr hI bad xs coords sizes, hv, Denote.ravelInt_eq_ravel]

/-- Non-vacuity of the two hypotheses: the integer operations satisfy them. -/
example : Denote.DivModInterp (fun f args => match f, args with
    | "remainder", [a, b] => a % b
    | "floor_divide", [a, b] => a / b
    | _, _ => 0) := by
  intro a s
  exact ⟨rfl, rfl⟩

example : Denote.ArithInterp (fun f args => match f, args with
    | "add", [a, b] => a + b
    | "multiply", [a, b] => a * b
    | _, _ => 0) := by
  intro a b
  exact ⟨rfl, rfl⟩

/-- Non-vacuity (argmax): the program einx emits for `[b] [c] -> [2]` on shape (2,3) -- reshape, `argmax`,
the `divmod` chain, reshape, concatenate -- is accepted against `denoteArgfind`; stacking the two
coordinates in the wrong order is rejected. -/
example :
    let e_in := Denote.Expr.list [.br (.axis "b" 2), .br (.axis "c" 3)]
    let e_out := Denote.Expr.br (.axis "k" 2)
    let prog (o : List Nat) : List InstrX :=
      [.base (.reshape 0 [6]), .argfind "argmax" 1 0,
       .base (.ewise "floor_divide" [.reg 2, .lit 3]), .base (.ewise "remainder" [.reg 2, .lit 3]),
       .base (.ewise "floor_divide" [.reg 3, .lit 2]), .base (.ewise "remainder" [.reg 3, .lit 2]),
       .base (.reshape 6 [1]), .base (.reshape 4 [1]), .base (.concat o 0)]
    (match Denote.denoteArgfind "argmax" e_in e_out with
      | .ok exp => validateG planInstrX (prog [7, 8]) [[2, 3]] [9] [exp]
          && !validateG planInstrX (prog [8, 7]) [[2, 3]] [9] [exp]
      | .error _ => false) = true := by decide +kernel

/-- Non-vacuity (get_at): the program einx emits for `[h] c, p -> p c` on shapes (2,2), (2,) -- flatten,
`p·2 + arange(2)`, `take` -- is accepted against `denoteGetAt`; a wrong multiplier is rejected. -/
example :
    let e_t := Denote.Expr.list [.br (.axis "h" 2), .axis "c" 2]
    let e_c := Denote.Expr.axis "p" 2
    let e_out := Denote.Expr.list [.axis "p" 2, .axis "c" 2]
    let prog (m : Int) : List InstrX :=
      [.base (.reshape 0 [4]), .base (.ewise "multiply" [.reg 1, .lit m]), .base (.reshape 3 [2, 1]),
       .arange 2, .base (.reshape 5 [1, 2]), .base (.ewise "add" [.reg 4, .reg 6]), .take 2 7]
    (match Denote.denoteGetAt [e_t, e_c] e_out with
      | .ok exp => validateG planInstrX (prog 2) [[2, 2], [2]] [8] [exp]
          && !validateG planInstrX (prog 3) [[2, 2], [2]] [8] [exp]
      | .error _ => false) = true := by decide +kernel

/-- Non-vacuity (n-ary elementwise): `add("a, a, a -> a")` is the left fold `add(add(x, y), z)`; folding in
another operand order is rejected. -/
example :
    let e := Denote.Expr.axis "a" 2
    (match Denote.denoteElementwiseFold "add" [e, e, e] e with
      | .ok exp =>
        validateG planInstrX [.base (.ewise "add" [.reg 0, .reg 1]), .base (.ewise "add" [.reg 3, .reg 2])] [[2], [2], [2]] [4] [exp]
          && !validateG planInstrX [.base (.ewise "add" [.reg 0, .reg 2]), .base (.ewise "add" [.reg 3, .reg 1])] [[2], [2], [2]] [4] [exp]
      | .error _ => false) = true := by decide +kernel

/-- Non-vacuity (sort): `np.sort(x, axis=1)` is accepted against the denotation of `a [b]`, `axis=0` is not. -/
example :
    let e := Denote.Expr.list [.axis "a" 2, .br (.axis "b" 2)]
    (match Denote.denoteSort "sort" e e with
      | .ok exp => validateG planInstrX [.sortAxis "sort" 0 1] [[2, 2]] [1] [exp]
          && !validateG planInstrX [.sortAxis "sort" 0 0] [[2, 2]] [1] [exp]
      | .error _ => false) = true := by decide +kernel

/-! ### Validation modulo integer arithmetic (index arithmetic of get_at) -/

/-- **Soundness of the arithmetic normalisation** (`IR.normArith`: canonical polynomial form of `add` /
`multiply` over the other sub-cells, applied recursively inside all other function symbols): for every
interpretation in which `add` / `multiply` are the integer operations, every register content and every
value for out-of-range reads, a cell and its normal form have the same value. -/
theorem normArith_sound {I : String → List Int → Int} (hI : ArithI I) (bad : Int) (xs : List (Tensor Int))
    (c : Cell) : evalCell (intAlgOf I bad) xs (normArith c) = evalCell (intAlgOf I bad) xs c :=
  normArith_eval hI bad xs c

/-- **Soundness of the validator modulo integer arithmetic** (`validateArith planInstrX`, the driver's
fallback for get_at when the index arithmetic is associated or ordered differently from the canonical
form): acceptance implies that for all integer inputs of the validated shapes and all interpretations of
the function symbols *in which `add` and `multiply` are the integer operations* the program computes the
denotation.  (`validate_sound_extended` needs no such restriction and stays the theorem behind every
`mode = syntactic` verdict.) -/
theorem validate_sound_arith (prog : List InstrX) (outs : List Nat) (expected : List (Tensor Cell))
    (I : String → List Int → Int) (hI : ArithI I) (bad : Int) (xs : List (Tensor Int))
    (hlen : ∀ x ∈ xs, x.data.length = prod x.shape)
    (hv : validateArith planInstrX prog (xs.map (·.shape)) outs expected = true) :
    ∃ regs, evalProgG planInstrX (intAlgOf I bad) prog xs = .ok regs ∧
      outs.map (fun r => regs[r]?) =
        expected.map (fun t => some (t.map (evalCell (intAlgOf I bad) xs))) :=
  validateArith_sound planInstrX prog outs expected I hI bad xs hlen hv

/-- Non-vacuity of `ArithI`. -/
example : ArithI (fun f args => match f, args with
    | "add", [a, b] => a + b
    | "multiply", [a, b] => a * b
    | _, _ => 0) := by
  intro a b
  exact ⟨rfl, rfl⟩

/-- Non-vacuity: the get_at program of the example above with the sum commuted (`arange + p·2`) and the
multiplier split (`(p·1)·2`) is rejected by the syntactic validator but accepted modulo arithmetic; a wrong
multiplier is still rejected. -/
example :
    let e_t := Denote.Expr.list [.br (.axis "h" 2), .axis "c" 2]
    let e_c := Denote.Expr.axis "p" 2
    let e_out := Denote.Expr.list [.axis "p" 2, .axis "c" 2]
    let prog (m : Int) : List InstrX :=
      [.base (.reshape 0 [4]), .base (.ewise "multiply" [.reg 1, .lit 1]), .base (.ewise "multiply" [.reg 3, .lit m]),
       .base (.reshape 4 [2, 1]), .arange 2, .base (.reshape 6 [1, 2]), .base (.ewise "add" [.reg 7, .reg 5]), .take 2 8]
    (match Denote.denoteGetAt [e_t, e_c] e_out with
      | .ok exp => !validateG planInstrX (prog 2) [[2, 2], [2]] [9] [exp]
          && validateArith planInstrX (prog 2) [[2, 2], [2]] [9] [exp]
          && !validateArith planInstrX (prog 3) [[2, 2], [2]] [9] [exp]
      | .error _ => false) = true := by decide +kernel

/-! ### The fuel of `views` is sufficient -/

/-- Choosing a block of the leftmost top-level concatenation strictly decreases the number of
concatenation nodes (the termination measure of the enumeration of virtual tensors). -/
theorem nconcat_choose_lt (k : Nat) (ds ds' : List Denote.Dim) (h : Denote.Dim.chooseL k ds = some ds') :
    Denote.Dim.nconcatL ds' < Denote.Dim.nconcatL ds :=
  Denote.Dim.nconcatL_chooseL_lt k ds ds' h

/-- **Fuel sufficiency.**  `views` runs `viewsFuel` with fuel = number of concatenation nodes + 1; any
larger amount of fuel gives the same enumeration, … -/
theorem views_fuel_sufficient (e : Denote.Expr) (m : Nat)
    (hm : Denote.Dim.nconcatL (Denote.dims false e) + 1 ≤ m) :
    Denote.viewsFuel m (Denote.dims false e) = Denote.views e :=
  Denote.viewsFuel_stable _ m _ (by omega) hm

/-- … the enumeration satisfies the un-fuelled recursion equation (so it is the depth-first enumeration
of all block choices, not a truncation of it), … -/
theorem views_unfold (ds : List Denote.Dim) :
    Denote.viewsFuel (Denote.Dim.nconcatL ds + 1) ds =
      if Denote.Dim.nconcatL ds == 0 then [ds]
      else (List.range (Denote.Dim.nblocksL ds)).flatMap (fun k =>
        match Denote.Dim.chooseL k ds with
        | some ds' => Denote.viewsFuel (Denote.Dim.nconcatL ds' + 1) ds'
        | none => []) :=
  Denote.viewsFuel_unfold ds

/-- … and every virtual tensor it returns is concatenation-free (the fuel-exhausted case is never reached
with a concatenation left). -/
theorem views_concatFree (e : Denote.Expr) : ∀ v ∈ Denote.views e, Denote.Dim.nconcatL v = 0 :=
  Denote.viewsFuel_concatFree _ _ (by omega)

/-- Non-vacuity: an expression with two nested-free concatenations `(a + b) (c + d)` has four virtual
tensors, all concatenation-free, and ten times the fuel changes nothing. -/
example :
    let e := Denote.Expr.list [.concat [.axis "a" 1, .axis "b" 2], .concat [.axis "c" 1, .axis "d" 1]]
    ((Denote.views e).length == 4 && (Denote.views e).all (fun v => Denote.Dim.nconcatL v == 0)
      && (Denote.viewsFuel 30 (Denote.dims false e)).length == 4) = true := by decide +kernel

end Einx.IR
