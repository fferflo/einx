import EinxModel.Proofs.Update
import EinxModel.Proofs.UpdateLowering
import EinxModel.Extracted.Update
/-!
C14 — indexed updates apply every update exactly once and touch nothing else.

Property theorems only (helper lemmas live in `Proofs/OptionList.lean`, `Proofs/IndexSpace.lean`, `Proofs/Update.lean` and
`Proofs/UpdateLowering.lean`).  `Extracted/Update.lean` is regenerated from `/repo` on every run: the obligations
`extracted_scatter_broadcasts`, `extracted_scatter_primitives` and `ravel_index_correct` are checked against what
`classical_from_numpy.py` and `_ravel` say at the time of the run.
-/
namespace Einx.Update

/-! ### Source obligations -/

/-- Obligation regenerated from the source: every numpy scatter wrapper is registered with
`broadcast=`, so that indices and updates reach the numpy primitive with a common shape. -/
theorem extracted_scatter_broadcasts :
    ∀ op ∈ ["set_at", "add_at", "subtract_at"], Einx.Extracted.broadcasts op = true := by decide +kernel

/-- Obligation regenerated from the source: the wrappers call `numpy.put`, `numpy.add.at`,
`numpy.subtract.at`. -/
theorem extracted_scatter_primitives :
    Einx.Extracted.updateLowering.prim .set = .put ∧ Einx.Extracted.updateLowering.prim .add = .addAt
      ∧ Einx.Extracted.updateLowering.prim .sub = .subAt := by decide +kernel

/-! ### The iteration space -/

/-- The fold of an update ranges over every assignment of the un-bracketed axes exactly once:
`assignments s` has no duplicates, contains exactly the valid multi-indices of `s`, and therefore has
`prod s` entries. -/
theorem assignments_nodup_complete (s : List Nat) :
    (assignments s).Nodup ∧ (∀ σ, σ ∈ assignments s ↔ Valid s σ) ∧ (assignments s).length = prod s :=
  ⟨assignments_nodup s, fun _ => mem_assignments_iff_valid, assignments_length s⟩

/-- … in row-major order: the `k`-th assignment is the multi-index with flat position `k`. -/
theorem assignments_row_major (s σ : List Nat) (h : Valid s σ) : (assignments s)[ravel s σ]? = some σ :=
  assignments_getElem? s σ h

/-- The contributions of an operation are, position by position, the contributions of the
assignments: one per assignment, none invented, none dropped. -/
theorem update_contribs_exactly_once (op : Op) (cs : List (Nat × Int)) (h : op.contribs = some cs) :
    cs.length = prod op.axes ∧
      ∀ (k : Nat) (σ : List Nat), (assignments op.axes)[k]? = some σ → op.contribAt σ = cs[k]? := by
  refine ⟨by rw [mapOpt_length h, assignments_length], ?_⟩
  intro k σ hk
  exact mapOpt_getElem? h k σ hk

/-- The denotation is the fold of exactly those contributions over the target; its shape is the target's. -/
theorem denote_eq_applyUpdates (m : Mode) (op : Op) (t r : List Int) (hd : denote m op t = some r) :
    ∃ cs, op.contribs = some cs ∧ r = applyUpdates m t cs ∧ r.length = t.length := by
  obtain ⟨_, cs, _, hc, _, rfl⟩ := denote_eq_some hd
  exact ⟨cs, hc, rfl, applyUpdates_length m t cs⟩

/-! ### What the fold computes -/

/-- `add_at`: every element ends up as its old value plus the sum of all contributions addressed to it. -/
theorem add_at_sum (t : List Int) (cs : List (Nat × Int)) (k : Nat) :
    (applyUpdates .add t cs)[k]? = t[k]?.map (fun o => o + (addressedTo k cs).sum) := by
  rw [getElem?_applyUpdates]; simp [foldl_add]

/-- `subtract_at`: old value minus the sum of all contributions addressed to the element. -/
theorem subtract_at_sum (t : List Int) (cs : List (Nat × Int)) (k : Nat) :
    (applyUpdates .sub t cs)[k]? = t[k]?.map (fun o => o - (addressedTo k cs).sum) := by
  rw [getElem?_applyUpdates]; simp [foldl_sub]

/-- `add_at` / `subtract_at` do not depend on the order in which the contributions are applied. -/
theorem add_at_order_independent (m : Mode) (hm : m = .add ∨ m = .sub) (t : List Int)
    (cs ds : List (Nat × Int)) (h : cs.Perm ds) : applyUpdates m t cs = applyUpdates m t ds :=
  applyUpdates_perm_add_sub m hm t h

/-- `set_at`: an element to which contributions are addressed holds the value of one of them (the last
in fold order); an element to which none is addressed keeps its value. -/
theorem set_at_one_of (t : List Int) (cs : List (Nat × Int)) (k : Nat) :
    (applyUpdates .set t cs)[k]? = t[k]?.map (fun o => (addressedTo k cs).getLast?.getD o)
    ∧ (k < t.length → addressedTo k cs ≠ [] →
        ∃ c ∈ cs, c.1 = k ∧ (applyUpdates .set t cs)[k]? = some c.2) := by
  have h1 : (applyUpdates .set t cs)[k]? = t[k]?.map (fun o => (addressedTo k cs).getLast?.getD o) := by
    rw [getElem?_applyUpdates]; simp [foldl_set]
  refine ⟨h1, ?_⟩
  intro hk hne
  obtain ⟨v, hv⟩ := Option.isSome_iff_exists.mp (List.getLast?_isSome.mpr hne)
  have hmem : v ∈ addressedTo k cs := List.mem_of_getLast? hv
  simp only [addressedTo, List.mem_map, List.mem_filter, beq_iff_eq] at hmem
  obtain ⟨c, ⟨hc, hck⟩, rfl⟩ := hmem
  refine ⟨c, hc, hck, ?_⟩
  rw [h1, List.getElem?_eq_getElem hk, hv]; rfl

/-- Every element that is not addressed keeps its original value, in every mode; and the shape of
the target never changes. -/
theorem untouched_unchanged (m : Mode) (t : List Int) (cs : List (Nat × Int)) (k : Nat)
    (h : ∀ c ∈ cs, c.1 ≠ k) :
    (applyUpdates m t cs)[k]? = t[k]? ∧ (applyUpdates m t cs).length = t.length := by
  refine ⟨?_, applyUpdates_length m t cs⟩
  rw [getElem?_applyUpdates, addressedTo_eq_writesTo, writesTo_eq_nil h]
  simp

/-- An update value is read at the projection of the assignment onto the update tensor's own axes:
two assignments that agree on those axes receive the same value (an axis the update tensor lacks is
repeated). -/
theorem update_missing_axis_repeats (op : Op) (σ σ' : List Nat)
    (h : ∀ j ∈ op.udims, σ[j]? = σ'[j]?) : op.readUpd σ = op.readUpd σ' :=
  readUpd_congr op h

/-! ### Reading back -/

/-- `get_at` with the same coordinates reads back what `set_at` wrote, when the addresses of the
assignments are pairwise distinct. -/
theorem get_after_set (op : Op) (t r : List Int) (cs : List (Nat × Int))
    (hc : op.contribs = some cs) (hd : (cs.map (·.1)).Nodup) (hr : denote .set op t = some r) :
    getAt op r = some (cs.map (·.2)) := by
  obtain ⟨tshape, cs', hts, hc', hlen, rfl⟩ := denote_eq_some hr
  rw [hc] at hc'
  cases hc'
  apply mapOpt_map_of hc
  intro σ hσ c hσc
  obtain ⟨tidx, hti, hv, hck, -⟩ := contribAt_some hts hσc
  obtain ⟨c', hmem, hc'⟩ := mapOpt_forall_of_some hc σ hσ
  rw [hσc] at hc'
  cases hc'
  have hlt : c.1 < t.length := by rw [hck, hlen.1]; exact ravel_lt hv
  -- the element read is the address of `c`, to which `c` alone is addressed
  simp only [hts, hti, readAt_of_valid _ hv]
  rw [← hck, (set_at_one_of t cs c.1).1, addressedTo_eq_writesTo, writesTo_of_nodup hd hmem, List.getElem?_eq_getElem hlt]
  rfl

/-! ### The lowering -/

/-- The multiplier kernel translated from `_ravel` computes the row-major address: the scaled terms
sum to `ravel shape idx` (for an index of the right rank; in particular for every valid index, for
which the address is also in range). -/
theorem ravel_index_correct (shape idx : List Nat) (h : idx.length = shape.length) :
    (Einx.Extracted.ravelKernel idx shape).sum = ravel shape idx := by
  simp only [Einx.Extracted.ravelKernel, List.foldl_reverse]
  -- the fold carries the terms so far and the product of the lengths to the right
  suffices H : ∀ (idx shape : List Nat), idx.length = shape.length →
      ∃ terms, List.foldr (fun (it : Nat × Nat) (st : List Nat × Nat) =>
          ((if (st.2 != 1) = true then it.1 * st.2 else it.1) :: st.1, st.2 * it.2)) ([], 1) (idx.zip shape)
        = (terms, prod shape) ∧ terms.sum = ravel shape idx by
    obtain ⟨terms, h1, h2⟩ := H idx shape h
    rw [h1]
    exact h2
  intro idx
  induction idx with
  | nil =>
    intro shape hs
    cases shape with
    | nil => exact ⟨[], rfl, rfl⟩
    | cons _ _ => cases hs
  | cons i is ih =>
    intro shape hs
    cases shape with
    | nil => cases hs
    | cons s ss =>
      obtain ⟨terms, h1, h2⟩ := ih ss (Nat.succ.inj hs)
      rw [List.zip_cons_cons, List.foldr_cons, h1]
      refine ⟨_, congrArg _ (Nat.mul_comm _ _), ?_⟩
      rw [List.sum_cons, h2, ravel]
      split
      · rfl
      · rename_i hne
        have : prod ss = 1 := by simpa using hne
        rw [this, Nat.mul_one]

/-- For a valid index the kernel's address is inside the flattened target (so `numpy.put` / `ufunc.at`
do not raise and address the element the coordinates name). -/
theorem ravel_index_in_range (shape idx : List Nat) (h : Valid shape idx) :
    (Einx.Extracted.ravelKernel idx shape).sum = ravel shape idx ∧ ravel shape idx < prod shape :=
  ⟨ravel_index_correct shape idx (valid_length h), ravel_lt h⟩

/-- With indices and updates of a common shape (equal lengths after flattening) and in-range
indices, the numpy primitives realise the fold of the denotation. -/
theorem scatter_lowering_sound (t : List Int) (shape : List Nat) (idx : List Nat) (vals : List Int)
    (hi : idx.length = prod shape) (hv : vals.length = prod shape) (hr : ∀ i ∈ idx, i < t.length) :
    npPut t idx vals = some (applyUpdates .set t (idx.zip vals))
    ∧ npAddAt t shape idx shape vals = some (applyUpdates .add t (idx.zip vals))
    ∧ npSubtractAt t shape idx shape vals = some (applyUpdates .sub t (idx.zip vals)) := by
  have hrange : ∀ c ∈ idx.zip vals, c.1 < t.length := fun c hc => hr c.1 (List.of_mem_zip hc).1
  exact ⟨npPut_zip t idx vals (hi.trans hv.symm) hrange, npUfuncAt_self .add t shape idx vals hi hv hrange,
    npUfuncAt_self .sub t shape idx vals hi hv hrange⟩

/-- **The lowering computes the denotation.**  For any lowering whose index kernel is the row-major
formula, whose wrapper broadcasts indices and updates to a common shape and which calls the numpy
primitive of the mode: whenever the denotation of an update is defined (coordinates in range, shapes
consistent) and every un-bracketed axis occurs in some operand, ravelling, re-arranging, broadcasting
and `numpy.put` / `numpy.add.at` / `numpy.subtract.at` on the flattened target produce exactly it. -/
theorem update_lowering_sound (L : Lowering) (m : Mode) (op : Op) (t r : List Int)
    (hk : ∀ shape idx : List Nat, idx.length = shape.length → (L.kernel idx shape).sum = ravel shape idx)
    (hb : L.broadcasts m = true) (hp : L.prim m = m.prim) (hc : op.covered)
    (hd : denote m op t = some r) : lower L m op t = some r :=
  lowering_sound L m op t r (fun shape idx h => hk shape idx (valid_length h)) hb hp hc hd

/-- … and the lowering that the source tree defines (`Extracted.updateLowering`: translated `_ravel`
kernel, extracted registration flags and primitives) is such a lowering, for all three operations. -/
theorem extracted_lowering_sound (m : Mode) (op : Op) (t r : List Int) (hc : op.covered)
    (hd : denote m op t = some r) : lower Einx.Extracted.updateLowering m op t = some r := by
  apply update_lowering_sound _ m op t r ravel_index_correct _ _ hc hd
  · cases m
    · exact extracted_scatter_broadcasts "set_at" (.head _)
    · exact extracted_scatter_broadcasts "add_at" (.tail _ (.head _))
    · exact extracted_scatter_broadcasts "subtract_at" (.tail _ (.tail _ (.head _)))
  · obtain ⟨h1, h2, h3⟩ := extracted_scatter_primitives
    cases m
    · exact h1
    · exact h2
    · exact h3

/-- The shortcut of `op_with_zerosized_args` is the denotation: when an un-bracketed axis has length 0
there is no assignment, so an update (if it means anything) leaves the target as it is — which is what
`lowerCall` returns when a coordinate or update tensor is zero-sized. -/
theorem zero_sized_update_is_identity (L : Lowering) (m : Mode) (op : Op) (t r : List Int) (h : 0 ∈ op.axes)
    (hd : denote m op t = some r) :
    r = t ∧ (op.zeroSized = true → lowerCall L m op t = some r) ∧
      (op.zeroSized = false → lowerCall L m op t = lower L m op t) := by
  have hr : r = t := by
    obtain ⟨_, cs, _, hc, _, rfl⟩ := denote_eq_some hd
    rw [Op.contribs, assignments_of_zero _ h] at hc
    cases hc
    rfl
  refine ⟨hr, ?_, ?_⟩
  · intro hz; simp [lowerCall, hz, hr]
  · intro hz; simp [lowerCall, hz]

/-! ### Why the registration flag matters -/

/-- `numpy.put` repeats a short value array *cyclically over the flattened indices*; that is not
repetition along the missing axis.  Witness (the input of D12): target `a [h]` = zeros(2,5),
coordinates `a p` = [[0,1,2],[3,4,0]], updates `a` = [10,20].  Without `broadcast=` the lowering writes
10,20,10 into row 0, the denotation 10,10,10. -/
theorem put_cycles_counterexample :
    let op : Op := { axes := [2, 3], tdims := [.vec 0, .idx 5],
                     coords := [{ dims := [.ax 0, .ax 1], data := [0, 1, 2, 3, 4, 0] }],
                     udims := [0], udata := [10, 20] }
    let L (b : Bool) : Lowering := { kernel := fun i s => [ravel s i], broadcasts := fun _ => b, prim := fun _ => .put }
    lower (L false) .set op (List.replicate 10 0) = some [10, 20, 10, 0, 0, 20, 0, 0, 20, 10]
    ∧ denote .set op (List.replicate 10 0) = some [10, 10, 10, 0, 0, 20, 0, 0, 20, 20]
    ∧ lower (L true) .set op (List.replicate 10 0) = denote .set op (List.replicate 10 0) := by
  decide +kernel

/-! ### Non-vacuity -/

/-- The hypotheses of `get_after_set` are met by a non-trivial instance (two bracketed target axes,
a vectorised axis, a coordinate tensor `p [2]`), and its conclusion is what one expects. -/
example :
    let op : Op := { axes := [2, 2], tdims := [.idx 2, .vec 0, .idx 3],
                     coords := [{ dims := [.ax 1, .br 2], data := [0, 1, 1, 2] }],
                     udims := [1, 0], udata := [7, 8, 9, 10] }
    op.contribs = some [(1, 7), (8, 9), (4, 8), (11, 10)]
    ∧ ((([(1, 7), (8, 9), (4, 8), (11, 10)] : List (Nat × Int)).map (·.1)).Nodup)
    ∧ denote .set op (List.replicate 12 0) = some [0, 7, 0, 0, 8, 0, 0, 0, 9, 0, 0, 10]
    ∧ getAt op [0, 7, 0, 0, 8, 0, 0, 0, 9, 0, 0, 10] = some [7, 9, 8, 10] := by
  decide +kernel

/-- `extracted_lowering_sound` is not vacuous: a covered operation with a defined denotation (duplicate
addresses, update lacking the axis `p`, coordinate axis first). -/
example :
    let op : Op := { axes := [2, 3], tdims := [.idx 2, .vec 0, .idx 2],
                     coords := [{ dims := [.br 2, .ax 1], data := [0, 1, 1, 1, 1, 1] }],
                     udims := [0], udata := [5, 7] }
    op.covered ∧ denote .add op (List.replicate 8 0) = some [0, 5, 0, 7, 0, 10, 0, 14] := by
  refine ⟨⟨by decide, ?_⟩, by decide +kernel⟩
  intro j hj
  have : j = 0 ∨ j = 1 := by simp at hj; omega
  rcases this with rfl | rfl <;> decide

/-- Duplicate addresses: `add` accumulates, `set` keeps the last. -/
example : applyUpdates .add [0, 0, 0] [(1, 5), (1, 7), (2, 1)] = [0, 12, 1]
    ∧ applyUpdates .set [0, 0, 0] [(1, 5), (1, 7), (2, 1)] = [0, 7, 1]
    ∧ addressedTo 1 [(1, 5), (1, 7), (2, 1)] = [5, 7] := by decide +kernel

/-- The extracted kernel on a concrete index. -/
example : Einx.Extracted.ravelKernel [1, 2, 3] [2, 3, 4] = [12, 8, 3] ∧ ravel [2, 3, 4] [1, 2, 3] = 23 := by decide +kernel

end Einx.Update
