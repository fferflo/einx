import EinxModel.Props.C08
import EinxModel.Proofs.DenoteDefined
import EinxModel.Proofs.DenoteReducePerm
import EinxModel.Proofs.DenoteDotPerm
import EinxModel.Proofs.DenoteConcat
/-!
C08 (continued): definedness under output permutation, the order on cells, reductions, dot, concatenations.

* definedness of the output-permuted operation: `denote_permute_output_defined`,
  `denote_permute_output_tensor_full`, `denote_permute_output_expr_full`, `denoteId_permute_output_full`
* `Cell.cmp` is a linear order, `sortCells` / `mkRed` are normal forms of the multiset of cells:
  `cell_cmp_linear_order`, `sortCells_multiset_normal_form`, `mkRed_multiset`; `denote_reduce_bracket_order`
* reductions (executable loop form `Denote.denoteReduce`): tie `denoteReduce_fun_agree`; input permutation
  `denote_reduce_permute_input` (+ `_sem`: every interpretation with permutation-invariant reductions), output
  permutation incl. definedness `denote_reduce_permute_output`, parentheses `denote_reduce_regroup_input/_output`;
  `denoteId_regroup_input/_output` (the regrouping laws of `C08` on expressions, loop form)
* dot (executable loop form `Denote.denoteDot`): tie `denoteDot_fun_agree`; output permutation incl. definedness
  `denote_dot_permute_output`; parentheses on the output `denote_dot_regroup_output`
* elementwise (loop form `Denote.denoteElementwise`): output permutation incl. definedness
  `denote_elementwise_permute_output`
* concatenations: `denoteId_fun_agree_general` (loop form = functional form `Denote.denoteIdFunG` for *all* solved
  expressions), `denoteId_rename_general` (consistent renaming, concatenations included)
-/
namespace Einx.C08b
open Einx Einx.IR Einx.Denote Einx.C08
open Einx.Order.Fresh (InjOn)

/-! ### The output-permuted operation is defined whenever the original one is -/

/-- **Definedness under output permutation.**  If the `id` denotation towards the concatenation-free output view `w`
(leaf sizes consistent per name, decidable) is defined, then it is defined towards every permutation `w'` of the root
dimensions of `w`: every assignment of the permuted iteration space has an entry and every position of the permuted
output is written. -/
theorem denote_permute_output_defined (vi : List Dim) (si : List Nat) (i : Nat) (w w' : List Dim) (perm : List Nat)
    (cs : List Cell)
    (hperm : isPermOf perm w.length = true) (hw' : permuteL perm w = some w')
    (hc : Dim.concatFreeL w = true) (hcons : consistentB (Dim.leavesL w) = true)
    (h : idCells vi si i w (viewShape w) = some cs) :
    ∃ cs', idCells vi si i w' (viewShape w') = some cs' := by
  rw [idCells_eq_genCells] at h ⊢
  exact genCells_permute_output_defined (idX_getInvariant vi si i) hperm hw' hc (consistentB_spec hcons) h

/-- **Permuting the output expression transposes the result: whole-tensor law, from definedness of the original
operation alone.**  `C08.denote_permute_output_tensor` without its second definedness hypothesis: the permuted
operation is defined, and its result is the IR's transpose plan run on the original result. -/
theorem denote_permute_output_tensor_full (vi : List Dim) (si : List Nat) (i : Nat) (w w' : List Dim) (perm : List Nat)
    (cs : List Cell)
    (hperm : isPermOf perm w.length = true) (hw' : permuteL perm w = some w')
    (hc : Dim.concatFreeL w = true) (hcons : consistentB (Dim.leavesL w) = true)
    (h : idCells vi si i w (viewShape w) = some cs) :
    ∃ cs', idCells vi si i w' (viewShape w') = some cs' ∧
      ∃ plan, planInstr [viewShape w] (.transpose 0 perm) = .ok plan ∧
        runPlan symAlg [⟨viewShape w, cs⟩] plan = ⟨viewShape w', cs'⟩ :=
  idCells_permute_output_full hperm hw' hc (consistentB_spec hcons) h

/-- **The same on expressions (`denoteIdFun`).**  If `e -> eo` is defined with result `T`, and the root dimensions
of the concatenation-free `eo'` are those of `eo` permuted by `perm`, then `e -> eo'` is defined and its result is
numpy's transpose (the IR's plan) of `T`. -/
theorem denote_permute_output_expr_full (e eo eo' : Expr) (perm : List Nat) (T : Tensor Cell)
    (heo' : eo'.concatFree = true)
    (hperm : isPermOf perm (rootDims eo).length = true) (hp : permuteL perm (rootDims eo) = some (rootDims eo'))
    (hcons : consistentB (Dim.leavesL (rootDims eo)) = true)
    (h : denoteIdFun [e] [eo] = .ok [T]) :
    ∃ T', denoteIdFun [e] [eo'] = .ok [T'] ∧
      ∃ plan, planInstr [shapeOf eo] (.transpose 0 perm) = .ok plan ∧ runPlan symAlg [T] plan = T' := by
  obtain ⟨he, hc, cs, hcs, ht⟩ := denoteIdFun_single h
  obtain ⟨cs', hcs'⟩ := denote_permute_output_defined _ _ _ _ _ perm cs hperm hp (rootDims_concatFree hc) hcons hcs
  have h' : denoteIdFun [e] [eo'] = .ok [⟨shapeOf eo', cs'⟩] := by
    rw [denoteIdFun_single_eq e eo' he heo']
    have : idCells (rootDims e) (shapeOf e) 0 (rootDims eo') (shapeOf eo') = some cs' := hcs'
    rw [this]
  exact ⟨_, h', denote_permute_output_expr e eo eo' perm T _ hperm hp hcons h h'⟩

/-- **Output permutation law for the executable loop form `Denote.denoteId`, from definedness of the original
operation alone.** -/
theorem denoteId_permute_output_full (e eo eo' : Expr) (perm : List Nat) (T : Tensor Cell)
    (he : e.concatFree = true) (heo : eo.concatFree = true) (heo' : eo'.concatFree = true)
    (hperm : isPermOf perm (rootDims eo).length = true) (hp : permuteL perm (rootDims eo) = some (rootDims eo'))
    (hcons : consistentB (Dim.leavesL (rootDims eo)) = true)
    (h : okOpt (denoteId [e] [eo]) = some [T]) :
    ∃ T', okOpt (denoteId [e] [eo']) = some [T'] ∧
      ∃ plan, planInstr [shapeOf eo] (.transpose 0 perm) = .ok plan ∧ runPlan symAlg [T] plan = T' := by
  rw [denoteId_fun_agree e eo he heo] at h
  obtain ⟨T', h', hplan⟩ := denote_permute_output_expr_full e eo eo' perm T heo' hperm hp hcons (ok_of_okOpt h)
  refine ⟨T', ?_, hplan⟩
  rw [denoteId_fun_agree e eo' he heo', h']
  rfl

/-- Non-vacuity: `a (b c) d -> (d a) c b` with sizes 2, (2·1), 3 is defined; the output permuted by `[2, 0, 1]` is
`b (d a) c`.  All hypotheses of `denoteId_permute_output_full` hold, and the conclusion's tensor is the genuine
transposed result (it differs from the original one). -/
example :
    let a := Expr.axis "a" 2; let b := Expr.axis "b" 2; let c := Expr.axis "c" 1; let d := Expr.axis "d" 3
    let e := Expr.list [a, .flat (.list [b, c]), d]
    let eo := Expr.list [.flat (.list [d, a]), c, b]; let eo' := Expr.list [b, .flat (.list [d, a]), c]
    e.concatFree = true ∧ eo.concatFree = true ∧ eo'.concatFree = true ∧
    isPermOf [2, 0, 1] (rootDims eo).length = true ∧
    (permuteL [2, 0, 1] (rootDims eo)).map viewShape = some (viewShape (rootDims eo')) ∧
    consistentB (Dim.leavesL (rootDims eo)) = true ∧
    (match okOpt (denoteId [e] [eo]), okOpt (denoteId [e] [eo']) with
      | some [t], some [t'] => t.shape == [6, 1, 2] && t'.shape == [2, 6, 1] && !Cell.beqL t.data t'.data
      | _, _ => false) = true := by
  decide +kernel

example :
    let a := Expr.axis "a" 2; let b := Expr.axis "b" 2; let c := Expr.axis "c" 1; let d := Expr.axis "d" 3
    let e := Expr.list [a, .flat (.list [b, c]), d]
    let eo := Expr.list [.flat (.list [d, a]), c, b]; let eo' := Expr.list [b, .flat (.list [d, a]), c]
    ∀ T, okOpt (denoteId [e] [eo]) = some [T] →
      ∃ T', okOpt (denoteId [e] [eo']) = some [T'] ∧
        ∃ plan, planInstr [shapeOf eo] (.transpose 0 [2, 0, 1]) = .ok plan ∧ runPlan symAlg [T] plan = T' :=
  fun T h => denoteId_permute_output_full _ _ _ [2, 0, 1] T (by decide +kernel) (by decide +kernel) (by decide +kernel)
    (by decide +kernel) rfl (by decide +kernel) h

/-! ### `sortCells` is a normal form of the multiset of cells -/

/-- **`Cell.cmp` is a linear order on cells**: oriented, `eq` only on equal cells, and transitive (on `≤` = "not
`gt`").  Proved by mutual structural induction over cells and argument lists (`Proofs/CellOrder.lean`). -/
theorem cell_cmp_linear_order :
    (∀ a b : Cell, Cell.cmp b a = (Cell.cmp a b).swap) ∧ (∀ a b : Cell, Cell.cmp a b = .eq → a = b) ∧
    (∀ a b c : Cell, Cell.cmp a b ≠ .gt → Cell.cmp b c ≠ .gt → Cell.cmp a c ≠ .gt) :=
  ⟨Cell.cmp_swap, Cell.cmp_eq, fun _ _ _ h1 h2 => Cell.le_trans h1 h2⟩

/-- **`sortCells` depends on the multiset of cells only**, and returns a permutation of its argument. -/
theorem sortCells_multiset_normal_form (l1 l2 : List Cell) (h : l1.Perm l2) :
    sortCells l1 = sortCells l2 ∧ (sortCells l1).Perm l1 :=
  ⟨sortCells_perm h, sortCells_perm_self l1⟩

/-- **The canonical reduction cell depends on the multiset of the reduced cells only.** -/
theorem mkRed_multiset (f : String) (l1 l2 : List Cell) (h : l1.Perm l2) : mkRed f l1 = mkRed f l2 :=
  mkRed_perm f h

/-- Non-vacuity: two different orders of four distinct cells (sources, a literal, an application). -/
example :
    let l1 := [Cell.src 0 3, .app "f" [.src 1 0], .lit 2, .src 0 1]
    let l2 := [Cell.lit 2, .src 0 1, .src 0 3, .app "f" [.src 1 0]]
    l1.Perm l2 ∧ !Cell.beqL l1 l2 ∧ Cell.beqL (sortCells l1) (sortCells l2) ∧
      Cell.beq (mkRed "sum" l1) (mkRed "sum" l2) := by
  exact ⟨List.perm_append_comm (l₁ := [Cell.src 0 3, .app "f" [.src 1 0]]) (l₂ := [Cell.lit 2, .src 0 1]),
    by decide +kernel, by decide +kernel, by decide +kernel⟩

/-! ### Reductions: the functional form is the loop form -/

/-- **Tie to `Denote/Expr2.lean`.**  For concatenation-free expressions the executable loop form
`Denote.denoteReduce` (the one the C01 validator uses and the driver runs) and the functional form
`Denote.denoteReduceFun` (`Denote/Fun2.lean`) succeed on the same operations with the same symbolic tensor. -/
theorem denoteReduce_fun_agree (f : String) (e eo : Expr) (he : e.concatFree = true) (heo : eo.concatFree = true) :
    okOpt (denoteReduce f e eo) = okOpt (denoteReduceFun f e eo) :=
  denoteReduce_eq_fun f e eo he heo

/-- The reduction as the contraction of its one operand. -/
theorem okOpt_denoteReduce_con (f : String) (e eo : Expr) (he : e.concatFree = true) (heo : eo.concatFree = true) :
    okOpt (denoteReduce f e eo)
      = (genCells (conX f (fun σ _ => σ) [(rootDims e, viewShape (rootDims e))]) (rootDims eo) (shapeOf eo)).map
          (fun cs => (⟨shapeOf eo, cs⟩ : Tensor Cell)) := by
  rw [denoteReduce_cells f e eo he heo, redX_eq_conX]
  rfl

/-- Substitute the tensors `ts` into a symbolic result and sort the arguments of every reduction cell again. -/
def substResort (ts : List (Tensor Cell)) (t : Tensor Cell) : Tensor Cell :=
  t.map (fun c => Cell.resort (subst ts c))

/-- **Reordering the root dimensions of the input expression of a reduction -- bracketed or un-bracketed -- while
transposing the tensor the same way leaves the result unchanged.**  `e'` has the root dimensions of `e` permuted by
`perm`; the tensor is transposed by numpy (`planInstr [shapeOf e] (.transpose 0 perm)`).  The symbolic result of
`e' -> eo`, with the transposed tensor substituted and the reduction cells re-canonicalised (`substResort`), *equals*
the symbolic result of `e -> eo`; one fails iff the other does.  Hypotheses (decidable): concatenation-free; leaf sizes
consistent per name across input and output; no axis name both bracketed and un-bracketed in the input. -/
theorem denote_reduce_permute_input (f : String) (e e' eo : Expr) (perm : List Nat)
    (he : e.concatFree = true) (he' : e'.concatFree = true) (heo : eo.concatFree = true)
    (hperm : isPermOf perm (rootDims e).length = true) (hp : permuteL perm (rootDims e) = some (rootDims e'))
    (hcons : consistentB (Dim.leavesL (rootDims e) ++ Dim.leavesL (rootDims eo)) = true)
    (hms : markSepB (Dim.leavesL (rootDims e)) = true) :
    ∃ plan, planInstr [shapeOf e] (.transpose 0 perm) = .ok plan ∧ plan.shape = shapeOf e' ∧
      (okOpt (denoteReduce f e' eo)).map (substResort [⟨plan.shape, plan.cells⟩]) = okOpt (denoteReduce f e eo) := by
  obtain ⟨plan, hplan, hs, _⟩ := transpose_plan_view (shapes := [shapeOf e]) (x := 0) hperm hp rfl
  refine ⟨plan, hplan, hs, ?_⟩
  -- `Cell.resort` sorts `red:f` and fixes an input element
  have hcore := conCells_permute_input baseOK_left (f := f) (sw := shapeOf eo)
    (ins := [(rootDims e, viewShape (rootDims e))]) (j := 0) (fun _ => rfl) (fun _ _ _ h => conTerm_single_src h) rfl
    (dotOK_single (rootDims_concatFree he) (consistentB_spec hcons) (markSepB_spec hms)) hperm hp hplan
  rw [okOpt_denoteReduce_con f e' eo he' heo, okOpt_denoteReduce_con f e eo he heo, ← hcore, Option.map_map,
    Option.map_map]
  rfl

/-- **Reordering the bracketed axes of a reduction** (`denote_reduce_bracket_order`).  For every assignment `σ` of
the output axes, the list of input elements reduced into the output element of `σ` by the permuted operation (read
from the transposed tensor) is a *permutation* of the list reduced by the original operation -- the cells are visited
in another order -- and therefore the canonical reduction cells coincide (`mkRed` sorts by the linear order
`Cell.cmp`).  Holds for every permutation of the root dimensions, in particular for those that only reorder
bracketed axes. -/
theorem denote_reduce_bracket_order (f : String) (v v' w : List Dim) (perm : List Nat) (plan : Plan) (σ : Assign)
    (hperm : isPermOf perm v.length = true) (hv' : permuteL perm v = some v')
    (hc : Dim.concatFreeL v = true) (hcons : consistentB (Dim.leavesL v ++ Dim.leavesL w) = true)
    (hms : markSepB (Dim.leavesL v) = true) (hplan : planInstr [viewShape v] (.transpose 0 perm) = .ok plan)
    (hσ : σ ∈ outAssignments w) :
    (redArgs v' (viewShape v') σ = none ∧ redArgs v (viewShape v) σ = none) ∨
      ∃ r' r, redArgs v' (viewShape v') σ = some r' ∧ redArgs v (viewShape v) σ = some r ∧
        (r'.map (subst [⟨plan.shape, plan.cells⟩])).Perm r ∧
        mkRed f (r'.map (subst [⟨plan.shape, plan.cells⟩])) = mkRed f r := by
  rw [redArgs_eq_conArgs, redArgs_eq_conArgs]
  rcases conArgs_permute_input baseOK_left (ins := [(v, viewShape v)]) (j := 0) rfl
      (dotOK_single hc (consistentB_spec hcons) (markSepB_spec hms)) hperm hv' hplan hσ with
    h | ⟨r', r, h1, h2, hp⟩
  · exact Or.inl h
  · exact Or.inr ⟨r', r, h1, h2, hp, mkRed_perm f hp⟩

/-- **The same, semantically.**  For every element algebra `A` whose reduction symbols are invariant under
permutations of their arguments (`RedInvariant`; e.g. integer `sum`, `max`) and every concrete input tensor `x`: the
permuted reduction evaluated on numpy's transpose of `x` returns the same values as the original reduction on `x`. -/
theorem denote_reduce_permute_input_sem {α : Type} (A : Alg α) (hA : RedInvariant A) (x : Tensor α)
    (f : String) (e e' eo : Expr) (perm : List Nat)
    (he : e.concatFree = true) (he' : e'.concatFree = true) (heo : eo.concatFree = true)
    (hperm : isPermOf perm (rootDims e).length = true) (hp : permuteL perm (rootDims e) = some (rootDims e'))
    (hcons : consistentB (Dim.leavesL (rootDims e) ++ Dim.leavesL (rootDims eo)) = true)
    (hms : markSepB (Dim.leavesL (rootDims e)) = true) :
    ∃ plan, planInstr [shapeOf e] (.transpose 0 perm) = .ok plan ∧
      (okOpt (denoteReduce f e' eo)).map (fun t => t.data.map (evalCell A [runPlan A [x] plan]))
        = (okOpt (denoteReduce f e eo)).map (fun t => t.data.map (evalCell A [x])) := by
  obtain ⟨plan, hplan, _⟩ := transpose_plan_view (shapes := [shapeOf e]) (x := 0) hperm hp rfl
  refine ⟨plan, hplan, ?_⟩
  have hreg : [runPlan A [x] plan] = [(⟨plan.shape, plan.cells⟩ : Tensor Cell)].map (Tensor.map (evalCell A [x])) := by
    simp [runPlan, Tensor.map, evalCells_eq_map]
  rw [okOpt_denoteReduce_con f e' eo he' heo, okOpt_denoteReduce_con f e eo he heo, Option.map_map, Option.map_map, hreg]
  exact conCells_permute_input_sem baseOK_left hA [x] (ins := [(rootDims e, viewShape (rootDims e))]) (j := 0) rfl
    (dotOK_single (rootDims_concatFree he) (consistentB_spec hcons) (markSepB_spec hms)) hperm hp hplan

/-- Integer interpretation with `red:sum` = sum of the arguments (every other symbol: 0). -/
def sumAlg : Alg Int := { lit := id, bad := 0, app := fun g xs => if g = "red:sum" then xs.sum else 0 }

theorem sumAlg_redInvariant : RedInvariant sumAlg := by
  intro g xs ys h
  simp only [sumAlg]
  split
  · exact h.sum_eq
  · rfl

/-- Non-vacuity of the input laws: `sum: a [b c] d -> d a` with a = b = c = 2, d = 1 (equal lengths on different axes,
a length-1 axis), the input permuted by `[3, 2, 0, 1]` to `d [c] a [b]` (bracketed axes reordered *and* moved).  All
hypotheses hold; the permuted operation yields different cells; after substituting the transposed tensor and
re-canonicalising they are the original cells, which are genuine four-element reductions. -/
example :
    let a := Expr.axis "a" 2; let b := Expr.axis "b" 2; let c := Expr.axis "c" 2; let d := Expr.axis "d" 1
    let e := Expr.list [a, .br (.list [b, c]), d]; let e' := Expr.list [d, .br c, a, .br b]
    let eo := Expr.list [d, a]
    e.concatFree = true ∧ e'.concatFree = true ∧ eo.concatFree = true ∧
    isPermOf [3, 2, 0, 1] (rootDims e).length = true ∧
    (permuteL [3, 2, 0, 1] (rootDims e)).map viewShape = some (viewShape (rootDims e')) ∧
    consistentB (Dim.leavesL (rootDims e) ++ Dim.leavesL (rootDims eo)) = true ∧
    markSepB (Dim.leavesL (rootDims e)) = true ∧
    (match planInstr [shapeOf e] (.transpose 0 [3, 2, 0, 1]), okOpt (denoteReduce "sum" e' eo),
        okOpt (denoteReduce "sum" e eo) with
      | .ok plan, some t', some t =>
        Tensor.beq (substResort [⟨plan.shape, plan.cells⟩] t') t && !Tensor.beq t' t &&
          !Tensor.beq (t'.map (subst [⟨plan.shape, plan.cells⟩])) t &&
          Cell.beqL t.data [.app "red:sum" [.src 0 0, .src 0 1, .src 0 2, .src 0 3],
            .app "red:sum" [.src 0 4, .src 0 5, .src 0 6, .src 0 7]]
      | _, _, _ => false) = true := by
  decide +kernel

example :
    let a := Expr.axis "a" 2; let b := Expr.axis "b" 2; let c := Expr.axis "c" 2; let d := Expr.axis "d" 1
    let e := Expr.list [a, .br (.list [b, c]), d]; let e' := Expr.list [d, .br c, a, .br b]
    let eo := Expr.list [d, a]
    ∃ plan, planInstr [shapeOf e] (.transpose 0 [3, 2, 0, 1]) = .ok plan ∧ plan.shape = shapeOf e' ∧
      (okOpt (denoteReduce "sum" e' eo)).map (substResort [⟨plan.shape, plan.cells⟩]) = okOpt (denoteReduce "sum" e eo) :=
  denote_reduce_permute_input "sum" _ _ _ [3, 2, 0, 1] (by decide +kernel) (by decide +kernel) (by decide +kernel)
    (by decide +kernel) rfl (by decide +kernel) (by decide +kernel)

/-- Non-vacuity of the semantic law: `sumAlg` is permutation invariant, and on the input `0..7` the two reductions
return `[6, 22]`. -/
example :
    let a := Expr.axis "a" 2; let b := Expr.axis "b" 2; let c := Expr.axis "c" 2; let d := Expr.axis "d" 1
    let e := Expr.list [a, .br (.list [b, c]), d]; let e' := Expr.list [d, .br c, a, .br b]
    let eo := Expr.list [d, a]
    let x : Tensor Int := ⟨[2, 2, 2, 1], [0, 1, 2, 3, 4, 5, 6, 7]⟩
    RedInvariant sumAlg ∧
    (match planInstr [shapeOf e] (.transpose 0 [3, 2, 0, 1]), okOpt (denoteReduce "sum" e' eo),
        okOpt (denoteReduce "sum" e eo) with
      | .ok plan, some t', some t =>
        t'.data.map (evalCell sumAlg [runPlan sumAlg [x] plan]) == [6, 22] &&
          t.data.map (evalCell sumAlg [x]) == [6, 22] && (runPlan sumAlg [x] plan).data == [0, 2, 4, 6, 1, 3, 5, 7]
      | _, _, _ => false) = true :=
  ⟨sumAlg_redInvariant, by decide +kernel⟩

/-! ### Reductions: permuting the output expression -/

/-- **Reordering the axes of the output expression of a reduction permutes the result's dimensions accordingly**,
including definedness: if `e -> eo` is defined with result `T`, and the root dimensions of the concatenation-free
`eo'` are those of `eo` permuted by `perm`, then `e -> eo'` is defined and its result is the IR's plan of numpy's
`transpose(T, perm)` run on `T`. -/
theorem denote_reduce_permute_output (f : String) (e eo eo' : Expr) (perm : List Nat) (T : Tensor Cell)
    (he : e.concatFree = true) (heo : eo.concatFree = true) (heo' : eo'.concatFree = true)
    (hperm : isPermOf perm (rootDims eo).length = true) (hp : permuteL perm (rootDims eo) = some (rootDims eo'))
    (hcons : consistentB (Dim.leavesL (rootDims eo)) = true)
    (h : okOpt (denoteReduce f e eo) = some T) :
    ∃ T', okOpt (denoteReduce f e eo') = some T' ∧
      ∃ plan, planInstr [shapeOf eo] (.transpose 0 perm) = .ok plan ∧ runPlan symAlg [T] plan = T' := by
  rw [denoteReduce_cells f e eo he heo] at h
  rw [denoteReduce_cells f e eo' he heo']
  exact genTensor_permute_output (redX_getInvariant f (rootDims e) (shapeOf e)) hperm hp (rootDims_concatFree heo)
    (consistentB_spec hcons) h

/-- Non-vacuity: `sum: a [b c] d -> d a` (sizes 2, 2, 2, 1) towards the permuted output `a d`: hypotheses hold and the
two results differ in shape. -/
example :
    let a := Expr.axis "a" 2; let b := Expr.axis "b" 2; let c := Expr.axis "c" 2; let d := Expr.axis "d" 1
    let e := Expr.list [a, .br (.list [b, c]), d]; let eo := Expr.list [d, a]; let eo' := Expr.list [a, d]
    ∀ T, okOpt (denoteReduce "sum" e eo) = some T →
      ∃ T', okOpt (denoteReduce "sum" e eo') = some T' ∧
        ∃ plan, planInstr [shapeOf eo] (.transpose 0 [1, 0]) = .ok plan ∧ runPlan symAlg [T] plan = T' :=
  fun T h => denote_reduce_permute_output "sum" _ _ _ [1, 0] T (by decide +kernel) (by decide +kernel)
    (by decide +kernel) (by decide +kernel) rfl (by decide +kernel) h

example :
    let a := Expr.axis "a" 2; let b := Expr.axis "b" 2; let c := Expr.axis "c" 2; let d := Expr.axis "d" 1
    let e := Expr.list [a, .br (.list [b, c]), d]; let eo := Expr.list [d, a]; let eo' := Expr.list [a, d]
    (match okOpt (denoteReduce "sum" e eo), okOpt (denoteReduce "sum" e eo') with
      | some t, some t' => t.shape == [1, 2] && t'.shape == [2, 1] && Cell.beqL t.data t'.data
      | _, _ => false) = true := by
  decide +kernel

/-! ### Parentheses on expressions: grouping adjacent axes of an expression and reshaping the tensor -/

/-- The expression `pre (mid) post`: the adjacent root expressions `mid` wrapped in parentheses. -/
def grouped (pre mid post : List Expr) : Expr := .list (pre ++ [.flat (.list mid)] ++ post)
/-- The expression `pre mid post`. -/
def ungrouped (pre mid post : List Expr) : Expr := .list (pre ++ mid ++ post)

theorem rootDims_grouped (pre mid post : List Expr) :
    rootDims (grouped pre mid post) = dimsL false pre ++ [Dim.flat (dimsL false mid)] ++ dimsL false post := by
  simp [grouped, rootDims, dims, dimsL_append, dimsL]

theorem rootDims_ungrouped (pre mid post : List Expr) :
    rootDims (ungrouped pre mid post) = dimsL false pre ++ dimsL false mid ++ dimsL false post := by
  simp [ungrouped, rootDims, dims, dimsL_append]

/-- The flat sizes of `pre (mid) post` and `pre mid post` agree: the reshape between them is legal. -/
theorem prod_shapeOf_grouped (pre mid post : List Expr) :
    prod (shapeOf (grouped pre mid post)) = prod (shapeOf (ungrouped pre mid post)) := by
  rw [shapeOf_eq, shapeOf_eq, rootDims_grouped, rootDims_ungrouped]
  exact prod_viewShape_regroup _ _ _

/-- **Grouping axes of the input expression of a reduction with parentheses (and reshaping the tensor) leaves the
result unchanged.**  The reshape `pre mid post → pre (mid) post` keeps the row-major order of the elements, so the
symbolic results -- over the flat input positions -- are *equal*; `mid` may contain bracketed axes (`a [b c]` vs
`a ([b c])`). -/
theorem denote_reduce_regroup_input (f : String) (pre mid post : List Expr) (eo : Expr)
    (h1 : (grouped pre mid post).concatFree = true) (h2 : (ungrouped pre mid post).concatFree = true)
    (heo : eo.concatFree = true) :
    okOpt (denoteReduce f (grouped pre mid post) eo) = okOpt (denoteReduce f (ungrouped pre mid post) eo) := by
  rw [okOpt_denoteReduce_con f _ eo h1 heo, okOpt_denoteReduce_con f _ eo h2 heo, rootDims_grouped, rootDims_ungrouped]
  -- only position 0 of the operand list matters: it is overwritten
  exact congrArg (fun X => (genCells X _ _).map _) (conX_regroup_input f _ [([], [])] 0 _ _ _)

/-- **Grouping axes of the output expression of a reduction with parentheses reshapes the result**: same cells in
the same row-major order, the shape is that of the grouped expression (same number of elements). -/
theorem denote_reduce_regroup_output (f : String) (e : Expr) (pre mid post : List Expr)
    (he : e.concatFree = true)
    (h1 : (grouped pre mid post).concatFree = true) (h2 : (ungrouped pre mid post).concatFree = true) :
    (okOpt (denoteReduce f e (grouped pre mid post))).map (·.data)
      = (okOpt (denoteReduce f e (ungrouped pre mid post))).map (·.data) := by
  rw [denoteReduce_cells f e _ he h1, denoteReduce_cells f e _ he h2]
  rw [shapeOf_eq (grouped pre mid post), shapeOf_eq (ungrouped pre mid post), rootDims_grouped, rootDims_ungrouped,
    genCells_regroup_output]
  simp only [Option.map_map, Function.comp_def]

/-- **Parentheses on the input expression of `id`** (executable loop form `Denote.denoteId`): `C08.denote_regroup_tensor`
on expressions. -/
theorem denoteId_regroup_input (pre mid post : List Expr) (eo : Expr)
    (h1 : (grouped pre mid post).concatFree = true) (h2 : (ungrouped pre mid post).concatFree = true)
    (heo : eo.concatFree = true) :
    okOpt (denoteId [grouped pre mid post] [eo]) = okOpt (denoteId [ungrouped pre mid post] [eo]) := by
  rw [denoteId_cells _ _ h1 heo, denoteId_cells _ _ h2 heo,
    shapeOf_eq (grouped pre mid post), shapeOf_eq (ungrouped pre mid post), rootDims_grouped, rootDims_ungrouped,
    idCells_regroup_input]

/-- **Parentheses on the output expression of `id`**: the same cells in the same order (the result is reshaped). -/
theorem denoteId_regroup_output (e : Expr) (pre mid post : List Expr) (he : e.concatFree = true)
    (h1 : (grouped pre mid post).concatFree = true) (h2 : (ungrouped pre mid post).concatFree = true) :
    (okOpt (denoteId [e] [grouped pre mid post])).map (List.map (·.data))
      = (okOpt (denoteId [e] [ungrouped pre mid post])).map (List.map (·.data)) := by
  rw [denoteId_cells _ _ he h1, denoteId_cells _ _ he h2,
    shapeOf_eq (grouped pre mid post), shapeOf_eq (ungrouped pre mid post), rootDims_grouped, rootDims_ungrouped,
    idCells_regroup_output]
  simp only [Option.map_map, Function.comp_def, List.map_cons, List.map_nil]

/-- Non-vacuity of the parenthesis laws: `sum: a [b c] d -> d a` against `sum: a ([b c]) d -> d a` (bracketed axes
inside the group) and `-> (d a)`; `id: a b c d -> d (c b) a` against `a (b c) d`; sizes a = b = c = 2, d = 1.  The
grouped and ungrouped expressions have different shapes, all results are defined, and the laws' conclusions hold. -/
example :
    let a := Expr.axis "a" 2; let b := Expr.axis "b" 2; let c := Expr.axis "c" 2; let d := Expr.axis "d" 1
    let G := grouped [a] [.br (.list [b, c])] [d]; let U := ungrouped [a] [.br (.list [b, c])] [d]
    let Go := grouped [] [d, a] []; let Uo := ungrouped [] [d, a] []
    let Gi := grouped [a] [b, c] [d]; let Ui := ungrouped [a] [b, c] [d]
    let eo := Expr.list [d, .flat (.list [c, b]), a]
    G.concatFree = true ∧ U.concatFree = true ∧ Go.concatFree = true ∧ Uo.concatFree = true ∧
    shapeOf G = [2, 4, 1] ∧ shapeOf U = [2, 2, 2, 1] ∧ shapeOf Go = [2] ∧ shapeOf Uo = [1, 2] ∧
    (match okOpt (denoteReduce "sum" G Uo), okOpt (denoteReduce "sum" U Uo), okOpt (denoteReduce "sum" U Go) with
      | some t1, some t2, some t3 => Tensor.beq t1 t2 && Cell.beqL t2.data t3.data && t3.shape == [2] && t2.shape == [1, 2]
          && t2.data.length == 2
      | _, _, _ => false) = true ∧
    (match okOpt (denoteId [Gi] [eo]), okOpt (denoteId [Ui] [eo]) with
      | some [t1], some [t2] => Tensor.beq t1 t2 && t1.data.length == 8 && !Tensor.beq t1 (symInput 0 [1, 4, 2])
      | _, _ => false) = true := by
  decide +kernel

/-! ### Dot: tie, output permutation, output parentheses -/

/-- **Tie to `Denote/Expr2.lean`, dot.**  For concatenation-free expressions the executable loop form
`Denote.denoteDot` (three nested `for` loops in `Except`) and the functional form `Denote.denoteDotFun` succeed on the
same operations with the same symbolic tensor. -/
theorem denoteDot_fun_agree (exprsIn : List Expr) (eo : Expr) (hin : Expr.concatFreeL exprsIn = true)
    (heo : eo.concatFree = true) : okOpt (denoteDot exprsIn eo) = okOpt (denoteDotFun exprsIn eo) :=
  denoteDot_eq_fun exprsIn eo hin heo

theorem okOpt_denoteDot (exprsIn : List Expr) (eo : Expr) (hin : Expr.concatFreeL exprsIn = true)
    (heo : eo.concatFree = true) :
    okOpt (denoteDot exprsIn eo)
      = (dotCells (exprsIn.map (fun e => (rootDims e, shapeOf e))) (rootDims eo) (shapeOf eo)).map
          (fun cs => (⟨shapeOf eo, cs⟩ : Tensor Cell)) :=
  denoteDot_cells exprsIn eo hin heo

/-- **Reordering the axes of the output expression of a dot permutes the result's dimensions accordingly**, including
definedness (any number of inputs, any contracted axes). -/
theorem denote_dot_permute_output (exprsIn : List Expr) (eo eo' : Expr) (perm : List Nat) (T : Tensor Cell)
    (hin : Expr.concatFreeL exprsIn = true) (heo : eo.concatFree = true) (heo' : eo'.concatFree = true)
    (hperm : isPermOf perm (rootDims eo).length = true) (hp : permuteL perm (rootDims eo) = some (rootDims eo'))
    (hcons : consistentB (Dim.leavesL (rootDims eo)) = true)
    (h : okOpt (denoteDot exprsIn eo) = some T) :
    ∃ T', okOpt (denoteDot exprsIn eo') = some T' ∧
      ∃ plan, planInstr [shapeOf eo] (.transpose 0 perm) = .ok plan ∧ runPlan symAlg [T] plan = T' := by
  rw [okOpt_denoteDot exprsIn eo hin heo] at h
  rw [okOpt_denoteDot exprsIn eo' hin heo']
  exact genTensor_permute_output (dotX_getInvariant _) hperm hp (rootDims_concatFree heo) (consistentB_spec hcons) h

/-- **Parentheses on the output expression of a dot** reshape the result: same cells, same row-major order. -/
theorem denote_dot_regroup_output (exprsIn : List Expr) (pre mid post : List Expr)
    (hin : Expr.concatFreeL exprsIn = true)
    (h1 : (grouped pre mid post).concatFree = true) (h2 : (ungrouped pre mid post).concatFree = true) :
    (okOpt (denoteDot exprsIn (grouped pre mid post))).map (·.data)
      = (okOpt (denoteDot exprsIn (ungrouped pre mid post))).map (·.data) := by
  rw [okOpt_denoteDot exprsIn _ hin h1, okOpt_denoteDot exprsIn _ hin h2]
  unfold dotCells
  rw [shapeOf_eq (grouped pre mid post), shapeOf_eq (ungrouped pre mid post), rootDims_grouped, rootDims_ungrouped,
    genCells_regroup_output]
  simp only [Option.map_map, Function.comp_def]

/-- Non-vacuity: `dot: a [b], [b] c d -> c a d` with a = b = c = 2, d = 1 (a contracted axis, equal lengths, a
length-1 axis); the output permuted by `[2, 0, 1]` to `d c a` and grouped to `(c a) d`.  Both forms agree, the results
are genuine sums of two products, and the laws apply. -/
example :
    let a := Expr.axis "a" 2; let b := Expr.axis "b" 2; let c := Expr.axis "c" 2; let d := Expr.axis "d" 1
    let ins := [Expr.list [a, .br b], Expr.list [.br b, c, d]]
    let eo := Expr.list [c, a, d]; let eo' := Expr.list [d, c, a]
    Expr.concatFreeL ins = true ∧ eo.concatFree = true ∧ eo'.concatFree = true ∧
    isPermOf [2, 0, 1] (rootDims eo).length = true ∧
    (permuteL [2, 0, 1] (rootDims eo)).map viewShape = some (viewShape (rootDims eo')) ∧
    consistentB (Dim.leavesL (rootDims eo)) = true ∧
    (match okOpt (denoteDot ins eo), okOpt (denoteDotFun ins eo), okOpt (denoteDot ins eo'),
        okOpt (denoteDot ins (grouped [] [c, a] [d])), okOpt (denoteDot ins (ungrouped [] [c, a] [d])) with
      | some t, some u, some t', some g, some ug =>
        Tensor.beq t u && t.shape == [2, 2, 1] && t'.shape == [1, 2, 2] && g.shape == [4, 1] && Cell.beqL g.data ug.data &&
          Cell.beqL (t.data.take 2)
            [.app "red:sum" [.app "multiply" [.src 0 0, .src 1 0], .app "multiply" [.src 0 1, .src 1 2]],
             .app "red:sum" [.app "multiply" [.src 0 2, .src 1 0], .app "multiply" [.src 0 3, .src 1 2]]]
      | _, _, _, _, _ => false) = true := by
  decide +kernel

example :
    let a := Expr.axis "a" 2; let b := Expr.axis "b" 2; let c := Expr.axis "c" 2; let d := Expr.axis "d" 1
    let ins := [Expr.list [a, .br b], Expr.list [.br b, c, d]]
    let eo := Expr.list [c, a, d]; let eo' := Expr.list [d, c, a]
    ∀ T, okOpt (denoteDot ins eo) = some T →
      ∃ T', okOpt (denoteDot ins eo') = some T' ∧
        ∃ plan, planInstr [shapeOf eo] (.transpose 0 [2, 0, 1]) = .ok plan ∧ runPlan symAlg [T] plan = T' :=
  fun T h => denote_dot_permute_output _ _ _ [2, 0, 1] T (by decide +kernel) (by decide +kernel) (by decide +kernel)
    (by decide +kernel) rfl (by decide +kernel) h

/-! ### Elementwise operations: permuting the output expression -/

theorem okOpt_denoteElementwise (f : String) (exprsIn : List Expr) (eo : Expr) (hin : Expr.concatFreeL exprsIn = true)
    (heo : eo.concatFree = true) :
    okOpt (denoteElementwise f exprsIn eo)
      = (ewCells f (exprsIn.map (fun e => (rootDims e, shapeOf e))) (rootDims eo) (shapeOf eo)).map
          (fun cs => (⟨shapeOf eo, cs⟩ : Tensor Cell)) :=
  (denoteElementwise_cells f exprsIn eo hin heo).trans (by rw [ewCells_eq_genCells])

/-- **Reordering the axes of the output expression of an elementwise operation permutes the result's dimensions
accordingly**, including definedness (any number of inputs, executable loop form `Denote.denoteElementwise`). -/
theorem denote_elementwise_permute_output (f : String) (exprsIn : List Expr) (eo eo' : Expr) (perm : List Nat)
    (T : Tensor Cell)
    (hin : Expr.concatFreeL exprsIn = true) (heo : eo.concatFree = true) (heo' : eo'.concatFree = true)
    (hperm : isPermOf perm (rootDims eo).length = true) (hp : permuteL perm (rootDims eo) = some (rootDims eo'))
    (hcons : consistentB (Dim.leavesL (rootDims eo)) = true)
    (h : okOpt (denoteElementwise f exprsIn eo) = some T) :
    ∃ T', okOpt (denoteElementwise f exprsIn eo') = some T' ∧
      ∃ plan, planInstr [shapeOf eo] (.transpose 0 perm) = .ok plan ∧ runPlan symAlg [T] plan = T' := by
  rw [denoteElementwise_cells f exprsIn eo hin heo] at h
  rw [denoteElementwise_cells f exprsIn eo' hin heo']
  exact genTensor_permute_output (ewX_getInvariant f _) hperm hp (rootDims_concatFree heo) (consistentB_spec hcons) h

/-- Non-vacuity: `add: a (b c), c a -> c a b` (a = b = 2, c = 1) towards the permuted output `b c a`. -/
example :
    let a := Expr.axis "a" 2; let b := Expr.axis "b" 2; let c := Expr.axis "c" 1
    let ins := [Expr.list [a, .flat (.list [b, c])], Expr.list [c, a]]
    let eo := Expr.list [c, a, b]; let eo' := Expr.list [b, c, a]
    (match okOpt (denoteElementwise "add" ins eo), okOpt (denoteElementwise "add" ins eo') with
      | some t, some t' => t.shape == [1, 2, 2] && t'.shape == [2, 1, 2] && !Cell.beqL t.data t'.data
      | _, _ => false) = true ∧
    ∀ T, okOpt (denoteElementwise "add" ins eo) = some T →
      ∃ T', okOpt (denoteElementwise "add" ins eo') = some T' ∧
        ∃ plan, planInstr [shapeOf eo] (.transpose 0 [2, 0, 1]) = .ok plan ∧ runPlan symAlg [T] plan = T' :=
  ⟨by decide +kernel, fun T h => denote_elementwise_permute_output "add" _ _ _ [2, 0, 1] T (by decide +kernel)
    (by decide +kernel) (by decide +kernel) (by decide +kernel) rfl (by decide +kernel) h⟩

/-! ### Concatenations: the tie, and consistent renaming -/

/-- **Tie to `Denote/Expr.lean` for arbitrary solved expressions, concatenations included.**  The executable loop
form `Denote.denoteId` (the one the driver runs and C01's validator compares with) equals the loop-free functional form
`Denote.denoteIdFunG` (`Denote/Fun2.lean`): enumerate the concatenation-free views of inputs and outputs in einx's
order, pair them, collect the entries of every pair and gather them per real output tensor.  No hypothesis. -/
theorem denoteId_fun_agree_general (exprsIn exprsOut : List Expr) :
    okOpt (denoteId exprsIn exprsOut) = denoteIdFunG exprsIn exprsOut :=
  denoteId_eq_denoteIdFunG exprsIn exprsOut

/-- **Consistent renaming leaves `id` unchanged, concatenations included** (executable loop form): it suffices that
`ρ` is injective on the axis names in use.  (`C08.denoteId_rename` without its concatenation-free hypotheses.) -/
theorem denoteId_rename_general {ρ : String → String} (exprsIn exprsOut : List Expr)
    (hρ : InjOn ρ (Expr.namesL exprsIn ++ Expr.namesL exprsOut)) :
    okOpt (denoteId (Expr.renameL ρ exprsIn) (Expr.renameL ρ exprsOut)) = okOpt (denoteId exprsIn exprsOut) := by
  rw [denoteId_fun_agree_general, denoteId_fun_agree_general]
  exact denoteIdFunG_rename_on exprsIn exprsOut hρ

/-- Non-vacuity: `a (b + c) -> (b + c) a` with a = 2, b = 1, c = 2 (a concatenation on both sides, equal lengths, a
length-1 block): not concatenation-free, both forms are defined and equal, the result is a
genuine rearrangement of the 6 elements, and the renaming law applies with the non-injective `collapseNames`. -/
example :
    let a := Expr.axis "a" 2; let b := Expr.axis "b" 1; let c := Expr.axis "c" 2
    let ein := Expr.list [a, .concat [b, c]]; let eout := Expr.list [.concat [b, c], a]
    Expr.concatFreeL [ein] = false ∧
    (match okOpt (denoteId [ein] [eout]), denoteIdFunG [ein] [eout] with
      | some [t], some [u] => Tensor.beq t u && t.shape == [3, 2] &&
          Cell.beqL t.data [.src 0 0, .src 0 3, .src 0 1, .src 0 4, .src 0 2, .src 0 5]
      | _, _ => false) = true := by
  decide +kernel

example :
    let a := Expr.axis "a" 2; let b := Expr.axis "b" 1; let c := Expr.axis "c" 2
    let ein := Expr.list [a, .concat [b, c]]; let eout := Expr.list [.concat [b, c], a]
    okOpt (denoteId (Expr.renameL collapseNames [ein]) (Expr.renameL collapseNames [eout])) = okOpt (denoteId [ein] [eout]) :=
  denoteId_rename_general _ _ (by unfold InjOn; decide +kernel)

end Einx.C08b
