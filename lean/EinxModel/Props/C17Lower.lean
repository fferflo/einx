import EinxModel.Proofs.Stb
/-!
C17 (lowering part, continued) — size-genericity of the pieces that the lowering models of elementwise operations
and reductions (`Generic/LowerOps.lean`) add to `_squeeze_transpose_broadcast`.

Proved for **all** flat expressions and all axis lengths:

* `stbU_size_generic`        `_squeeze_transpose_broadcast(…, broadcast_to_unitary=True)`: for two length assignments with
                             the same names and the same 1-pattern the model emits the same program up to shapes (or
                             fails with the same error), the result is in the same register, and the returned
                             expressions again have the same names and the same 1-pattern
* `expr_to_axis_size_generic` `_expr_to_axis` (the `axis=` tuple of a reduction) depends on the axis names only
* `ewise_call_skeleton`      the traced elementwise numpy call carries no size at all: the skeleton of the
                             instruction is the instruction

The whole pipelines (`lowerElementwise`, `lowerReduce`) — whose remaining decisions are the no-op tests of `reshape` after
unflattening / before composing (equalities between products of lengths) and the `_ensure_output` shape comparison — are
treated in `Props/C17LowerOps.lean` (`lower_elementwise_size_generic`, `lower_reduce_size_generic`).  On every run the
`lower_model` stream (tools/props/lower_tie.py) compares the model's skeletons for three length assignments with the same
1-pattern per description and compares every model program with the traced graph.
-/
namespace Einx.Generic
open Einx.IR

/-- **Size-genericity of `_squeeze_transpose_broadcast(…, broadcast_to_unitary=True)`.** -/
theorem stbU_size_generic (tag : Nat) (ein ein' eout eout' : List Ax)
    (hni : names ein = names ein') (hpi : ein.map (fun a => a.len == 1) = ein'.map (fun a => a.len == 1))
    (hno : names eout = names eout') (hpo : eout.map (fun a => a.len == 1) = eout'.map (fun a => a.len == 1)) :
    match stbU tag { reg := 0, shape := lens ein, prog := [], next := 1 } ein eout,
          stbU tag { reg := 0, shape := lens ein', prog := [], next := 1 } ein' eout' with
    | .ok r, .ok r' =>
      progSkeleton r.2.prog = progSkeleton r'.2.prog ∧ r.2.reg = r'.2.reg ∧
        names r.1 = names r'.1 ∧ r.1.map (fun a => a.len == 1) = r'.1.map (fun a => a.len == 1)
    | .error e, .error e' => e = e'
    | _, _ => False := by
  have hi := sim_of_maps ein ein' hni hpi
  have ho := sim_of_maps eout eout' hno hpo
  have hrel : Rel { reg := 0, shape := lens ein, prog := [], next := 1 } { reg := 0, shape := lens ein', prog := [], next := 1 } :=
    ⟨rfl, rfl, rfl⟩
  have h := stbU_generic tag hrel rfl rfl hi ho
  -- the two results as variables first: abstracting them from the goal as they stand is dear
  generalize stbU tag { reg := 0, shape := lens ein, prog := [], next := 1 } ein eout = r at *
  generalize stbU tag { reg := 0, shape := lens ein', prog := [], next := 1 } ein' eout' = r' at *
  exact h.elim (fun _ _ h => h) fun _ _ h => ⟨h.2.prog, h.2.reg, h.1.names_eq, h.1.map_eq _ _ (fun _ _ _ h1 => h1)⟩

/-- **`_expr_to_axis` is size-generic**: the `axis=` tuple of a reduction depends on the axis names only. -/
theorem expr_to_axis_size_generic (m : List String) (e e' : List Ax)
    (hn : names e = names e') (hp : e.map (fun a => a.len == 1) = e'.map (fun a => a.len == 1)) :
    exprToAxis m e = exprToAxis m e' :=
  exprToAxis_sim m (sim_of_maps e e' hn hp)

/-- The traced elementwise numpy call carries no size. -/
theorem ewise_call_skeleton (f : String) (args : List Arg) : instrSkeleton (.ewise f args) = .ewise f args := rfl

/-- Non-vacuity: aligning `b c a` with `a b d` (`b=3, c=1, a=2 | d=4`) emits `reshape; transpose; reshape` and returns
`a b 1`; scaling the non-unit lengths keeps skeleton and 1-pattern, changing the 1-pattern (`c=2`) changes the outcome
(the axis `c` cannot be squeezed then: error). -/
def exampleStbU (b c a d : Nat) : Option (List (List Nat) × List Bool) :=
  ((stbU 7 { reg := 0, shape := [b, c, a], prog := [], next := 1 } [⟨"b", b⟩, ⟨"c", c⟩, ⟨"a", a⟩]
      [⟨"a", a⟩, ⟨"b", b⟩, ⟨"d", d⟩]).map
    (fun r => ((progSkeleton r.2.prog).map (fun i => match i with
      | .reshape x s => 0 :: x :: s
      | .transpose x p => 1 :: x :: p
      | .broadcastTo x s => 2 :: x :: s
      | _ => [9]), r.1.map (fun a => a.len == 1)))).toOption

example :
    exampleStbU 3 1 2 4 = some ([[0, 0, 0, 0], [1, 1, 1, 0], [0, 2, 0, 0, 0]], [false, false, true])
      ∧ exampleStbU 3 1 2 4 = exampleStbU 21 1 1000 9
      ∧ exampleStbU 3 2 2 4 = none := by
  decide +kernel

/-- Non-vacuity of `expr_to_axis_size_generic`: `a [b] c [d]` has `axis=(1, 3)` whatever the lengths. -/
example : exprToAxis ["b", "d"] [⟨"a", 2⟩, ⟨"b", 3⟩, ⟨"c", 1⟩, ⟨"d", 5⟩] = [1, 3]
    ∧ exprToAxis ["b", "d"] [⟨"a", 7⟩, ⟨"b", 1⟩, ⟨"c", 1⟩, ⟨"d", 2⟩] = [1, 3] := by
  decide +kernel

end Einx.Generic
