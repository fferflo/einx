import EinxModel.Proofs.XlateUnravel
import EinxModel.Proofs.Peel
import EinxModel.Extracted.Unravel
/-!
C01 (tie model ↔ source by regeneration) — the coordinate form of the argmax/argmin denotation
(`Denote/Expr3.lean`: `peel`, `peelCells`; `peel_eq_unravel`, `argfind_coordinates_meaning` in `Props/C01.lean`)
is what `einx/_src/adapter/_util.py:_unravel` computes: `Extracted/Unravel.lean` is the translation of that
function (one element of the index tensor; `classical.divmod` = `(/, %)`), regenerated from /repo by
`tools/extract/unravel.py` on every run.
-/
namespace Einx.Denote
open Einx.Py Einx.Extracted

/-- Off the 1-D shortcut the loop `for i, s in reversed(list(enumerate(ravel_shape))): tensor, out[i] = divmod(tensor, s)`
never raises (every position of `out_indices` is assigned exactly once) and yields the coordinates that the denotation
writes (`peel`); what can raise is `_stack`, which evaluates `axis < 0` on `None`. -/
theorem unravelKernel_loop (k : Nat) (sizes : List Nat) (axis : Option Nat) (h : sizes.length ≠ 1) :
    Unravel.unravelKernel k sizes axis = if axis.isNone then .error "TypeError" else .ok (peel sizes k) := by
  unfold Unravel.unravelKernel
  have hb : (sizes.length == 1) = false := by simpa using h
  obtain ⟨q, hq⟩ := unravel_loop sizes k
  have hstep : (fun (x : Nat × List (Option Nat)) (x_1 : Nat × Nat) => (do
      let out_indices ← listSet x.snd (Int.ofNat x_1.fst) (some (x.fst % x_1.snd))
      pure (x.fst / x_1.snd, out_indices) : Except String (Nat × List (Option Nat)))) = unravelStep := rfl
  simp only [hb, Bool.false_eq_true, if_false]
  rw [hstep, hq, peel_eq_revPeel sizes k h]
  cases axis
  · rfl
  · exact allSome_map_some _

/-- **`_unravel`, translated from source, is the model's `peel`** on every flat index and every list of sizes,
under the guard the front end establishes (a stacking position is given, or exactly one axis is bracketed — with
several bracketed axes and no bracketed output axis `argfind` is never reached); one bracketed axis takes the 1-D
shortcut. -/
theorem extracted_unravel_eq (k : Nat) (sizes : List Nat) (axis : Option Nat) (hax : axis.isSome = true ∨ sizes.length = 1) :
    Unravel.unravelKernel k sizes axis = .ok (peel sizes k) := by
  by_cases h1 : sizes.length = 1
  · match sizes, h1 with
    | [a], _ => cases axis <;> rfl
  · rw [unravelKernel_loop k sizes axis h1]
    cases axis with
    | none => exact absurd hax (by simp [h1])
    | some _ => rfl

/-- Outside that guard (several sizes, `axis=None`) the source raises: `_stack` evaluates `axis < 0` on `None`. -/
theorem extracted_unravel_none (k : Nat) (sizes : List Nat) (h : sizes.length ≠ 1) :
    Unravel.unravelKernel k sizes none = .error "TypeError" :=
  unravelKernel_loop k sizes none h

/-- With `peel_eq_unravel`: inside the block, the source computes the row-major multi-index. -/
theorem extracted_unravel_is_unravel (k : Nat) (sizes : List Nat) (axis : Option Nat)
    (hax : axis.isSome = true ∨ sizes.length = 1) (h : k < prod sizes) :
    Unravel.unravelKernel k sizes axis = .ok (unravel sizes k) := by
  rw [extracted_unravel_eq k sizes axis hax, peel_eq_unravel sizes k h]

/-- Non-vacuity: flat index 17 in a block of sizes (2, 3, 4) has coordinates (1, 1, 1); a single size keeps the
index; the translation is not the conservative stand-in. -/
example : Unravel.unravelKernel 17 [2, 3, 4] (some 0) = .ok [1, 1, 1] ∧ Unravel.unravelKernel 5 [7] none = .ok [5] := by
  constructor <;> rfl

end Einx.Denote
