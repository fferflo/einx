import EinxModel.Proofs.CacheConcurrent
import EinxModel.Proofs.Cache
import EinxModel.Extracted.Cacheconc
/-!
C10, second property file — first-time compilation triggered concurrently: the compiled-function cache
(`functools.cache` around `_construct_graph`, `Cache/Concurrent.lean`) under arbitrary interleavings of its
micro steps lookup / miss / compute / insert.

Helper lemmas and the invariant are in `Proofs/CacheConcurrent.lean`.  `Extracted/Cacheconc.lean` is regenerated from
`/repo` on every run.
-/
namespace Einx.Cache.Conc
open Einx.Cache

/-! ### Obligations regenerated from the source -/

/-- `util/lru_cache.py:lru_cache` memoises with `functools.cache` / `functools.lru_cache` and nothing else: no
dictionary, lock or in-progress marker of its own – the micro steps of the model are those of `functools.cache`. -/
theorem extracted_memo_is_functools : Einx.Extracted.memoIsFunctools = true := by decide

/-- `func_frozen` / `func_unfrozen` only rebind their locals and call through (they add no shared state). -/
theorem extracted_wrappers_stateless : Einx.Extracted.wrappersStateless = true := by decide

/-- The retrace warning – the only other shared mutable state of `util/lru_cache.py` – is off by default and then
`_with_retrace_warning` returns the function itself. -/
theorem extracted_retrace_off_by_default : Einx.Extracted.retraceOffByDefault = true := by decide

/-- One cache per `api` object shared by all threads; `inner` calls it exactly once; `inner` and `_construct_graph`
store to nothing but their locals. -/
theorem extracted_cache_per_api_shared : Einx.Extracted.cachePerApiShared = true := by decide

section
variable {K V : Type} [DecidableEq K]

/-! ### Invariant and serializability -/

/-- **Invariant at any time** of any execution (any number of threads, any programs, any schedule, any eviction
policy that only drops entries), if the cached function is deterministic in its key: every stored value is the
function's value for its key, only requested keys are stored, every finished call returned the function's value
for its key, and a value waiting to be stored is the function's value for the key of the call in progress. -/
theorem cache_invariant (comp : Comp K V) (f : K → Outcome V) (hdet : Deterministic comp f)
    (trim : Store K V → Store K V) (htrim : ∀ m e, e ∈ trim m → e ∈ m) (progs : List (List K)) (sched : List Nat) :
    Inv f progs (run comp trim (init progs) sched) :=
  inv_run hdet htrim sched (inv_init f progs)

/-- **`cache_concurrent_serializable`.**  For any number of threads, any programs of requests and any schedule of the
micro steps lookup / miss / compute / insert (two threads may both miss and both compute), if the cached function is
deterministic in its key (`Deterministic comp f`: whatever thread runs it, whenever, whatever the cache contains, it
returns `f key` – for `_construct_graph` this is C06's `einx_cache_transparent` hypothesis and C16) then in every
execution that runs to completion **every call returns `f key`** – the value (or exception class) the call has in
a serial execution, see `cache_results_eq_serial_memo` – and every stored value is `f` of its key.  Holds for every
eviction policy that only drops entries (`functools.cache`: none; `EINX_CACHE_SIZE > 0`: LRU). -/
theorem cache_concurrent_serializable (comp : Comp K V) (f : K → Outcome V) (hdet : Deterministic comp f)
    (trim : Store K V → Store K V) (htrim : ∀ m e, e ∈ trim m → e ∈ m) (progs : List (List K)) (sched : List Nat) :
    let c := run comp trim (init progs) sched
    c.finished = true →
      (∀ (i : Nat) (p : List K), progs[i]? = some p → ∃ th : Thread K V, c.threads[i]? = some th ∧ th.outs = p.map f) ∧
      (∀ k v, (k, v) ∈ c.cache → f k = .ok v) := by
  intro c hfin
  have h : Inv f progs c := cache_invariant comp f hdet trim htrim progs sched
  refine ⟨?_, h.sound⟩
  intro i p hp
  obtain ⟨th, hi, _, ho⟩ := h.finished_thread hfin hp
  exact ⟨th, hi, ho⟩

/-- **The results are those of every serial execution.**  Take any serial order of all calls (a merge of the
threads' programs, each call tagged with its thread) and run it on the sequential memo machine of C06
(`Einx.Cache.run`: one call after the other, hits served from the memo).  Each thread observes, call by call, in the
concurrent execution exactly what it observes in that serial execution. -/
theorem cache_results_eq_serial_memo (comp : Comp K V) (f : K → Outcome V) (hdet : Deterministic comp f)
    (trim : Store K V → Store K V) (htrim : ∀ m e, e ∈ trim m → e ∈ m) (progs : List (List K)) (sched : List Nat)
    (order : List (Nat × K))
    (hord : ∀ (i : Nat) (p : List K), progs[i]? = some p → (order.filter (fun e => e.1 == i)).map (·.2) = p) :
    let c := run comp trim (init progs) sched
    let serial := (Einx.Cache.run (fun k : K => k) (fun a b => decide (a = b)) id f [] (order.map (·.2))).2
    c.finished = true →
      ∀ (i : Nat) (p : List K), progs[i]? = some p → ∃ th : Thread K V, c.threads[i]? = some th ∧
        th.outs = ((order.zip serial).filter (fun e => e.1.1 == i)).map (·.2) := by
  intro c serial hfin i p hp
  obtain ⟨th, hth, houts⟩ := (cache_concurrent_serializable comp f hdet trim htrim progs sched hfin).1 i p hp
  refine ⟨th, hth, ?_⟩
  -- the sequential memo machine returns `f key` for every call of every history
  have hser : serial = (order.map (·.2)).map f :=
    (run_nil_spec (fun k : K => k) (fun a b => decide (a = b)) id f (fun _ => True) (fun _ _ he => he)
      (fun a b _ _ hab => by rw [of_decide_eq_true hab]) (order.map (·.2)) (fun _ _ => trivial)).1
  rw [houts, hser, List.map_map]
  have := zip_filter_map (fun e : Nat × K => f e.2) (fun e => e.1 == i) order
  simp only [Function.comp_def] at this ⊢
  rw [this, ← hord i p hp, List.map_map]
  rfl

/-- **The final cache is a function of the set of requested keys** (`functools.cache`, no eviction): after any
complete execution, under any schedule, looking up `k` finds `v` exactly when `k` was requested by some thread and
`f k = ok v`; failing keys are not stored; the dictionary has no duplicate keys. -/
theorem cache_final_content (comp : Comp K V) (f : K → Outcome V) (hdet : Deterministic comp f)
    (progs : List (List K)) (sched : List Nat) :
    let c := run comp id (init progs) sched
    c.finished = true →
      (∀ k v, c.cache.get k = some v ↔ (k ∈ progs.flatten ∧ f k = .ok v)) ∧ c.cache.keys.Nodup := by
  intro c hfin
  have h : Inv f progs c := cache_invariant comp f hdet id (fun _ _ he => he) progs sched
  have hc : Complete f c := complete_run hdet sched (inv_init f progs) (complete_init f progs)
  refine ⟨?_, hc.nodup⟩
  intro k v
  constructor
  · intro hg
    have hm := Store.get_some_mem _ _ _ hg
    exact ⟨h.req k v hm, h.sound k v hm⟩
  · intro ⟨hk, hv⟩
    obtain ⟨p, hp, hkp⟩ := List.mem_flatten.mp hk
    obtain ⟨i, hlt, rfl⟩ := List.mem_iff_getElem.mp hp
    obtain ⟨th, hi, hs, _⟩ := h.finished_thread hfin (List.getElem?_eq_getElem hlt)
    exact hc.stored i th hi k (hs ▸ hkp) v hv

/-- **Schedule independence**: two complete executions of the same programs – e.g. a racing one and the serial one –
give every thread the same results and leave the same cache (as a finite map). -/
theorem cache_schedule_independent (comp : Comp K V) (f : K → Outcome V) (hdet : Deterministic comp f)
    (progs : List (List K)) (s1 s2 : List Nat) :
    let c1 := run comp id (init progs) s1
    let c2 := run comp id (init progs) s2
    c1.finished = true → c2.finished = true →
      c1.threads.map (·.outs) = c2.threads.map (·.outs) ∧ ∀ k, c1.cache.get k = c2.cache.get k := by
  intro c1 c2 h1 h2
  have i1 : Inv f progs c1 := cache_invariant comp f hdet id (fun _ _ he => he) progs s1
  have i2 : Inv f progs c2 := cache_invariant comp f hdet id (fun _ _ he => he) progs s2
  have f1 := (cache_final_content comp f hdet progs s1 h1).1
  have f2 := (cache_final_content comp f hdet progs s2 h2).1
  refine ⟨(i1.finished_outs h1).trans (i2.finished_outs h2).symm, fun k => ?_⟩
  cases hg : c1.cache.get k with
  | some v => exact ((f2 k v).mpr ((f1 k v).mp hg)).symm
  | none =>
    cases hg2 : c2.cache.get k with
    | none => rfl
    | some v => rw [(f1 k v).mpr ((f2 k v).mp hg2)] at hg; cases hg

/-! ### Progress -/

/-- **No call waits for another thread**: an unfinished execution always has an enabled thread – indeed every thread
that has calls left is enabled (the cache has no lock; no hypothesis on the cached function). -/
theorem cache_no_deadlock (comp : Comp K V) (trim : Store K V → Store K V) (c : Conf K V) (hfin : c.finished = false) :
    ∃ i, (stepThread comp trim c i).isSome = true := by
  obtain ⟨th, hm, hd⟩ := List.all_eq_false.mp hfin
  obtain ⟨i, hlt, rfl⟩ := List.mem_iff_getElem.mp hm
  refine ⟨i, enabled_of_prog (List.getElem?_eq_getElem hlt) ?_⟩
  intro he
  simp [Thread.done, he] at hd

/-- **Progress**: whatever has been scheduled so far, some continuation completes all programs (every step decreases
`Conf.measure`).  In particular the hypothesis `finished` of the theorems above is satisfiable for all programs. -/
theorem cache_can_finish (comp : Comp K V) (trim : Store K V → Store K V) (progs : List (List K)) (sched : List Nat) :
    ∃ ext, (run comp trim (init progs) (sched ++ ext)).finished = true :=
  Sched.can_finish (P := fun _ => True) Conf.measure Conf.finished (fun _ _ _ _ _ => trivial)
    (fun _ i _ hs => step_measure_lt i hs) (fun c _ hfin => cache_no_deadlock comp trim c hfin) trivial sched

end

/-! ### Witnesses (tests on instances, by evaluation) -/

/-- A deterministic function on keys `Nat`: key 7 raises, every other key `k` compiles to `100 + k`. -/
def wF : Nat → Outcome Nat := fun k => if k = 7 then .raised "ValueError" else .ok (100 + k)
def wComp : Comp Nat Nat := fun _ _ _ k => wF k

/-- **Two threads both miss and both compute** the same key (schedule A-lookup, B-lookup, A-compute, B-compute,
A-insert, B-insert): the wrapped function runs twice, both calls return the same value, one entry is stored. -/
theorem both_miss_both_compute :
    let c := run wComp id (init [[3], [3]]) [0, 1, 0, 1, 0, 1]
    c.finished = true ∧ c.computeCount 3 = 2 ∧ c.threads.map (·.outs) = [[.ok 103], [.ok 103]] ∧ c.cache = [(3, 103)] := by
  decide +kernel

/-- The same programs run serially: one computation, the second call is a hit – same results, same cache. -/
theorem serial_one_compute :
    let c := run wComp id (init [[3], [3]]) (serialSchedule [[3], [3]])
    c.finished = true ∧ c.computeCount 3 = 1 ∧ c.threads.map (·.outs) = [[.ok 103], [.ok 103]] ∧ c.cache = [(3, 103)] := by
  decide +kernel

/-- **The hypothesis `Deterministic` is needed**: with a function whose result depends on the calling thread, the
racing schedule gives the two threads different values and which of them stays in the cache depends on the schedule;
serially both calls get the first thread's value. -/
theorem nondeterministic_not_serializable :
    let comp : Comp Nat Nat := fun tid _ _ k => .ok (1000 * tid + k)
    let race1 := run comp id (init [[3], [3]]) [0, 1, 0, 1, 0, 1]
    let race2 := run comp id (init [[3], [3]]) [0, 1, 0, 1, 1, 0]
    let serial := run comp id (init [[3], [3]]) (serialSchedule [[3], [3]])
    race1.threads.map (·.outs) = [[.ok 3], [.ok 1003]] ∧ race1.cache = [(3, 1003)] ∧ race2.cache = [(3, 3)] ∧
      serial.threads.map (·.outs) = [[.ok 3], [.ok 3]] := by
  decide +kernel

/-! ### Non-vacuity -/

/-- The hypotheses of `cache_concurrent_serializable` / `cache_final_content` are met by a non-trivial instance: three
threads, shared and private keys, a failing key, a schedule with context switches inside calls that runs to
completion; two threads computed key 3; the failing key is not stored. -/
example :
    let progs : List (List Nat) := [[3, 7, 4], [3, 5], [7, 3]]
    let c := run wComp id (init progs) [0, 1, 0, 1, 2, 2, 0, 1, 2, 2, 0, 0, 1, 1, 1, 0, 0, 0, 2]
    Deterministic wComp wF ∧ c.finished = true ∧ c.computeCount 3 = 2 ∧ c.computeCount 7 = 2 ∧
      c.threads.map (·.outs) = progs.map (·.map wF) ∧ c.cache.get 7 = none ∧ c.cache.keys = [3, 5, 4] := by
  refine ⟨fun _ _ _ _ => rfl, ?_⟩
  decide +kernel

/-- `cache_results_eq_serial_memo`: a merge of the programs satisfying the hypothesis on `order`. -/
example :
    let progs : List (List Nat) := [[3, 7], [3, 5]]
    let order : List (Nat × Nat) := [(1, 3), (0, 3), (0, 7), (1, 5)]
    ∀ i p, progs[i]? = some p → (order.filter (fun e => e.1 == i)).map (·.2) = p := by
  intro progs order i p hp
  match i, hp with
  | 0, hp => simp [progs] at hp; subst hp; decide +kernel
  | 1, hp => simp [progs] at hp; subst hp; decide +kernel
  | n + 2, hp => simp [progs] at hp

end Einx.Cache.Conc
