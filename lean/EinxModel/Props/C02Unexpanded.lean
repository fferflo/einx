import EinxModel.Props.C02
import EinxModel.Proofs.SolveUnexpanded
/-!
C02 — the `UnexpandedEllipsis(...)` branch of `stage2/solve.py:map`, modelled (`Solve/Unexpanded.lean`:
`expandU`, `valueSystemU`) and characterised.

An ellipsis whose expansion the stage-2 solver left open inside a flattened axis is replaced by ONE
free axis (length ≥ 1).  In the flattened axis the `k`-fold repetition of `e` contributes the factor
`∏_{i<k} v_i`, every `v_i` a value of its own copy of `e` (the copies' axes `a.i` are distinct
variables) and `k ≥ 0` free; the free axis contributes any `u ≥ 1`.  Every real solution is therefore
a solution of the replaced system (nothing is lost), and the replacement adds no spurious solution
iff every `u ≥ 1` is such a product (`PowVals e u`).  `unexpanded_sound_iff` decides this on the value
range `_value_range` computes (`Solve/Cse.lean:valueRange`, exact by `valueRange_spec`): sound iff the
range is unbounded with minimum ≤ 2 (count 0 gives 1, count 1 gives everything ≥ 2).  A constant
(`3...`), a lower bound ≥ 3, … are unsound: the known finding `matches("(3...)", zeros(2))`.
A repair must test exactly this (or reject the call as under-determined).
-/
namespace Einx.Solve

/-- The model of the branch extends the model the C02 theorems are about: with all expansions
determined, `expandU` is `expand` and `valueSystemU` is `valueSystem`. -/
theorem unexpanded_model_extends (inp : Input) (ρ : Var → Nat) :
    valueSystemU inp (fun id => some (ρ id)) = valueSystem inp ρ ∧
    ∀ e path idx, expandU (fun id => some (ρ id)) path idx e = expand ρ path idx e :=
  ⟨valueSystemU_some inp ρ, fun e path idx => expandU_some ρ e path idx⟩

/-- **When is the free axis sound?**  Let `_value_range(e) = (m, ub)` for the repeated expression `e`
(no repeated axis, positive lower bounds — the hypotheses under which `_value_range` is exact).  Every
length `u ≥ 1` of the free axis is a product of values of copies of `e` — i.e. replacing the
undetermined ellipsis by a free axis adds no solution — iff the range is unbounded (`ub`) with
minimum `m ≤ 2`. -/
theorem unexpanded_sound_iff (e : VExpr) (m : Nat) (ub : Bool) (h : valueRange e = some (m, ub))
    (hrep : hasRepeatedAxis e = false) (hpos : MinPos e) :
    (∀ u, 1 ≤ u → PowVals e u) ↔ (ub = true ∧ m ≤ 2) := by
  constructor
  · intro hall
    cases ub with
    | false =>
      exfalso
      have hval : ∀ σ, Admissible e σ → evalV σ e = m := fun σ hσ =>
        (valueRange_spec_fixed e m h hrep hpos _).mp ⟨σ, hσ, rfl⟩
      rcases Nat.lt_or_ge m 2 with hm | hm
      · obtain ⟨σs, hadm, hp⟩ := hall 2 (by omega)
        have := natProd_const_small (m := m) (by omega) (σs.map (fun σ => evalV σ e))
          (List.forall_mem_map.mpr fun σ hσ => hval σ (hadm σ hσ))
        omega
      · obtain ⟨σs, hadm, hp⟩ := hall (m + 1) (by omega)
        exact natProd_const_ne_succ hm (σs.map (fun σ => evalV σ e))
          (List.forall_mem_map.mpr fun σ hσ => hval σ (hadm σ hσ)) hp
    | true =>
      refine ⟨rfl, ?_⟩
      rcases Nat.lt_or_ge m 3 with hm | hm
      · omega
      · exfalso
        obtain ⟨σs, hadm, hp⟩ := hall 2 (by omega)
        have := natProd_big (σs.map (fun σ => evalV σ e)) (List.forall_mem_map.mpr fun σ hσ =>
          Nat.le_trans hm ((valueRange_spec e m h hrep hpos _).mp ⟨σ, hadm σ hσ, rfl⟩))
        omega
  · rintro ⟨rfl, hm⟩ u hu
    rcases Nat.lt_or_ge u 2 with h1 | h2
    · exact ⟨[], by simp, by simp only [List.map_nil, natProd]; omega⟩
    · obtain ⟨σ, hσ, hv⟩ := (valueRange_spec e m h hrep hpos u).mpr (by omega)
      exact ⟨[σ], by simpa using hσ, by simp [natProd, hv]⟩

/-- Nothing is lost: every product of values of copies of `e` is ≥ 1 … a length the free axis can take
(provided the values of `e` are positive). -/
theorem unexpanded_complete (e : VExpr)
    (hval : ∀ σ, Admissible e σ → 1 ≤ evalV σ e) (u : Nat) (h : PowVals e u) : 1 ≤ u := by
  obtain ⟨σs, hadm, rfl⟩ := h
  exact natProd_pos_of_pos _ (List.forall_mem_map.mpr fun σ hσ => hval σ (hadm σ hσ))

/-! ### The known finding `(3...)` against a dimension of length 2, on the executable systems -/

/-- `(3...)` against shape `(2,)` — the input of `einx.matches("(3...)", zeros(2))`. -/
def exThree : Input := { tensors := [⟨.flat (.ellipsis "e0" (.num 3)), some [2]⟩], constraints := [] }

/-- The system the real code states (expansion of `e0` undetermined): the free axis takes the length 2,
the call is accepted. -/
example : (valueSystemU exThree (fun _ => none)).vars = [("#0", 1), ("UnexpandedEllipsis({3}...)", 1)] ∧
    checkSat (valueSystemU exThree (fun _ => none)) [("#0", 2), ("UnexpandedEllipsis({3}...)", 2)] = true := by
  decide +kernel

/-- … while for EVERY repetition count the expanded system has no solution (`3^k ≠ 2`; a theorem over
all `k`, not a sample). -/
theorem three_pow_never_two (ρ : Var → Nat) : ¬ ∃ σ, Sat (valueSystem exThree ρ) σ := by
  rintro ⟨σ, hσ⟩
  have h := (sat_sem exThree ρ σ hσ).roots ⟨.flat (.ellipsis "e0" (.num 3)), some [2]⟩ (by simp [exThree]) [2] rfl
  simp only [evalItems, List.cons.injEq, and_true] at h
  exact prodL_threes _ h

/-- The criterion says so: `_value_range` of the constant 3 is `(3, False)`, hence the free axis is not
sound; concretely 2 is no product of 3s.  For a fresh unknown axis `b` (`(b...)`) the range is
`(1, True)` and the replacement is sound. -/
example : valueRange (.axis "unnamed.0" (some 3) 1) = some (3, false) ∧
    valueRange (.axis "b" none 1) = some (1, true) ∧
    valueRange (.list [.axis "b" none 1, .axis "b2" none 1]) = some (1, true) ∧
    valueRange (.concat [.axis "b" none 1, .axis "c" none 1, .axis "d" none 1]) = some (3, true) := by decide +kernel

example : ¬ ∀ u, 1 ≤ u → PowVals (.axis "unnamed.0" (some 3) 1) u := fun h =>
  absurd ((unexpanded_sound_iff _ 3 false (by decide +kernel) (by decide +kernel) (by decide +kernel)).mp h) (by decide +kernel)

example : ∀ u, 1 ≤ u → PowVals (.axis "b" none 1) u :=
  (unexpanded_sound_iff _ 1 true (by decide +kernel) (by decide +kernel) (by decide +kernel)).mpr ⟨rfl, by decide +kernel⟩

/-- `((b + c + d)...)`: unbounded but with minimum 3 — unsound as well (2 is not reachable). -/
example : ¬ ∀ u, 1 ≤ u → PowVals (.concat [.axis "b" none 1, .axis "c" none 1, .axis "d" none 1]) u := fun h =>
  absurd ((unexpanded_sound_iff _ 3 true (by decide +kernel) (by decide +kernel) (by decide +kernel)).mp h) (by decide +kernel)

end Einx.Solve
