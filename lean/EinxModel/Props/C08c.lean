import EinxModel.Props.C08b
import EinxModel.Proofs.DenoteDotPerm
import EinxModel.Proofs.DenoteConcatLaws
import EinxModel.Proofs.DenoteViewOK
/-!
C08 (continued): input laws of dot and n-ary elementwise operations, `id` with concatenations.  All laws are about the
executable loop forms `Denote.denoteDot`, `Denote.denoteElementwise`, `Denote.denoteId` (the functions the driver runs
and the harness compares with einx on every related call).

* dot operands: `denote_dot_permute_input` (reorder the root dimensions of one operand -- contracted or not -- and
  transpose its tensor), `denote_dot_permute_input_sem` (the same for every interpretation with a permutation
  invariant `red:sum`), `denote_dot_regroup_input` (parentheses on one operand)
* elementwise, n-ary, loop form: `denote_elementwise_permute_input`
* `id` with concatenations: `denoteId_regroup_input_concat` (parentheses on an input), `denoteId_permute_input_concat_partial`
  (reordering the root dimensions of the input, under the hypothesis that the enumerations of the virtual tensors
  correspond), `views_wellformed`
-/
namespace Einx.C08c
open Einx Einx.IR Einx.Denote Einx.C08 Einx.C08b

/-! ### bookkeeping: operands as (view, shape) pairs -/

/-- The operands of an operation as (root dimensions, shape) pairs. -/
def opViews (exprsIn : List Expr) : List (List Dim × List Nat) := exprsIn.map (fun e => (rootDims e, shapeOf e))

theorem opViews_set (exprsIn : List Expr) (j : Nat) (e' : Expr) :
    opViews (exprsIn.set j e') = (opViews exprsIn).set j (rootDims e', viewShape (rootDims e')) := by
  simp [opViews, List.map_set, shapeOf_eq]

theorem opViews_get {exprsIn : List Expr} {j : Nat} {e : Expr} (hj : exprsIn[j]? = some e) :
    (opViews exprsIn)[j]? = some (rootDims e, viewShape (rootDims e)) := by
  simp [opViews, hj, shapeOf_eq]

theorem opViews_shapes (exprsIn : List Expr) : (opViews exprsIn).map (·.2) = exprsIn.map shapeOf := by
  simp [opViews]

/-- The registers an operation reads after operand `j` was transposed: the transposed symbolic tensor in register `j`,
the symbolic inputs (`symInput k shape_k`) elsewhere.  `exprsIn'` are the operand expressions after the change. -/
def regsAfter (exprsIn' : List Expr) (j : Nat) (plan : Plan) : List (Tensor Cell) := permRegs (opViews exprsIn') j plan

/-! ### dot: reordering the root dimensions of one operand -/

/-- Decidable side conditions of the dot input laws: no axis name is both bracketed and un-bracketed *within one
operand* (einx rejects such an operand), and leaf sizes are consistent per name across all operands and the output. -/
def dotSideB (exprsIn : List Expr) (eo : Expr) : Bool :=
  exprsIn.all (fun e => markSepB (Dim.leavesL (rootDims e))) &&
    consistentB (exprsIn.flatMap (fun e => Dim.leavesL (rootDims e)) ++ Dim.leavesL (rootDims eo))

theorem dotOK_of_side {exprsIn : List Expr} {eo : Expr} (hin : Expr.concatFreeL exprsIn = true)
    (h : dotSideB exprsIn eo = true) : DotOK (opViews exprsIn) (rootDims eo) := by
  simp only [dotSideB, Bool.and_eq_true, List.all_eq_true] at h
  refine ⟨?_, ?_, ?_⟩
  · intro p hp
    obtain ⟨e, he, rfl⟩ := List.mem_map.mp hp
    exact ⟨shapeOf_eq e, rootDims_concatFree (concatFreeL_mem _ hin e he)⟩
  · intro p hp
    obtain ⟨e, he, rfl⟩ := List.mem_map.mp hp
    exact markSepB_spec (h.1 e he)
  · have : (opViews exprsIn).flatMap (fun p => Dim.leavesL p.1) = exprsIn.flatMap (fun e => Dim.leavesL (rootDims e)) := by
      simp [opViews, List.flatMap_map]
    rw [this]
    exact consistentB_spec h.2

theorem okOpt_denoteDot_con (exprsIn : List Expr) (eo : Expr) (hin : Expr.concatFreeL exprsIn = true)
    (heo : eo.concatFree = true) :
    okOpt (denoteDot exprsIn eo)
      = (genCells (conX "sum" (fun σ τ => τ ++ σ) (opViews exprsIn)) (rootDims eo) (shapeOf eo)).map
          (fun cs => (⟨shapeOf eo, cs⟩ : Tensor Cell)) := by
  rw [denoteDot_cells exprsIn eo hin heo, dotX_eq_conX]
  rfl

/-- Substitute the registers into a symbolic result and sort the terms of every sum again. -/
def substResortSum (ts : List (Tensor Cell)) (t : Tensor Cell) : Tensor Cell :=
  t.map (fun c => Cell.resortAt "red:sum" (subst ts c))

/-- **Reordering the root dimensions of one operand of a dot -- contracted (bracketed) or not -- while transposing that
operand's tensor the same way leaves the result unchanged.**  Operand `j` is `e`; `e'` has the root dimensions of `e`
permuted by `perm`; register `j` is transposed by numpy (`planInstr shapes (.transpose j perm)`), the other registers
are the symbolic inputs (`regsAfter`).  The symbolic result of the changed operation, with the registers substituted
and the terms of every `red:sum` re-sorted (`substResortSum`; a product `multiply […]` is left alone and keeps its
operand order), *equals* the symbolic result of the original operation; one fails iff the other does.  Any number of
operands, any contracted axes (the contracted axes are enumerated in order of first occurrence, so the order of the
terms does change).  Hypotheses are decidable: concatenation-free, `dotSideB`. -/
theorem denote_dot_permute_input (exprsIn : List Expr) (j : Nat) (e e' eo : Expr) (perm : List Nat)
    (hj : exprsIn[j]? = some e)
    (hin : Expr.concatFreeL exprsIn = true) (he' : e'.concatFree = true) (heo : eo.concatFree = true)
    (hperm : isPermOf perm (rootDims e).length = true) (hp : permuteL perm (rootDims e) = some (rootDims e'))
    (hside : dotSideB exprsIn eo = true) :
    ∃ plan, planInstr (exprsIn.map shapeOf) (.transpose j perm) = .ok plan ∧ plan.shape = shapeOf e' ∧
      (okOpt (denoteDot (exprsIn.set j e') eo)).map (substResortSum (regsAfter (exprsIn.set j e') j plan))
        = okOpt (denoteDot exprsIn eo) := by
  obtain ⟨plan, hplan, hs, _⟩ := transpose_plan_view (shapes := exprsIn.map shapeOf) (x := j) hperm hp
    (by simp [hj, shapeOf_eq])
  refine ⟨plan, hplan, hs, ?_⟩
  have hcore := conCells_permute_input baseOK_append (sw := shapeOf eo) (resortAt_red "sum")
    (fun _ _ _ h => conTerm_src "sum" h) (opViews_get hj) (dotOK_of_side hin hside) hperm hp
    (by rw [opViews_shapes]; exact hplan)
  rw [okOpt_denoteDot_con _ eo (concatFreeL_set _ j e' hin he') heo, okOpt_denoteDot_con exprsIn eo hin heo, ← hcore,
    regsAfter, opViews_set, Option.map_map, Option.map_map]
  rfl

/-- **The same, semantically.**  For every element algebra `A` whose reduction symbols are invariant under permutations
of their arguments (`RedInvariant`, e.g. integer sum; *no* assumption on `multiply`, whose operand order is untouched)
and all concrete input tensors `xs`: evaluating the changed operation over the registers `regsAfter …` evaluated on
`xs` (register `j` is then `runPlan A xs plan`, numpy's transpose of `xs[j]`; see `evalRegs_transposed`) gives the same
values as the original operation on `xs`. -/
theorem denote_dot_permute_input_sem {α : Type} (A : Alg α) (hA : RedInvariant A) (xs : List (Tensor α))
    (exprsIn : List Expr) (j : Nat) (e e' eo : Expr) (perm : List Nat)
    (hj : exprsIn[j]? = some e)
    (hin : Expr.concatFreeL exprsIn = true) (he' : e'.concatFree = true) (heo : eo.concatFree = true)
    (hperm : isPermOf perm (rootDims e).length = true) (hp : permuteL perm (rootDims e) = some (rootDims e'))
    (hside : dotSideB exprsIn eo = true) :
    ∃ plan, planInstr (exprsIn.map shapeOf) (.transpose j perm) = .ok plan ∧
      (okOpt (denoteDot (exprsIn.set j e') eo)).map (fun t => t.data.map
          (evalCell A ((regsAfter (exprsIn.set j e') j plan).map (Tensor.map (evalCell A xs)))))
        = (okOpt (denoteDot exprsIn eo)).map (fun t => t.data.map (evalCell A xs)) := by
  obtain ⟨plan, hplan, _⟩ := transpose_plan_view (shapes := exprsIn.map shapeOf) (x := j) hperm hp
    (by simp [hj, shapeOf_eq])
  refine ⟨plan, hplan, ?_⟩
  rw [okOpt_denoteDot_con _ eo (concatFreeL_set _ j e' hin he') heo, okOpt_denoteDot_con exprsIn eo hin heo, regsAfter,
    opViews_set, Option.map_map, Option.map_map]
  exact conCells_permute_input_sem baseOK_append (f := "sum") hA xs (sw := shapeOf eo) (opViews_get hj)
    (dotOK_of_side hin hside) hperm hp (by rw [opViews_shapes]; exact hplan)

/-- What the evaluated registers are: register `j` is the IR's transpose plan run on the concrete inputs. -/
theorem evalRegs_transposed {α : Type} (A : Alg α) (xs : List (Tensor α)) (exprsIn' : List Expr) (j : Nat) (plan : Plan)
    (hj : j < exprsIn'.length) :
    ((regsAfter exprsIn' j plan).map (Tensor.map (evalCell A xs)))[j]? = some (runPlan A xs plan) := by
  simp [regsAfter, permRegs, opViews, hj, runPlan, Tensor.map, evalCells_eq_map]

/-- The other registers are the inputs themselves whenever input `k` has the shape of its expression. -/
theorem evalRegs_fixed {α : Type} (A : Alg α) (xs : List (Tensor α)) (exprsIn' : List Expr) (j k : Nat) (plan : Plan)
    (e : Expr) (x : Tensor α) (hk : exprsIn'[k]? = some e) (hkj : k ≠ j) (hx : xs[k]? = some x)
    (hshape : x.shape = shapeOf e) (hdata : x.data.length = prod (shapeOf e)) :
    ((regsAfter exprsIn' j plan).map (Tensor.map (evalCell A xs)))[k]? = some x := by
  obtain ⟨hlt, hget⟩ := List.getElem?_eq_some_iff.mp hk
  simp only [regsAfter, permRegs, opViews, List.getElem?_map, List.getElem?_zipIdx, Nat.zero_add,
    List.getElem?_eq_getElem hlt, Option.map_some, hkj, if_false, hget, Option.some.injEq]
  obtain ⟨xshape, xdata⟩ := x
  simp only at hshape hdata
  subst hshape
  simp only [symInput, Tensor.map, Tensor.mk.injEq, true_and, List.map_map]
  apply List.ext_getElem
  · simp [hdata]
  · intro i h1 h2
    simp only [List.getElem_map, List.getElem_range, Function.comp, evalCell, readReg, hx]
    simp [h2]

/-! ### dot: parentheses on one operand -/

/-- **Grouping adjacent axes of one operand of a dot with parentheses (and reshaping its tensor) leaves the result
unchanged.**  The reshape `pre mid post → pre (mid) post` keeps the row-major order, so the symbolic results -- over
the flat positions of the operands -- are *equal*; `mid` may contain contracted axes. -/
theorem denote_dot_regroup_input (exprsIn : List Expr) (j : Nat) (pre mid post : List Expr) (eo : Expr)
    (h1 : Expr.concatFreeL (exprsIn.set j (grouped pre mid post)) = true)
    (h2 : Expr.concatFreeL (exprsIn.set j (ungrouped pre mid post)) = true) (heo : eo.concatFree = true) :
    okOpt (denoteDot (exprsIn.set j (grouped pre mid post)) eo)
      = okOpt (denoteDot (exprsIn.set j (ungrouped pre mid post)) eo) := by
  rw [okOpt_denoteDot_con _ eo h1 heo, okOpt_denoteDot_con _ eo h2 heo, opViews_set, opViews_set, rootDims_grouped,
    rootDims_ungrouped, conX_regroup_input]

/-- Non-vacuity of the dot input laws: `dot: a [b] [c], [c] d [b] e -> e a d` with a = b = c = 2, d = 3, e = 1 (two
contracted axes of equal length, a length-1 axis), the *second* operand permuted by `[2, 3, 0, 1]` to `[b] e [c] d`
(the order of first occurrence of the contracted axes stays `b c`) and the *first* operand permuted by `[2, 1, 0]` to
`[c] [b] a` (the contracted axes are now enumerated as `c b`: the terms of every sum change their order).  All
hypotheses hold; the changed operations yield different cells; plain substitution of the transposed tensor is *not*
enough in the second case, substitution and re-sorting the sum gives the original cells, which are genuine sums of four
products. -/
example :
    let a := Expr.axis "a" 2; let b := Expr.axis "b" 2; let c := Expr.axis "c" 2; let d := Expr.axis "d" 3
    let e := Expr.axis "e" 1
    let x := Expr.list [a, .br b, .br c]; let y := Expr.list [.br c, d, .br b, e]
    let y' := Expr.list [.br b, e, .br c, d]; let x' := Expr.list [.br c, .br b, a]
    let eo := Expr.list [e, a, d]
    Expr.concatFreeL [x, y] = true ∧ y'.concatFree = true ∧ x'.concatFree = true ∧ eo.concatFree = true ∧
    isPermOf [2, 3, 0, 1] (rootDims y).length = true ∧ isPermOf [2, 1, 0] (rootDims x).length = true ∧
    (permuteL [2, 3, 0, 1] (rootDims y)).map viewShape = some (viewShape (rootDims y')) ∧
    (permuteL [2, 1, 0] (rootDims x)).map viewShape = some (viewShape (rootDims x')) ∧
    dotSideB [x, y] eo = true ∧
    (match planInstr [shapeOf x, shapeOf y] (.transpose 1 [2, 3, 0, 1]), planInstr [shapeOf x, shapeOf y] (.transpose 0 [2, 1, 0]),
        okOpt (denoteDot [x, y'] eo), okOpt (denoteDot [x', y] eo), okOpt (denoteDot [x, y] eo) with
      | .ok p1, .ok p0, some t1, some t0, some t =>
        Tensor.beq (substResortSum (regsAfter [x, y'] 1 p1) t1) t && !Tensor.beq t1 t &&
        Tensor.beq (substResortSum (regsAfter [x', y] 0 p0) t0) t && !Tensor.beq t0 t &&
        !Tensor.beq (t0.map (subst (regsAfter [x', y] 0 p0))) t &&
        t.shape == [1, 2, 3] &&
        Cell.beqL (t.data.take 1)
          [.app "red:sum" [.app "multiply" [.src 0 0, .src 1 0], .app "multiply" [.src 0 1, .src 1 6],
                           .app "multiply" [.src 0 2, .src 1 1], .app "multiply" [.src 0 3, .src 1 7]]]
      | _, _, _, _, _ => false) = true := by
  decide +kernel

example :
    let a := Expr.axis "a" 2; let b := Expr.axis "b" 2; let c := Expr.axis "c" 2; let d := Expr.axis "d" 3
    let e := Expr.axis "e" 1
    let x := Expr.list [a, .br b, .br c]; let y := Expr.list [.br c, d, .br b, e]
    let x' := Expr.list [.br c, .br b, a]
    let eo := Expr.list [e, a, d]
    ∃ plan, planInstr ([x, y].map shapeOf) (.transpose 0 [2, 1, 0]) = .ok plan ∧ plan.shape = shapeOf x' ∧
      (okOpt (denoteDot ([x, y].set 0 x') eo)).map (substResortSum (regsAfter ([x, y].set 0 x') 0 plan))
        = okOpt (denoteDot [x, y] eo) :=
  denote_dot_permute_input _ 0 _ _ _ [2, 1, 0] rfl (by decide +kernel) (by decide +kernel) (by decide +kernel)
    (by decide +kernel) rfl (by decide +kernel)

/-- Integer sums of products: `red:sum` adds, `multiply` multiplies. -/
def sumProdAlg : Alg Int :=
  { lit := id, bad := 0,
    app := fun g xs => if g = "red:sum" then xs.sum else if g = "multiply" then xs.foldl (· * ·) 1 else 0 }

theorem sumProdAlg_redInvariant : RedInvariant sumProdAlg := by
  intro g xs ys h
  simp only [sumProdAlg, red_ne_multiply g, if_false]
  split
  · exact h.sum_eq
  · rfl

-- Non-vacuity of the semantic law and of the regrouping law, over `sumProdAlg` on `x = 0..7`, `y = 1..12`: both sides
-- evaluate to the same six numbers, which are not all equal; `[c] (d [b]) e` against `[c] d [b] e` for the second
-- operand.
example :
    let a := Expr.axis "a" 2; let b := Expr.axis "b" 2; let c := Expr.axis "c" 2; let d := Expr.axis "d" 3
    let e := Expr.axis "e" 1
    let x := Expr.list [a, .br b, .br c]; let y := Expr.list [.br c, d, .br b, e]
    let x' := Expr.list [.br c, .br b, a]
    let eo := Expr.list [e, a, d]
    let xs : List (Tensor Int) := [⟨[2, 2, 2], (List.range 8).map Int.ofNat⟩, ⟨[2, 3, 2, 1], (List.range 12).map (fun i => Int.ofNat (i + 1))⟩]
    RedInvariant sumProdAlg ∧
    (match planInstr ([x, y].map shapeOf) (.transpose 0 [2, 1, 0]), okOpt (denoteDot [x', y] eo), okOpt (denoteDot [x, y] eo),
        okOpt (denoteDot [x, grouped [.br c] [d, .br b] [e]] eo), okOpt (denoteDot [x, ungrouped [.br c] [d, .br b] [e]] eo) with
      | .ok plan, some t', some t, some g, some u =>
        t'.data.map (evalCell sumProdAlg ((regsAfter [x', y] 0 plan).map (Tensor.map (evalCell sumProdAlg xs))))
            == t.data.map (evalCell sumProdAlg xs) &&
          t.data.map (evalCell sumProdAlg xs) == [35, 47, 59, 107, 151, 195] &&
          (runPlan sumProdAlg xs plan).data == [0, 4, 2, 6, 1, 5, 3, 7] &&
          Tensor.beq g u && Tensor.beq u t && shapeOf (grouped [.br c] [d, .br b] [e]) == [2, 6, 1]
      | _, _, _, _, _ => false) = true :=
  ⟨sumProdAlg_redInvariant, by decide +kernel⟩

/-! ### elementwise, any number of operands, executable loop form -/

/-- **Reordering the root dimensions of one operand of an n-ary elementwise operation while transposing that operand's
tensor leaves the result unchanged** -- for the executable loop form `Denote.denoteElementwise`
(`C08.denote_permute_input_elementwise` is the same law on the functional form over views).  Operand `j` is `e`; `e'`
has its root dimensions permuted by `perm`; the registers are `regsAfter` (transposed tensor in register `j`, symbolic
inputs elsewhere).  Plain substitution suffices: the argument order of `f` is the operand order and does not change.
Hypotheses (decidable): concatenation-free; per operand, leaf sizes consistent with the output. -/
theorem denote_elementwise_permute_input (f : String) (exprsIn : List Expr) (j : Nat) (e e' eo : Expr) (perm : List Nat)
    (hj : exprsIn[j]? = some e)
    (hin : Expr.concatFreeL exprsIn = true) (he' : e'.concatFree = true) (heo : eo.concatFree = true)
    (hperm : isPermOf perm (rootDims e).length = true) (hp : permuteL perm (rootDims e) = some (rootDims e'))
    (hcons : exprsIn.all (fun x => consistentB (Dim.leavesL (rootDims x) ++ Dim.leavesL (rootDims eo))) = true) :
    ∃ plan, planInstr (exprsIn.map shapeOf) (.transpose j perm) = .ok plan ∧ plan.shape = shapeOf e' ∧
      (okOpt (denoteElementwise f (exprsIn.set j e') eo)).map (substT (regsAfter (exprsIn.set j e') j plan))
        = okOpt (denoteElementwise f exprsIn eo) := by
  obtain ⟨plan, hplan, hs, _⟩ := transpose_plan_view (shapes := exprsIn.map shapeOf) (x := j) hperm hp
    (by simp [hj, shapeOf_eq])
  refine ⟨plan, hplan, hs, ?_⟩
  have hcells := ewCells_permute_input (f := f) (sw := shapeOf eo) (w := rootDims eo) (opViews_get hj)
    (fun p hp' => by
      obtain ⟨x, hx, rfl⟩ := List.mem_map.mp hp'
      exact ⟨shapeOf_eq x, rootDims_concatFree (concatFreeL_mem _ hin x hx)⟩)
    hperm hp
    (fun p hp' => by
      obtain ⟨x, hx, rfl⟩ := List.mem_map.mp hp'
      exact consistentB_spec (List.all_eq_true.mp hcons x hx))
    (by rw [opViews_shapes]; exact hplan)
  rw [okOpt_denoteElementwise f _ eo (concatFreeL_set _ j e' hin he') heo, okOpt_denoteElementwise f exprsIn eo hin heo]
  have e1 : (exprsIn.set j e').map (fun e => (rootDims e, shapeOf e)) = opViews (exprsIn.set j e') := rfl
  have e2 : exprsIn.map (fun e => (rootDims e, shapeOf e)) = opViews exprsIn := rfl
  rw [e1, e2, ← hcells, regsAfter, opViews_set]
  cases ewCells f ((opViews exprsIn).set j (rootDims e', viewShape (rootDims e'))) (rootDims eo) (shapeOf eo) <;> rfl

/-- Non-vacuity: `where`-like ternary operation `f: a (b c) d, d b, c a -> (d a) c b` with a = b = 2, c = 1, d = 3; the
first operand permuted by `[2, 0, 1]` to `d a (b c)`.  Hypotheses hold, the permuted operation yields different
cells, the conclusion's left side is the original result with 12 genuine ternary applications. -/
example :
    let a := Expr.axis "a" 2; let b := Expr.axis "b" 2; let c := Expr.axis "c" 1; let d := Expr.axis "d" 3
    let x := Expr.list [a, .flat (.list [b, c]), d]; let x' := Expr.list [d, a, .flat (.list [b, c])]
    let ins := [x, Expr.list [d, b], Expr.list [c, a]]
    let eo := Expr.list [.flat (.list [d, a]), c, b]
    (match planInstr (ins.map shapeOf) (.transpose 0 [2, 0, 1]), okOpt (denoteElementwise "where" (ins.set 0 x') eo),
        okOpt (denoteElementwise "where" ins eo) with
      | .ok plan, some t', some t =>
        Tensor.beq (substT (regsAfter (ins.set 0 x') 0 plan) t') t && !Tensor.beq t' t && t.data.length == 12 &&
          Cell.beqL (t.data.take 2) [.app "where" [.src 0 0, .src 1 0, .src 2 0], .app "where" [.src 0 3, .src 1 1, .src 2 0]]
      | _, _, _ => false) = true ∧
    ∃ plan, planInstr (ins.map shapeOf) (.transpose 0 [2, 0, 1]) = .ok plan ∧ plan.shape = shapeOf x' ∧
      (okOpt (denoteElementwise "where" (ins.set 0 x') eo)).map (substT (regsAfter (ins.set 0 x') 0 plan))
        = okOpt (denoteElementwise "where" ins eo) :=
  ⟨by decide +kernel, denote_elementwise_permute_input "where" _ 0 _ _ _ [2, 0, 1] rfl (by decide +kernel)
    (by decide +kernel) (by decide +kernel) (by decide +kernel) rfl (by decide +kernel)⟩

/-! ### concatenations: parentheses -/

theorem map_entries_id (x : Option (List (Nat × Cell))) : x.map (List.map (fun e => (e.1, id e.2))) = x := by
  cases x with
  | none => rfl
  | some l => simp

theorem map_tensors_id (x : Option (List (Tensor Cell))) : x.map (List.map (Tensor.map id)) = x := by
  have : (Tensor.map id : Tensor Cell → Tensor Cell) = id := by
    funext t; cases t; simp [Tensor.map]
  cases x with
  | none => rfl
  | some l => simp [this]

/-- **Grouping adjacent axes of an input expression of `id` with parentheses (and reshaping its tensor) leaves the
results unchanged -- for arbitrary solved expressions, concatenations included** (in `pre`, `mid`, `post`, in the other
inputs and in the outputs; any number of tensors).  The enumeration of the virtual tensors commutes with grouping
(`viewsFuel_regroup`: the leftmost concatenation is the same one, depth first), every virtual tensor has the shape of
the real one (`views_viewShape`), and reading a regrouped view from the reshaped tensor is reading the original view
from the original tensor (`cellAt_regroup`, valid for chosen blocks of concatenations as well).  No hypothesis. -/
theorem denoteId_regroup_input_concat (exprsIn exprsOut : List Expr) (j : Nat) (pre mid post : List Expr) :
    okOpt (denoteId (exprsIn.set j (grouped pre mid post)) exprsOut)
      = okOpt (denoteId (exprsIn.set j (ungrouped pre mid post)) exprsOut) := by
  rw [denoteId_fun_agree_general, denoteId_fun_agree_general]
  have key := denoteIdFunG_congr_in id (exprsIn.set j (grouped pre mid post)) (exprsIn.set j (ungrouped pre mid post))
    exprsOut ?_
  · rw [map_tensors_id] at key; exact key
  · unfold idVin
    apply forall₂_flatMap₂ _ _ (forall₂_zipIdx_set exprsIn j _ _)
    rintro ⟨x, i⟩ ⟨y, i'⟩ ⟨hi, hxy⟩
    simp only at hi hxy
    subst hi
    rcases hxy with rfl | ⟨rfl, rfl⟩
    · apply List.forall₂_same.mpr
      intro a _ z _
      exact map_entries_id _
    · rw [List.forall₂_map_left_iff, List.forall₂_map_right_iff]
      refine (views_regroup pre mid post).imp ?_
      rintro g u ⟨⟨P, M, Q, rfl, rfl⟩, hg, hu⟩ z _
      rw [map_entries_id]
      have h1 : shapeOf (grouped pre mid post) = viewShape (P ++ [Dim.flat M] ++ Q) := by
        rw [shapeOf_eq, rootDims_grouped, hg]
      have h2 : shapeOf (ungrouped pre mid post) = viewShape (P ++ M ++ Q) := by
        rw [shapeOf_eq, rootDims_ungrouped, hu]
      simp only [h1, h2]
      exact idPairEntries_regroup_in exprsOut P M Q i z

/-- Non-vacuity: `id: a (b + c) d, e -> (a (b + c) d + e)`-like operation with a concatenation *inside* the group:
`a ((b + c) d) -> ((b + c) d) a` against `a (b + c) d -> ((b + c) d) a`, a = 2, b = 1, c = 2, d = 2.  Neither side is
concatenation-free, both are defined, the shapes of the inputs differ, the results are equal and a genuine
rearrangement of 12 elements. -/
example :
    let a := Expr.axis "a" 2; let b := Expr.axis "b" 1; let c := Expr.axis "c" 2; let d := Expr.axis "d" 2
    let G := grouped [a] [.concat [b, c], d] []; let U := ungrouped [a] [.concat [b, c], d] []
    let eo := Expr.list [.flat (.list [.concat [b, c], d]), a]
    Expr.concatFreeL [G] = false ∧ shapeOf G = [2, 6] ∧ shapeOf U = [2, 3, 2] ∧
    (match okOpt (denoteId [G] [eo]), okOpt (denoteId [U] [eo]) with
      | some [t1], some [t2] => Tensor.beq t1 t2 && t1.shape == [6, 2] &&
          Cell.beqL (t1.data.take 4) [.src 0 0, .src 0 6, .src 0 1, .src 0 7]
      | _, _ => false) = true ∧
    okOpt (denoteId ([G].set 0 G) [eo]) = okOpt (denoteId ([G].set 0 U) [eo]) :=
  ⟨by decide +kernel, by decide +kernel, by decide +kernel, by decide +kernel,
    denoteId_regroup_input_concat _ _ 0 _ _ _⟩

/-! ### concatenations: reordering the root dimensions of the input -/

/-- Decidable side condition: every virtual tensor of `e` is well formed (a chosen block of a concatenation fits into
the concatenation) and its leaf sizes are consistent per name with every virtual output. -/
def viewsSideB (e : Expr) (exprsOut : List Expr) : Bool :=
  (views e).all (fun v => Dim.viewOKL v &&
    (idVout exprsOut).all (fun z => consistentB (Dim.leavesL v ++ Dim.leavesL z.1)))

/-- **Reordering the root dimensions of the input expression of `id` together with the tensor, concatenations
included -- partial.**  One input `e` (concatenations allowed anywhere in it), any outputs (e.g. the split
`a (b + c) d -> a b d, a c d`, or a concatenation on both sides).  `e'` has the root dimensions of `e` permuted by `perm`
and the tensor is transposed by numpy.  Then the results of `e' -> outs`, with the transposed tensor substituted, are the
results of `e -> outs`; one fails iff the other does.
Partial because of the hypothesis `hviews`: the enumeration of the virtual tensors of `e'` is the enumeration of those of
`e`, each permuted by `perm`.  This holds whenever the root dimensions that contain concatenations keep their relative
order (einx pairs the blocks of inputs and outputs by position, leftmost concatenation first; if two such dimensions
are swapped the law is *false*); it is a closed equation for concrete expressions (`rfl` in the example below), but the
general characterisation is not proved.  The other hypotheses are decidable. -/
theorem denoteId_permute_input_concat_partial (e e' : Expr) (exprsOut : List Expr) (perm : List Nat)
    (hperm : isPermOf perm (rootDims e).length = true) (hp : permuteL perm (rootDims e) = some (rootDims e'))
    (hviews : (views e).map (permuteL perm) = (views e').map some)
    (hside : viewsSideB e exprsOut = true) :
    ∃ plan, planInstr [shapeOf e] (.transpose 0 perm) = .ok plan ∧ plan.shape = shapeOf e' ∧
      (okOpt (denoteId [e'] exprsOut)).map (List.map (substT [⟨plan.shape, plan.cells⟩]))
        = okOpt (denoteId [e] exprsOut) := by
  obtain ⟨plan, hplan, hs, _⟩ := transpose_plan_view (shapes := [shapeOf e]) (x := 0) hperm hp rfl
  refine ⟨plan, hplan, hs, ?_⟩
  rw [denoteId_fun_agree_general, denoteId_fun_agree_general]
  refine denoteIdFunG_congr_in (subst [⟨plan.shape, plan.cells⟩]) [e'] [e] exprsOut ?_
  simp only [idVin, List.zipIdx_cons, List.zipIdx_nil, List.flatMap_cons, List.flatMap_nil, List.append_nil]
  rw [List.forall₂_map_left_iff, List.forall₂_map_right_iff]
  refine (forall₂_and_mem (forall₂_of_map_eq _ _ _ hviews)).imp ?_
  rintro v' v ⟨hv', hmem', hmem⟩ z hz
  have hsv : viewShape v = shapeOf e := views_viewShape e v hmem
  have hsv' : viewShape v' = shapeOf e' := views_viewShape e' v' hmem'
  have hvlen : v.length = (rootDims e).length := by
    have := congrArg List.length hsv
    simpa [viewShape, shapeOf, rootDims] using this
  simp only [viewsSideB, List.all_eq_true, Bool.and_eq_true] at hside
  obtain ⟨hok, hcons⟩ := hside v hmem
  have := idPairEntries_permute_in exprsOut z (by rw [hvlen]; exact hperm) hv' hok (consistentB_spec (hcons z hz))
    (by rw [hsv]; exact hplan)
  rw [hsv, hsv'] at this
  exact this

/-- Non-vacuity: the split `a (b + c) d -> a b d, d c a` with a = 2, b = 1, c = 2, d = 2 (a concatenation in the input,
two outputs, equal lengths on different axes, a length-1 block); the input permuted by `[2, 0, 1]` to `d a (b + c)` (the
siblings of the concatenation move, the concatenation itself moves too).  All hypotheses hold (`hviews` by `rfl`), the
permuted operation yields different cells, and substituting the transposed tensor gives the original results. -/
example :
    let a := Expr.axis "a" 2; let b := Expr.axis "b" 1; let c := Expr.axis "c" 2; let d := Expr.axis "d" 2
    let e := Expr.list [a, .concat [b, c], d]; let e' := Expr.list [d, a, .concat [b, c]]
    let outs := [Expr.list [a, b, d], Expr.list [d, c, a]]
    Expr.concatFreeL [e] = false ∧ isPermOf [2, 0, 1] (rootDims e).length = true ∧ viewsSideB e outs = true ∧
    (match planInstr [shapeOf e] (.transpose 0 [2, 0, 1]), okOpt (denoteId [e'] outs), okOpt (denoteId [e] outs) with
      | .ok plan, some [t1', t2'], some [t1, t2] =>
        Tensor.beq (substT [⟨plan.shape, plan.cells⟩] t1') t1 && Tensor.beq (substT [⟨plan.shape, plan.cells⟩] t2') t2 &&
          !Tensor.beq t2' t2 && t1.shape == [2, 1, 2] && t2.shape == [2, 2, 2] &&
          Cell.beqL (t2.data.take 4) [.src 0 2, .src 0 8, .src 0 4, .src 0 10]
      | _, _, _ => false) = true := by
  decide +kernel

example :
    let a := Expr.axis "a" 2; let b := Expr.axis "b" 1; let c := Expr.axis "c" 2; let d := Expr.axis "d" 2
    let e := Expr.list [a, .concat [b, c], d]; let e' := Expr.list [d, a, .concat [b, c]]
    let outs := [Expr.list [a, b, d], Expr.list [d, c, a]]
    ∃ plan, planInstr [shapeOf e] (.transpose 0 [2, 0, 1]) = .ok plan ∧ plan.shape = shapeOf e' ∧
      (okOpt (denoteId [e'] outs)).map (List.map (substT [⟨plan.shape, plan.cells⟩])) = okOpt (denoteId [e] outs) :=
  denoteId_permute_input_concat_partial _ _ _ [2, 0, 1] (by decide +kernel) rfl rfl (by decide +kernel)

/-- **Every virtual tensor enumerated for a solved expression is well formed** (a chosen block `off o d t` of a
concatenation fits: `o + d.size ≤ t`, also for nested concatenations): the `viewOKL` conjunct of `viewsSideB` always holds;
what remains of `viewsSideB` is the consistency of leaf sizes. -/
theorem views_wellformed (e : Expr) : (views e).all Dim.viewOKL = true := by
  simp only [List.all_eq_true]
  exact views_viewOK e

/-- Non-vacuity: `a ((b + (c + d)) e)` has three virtual tensors (a nested concatenation inside a group), none of them
concatenation-free in the sense of `Dim.concatFreeL` (they contain chosen blocks), all of them well formed. -/
example :
    let e := Expr.list [.axis "a" 2, .flat (.list [.concat [.axis "b" 1, .concat [.axis "c" 2, .axis "d" 3]], .axis "e" 2])]
    (views e).length = 3 ∧ (views e).all (fun v => !Dim.concatFreeL v) = true ∧ (views e).all Dim.viewOKL = true := by
  decide +kernel

end Einx.C08c
