import EinxModel.Proofs.NotationCarets
import EinxModel.Proofs.NotationSpace
import EinxModel.Proofs.NotationPrintFinal
import EinxModel.Proofs.NotationNFPrintable
/-!
# C12 — the expression parser is total and stable under re-printing and extra spacing

All statements are about `Einx.Notation.parseOp` / `parseArgs` / `parseArg` / `Expr.print`, the definitions the
driver executes (model M1 of `einx/_src/namedtensor/stage1/{parse,tree}.py`).  Strings are lists of code points.

*Remark (`parse_total`).*  `parseOp : Str → Except Err Expr` is a total Lean function: `segment` recurses on the
length of the remaining text (every literal is non-empty, `literals_nonempty`), `parse` by well-founded recursion on
the size of the token tree (`termination_by sizeL ts`, lemmas `operands_lt`, `strip_le`), the `move_up` passes, the
bracket pass and the printer by structural recursion.  No `partial`, no fuel.
-/
namespace Einx.Props.C12
open Einx.Notation

/-! ## (e) Obligations over the constants extracted from /repo on every run -/

/-- Operator precedence of the source (lowest first), ignoring the unimplemented `|`: `->` < `,` < `+` < space. -/
theorem nary_ops_precedence : Einx.Extracted.naryOps.filter (· != "|") = ["->", ",", "+", " "] := by decide +kernel

/-- The operators for which `parse` has a branch are exactly the four the model's `combine` handles. -/
theorem handled_ops_are_the_models :
    (Einx.Extracted.handledOps.all (fun o => modelHandled.contains o.toList) &&
      modelHandled.all (fun o => (Einx.Extracted.handledOps.map String.toList).contains o)) = true := by decide +kernel

/-- Every operator of `_nary_ops` without a branch in `parse` (it ends in `raise AssertionError()`) is `|`. -/
theorem unhandled_ops_only_bar : ∀ op ∈ naryOps, op ∉ modelHandled → op = ['|'] := by decide +kernel

/-- No literal is empty (otherwise the lexer loop of `parse_op` would not advance). -/
theorem literals_nonempty : ∀ l ∈ literals, l ≠ [] := fun _ hl h => literals_ne_nil (h ▸ hl)

/-- No literal is a prefix of another one: the first match in `_literals` is the only match, so the (hash-seed
    dependent) order of the delimiter sets in `_literals` is irrelevant. -/
theorem literals_prefix_free : ∀ l ∈ literals, ∀ l' ∈ literals, l.isPrefixOf l' = true → l = l' := literals_prefixFree

/-- `_literals` is built from the other constants as the model assumes. -/
theorem literals_composition :
    Einx.Extracted.literals = Einx.Extracted.naryOps ++ Einx.Extracted.delimitersFront ++ Einx.Extracted.delimitersBack ++ [Einx.Extracted.ellipsis] := by
  decide +kernel

/-- Only a space literal contains a space: a space always ends the pending token and is a token of its own. -/
theorem only_space_literal_has_space : ∀ l ∈ literals, ' ' ∈ l → l = [' '] := by decide +kernel

theorem axis_name_pattern_exact : Einx.Extracted.axisNamePattern = "[a-zA-Z_][a-zA-Z0-9_]*" := by decide +kernel

theorem delimiters_exact : Einx.Extracted.parentheses = [("(", ")"), ("[", "]")] ∧ Einx.Extracted.ellipsis = "..." := by decide +kernel

/-- The anonymous ellipsis variable cannot be written by a user: it is neither an axis name, a number nor a literal. -/
theorem anonymous_name_not_writable : validToken anonName = false := by decide +kernel

/-- ASCII digits are decimal digits with their usual value (what `int()` computes for them). -/
theorem ascii_digits_decimal :
    ("0123456789".toList.map (fun c => (isDigitChar c, isDecimalChar c, decimalValue c))) =
      (List.range 10).map (fun i => (true, true, i)) := by decide +kernel

/-! ## (a) Totality: the only outcomes -/

/-- Outcome classes of `parse_op`.  Besides a tree and a `SyntaxError`, only these internal exceptions are possible:
    an operator of `_nary_ops` without handler (by `unhandled_ops_only_bar`: `|`, the `AssertionError` of `'a | a'`),
    `int()` of a non-decimal digit (`ValueError` of `'²'`), and three assertions (`assertAxisName`, `assertDelimiter`,
    `assertMoveUp`) that the correspondence runs never observed.  The `assert isinstance(expression, Op)` after the
    first `move_up` pass is proved unreachable. -/
theorem parse_total_cases (text : Str) :
    (∃ x, parseOp text = .ok x) ∨ (∃ k pos alts, parseOp text = .error (.syntax k pos alts)) ∨
    (∃ k, parseOp text = .error (.internal k) ∧
      ((∃ op, k = .unhandledOp op ∧ op ∈ naryOps ∧ op ∉ modelHandled) ∨ k = .intLiteral ∨ k = .assertAxisName ∨
        k = .assertDelimiter ∨ k = .assertMoveUp)) := by
  have h := parseOp_int text
  cases hp : parseOp text with
  | ok x => exact Or.inl ⟨x, rfl⟩
  | error err =>
    rw [hp] at h
    rcases err with ⟨k, pos, alts⟩ | ⟨k⟩
    · exact Or.inr (Or.inl ⟨k, pos, alts, rfl⟩)
    · refine Or.inr (Or.inr ⟨k, rfl, ?_⟩)
      rcases h with (h | h | h | h) | h
      · exact Or.inl h
      · exact Or.inr (Or.inl h)
      · exact Or.inr (Or.inr (Or.inl h))
      · exact Or.inr (Or.inr (Or.inr (Or.inl h)))
      · exact Or.inr (Or.inr (Or.inr (Or.inr h)))

/-- The unhandled operator of an internal failure is `|`. -/
theorem unhandled_op_is_bar (text : Str) (op : Str) (h : parseOp text = .error (.internal (.unhandledOp op))) : op = ['|'] := by
  have := parseOp_int text
  rw [h] at this
  rcases this with (⟨op', h1, h2, h3⟩ | h1 | h1 | h1) | h1
  · cases h1; exact unhandled_ops_only_bar op h2 h3
  all_goals cases h1

/-! ## (b) Caret positions -/

/-- `parse_err_pos_in_range`: every caret position of every `SyntaxError` that `parse_op` can raise (including the
    alternatives that depend on set iteration order) lies inside the caller's string — the `assert` in
    `einx.errors.SyntaxError.__init__` and in `ExpressionIndicator.get_pos_for_literal` cannot fire. -/
theorem parse_err_pos_in_range (text : Str) (k : SynKind) (pos : List Int) (alts : List (List Int))
    (h : parseOp text = .error (.syntax k pos alts)) :
    (∀ p ∈ pos, 0 ≤ p ∧ p < text.length) ∧ ∀ a ∈ alts, ∀ p ∈ a, 0 ≤ p ∧ p < text.length := by
  have := parseOp_ok text
  rw [h] at this
  exact this

theorem parse_args_err_pos_in_range (text : Str) (k : SynKind) (pos : List Int) (alts : List (List Int))
    (h : parseArgs text = .error (.syntax k pos alts)) :
    (∀ p ∈ pos, 0 ≤ p ∧ p < text.length) ∧ ∀ a ∈ alts, ∀ p ∈ a, 0 ≤ p ∧ p < text.length := by
  have := parseArgs_ok text
  rw [h] at this
  exact this

theorem parse_arg_err_pos_in_range (text : Str) (k : SynKind) (pos : List Int) (alts : List (List Int))
    (h : parseArg text = .error (.syntax k pos alts)) :
    (∀ p ∈ pos, 0 ≤ p ∧ p < text.length) ∧ ∀ a ∈ alts, ∀ p ∈ a, 0 ≤ p ∧ p < text.length := by
  have := parseArg_ok text
  rw [h] at this
  exact this

/-- Positions on the returned tree: every node's `range(begin_pos, end_pos)` is empty or inside the string, and both
    carets of every `Brackets` node are inside it — so the `assert`s of `get_pos_for_exprs`/`get_pos_for_brackets`, which
    later stages evaluate on these nodes, hold for parser output. -/
theorem parse_tree_positions_in_range (text : Str) (x : Expr) (h : parseOp text = .ok x) : ExprOK text.length x := by
  have := parseOp_ok text
  rw [h] at this
  exact this

/-! ## (c) Redundant spaces — token level

Reading (DESIGN.md, C12): a space is redundant if it is adjacent to another space, at the beginning or end of the string,
directly after an opening / before a closing delimiter, or adjacent to `->`, `,`, `+`.  Proved here: a space is always a
token of its own; the duplicate-space pass makes the token sequence independent of the number of adjacent spaces; leading
and trailing space tokens are invisible to `parse`.  The lift to `parseOp` for ALL redundant-space slots is section (c') below
(`space_invariance`); the metamorphic search (oracle O3) checks the same statement on the real parser. -/

/-- A space is lexed as a one-character token whatever follows, and lexing restarts after it. -/
theorem segment_space (cs : Str) (pos : Nat) :
    segment literals (' ' :: cs) pos pos [] = ⟨[' '], pos, pos + 1⟩ :: segment literals cs (pos + 1) (pos + 1) [] :=
  segment_lit (l := [' ']) cs (matchLit_lit (by decide +kernel) cs) pos

/-- Duplicate-space removal is idempotent. -/
theorem dedup_idempotent (ts : List Token) (f : Bool) : dedupSpaces (dedupSpaces ts f) f = dedupSpaces ts f := by
  induction ts generalizing f with
  | nil => simp [dedupSpaces]
  | cons t ts ih =>
    simp only [dedupSpaces]
    by_cases ht : t.isSpace = true
    · simp only [ht, if_true]
      cases f
      · simp only [Bool.false_eq_true, if_false, dedupSpaces, ht, if_true]
        rw [ih true]
      · simp only [if_true]; exact ih true
    · simp only [ht, Bool.false_eq_true, if_false, dedupSpaces]
      rw [ih false]

/-- Leading space tokens are invisible to `parse` (lines 143–144). -/
theorem strip_leading_space (t : Tok) (ts : List Tok) (h : t.isSpace = true) : strip (t :: ts) = strip ts :=
  strip_cons_space h ts

theorem texts_eq_of_tokRel {φ : Nat → Nat} {ts ts' : List Token} (h : Forall2 (TokRel φ) ts ts') :
    ts'.map (·.text) = ts.map (·.text) :=
  (h.map_eq fun _ _ ht => ht.1.symm).symm

/-- The normalised token texts of a string do not depend on how many spaces it starts with. -/
theorem leading_spaces_tokens (cs : Str) :
    (dedupSpaces (segment literals (' ' :: ' ' :: cs) 0 0 []) false).map (·.text) =
      (dedupSpaces (segment literals (' ' :: cs) 0 0 []) false).map (·.text) := by
  rw [segment_space, segment_space, segment_space]
  have hsp : ∀ b e, (Token.mk [' '] b e).isSpace = true := fun _ _ => rfl
  simp only [dedupSpaces, hsp, if_true, Bool.false_eq_true, if_false, List.map_cons]
  -- one space token is left on both sides; the remaining tokens differ only in their positions
  rw [texts_eq_of_tokRel (TreeIns.dedup_rel (segment_shift cs (0 + 1) (0 + 1) []) true)]

/-! ## (c') Redundant spaces — lifted to `parseOp`

`RedundantAt xs ys` (Proofs/NotationSim.lean) is the decidable predicate "a space between `xs` and `ys` is redundant":
`xs` is empty, `ys` is empty, `xs` ends with one of the literals ` ` `(` `[` `,` `+` `->`, or `ys` starts with one of
` ` `)` `]` `,` `+` `->`.  These are exactly the slot classes of DESIGN.md (adjacent to a space, begin/end of the string,
directly after an opening / before a closing delimiter, adjacent to `->`, `,`, `+`); a space before `...`, before an
opening or after a closing delimiter is NOT redundant (witnesses below).

Equality "up to positions and fresh ids" is `RSim φ` (Proofs/NotationSim.lean): both results are trees related by
`ESim φ` — same constructors, same named axes, same values; positions arbitrary; every fresh name `unnamed.p` renamed to
`unnamed.(φ p)` and every ellipsis id `d` replaced by `φ d` (the model derives both from token positions, the real code
draws `uuid4()`) — or both are errors raised at the same site (`ErrSim`: same `SynKind`/`IntKind`, carets may differ).
With `φ` injective this is a renumbering of the fresh ids.  Inserting and deleting are the same statement read in the two
directions.

Proof layers (each in its own file under Proofs/): `segment_insert` (lexer: the longer text has exactly one more token,
a space, the later tokens are shifted by one), `tree_insert` (duplicate-space pass and delimiter stack: the additional
space is dropped as a duplicate, or is one additional atom at the edge of a group / of the root or next to an operator
atom), `parse_rel` (`parse` strips it or it ends up at the edge of an operand of the lowest-precedence operator of its
level), `finish_sim` (the `move_up` passes, the bracket pass and the post-checks only compare names for equality). -/

/-- `space_invariance`: inserting (or, read from right to left, deleting) one redundant space does not change the result
    of `parse_op` up to positions and an injective renumbering `φ` of the fresh ids; errors stay errors of the same kind. -/
theorem space_invariance (xs ys : Str) (h : RedundantAt xs ys = true) :
    ∃ φ : Nat → Nat, Function.Injective φ ∧ RSim φ (parseOp (xs ++ ys)) (parseOp (xs ++ ' ' :: ys)) := by
  obtain ⟨k, hk⟩ := parseOp_insert xs ys h
  exact ⟨shiftAt k, shiftAt_injective k, hk⟩

/-- `text[:k] + " " + text[k:]` -/
def insertSpace (s : Str) (k : Nat) : Str := s.take k ++ ' ' :: s.drop k

/-- Position `k` of `s` is a redundant-space slot. -/
def redundantSlot (s : Str) (k : Nat) : Bool := RedundantAt (s.take k) (s.drop k)

/-- The same statement by position. -/
theorem space_invariance_at (s : Str) (k : Nat) (h : redundantSlot s k = true) :
    ∃ φ : Nat → Nat, Function.Injective φ ∧ RSim φ (parseOp s) (parseOp (insertSpace s k)) := by
  have := space_invariance (s.take k) (s.drop k) h
  rwa [List.take_append_drop] at this

/-- Trees: the structure (`shape`: positions, fresh names and ellipsis ids erased) is the same, in both directions. -/
theorem space_invariance_tree (xs ys : Str) (h : RedundantAt xs ys = true) :
    (∀ x, parseOp (xs ++ ys) = .ok x → ∃ y, parseOp (xs ++ ' ' :: ys) = .ok y ∧ x.shape = y.shape) ∧
    (∀ y, parseOp (xs ++ ' ' :: ys) = .ok y → ∃ x, parseOp (xs ++ ys) = .ok x ∧ x.shape = y.shape) := by
  obtain ⟨φ, _, hr⟩ := space_invariance xs ys h
  constructor
  · intro x hx
    rw [hx] at hr
    obtain ⟨y, hy, hxy⟩ := hr.ok_left
    exact ⟨y, hy, ESim.shape_eq _ _ hxy⟩
  · intro y hy
    rw [hy] at hr
    cases hx : parseOp (xs ++ ys) with
    | error e => rw [hx] at hr; exact hr.elim
    | ok x => rw [hx] at hr; exact ⟨x, rfl, ESim.shape_eq _ _ hr⟩

/-- Errors: an error stays an error raised at the same site (same kind), in both directions. -/
theorem space_invariance_error (xs ys : Str) (h : RedundantAt xs ys = true) :
    (∀ e, parseOp (xs ++ ys) = .error e → ∃ e', parseOp (xs ++ ' ' :: ys) = .error e' ∧ ErrSim e e') ∧
    (∀ e', parseOp (xs ++ ' ' :: ys) = .error e' → ∃ e, parseOp (xs ++ ys) = .error e ∧ ErrSim e e') := by
  obtain ⟨φ, _, hr⟩ := space_invariance xs ys h
  constructor
  · intro e he
    rw [he] at hr
    exact hr.error_left
  · intro e' he'
    rw [he'] at hr
    cases hx : parseOp (xs ++ ys) with
    | error e => rw [hx] at hr; exact ⟨e, rfl, hr⟩
    | ok x => rw [hx] at hr; exact hr.elim

/-- Same outcome class and same structure (Boolean, for the witnesses below). -/
def sameOutcome (r r' : Res Expr) : Bool :=
  match r, r' with
  | .ok x, .ok y => x.shape.beq y.shape
  | .error _, .error _ => true
  | _, _ => false

/-- The slot classes that DESIGN.md excludes are really not redundant: a space between a name and `...`, before an opening
    delimiter and after a closing delimiter changes the result (tree vs. error, or a different tree); and the position
    inside the literal `->` is not a slot. -/
theorem non_redundant_slots_change_result :
    (RedundantAt "a".toList "...".toList = false ∧ sameOutcome (parseOp "a...".toList) (parseOp "a ...".toList) = false) ∧
    (RedundantAt "a".toList "(b)".toList = false ∧ sameOutcome (parseOp "a(b)".toList) (parseOp "a (b)".toList) = false) ∧
    (RedundantAt "(a)".toList "b".toList = false ∧ sameOutcome (parseOp "(a)b".toList) (parseOp "(a) b".toList) = false) ∧
    (RedundantAt "a-".toList ">b".toList = false ∧ sameOutcome (parseOp "a->b".toList) (parseOp "a- >b".toList) = false) := by
  decide +kernel

/-! ## (d) Re-printing -/

/-- Parse `s`, print the tree, parse the printed text: does the structure (positions, fresh names, ellipsis ids erased) survive? -/
def roundTrips (s : String) : Bool :=
  match parseOp s.toList with
  | .ok x =>
    (match parseOp x.print with
     | .ok y => x.shape.beq y.shape
     | .error _ => false)
  | .error _ => false

/-- `roundTrips` of a literal in terms of its characters.  The kernel sees a literal as `String.ofList chars`; rewriting with
    this (and its siblings below) before evaluating spares it the UTF-8 encoding and decoding behind `toList`. -/
theorem roundTrips_ofList (cs : Str) : roundTrips (String.ofList cs) =
    (match parseOp cs with
     | .ok x => (match parseOp x.print with | .ok y => x.shape.beq y.shape | .error _ => false)
     | .error _ => false) := by
  rw [roundTrips, String.toList_ofList]

/-- What the theorems below say about the tree of a text, read off one run of the parser: `Printable`, the three components
    of `Excluded`, the printed text, and whether the printed text parses back to the same shape.  A text that several
    theorems speak of is evaluated once, in its `observed_…` theorem. -/
def observe (cs : Str) : Option (Bool × (Bool × Bool × Bool) × String × Bool) :=
  match parseOp cs with
  | .ok t => some (Printable t, (anyNode patEllList t, anyNode patEllEll t, anyNode patFlatConcat t), String.ofList t.print,
      match parseOp t.print with | .ok y => t.shape.beq y.shape | .error _ => false)
  | .error _ => none

theorem roundTrips_observe (s : String) : roundTrips s = ((observe s.toList).map (·.2.2.2)).getD false := by
  unfold roundTrips observe
  cases parseOp s.toList <;> rfl

theorem printed_observe (s : String) :
    (parseOp s.toList).toOption.map (fun x => String.ofList x.print) = (observe s.toList).map (·.2.2.1) := by
  unfold observe
  cases parseOp s.toList <;> rfl

/-- `[[a b]...]`: the bracket pass leaves an ellipsis over a list.  What depends on how `Ellipsis.__str__` prints is stated
    relative to the extracted brace constants. -/
theorem observed_ell_list :
    (observe "[[a b]...]".toList).map (·.1) = some false ∧
    (observe "[[a b]...]".toList).map (·.2.1) = some (true, false, false) ∧
    (Einx.Extracted.ellipsisOpen = "{" → (observe "[[a b]...]".toList).map (·.2.2.2) = some false) ∧
    (Einx.Extracted.ellipsisOpen = "{" ∧ Einx.Extracted.ellipsisClose = "}" →
      (observe "[[a b]...]".toList).map (·.2.2.1) = some "[{a b}...]") := by
  rewrite [String.toList_ofList]
  decide +kernel

/-- An ellipsis over an ellipsis over `...`. -/
theorem observed_ell_ell :
    observe "[[......]...]".toList = some (false, (false, true, false), "[.........]", false) := by
  rewrite [String.toList_ofList]
  decide +kernel

/-- The first `move_up` pass leaves a flattened axis over a concatenation. -/
theorem observed_flat_concat :
    observe "((a + b) -> c)".toList = some (false, (false, false, true), "((a + b)) -> (c)", false) := by
  rewrite [String.toList_ofList]
  decide +kernel

/-- `print_parse` is FALSE on the pinned tree (D11): `parse_op("[[a b]...]")` succeeds, the inner brackets are dropped as
    redundant, and the resulting `Ellipsis` over a two-element `List` prints with the braces of `Ellipsis.__str__`,
    which the parser rejects.  Stated relative to the extracted brace constants so that it stays true (vacuously) once
    `Ellipsis.__str__` no longer prints braces. -/
theorem print_parse_refuted_braces :
    Einx.Extracted.ellipsisOpen = "{" → roundTrips "[[a b]...]" = false := by
  intro h
  rw [roundTrips_observe, observed_ell_list.2.2.1 h]
  rfl

/-- Second counterexample, independent of the braces: an ellipsis directly over an ellipsis over the anonymous ellipsis
    prints as `.........`, which is three `...` tokens in a row. -/
theorem print_parse_refuted_nested_ellipsis : roundTrips "[[......]...]" = false := by
  rw [roundTrips_observe, observed_ell_ell]
  rfl

/-- Third counterexample: the first `move_up` pass wraps each alternative of
    `((a + b) -> c)` in a `FlattenedAxis`, so the tree contains a `FlattenedAxis` directly over a `ConcatenatedAxis`; it
    prints as `((a + b))`, and the parser collapses the doubled parentheses to the bare `ConcatenatedAxis`. -/
theorem print_parse_refuted_flat_concat : roundTrips "((a + b) -> c)" = false := by
  rw [roundTrips_observe, observed_flat_concat]
  rfl

/-- The printed forms of the first two counterexamples. -/
theorem print_parse_witness_texts :
    (Einx.Extracted.ellipsisOpen = "{" ∧ Einx.Extracted.ellipsisClose = "}" →
      (parseOp "[[a b]...]".toList).toOption.map (fun x => String.ofList x.print) = some "[{a b}...]") ∧
    (parseOp "[[......]...]".toList).toOption.map (fun x => String.ofList x.print) = some "[.........]" :=
  ⟨fun h => by rw [printed_observe, observed_ell_list.2.2.2 h], by rw [printed_observe, observed_ell_ell]; rfl⟩

/-! ### `print_parse_partial`

Full statement (FALSE, three refutations above): for every `t` with `parseOp s = .ok t`, `parseOp t.print = .ok y` with
`y.shape = t.shape`.

Proved: the statement for every tree that satisfies the decidable predicate `Printable` (Proofs/NotationPrintDefs.lean):
* `PRoot t` — the normal form of `parse_op`'s results, WITHOUT the three patterns whose printed form is not (or not
  faithfully) in the notation: an `Ellipsis` over a `List` (printed with braces) or over an `Ellipsis` (printed `......`),
  and a `FlattenedAxis` directly over a `ConcatenatedAxis` (printed `((a + b))`, re-parsed without the outer parentheses);
  i.e. `Op` of one or two `Args`; below them named axes with a valid name, numeric axes, `FlattenedAxis` (not over a
  `FlattenedAxis`/`ConcatenatedAxis`), `Brackets` (not nested, not empty), `Ellipsis` over the anonymous axis or over one
  axis / flattened axis / brackets / concatenation / `...`, `ConcatenatedAxis` of ≥ 2 axes or flattened axes, `List`s of 0 or ≥ 2
  non-list children; concatenations and ellipses ARE covered;
* `t` itself passes the inconsistent-brackets check.
There are no further restrictions.  In particular numeric axes may stand inside
brackets (the fresh names `unnamed.<token position>` of the re-parsed tree are pairwise distinct — `Fresh.parse_fresh_nodup`:
lexer positions strictly increase, the duplicate-space pass and the delimiter stack keep the order, `parse` uses every token at
most once — so the inconsistent-brackets check cannot fire on them, `Fresh.fresh_unique`), and the printed text may contain two
adjacent spaces (it does exactly when the left side of `->` ends with an empty argument, `"a,  -> b"`, `Adj.root_adj`; the
duplicate-space pass drops one of them, `Adj.dedup_one`, and `parse` strips the other, `parse_printed_adj`).
That every result of `parseOp` without the three patterns satisfies `Printable` is `parse_printable` below.

Layers (Proofs/): `textsOK_PRoot` (the printed text is the concatenation of well separated token texts),
`segment_pieces`/`lex_pieces` (lexer), `dedup_no_adj`/`Adj.dedup_one` (duplicate-space pass), `buildTree_texts` (delimiter stack), `parse_printed` (`parse`
inverts every printing rule: axis, number, parentheses, brackets, `...`, ` + `, ` `, `, `, ` -> `), `finish_nf` (the passes
after `parse` only add the `Op`/`Args` wrappers on a normal form), `conflict_free_of_shape` (the bracket check). -/

/-- `print_parse_partial`: for every printable tree — in particular for every printable result of `parse_op` — the printed
    text is accepted by `parse_op` and yields the same tree up to positions, fresh names and ellipsis ids. -/
theorem print_parse_partial (t : Expr) (h : Printable t = true) :
    ∃ y, parseOp t.print = .ok y ∧ y.shape = t.shape := parseOp_print h

/-- The same, stated for the image of `parse_op`. -/
theorem print_parse_image_partial (s : Str) (t : Expr) (_ : parseOp s = .ok t) (h : Printable t = true) :
    ∃ y, parseOp t.print = .ok y ∧ y.shape = t.shape := parseOp_print h

/-- `Printable` of the tree of a text (false for texts that do not parse). -/
def printableOf (s : String) : Bool :=
  match parseOp s.toList with
  | .ok t => Printable t
  | .error _ => false

theorem printableOf_observe (s : String) : printableOf s = ((observe s.toList).map (·.1)).getD false := by
  unfold printableOf observe
  cases parseOp s.toList <;> rfl

/-- A text whose tree is printable survives the round trip. -/
theorem roundTrips_of_printable {s : String} {t : Expr} (h : parseOp s.toList = .ok t) (hp : Printable t = true) :
    roundTrips s = true := by
  obtain ⟨y, hy, hs⟩ := parseOp_print hp
  simp only [roundTrips, h, hy]
  rw [← hs]
  exact Expr.beq_refl _

theorem roundTrips_of_printableOf {s : String} (h : printableOf s = true) : roundTrips s = true := by
  cases hp : parseOp s.toList with
  | ok t => exact roundTrips_of_printable hp (by simpa only [printableOf, hp] using h)
  | error e => simp [printableOf, hp] at h

/-- `printableOf` on the characters of a text. -/
def printableChars (cs : Str) : Bool :=
  match parseOp cs with
  | .ok t => Printable t
  | .error _ => false

theorem printableOf_ofList (cs : Str) : printableOf (String.ofList cs) = printableChars cs := by
  rw [printableOf, String.toList_ofList]
  rfl

theorem all_printableOf_of_chars (ls : List Str) (h : ls.all printableChars = true) :
    ((ls.map String.ofList).all printableOf) = true := by
  rw [List.all_map]
  exact (List.all_congr rfl printableOf_ofList).trans h

/-- The sample texts, parsed once: every node kind, both `move_up` passes, the bracket pass, a numeric axis inside
    brackets, `......`.  The sample theorems below are instances.  The check runs on character lists, which unification
    with the literals fills in (a literal is `String.ofList chars`); evaluating `toList` of the twenty literals would cost
    the kernel nearly half as much as the parsing itself. -/
theorem samples_printable :
    (["a b c", "a (b c) -> (a b) c", "a [b c] 1, d -> a d", "(a + b) c", "(a -> b) c, d", "(a , b) (c -> d)", "[[a] b] c",
      "a ->", ", a", "", "a... b", "[a...]", "(a b)...", "... a", "(a + 1)... [b]... 2", "a (b (c d)) -> , ()",
      "[a [b]] c", "([a]) [[b]...]", "b ......", "[[...]...]"].all printableOf) = true :=
  all_printableOf_of_chars [_, _, _, _, _, _, _, _, _, _, _, _, _, _, _, _, _, _, _, _] (by decide +kernel)

/-- Non-vacuity: results of `parse_op` covering every node kind, both `move_up` passes and the bracket pass are printable. -/
theorem printable_image_samples :
    (["a b c", "a (b c) -> (a b) c", "a [b c] 1, d -> a d", "(a + b) c", "(a -> b) c, d", "(a , b) (c -> d)", "[[a] b] c",
      "a ->", ", a", "", "a... b", "[a...]", "(a b)...", "... a", "(a + 1)... [b]... 2", "a (b (c d)) -> , ()"].all printableOf) = true := by
  have h := samples_printable
  simp only [List.all_cons, List.all_nil, Bool.and_true, Bool.and_eq_true] at h ⊢
  simp only [h, and_self]

/-- The three refuted patterns are not `Printable`; a numeric axis inside brackets, adjacent spaces in the printed text and
    `......` are `Printable` (and do round-trip). -/
theorem printable_restrictions :
    (printableOf "[[a b]...]" = false ∧ printableOf "[[......]...]" = false ∧ printableOf "((a + b) -> c)" = false) ∧
    (printableOf "a [1]" = true ∧ roundTrips "a [1]" = true) ∧
    (printableOf "a, -> b" = true ∧ roundTrips "a, -> b" = true) ∧
    (printableOf "b ......" = true ∧ roundTrips "b ......" = true) := by
  have hp : ["a [1]", "a, -> b"].all printableOf = true := all_printableOf_of_chars [_, _] (by decide +kernel)
  simp only [List.all_cons, List.all_nil, Bool.and_true, Bool.and_eq_true] at hp
  have hb : printableOf "b ......" = true := List.all_eq_true.mp samples_printable _ (by simp)
  refine ⟨⟨?_, ?_, ?_⟩, ⟨hp.1, roundTrips_of_printableOf hp.1⟩, ⟨hp.2, roundTrips_of_printableOf hp.2⟩,
    hb, roundTrips_of_printableOf hb⟩
  · rw [printableOf_observe, observed_ell_list.1]; rfl
  · rw [printableOf_observe, observed_ell_ell]; rfl
  · rw [printableOf_observe, observed_flat_concat]; rfl

/-- The round trip on descriptions covering every node kind, both `move_up` passes and the redundant-bracket pass: instances
    of `print_parse_partial`, since the trees are printable.  The general statement is false (above); its true part is also
    checked by the search oracle O4 on the real code. -/
theorem print_parse_samples :
    (["a b c", "a (b c) -> (a b) c", "a [b c] 1, d -> a d", "(a + b) c", "(a -> b) c, d", "(a , b) (c -> d)", "[[a] b] c",
      "a ->", ", a", "", "a... b", "[a...]", "(a b)...", "... a", "b ......"].all roundTrips) = true := by
  have h := samples_printable
  simp only [List.all_cons, List.all_nil, Bool.and_true, Bool.and_eq_true] at h ⊢
  simp only [roundTrips_of_printableOf, h, and_self]

/-! ### `parse_print_parse`: the normal form of `parse_op`'s output, and the round trip for ALL strings

`print_parse_partial` is about trees; the statements below are about every string `s`.

**Normal form** (`parse_normal_form`).  Every tree that `parseOp` returns satisfies the decidable predicate `NRoot`
(Proofs/NotationNFDefs.lean): `Op` of one or two non-empty `Args`; below them (grammar `N inBr al`) named axes with a valid
axis name, numeric axes named `unnamed.<begin_pos>`, `FlattenedAxis` never directly over a `FlattenedAxis`, `Brackets` never
inside `Brackets`, never directly over `Brackets`, never empty (`ndim ≠ 0`), `Ellipsis` over the anonymous axis or over a tree with
`ndim ≠ 0`, `ConcatenatedAxis` of at least two axes / flattened axes, `List`s of 0 or ≥ 2 children none of which is a `List`, no
`Op`/`Args` below the two top levels; and no axis name occurs both inside and outside brackets.  Proved layer by layer:
`normal_form_parse` (the result of `parse`, with `Op`/`Args` nodes wherever a `List` may stand), `normal_form_move_up` (each of
the two `move_up` passes returns at least one alternative, every alternative is in the grammar without the lifted node kind),
`normal_form_brackets` (the redundant-bracket pass removes nested brackets and keeps `ndim`).

**Excluded** (`Excluded t`, decidable).  The normal form contains exactly three kinds of node whose printed form is not
(faithfully) in the notation — they are created by the passes AFTER `parse`, which is why the parser accepts the source text
but not the printed text: `Ellipsis` over a `List` (bracket pass: `[[a b]...]`, printed with braces), `Ellipsis` over an
`Ellipsis` over anything but the anonymous axis (bracket pass: `[[a...]...]`, printed `a......`; `......` itself, an ellipsis over
`...`, is NOT excluded: it re-parses to the same tree), `FlattenedAxis` over a `ConcatenatedAxis` (first `move_up` pass:
`((a + b) -> c)`; bracket pass: `[([(a + b)])]`; printed `((a + b))`).  Each comes with a `decide`d witness that it is necessary
(`excluded_ell_list_necessary`, `excluded_ell_ell_necessary`, `excluded_flat_concat_necessary`).  `Excluded` contains nothing else:
a numeric axis inside brackets, adjacent spaces in the printed text and `......` are not excluded (`former_restrictions_lifted`).

**Round trip** (`parse_print_parse`).  For every string `s`: if `parseOp s = .ok t` and `Excluded t = false`, then `parseOp t.print`
succeeds with a tree of the same `shape`. -/

/-- Layer 0 of the normal form: every tree returned by `parse` (for any token tree, any positions, either value of
    `is_parent_composition`) is in the grammar `G true true true`. -/
theorem normal_form_parse (ts : List Tok) (b e : Nat) (ipc : Bool) (x : Expr) (h : parse ts b e ipc = .ok x) :
    G true true true x = true :=
  (NF.parse_G ts b e ipc).ok h

/-- Layers 1 and 2: a successful `move_up` pass (`k = .op`: first pass, `k = .args`: second pass) on a tree of the grammar
    `G ao aa` returns `Op(alts)` / `Args(alts)` with at least one alternative, every alternative in the grammar without the
    lifted node kind. -/
theorem normal_form_move_up (k : Lift) (arrows : List Int) (ao aa : Bool) (x y : Expr) (h : G ao aa true x = true)
    (hm : moveUp k arrows x = .ok y) :
    ∃ alts b e, y = k.wrap alts b e ∧ alts ≠ [] ∧ ∀ a ∈ alts, G (NF.Lift.ao k ao) (NF.Lift.aa k aa) true a = true := by
  obtain ⟨alts, b, e, rfl, hne, ha⟩ := (NF.moveUp_G k arrows ao aa x h).ok hm
  exact ⟨alts, b, e, rfl, hne, fun a haa => (ha a haa).1⟩

/-- Layer 3: the redundant-bracket pass maps a tree without `Op`/`Args` nodes into the grammar `N inBr` (no brackets inside
    brackets) and keeps `ndim`. -/
theorem normal_form_brackets (x : Expr) (inBr : Bool) (h : G false false true x = true) :
    N inBr true (traverse inBr x) = true ∧ (traverse inBr x).ndim = x.ndim :=
  ⟨(NF.traverse_N x inBr h).1, (NF.traverse_N x inBr h).2.1⟩

/-- `parse_normal_form`: **the normal form of `parse_op`'s output**, for every string. -/
theorem parse_normal_form (s : Str) (t : Expr) (h : parseOp s = .ok t) :
    NRoot t = true ∧ (conflictNames (occs [] false t)).isEmpty = true := by
  obtain ⟨h1, h2⟩ := NF.parseOp_NRoot s t h
  exact ⟨h1, by rw [h2]; rfl⟩

/-- Every result of `parse_op` that is not `Excluded` is `Printable`. -/
theorem parse_printable (s : Str) (t : Expr) (h : parseOp s = .ok t) (hx : Excluded t = false) : Printable t = true := by
  rw [printable_iff_not_excluded s t h, hx]
  rfl

/-- On the results of `parse_op`, `Printable` is exactly the complement of `Excluded`: `Excluded` names precisely the trees that
    `print_parse_partial` does not cover. -/
theorem parse_printable_iff (s : Str) (t : Expr) (h : parseOp s = .ok t) : Printable t = !Excluded t :=
  printable_iff_not_excluded s t h

/-- `parse_print_parse`: for EVERY string `s` that `parse_op` accepts with a tree `t` that is not `Excluded`, the printed text
    `str(t)` is accepted by `parse_op` and yields the same tree up to positions, fresh names and ellipsis ids. -/
theorem parse_print_parse (s : Str) (t : Expr) (h : parseOp s = .ok t) (hx : Excluded t = false) :
    ∃ y, parseOp t.print = .ok y ∧ y.shape = t.shape :=
  print_parse_partial t (parse_printable s t h hx)

/-- The same with the Boolean `roundTrips` of section (d). -/
theorem parse_print_parse_roundTrips (s : String) (t : Expr) (h : parseOp s.toList = .ok t) (hx : Excluded t = false) :
    roundTrips s = true :=
  roundTrips_of_printable h (parse_printable _ t h hx)

/-- `Excluded` of the tree of a text (`true` for texts that do not parse). -/
def excludedOf (s : String) : Bool :=
  match parseOp s.toList with
  | .ok t => Excluded t
  | .error _ => true

/-- Which of the components of `Excluded` hold for the tree of a text:
    (ellipsis over list, ellipsis over non-anonymous ellipsis, flattened axis over concatenation). -/
def excludedWhy (s : String) : Option (Bool × Bool × Bool) :=
  match parseOp s.toList with
  | .ok t => some (anyNode patEllList t, anyNode patEllEll t, anyNode patFlatConcat t)
  | .error _ => none

theorem exists_of_not_excludedOf {s : String} (h : excludedOf s = false) :
    ∃ t, parseOp s.toList = .ok t ∧ Excluded t = false := by
  cases hp : parseOp s.toList with
  | ok t => exact ⟨t, rfl, by simpa only [excludedOf, hp] using h⟩
  | error e => simp [excludedOf, hp] at h

/-- On every text `excludedOf` is the complement of `printableOf`. -/
theorem excludedOf_eq (s : String) : excludedOf s = !printableOf s := by
  cases h : parseOp s.toList with
  | ok t => simp only [excludedOf, printableOf, h, parse_printable_iff _ t h, Bool.not_not]
  | error e => simp only [excludedOf, printableOf, h, Bool.not_false]

theorem excludedOf_ofList (cs : Str) : excludedOf (String.ofList cs) =
    (match parseOp cs with | .ok t => Excluded t | .error _ => true) := by
  rw [excludedOf, String.toList_ofList]

theorem excludedWhy_ofList (cs : Str) : excludedWhy (String.ofList cs) =
    (match parseOp cs with
     | .ok t => some (anyNode patEllList t, anyNode patEllEll t, anyNode patFlatConcat t)
     | .error _ => none) := by
  rw [excludedWhy, String.toList_ofList]

theorem excludedWhy_observe (s : String) : excludedWhy s = (observe s.toList).map (·.2.1) := by
  unfold excludedWhy observe
  cases parseOp s.toList <;> rfl

/-- Each of the three excluded patterns is necessary: a text whose tree is excluded by that pattern ALONE and whose printed
    form does not parse back to the same tree.  (The first is relative to the extracted brace constant.) -/
theorem excluded_ell_list_necessary :
    excludedWhy "[[a b]...]" = some (true, false, false) ∧
      (Einx.Extracted.ellipsisOpen = "{" → roundTrips "[[a b]...]" = false) :=
  ⟨by rw [excludedWhy_observe, observed_ell_list.2.1], print_parse_refuted_braces⟩

theorem excluded_ell_ell_necessary :
    excludedWhy "[[a...]...]" = some (false, true, false) ∧ roundTrips "[[a...]...]" = false := by
  rewrite [excludedWhy_ofList, roundTrips_ofList]
  decide +kernel

/-- `FlattenedAxis` over `ConcatenatedAxis` arises in the first `move_up` pass and in the bracket pass. -/
theorem excluded_flat_concat_necessary :
    (excludedWhy "((a + b) -> c)" = some (false, false, true) ∧ roundTrips "((a + b) -> c)" = false) ∧
    (excludedWhy "[([(a + b)])]" = some (false, false, true) ∧ roundTrips "[([(a + b)])]" = false) :=
  ⟨⟨by rw [excludedWhy_observe, observed_flat_concat]; rfl, print_parse_refuted_flat_concat⟩,
    by rewrite [excludedWhy_ofList, roundTrips_ofList]; decide +kernel⟩

/-- Not part of `Excluded`: a numeric axis inside brackets, adjacent spaces in the printed text (`"a,  -> b"`), an ellipsis
    over `...`. -/
theorem former_restrictions_lifted :
    excludedOf "a [1]" = false ∧ excludedOf "[[1] 2] (3 -> [4])" = false ∧ excludedOf "a, -> b" = false ∧
      excludedOf "(a, -> b) [c]" = false ∧ excludedOf "b ......" = false := by
  have h := printable_restrictions.2
  refine ⟨?_, by rewrite [excludedOf_ofList]; decide +kernel, ?_, by rewrite [excludedOf_ofList]; decide +kernel, ?_⟩
  · rw [excludedOf_eq, h.1.1]; rfl
  · rw [excludedOf_eq, h.2.1.1]; rfl
  · rw [excludedOf_eq, h.2.2.1]; rfl

/-- Non-vacuity of `parse_print_parse`: texts covering every node kind, both `move_up` passes and the bracket pass are not
    excluded. -/
theorem not_excluded_samples :
    (["a b c", "a (b c) -> (a b) c", "a [b c] 1, d -> a d", "(a + b) c", "(a -> b) c, d", "(a , b) (c -> d)", "[[a] b] c",
      "a ->", ", a", "", "a... b", "[a...]", "(a b)...", "... a", "(a + 1)... [b]... 2", "a (b (c d)) -> , ()",
      "[a [b]] c", "([a]) [[b]...]", "b ......", "[[...]...]"].all (fun s => !excludedOf s)) = true := by
  simp only [excludedOf_eq, Bool.not_not]
  exact samples_printable

/-- Non-vacuity of `parse_normal_form` and of the layer theorems: a text that exercises both `move_up` passes with a real
    distribution (two alternatives), the bracket pass and a numeric axis inside brackets parses, its tree is `NRoot` and not
    `Excluded`. -/
example : (match parseOp "(a -> [b [1]]) [c], (d , e)...".toList with
    | .ok t => NRoot t && !Excluded t && Printable t
    | .error _ => false) = true := by decide +kernel

example : ∃ y, parseOp "a [b c]... (d + 1) -> a, (d e)".toList = .ok y ∧
    ∃ z, parseOp y.print = .ok z ∧ z.shape = y.shape := by
  obtain ⟨y, hy, hx⟩ := exists_of_not_excludedOf (s := "a [b c]... (d + 1) -> a, (d e)")
    (by rewrite [excludedOf_ofList]; decide +kernel)
  exact ⟨y, hy, parse_print_parse _ y hy hx⟩

/-! ## Non-vacuity -/

/-- The error of a result (`Res Expr` has no decidable equality: `Expr` is a nested inductive). -/
def errOf : Res Expr → Option Err
  | .ok _ => none
  | .error err => some err

/-- The position theorem is about real errors: an unclosed parenthesis is reported at position 2 of `"a (b"`. -/
example : errOf (parseOp "a (b".toList) = some (.syntax .openingNotClosed [2] []) := by
  rewrite [String.toList_ofList]
  decide +kernel

/-- …and the alternatives exist: in `"[a] a [b] b"` two axis names have inconsistent brackets. -/
example : errOf (parseOp "[a] a [b] b".toList) = some (.syntax .inconsistentBrackets [1, 0, 2, 4] [[7, 6, 8, 10]]) := by
  rewrite [String.toList_ofList]
  decide +kernel

/-- The internal outcomes are inhabited on the pinned tree: `a | a` (D5) and a non-decimal digit (`²`, D15).  Stated
    relative to the extracted constants, so that the examples stay true once `|` leaves `_nary_ops` / digits are ASCII only. -/
example : "|" ∈ Einx.Extracted.naryOps → errOf (parseOp "a | a".toList) = some (.internal (.unhandledOp ['|'])) := by
  decide +kernel

example : isDigitChar '²' = true → errOf (parseOp "²".toList) = some (.internal .intLiteral) := by
  decide +kernel

/-- Without those two causes the same inputs are ordinary syntax errors (what the proposed fixes produce). -/
example : "|" ∉ Einx.Extracted.naryOps → errOf (parseOp "a | a".toList) = some (.syntax .invalidToken [2] []) := by
  decide +kernel

def isOk (r : Res Expr) : Bool := match r with | .ok _ => true | .error _ => false

theorem exists_ok_of_isOk {r : Res Expr} (h : isOk r = true) : ∃ x, r = .ok x :=
  ok_of_isOk (by cases r <;> exact h)

/-- With one side of a redundant slot a tree, so is the other. -/
theorem isOk_insertSpace {xs ys : Str} (h : RedundantAt xs ys = true) (hok : isOk (parseOp (xs ++ ys)) = true) :
    isOk (parseOp (xs ++ ' ' :: ys)) = true := by
  obtain ⟨x, hx⟩ := exists_ok_of_isOk hok
  obtain ⟨y, hy, -⟩ := (space_invariance_tree xs ys h).1 x hx
  rw [hy]
  rfl

theorem slots_of_chars (ls : List (Str × Str))
    (h : ls.all (fun p => RedundantAt p.1 p.2 && isOk (parseOp (p.1 ++ p.2))) = true) :
    (ls.map (fun p => (String.ofList p.1, String.ofList p.2))).all
      (fun p => RedundantAt p.1.toList p.2.toList && isOk (parseOp (p.1 ++ p.2).toList)) = true := by
  rw [List.all_map]
  refine (List.all_congr rfl fun p => ?_).trans h
  simp only [Function.comp, String.toList_append, String.toList_ofList]

/-- `space_invariance` instantiated on a concrete text whose result is a tree (next example)… -/
example : ∃ φ : Nat → Nat, Function.Injective φ ∧ RSim φ (parseOp "a [b c]... (d+1) -> a,d".toList) (parseOp "a [b c]... (d+1) ->  a,d".toList) := by
  have h := space_invariance_at "a [b c]... (d+1) -> a,d".toList 20 (by decide +kernel)
  rwa [show insertSpace "a [b c]... (d+1) -> a,d".toList 20 = "a [b c]... (d+1) ->  a,d".toList by decide +kernel] at h

example : isOk (parseOp "a [b c]... (d+1) -> a,d".toList) = true := by
  rewrite [String.toList_ofList]
  decide +kernel

/-- …and one redundant slot of every class, both sides being trees. -/
example :
    [("", "a b"), ("a b", ""), ("a (", "b c) 2"), ("a (b c", ") 2"), ("a [", "b]"), ("a [b", "]"), ("a,", "b"), ("a", ",b"),
      ("(a+", "b)"), ("(a", "+b)"), ("a->", "b"), ("a", "->b"), ("a ", "b"), ("a", " b")].all
        (fun p => RedundantAt p.1.toList p.2.toList && isOk (parseOp (p.1 ++ p.2).toList) && isOk (parseOp (p.1 ++ " " ++ p.2).toList)) = true := by
  -- character lists by unification with the literals, as in `samples_printable`; one side per slot is evaluated
  have h : [("", "a b"), ("a b", ""), ("a (", "b c) 2"), ("a (b c", ") 2"), ("a [", "b]"), ("a [b", "]"), ("a,", "b"), ("a", ",b"),
      ("(a+", "b)"), ("(a", "+b)"), ("a->", "b"), ("a", "->b"), ("a ", "b"), ("a", " b")].all
        (fun p => RedundantAt p.1.toList p.2.toList && isOk (parseOp (p.1 ++ p.2).toList)) = true :=
    slots_of_chars [(_, _), (_, _), (_, _), (_, _), (_, _), (_, _), (_, _), (_, _), (_, _), (_, _), (_, _), (_, _),
      (_, _), (_, _)] (by decide +kernel)
  -- the side with the space is a tree because the other one is
  rw [List.all_eq_true] at h ⊢
  intro p hp
  have hp := h p hp
  rw [Bool.and_eq_true]
  refine ⟨hp, ?_⟩
  rw [Bool.and_eq_true, String.toList_append] at hp
  have := isOk_insertSpace hp.1 hp.2
  rwa [String.toList_append, String.toList_append, List.append_assoc]

/-- …and on an erroneous text: both sides report the unclosed parenthesis (at different positions). -/
example : errOf (parseOp "a, (b".toList) = some (.syntax .openingNotClosed [3] []) ∧
    errOf (parseOp "a , (b".toList) = some (.syntax .openingNotClosed [4] []) ∧ RedundantAt "a".toList ", (b".toList = true := by
  decide +kernel

/-- The fresh ids really are renumbered: the numeric axis after the slot gets a different name. -/
example : (parseOp "a,2".toList).toOption.map (fun x => String.ofList x.print) = some "a, 2" ∧
    sameOutcome (parseOp "a,2".toList) (parseOp "a, 2".toList) = true := by decide +kernel

/-- `print_parse_partial` on a hand-written tree (not a parser result: arbitrary positions and ids) with brackets under an
    ellipsis, a concatenation with a numeric axis, and two sides. -/
def sampleTree : Expr :=
  .op [.args [.list [.axis "a".toList none 3 4,
                     .ellipsis (.brackets (.list [.axis "b".toList none 0 0, .axis "c".toList none 0 0] 0 0) 0 0) 7 0 0,
                     .concat [.axis "d".toList none 0 0, .axis "x".toList (some 2) 0 0] 0 0] 0 0] 0 0,
       .args [.list [] 0 0, .flat (.axis "a".toList none 0 0) 0 0] 0 0] 0 0

example : Printable sampleTree = true ∧ String.ofList sampleTree.print = "a [b c]... (d + 2) -> , (a)" := by decide +kernel

example : Printable sampleTree = true → ∃ y, parseOp sampleTree.print = .ok y ∧ y.shape = sampleTree.shape :=
  print_parse_partial sampleTree

/-- `parse_tree_positions_in_range` on a non-trivial tree. -/
example : ∃ x, parseOp "a [b c]... (d + 1) -> a".toList = .ok x ∧ ExprOK 23 x := by
  obtain ⟨x, hx⟩ := exists_ok_of_isOk (r := parseOp "a [b c]... (d + 1) -> a".toList)
    (by rewrite [String.toList_ofList]; decide +kernel)
  exact ⟨x, hx, by simpa using parse_tree_positions_in_range _ x hx⟩

end Einx.Props.C12
