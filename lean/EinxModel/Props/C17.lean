import EinxModel.Proofs.Generic
import EinxModel.Proofs.Stb
import EinxModel.Extracted.Generic
/-!
C17 — generated code is loop-free and size-generic (cost independent of tensor sizes).

* Grammar part (`Generic/Grammar.lean`): the statement type that emitted text is decoded into has no
  loop, conditional, comprehension, lambda, `try`, `with` or short-circuit constructor.  The theorems
  below say what that buys: a block performs, in **every** environment, exactly its syntactic number of
  calls (`grammar_loop_free`), that number is a function of the skeleton (`cost_skeleton_invariant`),
  and equal skeletons mean "equal up to integer literals" (`skeleton_only_ints`).  The tie is T-str: every
  emitted text of the correspondence stream is decoded by the driver (`py_grammar`); the decoder fails on
  every other node kind.
* Lowering part (`Generic/Stb.lean`): `stb_size_generic` — the model of `_squeeze_transpose_broadcast`
  (with the no-op tests of the numpy wrappers) emits programs whose skeleton depends only on the axis
  names and on which lengths are 1.  The model is tied to the real traced graphs of `einx.id` (kind
  `stb_model`).  `lower_size_generic_partial` covers the `id` lowering on flat expressions up to the stated
  hypothesis; flattened axes in `Decomposer`, elementwise operations and reductions are treated in
  `Props/C17Lower.lean` and `Props/C17LowerOps.lean`; concatenation, diagonal, dot, indexing and argfind rest on the
  source obligation `extracted_size_decisions_allowed` and on the search over real emitted texts.
* Source obligations (`Extracted/Generic.lean`, regenerated from /repo on every run).
-/
namespace Einx.Generic
open Einx.IR

/-- **Loop-freedom, operationally.**  For every value type, every interpretation `ρ` of the constructs
(in particular every behaviour of the called functions) and every name store `σ`, one non-raising
execution of a block performs exactly `flatCalls b` calls — the number of call nodes outside nested
`def`s; and `cost` (one execution of the block plus one activation of every nested function body)
is the total number of call nodes.  No construct of the grammar can make the number depend on a value. -/
theorem grammar_loop_free (b : List Stmt) :
    (∀ (V : Type) (ρ : Env V) (σ : String → V), (exec ρ σ b).2 = flatCalls b) ∧ cost b = callCount b :=
  ⟨fun _ ρ σ => exec_calls ρ b σ, Stmt.costL_eq b⟩

/-- The body of a nested function definition, when activated, again performs exactly its syntactic
number of calls, whatever the arguments are bound to. -/
theorem activation_cost (n : String) (ps : List String) (body : List Stmt)
    (V : Type) (ρ : Env V) (σ : String → V) : (exec ρ σ body).2 = flatCalls body :=
  exec_calls ρ body σ

/-- **Cost is a function of the skeleton**: two programs with equal skeletons have the same cost and
the same number of call nodes. -/
theorem cost_skeleton_invariant (a b : List Stmt) (h : skeleton a = skeleton b) :
    cost a = cost b ∧ callCount a = callCount b := by
  have ha := Stmt.callCountL_skel a
  have hb := Stmt.callCountL_skel b
  simp only [skeleton] at h
  have hc : callCount a = callCount b := by
    simp only [callCount]; rw [← ha, ← hb, h]
  exact ⟨by simp only [cost, Stmt.costL_eq]; exact hc, hc⟩

/-- The skeleton has no integer literal left to abstract. -/
theorem skeleton_idempotent (b : List Stmt) : skeleton (skeleton b) = skeleton b :=
  Stmt.skelL_idem b

/-- **Equal skeletons ⇔ the programs differ only in integer literals** (and in the digits quoted by
`assert` messages): same statements, same names, same attributes, same keyword names, same operators,
same string/float/bool constants, same tuple and argument-list lengths. -/
theorem skeleton_only_ints (a b : List Stmt) : skeleton a = skeleton b ↔ SameUpToInts a b :=
  (Stmt.sameL_iff a b).symm

/-- Non-vacuity: `a = np.reshape(a, (2, 3)); return a` and the same text with `(20, 7)` have equal
skeletons, two calls' worth of cost … -/
example :
    let prog (m n : Int) : List Stmt :=
      [.import_ [("numpy", some "np")],
       .funcDef "op" ["a"]
        [.assign [.name "a"] (.call (.attr (.name "np") "reshape") [.name "a", .tuple [.const (.int m), .const (.int n)]] [] []),
         .assign [.name "a"] (.call (.attr (.name "np") "transpose") [.name "a", .tuple [.const (.int 1), .const (.int 0)]] [] []),
         .return_ (.name "a")]]
    cost (prog 2 3) = 2 ∧ cost (skeleton (prog 2 3)) = cost (skeleton (prog 20 7)) := by decide +kernel

/-- … and a text with a different rank (one more integer in the tuple) is *not* equal up to integers:
the relation is not trivially true. -/
example :
    ¬ SameUpToInts [.return_ (.tuple [.const (.int 2), .const (.int 3)])] [.return_ (.tuple [.const (.int 6)])] := by
  intro h
  cases (skeleton_only_ints _ _).mpr h

/-- **Size-genericity of `_squeeze_transpose_broadcast`.**  If two length assignments of the same flat
input and output expressions (same axis names in the same order) agree on which lengths are 1, the
model emits the same program up to shapes: the same primitives on the same registers with the same
permutations and the same ranks (or fails with the same error).  Every decision of the function — which
axes are squeezed, whether `reshape`, `transpose`, `broadcast_to` are no-ops, the permutation — is a
function of the names and of the `== 1` tests. -/
theorem stb_size_generic (ein ein' eout eout' : List Ax)
    (hni : names ein = names ein') (hpi : ein.map (fun a => a.len == 1) = ein'.map (fun a => a.len == 1))
    (hno : names eout = names eout') (hpo : eout.map (fun a => a.len == 1) = eout'.map (fun a => a.len == 1)) :
    (stbProg ein eout).map (fun r => (progSkeleton r.1, r.2)) = (stbProg ein' eout').map (fun r => (progSkeleton r.1, r.2)) := by
  have hi := sim_of_maps ein ein' hni hpi
  have ho := sim_of_maps eout eout' hno hpo
  have hrel : Rel { reg := 0, shape := lens ein, prog := [], next := 1 } { reg := 0, shape := lens ein', prog := [], next := 1 } :=
    ⟨rfl, rfl, rfl⟩
  unfold stbProg
  rw [except_map_map, except_map_map]
  exact (stb_generic hrel rfl rfl hi ho).map_eq fun _ _ _ _ h => by rw [h.prog, h.reg]

/-- The skeleton of the program for `b c a -> a b d`. -/
def exampleStb (b c a d : Nat) : Option (List (List Nat)) :=
  ((stbProg [⟨"b", b⟩, ⟨"c", c⟩, ⟨"a", a⟩] [⟨"a", a⟩, ⟨"b", b⟩, ⟨"d", d⟩]).map
    (fun r => (progSkeleton r.1).map (fun i => match i with
      | .reshape x s => 0 :: x :: s
      | .transpose x p => 1 :: x :: p
      | .broadcastTo x s => 2 :: x :: s
      | _ => [9]))).toOption

/-- Non-vacuity, and the converse direction: `b c a -> a b d` with lengths (3, 1, 2 | d = 4) emits
`reshape; transpose; reshape; broadcast_to`; scaling the non-unit lengths keeps the skeleton, while
changing the 1-pattern (`d = 1`) changes it. -/
example :
    exampleStb 3 1 2 4 = some [[0, 0, 0, 0], [1, 1, 1, 0], [0, 2, 0, 0, 0], [2, 3, 0, 0, 0]]
      ∧ exampleStb 3 1 2 4 = exampleStb 21 1 1000 9
      ∧ (exampleStb 3 1 2 4).map List.length ≠ (exampleStb 3 1 2 1).map List.length := by decide +kernel

/-- `lowerId` on flat expressions, up to (not including) the final `reshape` of `_compose_next`. -/
def lowerIdCore (ein eout : List Ax) : Except String St :=
  let s0 : St := { reg := 0, shape := lens ein, prog := [], next := 1 }
  let sq := ein.filter (fun a => !(a.len == 1))
  stb (reshapeW s0 (lens sq)) sq eout

/-- **Partial** size-genericity of the `id` lowering on flat expressions (no flattened axes, no
concatenation, no repeated axis): removal of the unit axes followed by `_squeeze_transpose_broadcast`
is size-generic; the last step, the `reshape` of `_compose_next` to the output shape, is size-generic
under the explicit hypothesis `hfin` that its no-op test gives the same answer for both assignments
(it compares the traced shape of the result with the output shape; that they coincide is the first
conjunct of `Lower.Inner.correct`, `Proofs/LowerDenote.lean`, which is not used here). -/
theorem lower_size_generic_partial (ein ein' eout eout' : List Ax)
    (hni : names ein = names ein') (hpi : ein.map (fun a => a.len == 1) = ein'.map (fun a => a.len == 1))
    (hno : names eout = names eout') (hpo : eout.map (fun a => a.len == 1) = eout'.map (fun a => a.len == 1))
    (hfin : ∀ s s', lowerIdCore ein eout = .ok s → lowerIdCore ein' eout' = .ok s' →
      (s.shape == lens eout) = (s'.shape == lens eout')) :
    ((lowerIdCore ein eout).map (fun s => progSkeleton (reshapeW s (lens eout)).prog))
      = ((lowerIdCore ein' eout').map (fun s => progSkeleton (reshapeW s (lens eout')).prog)) := by
  have hi := sim_of_maps ein ein' hni hpi
  have ho := sim_of_maps eout eout' hno hpo
  have hsq : Sim (ein.filter (fun a => !(a.len == 1))) (ein'.filter (fun a => !(a.len == 1))) :=
    hi.filter _ _ (fun a b _ h1 => by rw [h1])
  have hrel0 : Rel { reg := 0, shape := lens ein, prog := [], next := 1 } { reg := 0, shape := lens ein', prog := [], next := 1 } :=
    ⟨rfl, rfl, rfl⟩
  have hrel1 := reshapeW_filter_rel hrel0 rfl rfl hi (fun a => !(a.len == 1)) (fun a => !(a.len == 1)) (fun a b _ h1 => by rw [h1])
  refine (stb_generic hrel1 (reshapeW_shape _ _) (reshapeW_shape _ _) hsq ho).map_eq fun s s' hs hs' h => ?_
  rw [(reshapeW_rel h (lens eout) (lens eout') (hfin s s' hs hs')
    (by simp only [lens, List.length_map]; exact ho.length_eq)).prog]

/-- The model `lowerId` restricted to flat expressions is `lowerIdCore` followed by the final reshape
(so the partial theorem speaks about the function the driver runs). -/
theorem lowerId_flat (ein eout : List Ax) (hnd : noDup (names ein) = true) :
    lowerId (ein.map G.ax) (eout.map G.ax) = (lowerIdCore ein eout).map (fun s => reshapeW s (lens eout)) := by
  have hl : ∀ l : List Ax, G.leavesL (l.map G.ax) = l := by
    intro l; induction l with
    | nil => rfl
    | cons a l ih => simp [G.leavesL, G.leaves, ih]
  have hs : ∀ l : List Ax, gShape (l.map G.ax) = lens l := by
    intro l; simp [gShape, lens, G.size, Function.comp_def]
  have hg : ∀ l : List Ax, (l.map G.ax).any isGrp = false := by
    intro l; induction l with
    | nil => rfl
    | cons a l ih => simp [isGrp]
  have hd : ∀ (n : Nat) (s : St) (l : List Ax), decompose n s (l.map G.ax) = (s, l.map G.ax) := by
    intro n s l; cases n <;> simp [decompose, hg]
  unfold lowerId lowerIdCore
  simp only [hl, hs, hd, hnd, Bool.not_true, Bool.false_eq_true, if_false]
  cases stb (reshapeW { reg := 0, shape := lens ein, prog := [], next := 1 } (lens (ein.filter (fun a => !(a.len == 1)))))
    (ein.filter (fun a => !(a.len == 1))) eout <;> rfl

/-! ### Source obligations (regenerated from /repo on every run) -/

/-- Every place in the lowering modules (`adapter/_util.py`, `namedtensor_from_decomposednamedtensor.py`,
`decomposednamedtensor_from_classical.py`, `numpy/classical_from_numpy.py`, `classical_from_classical.py`,
`tracer/optimizer/classical.py`) where control flow looks at an axis length or a shape is of an allowed
form: `== 1` / `!= 1`, equality of two whole shapes, a comparison that only decides whether to raise,
iteration over the entries of a shape (trip count = rank), or one of three anchored special cases.
In particular there is no `for`/`while`/comprehension over `range(<axis length>)`. -/
theorem extracted_size_decisions_allowed :
    Einx.Extracted.sizeSites.all (fun s => s.cls.allowed) = true := by decide +kernel

/-- The inventory is not empty: it contains the `== 1` tests, the no-op shape tests and the
coordinate-component loop the property's mechanisms name. -/
example :
    Einx.Extracted.sizeSites.any (fun s => s.cls == .eq1) = true
      ∧ Einx.Extracted.sizeSites.any (fun s => s.cls == .shapeEq) = true
      ∧ Einx.Extracted.sizeSites.any (fun s => s.cls == .coordComponents) = true
      ∧ 20 ≤ Einx.Extracted.sizeSites.length := by decide +kernel

/-- The traced IR has no loop or branch node: every subclass of `tracer.Application` is one of the
straight-line kinds the compiler turns into one statement or an inlined expression. -/
theorem extracted_node_kinds_straight_line :
    Einx.Extracted.nodeKinds.all (fun k => straightLineKinds.contains k) = true
      ∧ Einx.Extracted.nodeKinds.length ≥ 10 := by decide +kernel

/-- No text fragment of the emitter's `to_code` functions contains a keyword that would open a loop,
a branch, a comprehension, a lambda, `try` or `with` in the emitted text. -/
theorem extracted_emitter_has_no_control_keywords :
    Einx.Extracted.emitterKeywordFragments = [] ∧ Einx.Extracted.emitterFragmentCount ≥ 20 := by decide +kernel

end Einx.Generic
