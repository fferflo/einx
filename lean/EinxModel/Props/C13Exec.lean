import EinxModel.Props.C13
import EinxModel.Props.C04
import EinxModel.Proofs.ExecCompiled
import EinxModel.Proofs.ExecSemFactory
/-!
# C13 with C04 — the named hypothesis `Exec` is discharged for compiled graphs

`Props/C13.lean:checker_sound` assumes `Exec g sched`: the compiled function evaluates every application reachable from the
output exactly once, and nothing else.  Here that hypothesis is *proved* for the program the code generator emits.

* `Exec/View.lean:toFactory` translates the C04 graph (the object `compile` is applied to) into the C13 graph type; the driver
  (`Driver/Exec.lean`, kind `exec_check`) runs `factoryOK` on the translated graph of every captured call and compares it with
  the directly decoded one.
* `exec_from_compile`: for every `Graph.WF` graph of the supported node language (`Exec.Supported`, decidable, evaluated by the
  harness on every captured graph: the compiled object is a graph, no operand mentions a nested graph, application outputs
  are pytrees of tracers) whose translation is serialisation-sane (`Factory.wf`, part of `factoryOK`), if `compile` succeeds
  then the schedule induced by the emitted program — the applications in the order in which the generator defines them,
  `appsOf comp.order` — satisfies `Exec`: no repetition (`visitOrder_nodup`), and it contains exactly the applications the
  C13 backward pass `reachable` marks.
* `checker_sound_compiled`: `checker_sound` without the hypothesis.
* `factory_called_once_compiled`: for an accepted graph, the compiled program contains exactly one statement for the factory's
  call node (`emit_once_wf`), and its tagged event trace — whose events are the trace of the node-by-node reference evaluation
  of the graph (`compile_tagged`, `Proofs/ExecCompiled.lean`) — contains exactly one event produced by a node that calls (a cast of) the factory input: a call
  event with one positional argument (the node's, which is the solved shape) and exactly the keyword names of the model.

* `factory_call_value_compiled` (value level): under two further decidable premises (`rootStable fg`: the fuel of
  `Factory.root` suffices; `castsPlain g fg t`: a `Cast` of a tracer denoting input `t` yields a tracer), the event trace of the
  emitted program contains exactly one call event whose *function term is the object passed as input `t`* (`inAtom t`), with one
  positional argument and the model's keyword names; no other call event calls that object.  Proof: an invariant on the memo of
  the reference evaluation (`Proofs/ExecSem.lean`: a value is a tracked atom iff its tracer is a cast of `t`).

What is *not* proved here: that `conv` leaves the literal shape tuple unchanged (the positional argument is known by count in
the event and by value on the node); graphs with nested sub-graphs (none among the captured graphs; `vmap`-style adapters
cannot run here).
-/
namespace Einx.Props.C13
open Einx.Factory Einx.Compile Einx.Exec

/-- **exec_from_compile**: the schedule of the emitted program is an execution in the sense of `Exec`. -/
theorem exec_from_compile (cfg : UCfg) (fc : FCfg) (g : Compile.Graph) (aux : List TAux) (fg : Factory.Graph) (comp : Compiled)
    (hwf : g.WF = true) (hsup : Supported g = true) (hfg : toFactory g aux = some fg) (hfwf : Factory.wf fg = true)
    (h : compile cfg fc g = .ok comp) : Exec fg (appsOf comp.order) := by
  obtain ⟨_, _, ho, _⟩ := compile_parts cfg fc g comp h
  refine ⟨appsOf_nodup _ (visitOrder_nodup g hwf comp.order ho), fun i => ?_⟩
  rw [mem_appsOf, visitOrder_reach g aux fg hwf hsup hfg hfwf comp.order ho i, mem_reachable_iff fg hfwf i]

/-- **Soundness of the checker, for compiled graphs** (`checker_sound` without `Exec`): if `factoryOK` accepts the translated
graph then, in the schedule of the emitted program, exactly one evaluated node is a call of (a cast of) the factory at input
`p`; its positional arguments are exactly the tuple `solved`, its keyword names exactly the model's. -/
theorem checker_sound_compiled (cfg : UCfg) (fc : FCfg) (g : Compile.Graph) (aux : List TAux) (fg : Factory.Graph)
    (comp : Compiled) (d : Descr) (hwf : g.WF = true) (hsup : Supported g = true) (hfg : toFactory g aux = some fg)
    (hc : compile cfg fc g = .ok comp) (hok : factoryOK fg d = true)
    (p : Nat) (ad : ArgD) (sig : Sig) (t : Nat)
    (hd : d.args[p]? = some ad) (hf : ad.factory = some sig) (ht : fg.inputs[p]? = some t) :
    ∃ i fn args kwargs deps out,
      (appsOf comp.order).filter (callsInput fg t) = [i] ∧
      fg.apps[i]? = some ⟨GNode.call fn args kwargs deps, out⟩ ∧
      args.map V.asShape? = [some ad.solved] ∧
      kwargs.map (·.1) = (passed d.ctx ad.argIndex sig).map (·.1) :=
  checker_sound fg d hok _ (exec_from_compile cfg fc g aux fg comp hwf hsup hfg (factoryOK_wf fg d hok) hc) p ad sig t hd hf ht

/-- The factory's call site in the graph `compile` is applied to: the only application of the schedule that calls (a cast of) input
`t` is a call `y(args…, kwargs…)` of a tracer `y` that denotes `t`, with the solved shape as only positional argument and the
model's keyword names; it is the only consumer of the factory, it is visited, and `y` is no allow-listed builtin. -/
theorem factory_callSite (cfg : UCfg) (fc : FCfg) (g : Compile.Graph) (aux : List TAux) (fg : Factory.Graph)
    (comp : Compiled) (d : Descr) (hwf : g.WF = true) (hsup : Supported g = true) (hfg : toFactory g aux = some fg)
    (hc : compile cfg fc g = .ok comp) (hok : factoryOK fg d = true)
    (p : Nat) (ad : ArgD) (sig : Sig) (t : Nat)
    (hd : d.args[p]? = some ad) (hf : ad.factory = some sig) (ht : fg.inputs[p]? = some t) :
    ∃ i y args kwargs, CallSite g comp.order (fun y => root fg y = t) i y args kwargs ∧
      (appsOf comp.order).filter (callsInput fg t) = [i] ∧ classUsers fg t = [i] ∧
      args.length = 1 ∧ (args.map toV).map V.asShape? = [some ad.solved] ∧
      kwargs.map (fun kv => some kv.1) = (passed d.ctx ad.argIndex sig).map (fun kv => some kv.1) := by
  obtain ⟨i, fn, args, kwargs, deps, out, hfilt, hnode, hargs, hkw⟩ :=
    checker_sound_compiled cfg fc g aux fg comp d hwf hsup hfg hc hok p ad sig t hd hf ht
  obtain ⟨i', _, _, hcu, _⟩ := factoryOK_factory fg d hok p ad sig t hd hf ht
  have S := supported_setup g aux fg hwf hsup hfg
  obtain ⟨hisched, hicalls⟩ := List.mem_filter.1 (hfilt ▸ List.mem_singleton_self i)
  obtain ⟨y, args', kwargs', deps', o, ha, hroot⟩ := (callsInput_iff_pcall g aux fg hfg t i).1 hicalls
  cases (S.app i _ ha).symm.trans hnode
  have hii : i ∈ classUsers fg t := callsInput_mem_classUsers fg t i hicalls
  rw [hcu, List.mem_singleton] at hii
  refine ⟨i, y, args', kwargs', ⟨⟨deps', o, ha⟩, hroot,
    not_allowInline_of_root_input g aux fg hfg (factoryOK_wf fg d hok) t (List.mem_of_getElem? ht) y hroot,
    (mem_appsOf _ i).1 hisched, ?_⟩, hfilt, hii ▸ hcu, ?_, hargs, ?_⟩
  · -- a visited call of a tracer that denotes `t` is scheduled and calls input `t`: it is `i`
    intro j hv hj
    have : j ∈ (appsOf comp.order).filter (callsInput fg t) :=
      List.mem_filter.2 ⟨(mem_appsOf _ j).2 hv, (callsInput_iff_pcall g aux fg hfg t j).2 hj⟩
    rwa [hfilt, List.mem_singleton] at this
  · simpa using congrArg List.length hargs
  · simpa [List.map_map, Function.comp_def] using congrArg (List.map some) hkw

/-- **factory_called_once_compiled**: for a compiled graph accepted by the checker and every factory position `p` (graph
input `t`, signature `sig`, solved shape `solved`):
  * exactly one application `i` of the schedule calls (a cast of) `t`; its positional arguments are the tuple `solved`;
  * the emitted program contains exactly one statement for it;
  * the events of the tagged trace of the emitted program (`taggedTrace … (sstmts comp.st)`: every event with the node its
    statement was emitted for) are the event trace of the reference evaluation `evalGraph` of the graph (that they are the
    trace of `execBlock … comp.st.program` as well is `taggedTrace_events`, not restated here), and it contains exactly one event produced by a node that calls (a cast of) `t`: the event of
    node `i`, a call `f(a, k₁=…, …)` with one positional argument and exactly the keyword names the model passes. -/
theorem factory_called_once_compiled (cfg : UCfg) (fc : FCfg) (g : Compile.Graph) (aux : List TAux) (fg : Factory.Graph)
    (comp : Compiled) (d : Descr) (hwf : g.WF = true) (hsup : Supported g = true) (hfg : toFactory g aux = some fg)
    (hc : compile cfg fc g = .ok comp) (hok : factoryOK fg d = true)
    (p : Nat) (ad : ArgD) (sig : Sig) (t : Nat)
    (hd : d.args[p]? = some ad) (hf : ad.factory = some sig) (ht : fg.inputs[p]? = some t) :
    ∃ i fn args kwargs deps out f as ks r,
      (appsOf comp.order).filter (callsInput fg t) = [i] ∧
      fg.apps[i]? = some ⟨GNode.call fn args kwargs deps, out⟩ ∧ args.map V.asShape? = [some ad.solved] ∧
      comp.st.srcs.count i = 1 ∧
      evalGraph g cfg.unaryParens comp.order = .ok r ∧
      (taggedTrace { env := unbound } (sstmts comp.st)).map (·.2) = r.trace ∧
      (taggedTrace { env := unbound } (sstmts comp.st)).filter (byCallerOf fg t) = [(some i, .call (E.mk .call (f :: as ++ ks)))] ∧
      as.length = 1 ∧ ks.map kwName = (passed d.ctx ad.argIndex sig).map (fun kv => some kv.1) := by
  obtain ⟨i, y, args, kwargs, C, hfilt, -, hlen1, hargs, hkw⟩ :=
    factory_callSite cfg fc g aux fg comp d hwf hsup hfg hc hok p ad sig t hd hf ht
  obtain ⟨deps, o, ha⟩ := C.node
  have S := supported_setup g aux fg hwf hsup hfg
  obtain ⟨f, as, ks, r, hcount, hr, htrace, hev, hlen, hnames⟩ :=
    callSite_tagged cfg fc g comp hwf hc C _ (callsInput_iff_pcall g aux fg hfg t)
  exact ⟨i, _, _, _, _, _, f, as, ks, r, hfilt, S.app i _ ha, hargs, hcount, hr, htrace, byCallerOf_eq fg t ▸ hev,
    hlen.trans hlen1, hnames.trans hkw⟩

/-- **factory_call_value_compiled** (value level): for a compiled graph accepted by the checker, under the two further decidable
premises `rootStable fg` (the fuel of `Factory.root` suffices) and `castsPlain g fg t` (a `Cast` of a tracer denoting input `t`
yields a tracer), both
evaluated by the harness on every captured graph: for every factory position `p` (graph input `t`), the event trace of the
emitted program contains **exactly one call event whose function term is the object passed as input `t`** (`inAtom t`) — with one
positional argument and exactly the keyword names the model passes.  No other call event of the program, whatever node produced
it, calls that object. -/
theorem factory_call_value_compiled (cfg : UCfg) (fc : FCfg) (g : Compile.Graph) (aux : List TAux) (fg : Factory.Graph)
    (comp : Compiled) (d : Descr) (hwf : g.WF = true) (hsup : Supported g = true) (hfg : toFactory g aux = some fg)
    (hstable : rootStable fg = true)
    (hc : compile cfg fc g = .ok comp) (hok : factoryOK fg d = true)
    (p : Nat) (ad : ArgD) (sig : Sig) (t : Nat) (hplain : castsPlain g fg t = true)
    (hd : d.args[p]? = some ad) (hf : ad.factory = some sig) (ht : fg.inputs[p]? = some t) :
    ∃ as ks,
      (execBlock { env := unbound } comp.st.program).trace.filter (trackedCall (isInAtom t)) =
        [.call (E.mk .call (inAtom t :: as ++ ks))] ∧
      as.length = 1 ∧ ks.map kwName = (passed d.ctx ad.argIndex sig).map (fun kv => some kv.1) := by
  obtain ⟨i, y, args, kwargs, C, -, hcu, hlen1, -, hkw⟩ :=
    factory_callSite cfg fc g aux fg comp d hwf hsup hfg hc hok p ad sig t hd hf ht
  obtain ⟨deps, o, ha⟩ := C.node
  have S := supported_setup g aux fg hwf hsup hfg
  have T := track_input g fg S (factoryOK_wf fg d hok) hstable t hplain (List.mem_of_getElem? ht) i hcu
    _ _ _ _ _ (S.app i _ ha)
  obtain ⟨f, as, ks, hfl, hqf, hlen, hnames⟩ := callSite_tracked cfg fc g fg comp S hc C _ (isInAtom_qok t) T
  rw [isInAtom_iff] at hqf
  subst hqf
  exact ⟨as, ks, hfl, hlen.trans hlen1, hnames.trans hkw⟩

/-! ## Non-vacuity -/

/-- The graph of `Props/C13.lean:realGraph` (`einx.add("a b, b -> a b", np.zeros((2, 3)), f)` with `def f(shape, name=None)`)
as the C04 graph type, exactly as `Driver/Compile.lean` decodes the captured JSON. -/
def realCGraph : Compile.Graph :=
  { apps := [
      .import_ "numpy" none (some "np") 2,
      .getattr (.var 2) "add" 3,
      .getattr (.var 2) "reshape" 4,
      .cast (.var 1) (.var 5),
      .call (.var 5) [E.mk .tuple [.lit "3"]] [("name", .lit "\"add\"")] [.var 0, .var 1] 6,
      .builtin "isinstance" 7,
      .getattr (.var 2) "ndarray" 8,
      .call (.var 7) [.var 6, .var 8] [] [.var 0, .var 1] 9,
      .assert_ (.var 6) (.var 9) (some "Invalid type as output of tensor factory") (.var 10),
      .builtin "tuple" 11,
      .getattr (.var 10) "shape" 12,
      .call (.var 11) [.var 12] [] [.var 0, .var 1] 13,
      .operator "==" [.var 13, E.mk .tuple [.lit "3"]] 14,
      .assert_ (.var 10) (.var 14) (some "Expected shape (3,) as output of tensor factory") (.var 15),
      .cast (.var 15) (.var 16),
      .call (.var 4) [.var 16, E.mk .tuple [.lit "1", .lit "3"]] [] [.var 0, .var 1] 17,
      .cast (.var 17) (.var 18),
      .call (.var 3) [.var 0, .var 18] [] [.var 0, .var 1] 19,
      .cast (.var 19) (.var 20)],
    origin := [none, none, some 0, some 1, some 2, some 3, some 4, some 5, some 6, some 7, some 8, some 9, some 10,
               some 11, some 12, some 13, some 14, some 15, some 16, some 17, some 18],
    graphs := [{ inputs := [0, 1], output := .var 20, name := some "op" }],
    top := .gref 0 }

def realAux : List TAux :=
  [⟨"tensor", some [2, 3], ""⟩, ⟨"convertible", none, "function"⟩, {}, {}, {}, ⟨"convertible", some [3], "function"⟩, {}, {},
   {}, {}, {}, {}, {}, {}, {}, {}, ⟨"tensor", some [3], ""⟩, {}, ⟨"tensor", some [1, 3], ""⟩, {}, ⟨"tensor", some [2, 3], ""⟩]

def fixedCfg : UCfg := { countFirst := true, outputsRecursed := false, aliasForward := true, forceInlineWins := true,
                         unaryParens := true, attrForceInline := true }

/-- The hypotheses of `exec_from_compile` / `factory_called_once_compiled` are met by a captured graph: it is well-formed and
supported, its translation is accepted by the checker, and `compile` succeeds; the induced schedule has 19 applications. -/
example : realCGraph.WF = true ∧ Supported realCGraph = true := by decide +kernel

example : (match toFactory realCGraph realAux with
    | some fg => some (factoryOK fg realDescr, Factory.wf fg, (reachable fg).length)
    | none => none) = some (true, true, 19) := by decide +kernel

/-- `compile` is evaluated once on the captured graph; the examples below read their facts off this result. -/
theorem realCompiled : ∃ c fg,
    compile fixedCfg { checkLater := true, checkBlock := true, bindResult := true } realCGraph = .ok c ∧
    toFactory realCGraph realAux = some fg ∧
    execOK fg (appsOf c.order) = true ∧ (appsOf c.order).filter (callsInput fg 1) = [4] ∧ c.st.srcs.count 4 = 1 ∧
    ((taggedTrace { env := unbound } (sstmts c.st)).filter (byCallerOf fg 1)).map
        (fun p => (p.1, (callShape p.2).map (fun s => (s.2.1.length, s.2.2)))) = [(some 4, some (1, ["name"]))] ∧
    ((execBlock { env := unbound } c.st.program).trace.filter (trackedCall (isInAtom 1))).map
        (fun ev => (callShape ev).map (fun s => (decide (s.1 = inAtom 1), s.2.1.length, s.2.2))) = [some (true, 1, ["name"])] := by
  have h : (match compile fixedCfg { checkLater := true, checkBlock := true, bindResult := true } realCGraph,
        toFactory realCGraph realAux with
      | .ok c, some fg =>
        execOK fg (appsOf c.order) && decide ((appsOf c.order).filter (callsInput fg 1) = [4]) && decide (c.st.srcs.count 4 = 1) &&
        decide (((taggedTrace { env := unbound } (sstmts c.st)).filter (byCallerOf fg 1)).map
          (fun p => (p.1, (callShape p.2).map (fun s => (s.2.1.length, s.2.2)))) = [(some 4, some (1, ["name"]))]) &&
        decide (((execBlock { env := unbound } c.st.program).trace.filter (trackedCall (isInAtom 1))).map
          (fun ev => (callShape ev).map (fun s => (decide (s.1 = inAtom 1), s.2.1.length, s.2.2))) = [some (true, 1, ["name"])])
      | _, _ => false) = true := by decide +kernel
  split at h
  · rename_i c fg hc hfg
    simp only [Bool.and_eq_true, decide_eq_true_eq] at h
    exact ⟨c, fg, hc, hfg, h.1.1.1.1, h.1.1.1.2, h.1.1.2, h.1.2, h.2⟩
  · cases h

example : (match compile fixedCfg { checkLater := true, checkBlock := true, bindResult := true } realCGraph, toFactory realCGraph realAux with
    | .ok c, some fg => some (execOK fg (appsOf c.order), (appsOf c.order).filter (callsInput fg 1), c.st.srcs.count 4)
    | _, _ => none) = some (true, [4], 1) := by
  obtain ⟨c, fg, hc, hfg, h1, h2, h3, _⟩ := realCompiled
  simp only [hc, hfg, h1, h2, h3]

/-- The tagged trace of the compiled program: five events (the factory call, two asserts, the calls of `reshape` and `add`),
exactly one of them produced by a caller of input 1: `in1((3,), name="add")`, tagged with node 4. -/
example : (match compile fixedCfg { checkLater := true, checkBlock := true, bindResult := true } realCGraph, toFactory realCGraph realAux with
    | .ok c, some fg =>
      some (((taggedTrace { env := unbound } (sstmts c.st)).filter (byCallerOf fg 1)).map
        (fun p => (p.1, (callShape p.2).map (fun s => (s.2.1.length, s.2.2)))))
    | _, _ => none) = some [(some 4, some (1, ["name"]))] := by
  obtain ⟨c, fg, hc, hfg, _, _, _, h4, _⟩ := realCompiled
  simp only [hc, hfg, h4]

/-- Value level on the captured graph: the further premises hold, and the compiled program has exactly one call event whose
function is the object of input 1: `in1((3,), name="add")`. -/
example : (match toFactory realCGraph realAux with
    | some fg => rootStable fg && castsPlain realCGraph fg 1
    | none => false) = true := by decide +kernel

example : (match compile fixedCfg { checkLater := true, checkBlock := true, bindResult := true } realCGraph with
    | .ok c =>
      ((execBlock { env := unbound } c.st.program).trace.filter (trackedCall (isInAtom 1))).map
        (fun ev => (callShape ev).map (fun s => (decide (s.1 = inAtom 1), s.2.1.length, s.2.2)))
    | _ => []) = [some (true, 1, ["name"])] := by
  obtain ⟨c, _, hc, _, _, _, _, _, h5⟩ := realCompiled
  simp only [hc, h5]

/-- `Supported` is not vacuous either way: an application that consumes a nested graph is outside the node language. -/
example : Supported { apps := [.call (.lit "f") [.gref 1] [] [] 0], origin := [some 0],
                      graphs := [{ inputs := [], output := .var 0, name := none }, { inputs := [], output := .lit "1", name := none }],
                      top := .gref 0 } = false := by decide

/-- The translated graph is the graph `Props/C13.lean` uses (`realGraph`), up to the literal text of tracer annotations. -/
example : (toFactory realCGraph realAux).map (fun fg => (fg.inputs, fg.apps.length, reachable fg)) =
    some (realGraph.inputs, realGraph.apps.length, reachable realGraph) := by decide +kernel

end Einx.Props.C13
