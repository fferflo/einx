import EinxModel.Proofs.OptDagSound
import EinxModel.Proofs.OptDagIR
import EinxModel.Proofs.OptDagTerm
/-!
C05 (second file) — the REAL optimiser traversal on DAGs.

`Optimize/Dag.lean: optimizeDag` is an executable model of `einx/_src/tracer/optimizer/optimizer.py` on stores (one
node per tracer, operand pytrees as token lists): the memo `id_to_newobj`, the patterns in list order (first match wins,
result memoised), the rebuild of a node from its rewritten operands with all outputs memoised, fresh graph inputs, and
the loop `while True: … if not changed: break`.  tools/props/c05.py runs it (driver kind `optdag`) on the store of every
captured real graph with the real pattern list of the numpy backend and requires its output to be *structurally equal*
(canonical form) to the real optimised graph, flag `changed` of every pass included.

The theorems below are about that same definition.  What a store computes is `evalProgram` (`Optimize/DagSem.lean`):
nodes are evaluated once, in order, consumers read the stored value; the meaning of applications is a parameter `Sem`
subject to the laws the patterns rely on (`Sem.Laws`), instantiated by `irSem A O fns` over the IR executor for every element
algebra `A` and every meaning `O` of the calls the patterns never inspect (`irSem_laws`).

Side conditions are decidable and computed by the driver for every real graph (`goodRun`): every pass starts from a
program that is a graph whose inputs are distinct tracers without origin (`Prog.wfTop`) and on which `InlineGraph` does not
fire at the top (`noTopInline`; a graph that is inlined away is no longer a graph -- the per-graph evaluator of c05.py covers
that case).  Soundness is one-directional, as for the rule theorems: if the original graph runs, the optimised graph runs and
returns the same.
-/
namespace Einx.OptDag
open Einx Einx.IR

/-- **pass_sound_dag**: one pass of the real traversal (`Optimizer(optimizations)._optimize(graph)`) preserves what a
well-formed graph returns, for every semantics that satisfies the laws of the patterns. -/
theorem pass_sound_dag {V : Type} (Sm : Sem V) (pats : List Pattern) (hL : Sm.Laws pats) (p p' : Prog) (fuel : Nat) (ch : Bool)
    (hwf : p.wfTop = true) (hni : noTopInline pats p = true) (hp : pass pats fuel p = .ok (p', ch))
    (inputs : List V) (r : List (RTok V)) (hev : evalProgram Sm p inputs = .ok r) : evalProgram Sm p' inputs = .ok r :=
  pass_sound Sm pats hL p p' fuel ch hwf hni hp inputs r hev

/-- **optimizeDag_sound** (any semantics with the laws): the graph returned by the optimiser loop returns, on all inputs on
which the original graph runs, what the original graph returns. -/
theorem optimizeDag_sound_laws {V : Type} (Sm : Sem V) (pats : List Pattern) (hL : Sm.Laws pats) :
    ∀ (n : Nat) (p q : Prog) (log : List Bool), goodRun pats n p = true → optimizeDag pats n p = .ok (q, log) →
    ∀ (inputs : List V) (r : List (RTok V)), evalProgram Sm p inputs = .ok r → evalProgram Sm q inputs = .ok r
  | 0, p, q, log, _, h => nomatch h
  | n + 1, p, q, log, hg, h => by
    intro inputs r hev
    obtain ⟨hwf, hni, hrest⟩ := goodRun_succ.1 hg
    rcases (optimizeDag_spec pats n p).ok h with ⟨rfl, _⟩ | ⟨hp, _⟩ | ⟨p', log', hp, hq, _⟩
    · exact hev
    · exact pass_sound Sm pats hL p q p.fuel false hwf hni hp inputs r hev
    · exact optimizeDag_sound_laws Sm pats hL n p' q log' (hrest p' hp) hq inputs r
        (pass_sound Sm pats hL p p' p.fuel true hwf hni hp inputs r hev)

/-- **optimizeDag_sound**: for every element algebra `A` (every tensor content, every meaning of the elementary functions),
every meaning `O` of the applications the patterns never inspect, and the pattern list of a backend over four different
functions `fns`: the graph the model of the real optimiser returns computes, on all inputs on which the original graph runs
(well-formed tensors of the traced shapes), the same output pytree as the original graph -- with `np.reshape`,
`np.transpose`, `np.broadcast_to`, `np.concatenate` executed by the numpy primitive plans of IR/Prim.lean. -/
theorem optimizeDag_sound {α : Type} (A : Alg α) (O : EApp (PV α) → Except String (PV α)) (fns : NpFns) (hd : fns.distinct = true)
    (n : Nat) (p q : Prog) (log : List Bool) (hg : goodRun fns.patterns n p = true) (h : optimizeDag fns.patterns n p = .ok (q, log))
    (inputs : List (PV α)) (r : List (RTok (PV α))) (hev : evalProgram (irSem A O fns) p inputs = .ok r) :
    evalProgram (irSem A O fns) q inputs = .ok r :=
  optimizeDag_sound_laws (irSem A O fns) fns.patterns (irSem_laws A O fns hd) n p q log hg h inputs r hev

/-- The laws hold for the IR semantics (restated here so that the audit covers it). -/
theorem irSem_satisfies_laws {α : Type} (A : Alg α) (O : EApp (PV α) → Except String (PV α)) (fns : NpFns) (hd : fns.distinct = true) :
    (irSem A O fns).Laws fns.patterns := irSem_laws A O fns hd

/-- **pass_terminates** (the fuel bound is sufficient): on a graph over a topologically ordered store (operands before
consumers, no nested graphs -- `Prog.topoOK`, decidable) one pass of the traversal never runs out of the recursion depth
`Prog.fuel = 2·(nodes + graphs) + 2` the model gives it: it returns a program or the exception Python would raise. -/
theorem pass_terminates (pats : List Pattern) (p : Prog) (h : p.topoOK = true) : pass pats p.fuel p ≠ .error .fuel :=
  pass_nf pats p h

/-- **optimizeDag_terminates_partial**: when every pass of the run starts from a graph over a topologically ordered store
(`fuelRun`, decidable; computed by the driver for every real graph), the loop can only run out of fuel by exhausting the pass
budget `n` with `n` passes that all report `changed`. -/
theorem optimizeDag_terminates_partial (pats : List Pattern) : ∀ (n : Nat) (p : Prog), fuelRun pats n p = true →
    optimizeDag pats n p = .error .fuel → allChanged pats n p = true
  | 0, _, _, _ => rfl
  | n + 1, p, hf, h => by
    obtain ⟨htopo, hrest⟩ := fuelRun_succ.1 hf
    rcases (optimizeDag_spec pats n p).error h with hp | ⟨p', hp, hq⟩
    · exact (pass_nf pats p htopo hp).elim
    · exact allChanged_succ.2 ⟨p', hp, optimizeDag_terminates_partial pats n p' (hrest p' hp) hq⟩

/-- `n` passes that all report `changed` need a measure of at least `n`: `μ` decreases in every such pass that starts from a
program satisfying the run invariant `J` (indexed by the number of passes still to go). -/
theorem allChanged_le (pats : List Pattern) (μ : Prog → Nat) (J : Nat → Prog → Prop)
    (hJ : ∀ n p p', J (n + 1) p → pass pats p.fuel p = .ok (p', true) → J n p' ∧ μ p' < μ p) :
    ∀ (n : Nat) (p : Prog), J n p → allChanged pats n p = true → n ≤ μ p
  | 0, _, _, _ => Nat.zero_le _
  | n + 1, p, hj, ha => by
    obtain ⟨p', hp, ha'⟩ := allChanged_succ.1 ha
    obtain ⟨hj', hlt⟩ := hJ n p p' hj hp
    have := allChanged_le pats μ J hJ n p' hj' ha'
    omega

theorem optimizeDag_terminates_inv (pats : List Pattern) (μ : Prog → Nat) (J : Nat → Prog → Prop)
    (hJ : ∀ n p p', J (n + 1) p → pass pats p.fuel p = .ok (p', true) → J n p' ∧ μ p' < μ p)
    (p : Prog) (hj : J (μ p + 1) p) (hf : fuelRun pats (μ p + 1) p = true) : optimizeDag pats (μ p + 1) p ≠ .error .fuel := by
  intro h
  have := allChanged_le pats μ J hJ _ p hj (optimizeDag_terminates_partial pats _ p hf h)
  omega

/-- **optimizeDag_terminates** (relative to a measure): if some natural-number measure strictly decreases in every pass that
reports `changed` -- for the real optimiser the number of application nodes of the graph unfolded into a tree, checked on
every real pass by tools/props/c05.py; `Props/C05.lean: optimize_terminates` is the abstract statement --, a budget of
`μ p + 1` passes is never exhausted: the model returns a program (or a Python exception), not `Err.fuel`. -/
theorem optimizeDag_terminates (pats : List Pattern) (μ : Prog → Nat)
    (hμ : ∀ p p', pass pats p.fuel p = .ok (p', true) → μ p' < μ p) (p : Prog) (hf : fuelRun pats (μ p + 1) p = true) :
    optimizeDag pats (μ p + 1) p ≠ .error .fuel :=
  optimizeDag_terminates_inv pats μ (fun _ _ => True) (fun _ p p' _ hp => ⟨trivial, hμ p p' hp⟩) p trivial hf

/-- The numpy backend's functions. -/
def npFns : NpFns :=
  { reshape := ⟨"numpy", none, some "np", ["reshape"]⟩, transpose := ⟨"numpy", none, some "np", ["transpose"]⟩,
    broadcastTo := ⟨"numpy", none, some "np", ["broadcast_to"]⟩, concatenate := ⟨"numpy", none, some "np", ["concatenate"]⟩ }

example : npFns.distinct = true := by decide

/-- The store of `Graph([x], add(y, transpose(transpose(y, (1,0)), (1,0))))` with `y = cast(reshape(cast(reshape(x, (6,))), (3,2)))`
shared by two consumers (nodes: 0 `x`, 1 `import numpy as np`, 2 `np.reshape`, 3 call, 4 cast, 5 call, 6 cast = `y`,
7 `np.transpose`, 8 call, 9 cast, 10 call, 11 cast, 12 `np.add`, 13 call, 14 cast). -/
def exProg : Prog :=
  let v (i : Nat) : List Tok := [.ref i]
  let sh (l : List Nat) : List Tok := natsToks l
  let call (f : Nat) (args : List (List Tok)) : Node := ⟨.value, .app ⟨.call, [v f], args, [], [v 0], [.ref 0]⟩⟩
  let cast (x : Nat) (s : List Nat) : Node := ⟨.tensor s, .app ⟨.cast, [v x], [], [], [], [.ref 0]⟩⟩
  let attr (m : Nat) (k : String) : Node := ⟨.value, .app ⟨.getattr k, [v m], [], [], [], [.ref 0]⟩⟩
  Prog.mk (Store.mk [⟨.tensor [2, 3], .none⟩, ⟨.value, .app ⟨.import_ "numpy" none (some "np"), [], [], [], [], [.ref 0]⟩⟩,
        attr 1 "reshape", call 2 [v 0, sh [6]], cast 3 [6], call 2 [v 4, sh [3, 2]], cast 5 [3, 2],
        attr 1 "transpose", call 7 [v 6, sh [1, 0]], cast 8 [2, 3], call 7 [v 9, sh [1, 0]], cast 10 [3, 2],
        attr 1 "add", call 12 [v 6, v 11], cast 13 [3, 2]]
      [⟨[0], v 14, some "op"⟩])
    [.gref 0]

/-- The store the run on `exProg` ends in: `Graph([x], add(y', y'))` with `y' = cast(reshape(x, (3, 2)))`. -/
def exOut : Prog :=
  let v (i : Nat) : List Tok := [.ref i]
  let call (f : Nat) (args deps : List (List Tok)) : Node := ⟨.value, .app ⟨.call, [v f], args, [], deps, [.ref 0]⟩⟩
  let cast (x : Nat) (s : List Nat) : Node := ⟨.tensor s, .app ⟨.cast, [v x], [], [], [], [.ref 0]⟩⟩
  let attr (m : Nat) (k : String) : Node := ⟨.value, .app ⟨.getattr k, [v m], [], [], [], [.ref 0]⟩⟩
  Prog.mk (Store.mk [⟨.tensor [2, 3], .none⟩, ⟨.value, .app ⟨.import_ "numpy" none (some "np"), [], [], [], [], [.ref 0]⟩⟩,
        attr 1 "add", attr 1 "reshape", call 3 [v 0, natsToks [3, 2]] [], cast 4 [3, 2], call 2 [v 5, v 5] [v 0], cast 6 [3, 2]]
      [⟨[0], v 7, some "op"⟩])
    [.gref 0]

/-- The run of the model on `exProg`. -/
theorem exRun : optimizeDag npFns.patterns 10 exProg = .ok (exOut, [true, true, true, false]) := by decide +kernel

/-- The model of the real traversal on it: three passes rewrite (reshapes merged through the cast -- the shared value is
rewritten once --, transposes merged, the merged transpose `(0, 1)` removed as a no-op), the fourth reports no change (the
side conditions of `optimizeDag_sound` for the whole run: `Props/C05Dag2.lean`). -/
example : (optimizeDag npFns.patterns 10 exProg).toOption.map (·.2) = some [true, true, true, false] := by
  rw [exRun]
  rfl

/-- The result: `add(y', y')` with `y' = cast(reshape(x, (3,2)))` (8 nodes instead of 15). -/
example : (optimizeDag npFns.patterns 10 exProg).toOption.map (fun r => r.1.store.nodes.length) = some 8 := by
  rw [exRun]
  rfl

/-- The integers with `np.add` read as elementwise addition (any other application is an error). -/
def exO : EApp (PV Int) → Except String (PV Int) := fun ea =>
  match ea.head, ea.pre, ea.args with
  | .call, [[.val (.obj (.attr (.imp "numpy" none (some "np")) "add"))]], [[.val (.tensor a)], [.val (.tensor b)]] =>
    pure (.tensor ⟨a.shape, List.zipWith (· + ·) a.data b.data⟩)
  | _, _, _ => throw "uninterpreted"

def exAlg : Alg Int := intAlgOf (fun _ args => args.sum) (-1)

def outData : Except String (List (RTok (PV Int))) → Option (List Nat × List Int)
  | .ok [.val (.tensor t)] => some (t.shape, t.data)
  | _ => none

/-- The original graph runs on a well-formed input (the hypothesis of `optimizeDag_sound` is met) … -/
example : outData (evalProgram (irSem exAlg exO npFns) exProg [.tensor ⟨[2, 3], [1, 2, 3, 4, 5, 6]⟩])
    = some ([3, 2], [2, 4, 6, 8, 10, 12]) := by decide +kernel

/-- … and so does the optimised graph, with the same result. -/
example : (optimizeDag npFns.patterns 10 exProg).toOption.map
      (fun r => outData (evalProgram (irSem exAlg exO npFns) r.1 [.tensor ⟨[2, 3], [1, 2, 3, 4, 5, 6]⟩]))
    = some (some ([3, 2], [2, 4, 6, 8, 10, 12])) := by
  rw [exRun]
  decide +kernel

/-- An input whose shape is not the traced one does not run (the premise excludes it). -/
example : outData (evalProgram (irSem exAlg exO npFns) exProg [.tensor ⟨[3, 2], [1, 2, 3, 4, 5, 6]⟩]) = none := by decide +kernel

end Einx.OptDag
