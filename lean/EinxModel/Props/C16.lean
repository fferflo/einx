import EinxModel.Proofs.Order
import EinxModel.Proofs.Registry
import EinxModel.Proofs.OrderJoin
import EinxModel.Proofs.OrderCse
import EinxModel.Proofs.OrderReorder
import EinxModel.Order.Implicit
import EinxModel.Order.Sites
/-!
C16 — results are reproducible across processes, hash seeds and repeated calls.

Property theorems only.  Every place of einx where the enumeration order of a Python `set` (which depends on
`PYTHONHASHSEED`) or a random draw (`uuid4`, `id()`) could reach the result is listed in
`Extracted/Sets.lean`, regenerated from `/repo` on every run; the obligations `extracted_sites_all_classified`,
`extracted_draws_all_classified` and `extracted_valid_parents_pop_guarded` are re-checked against what the source says
now.  For every order-sensitive site the function is modelled with the enumeration as an explicit argument and the
observable result is proved independent of it – or the precise hypothesis under which it is, with a witness that the
hypothesis cannot be dropped (`set_duplicates_order_sensitive`, `cse_overlap_order_sensitive`: findings D16 and D17 on
einx before its fixes 1fbcebe and 035c94b, which replace the two sets by insertion-ordered containers).

Remark on the text returned for `graph=True`: it is the value of `compile`, a function of the traced
graph (C04 models it as a Lean function); within one process two requests for the same call go through the same cache
entry.  Nothing to prove beyond functionality; the harness compares the two texts.

Not modelled (the property is "partial" here): sympy's internal orderings inside `solver.solve`, numpy's floating-point
summation order.
-/
namespace Einx.Order
open Einx.Extracted.Sets

/-! ### T-src: the inventory of order- and randomness-revealing sites -/

/-- Obligation regenerated from the source: every place where a set is iterated, listed, popped, joined or handed on is
order-safe by construction, only feeds an error message, pops a set just checked to be a singleton, or is one of the
`modelledSites`.  A new or changed order-revealing site breaks this. -/
theorem extracted_sites_all_classified : setSites.all SetSite.discharged = true := by
  -- Comparing two string literals by evaluation makes the kernel spell both out; `s == s` is rewritten without looking
  -- into `s`.  First the sites settled by their class or by the singleton guard, then the others against `modelledSites`.
  simp only [setSites, List.all_cons, List.all_nil, SetSite.discharged, string_beq_self, siteClass_beq_self, Bool.true_or,
    Bool.or_true, Bool.true_and, Bool.and_true, Bool.and_self]
  simp only [modelledSites, List.any_cons, string_beq_self, Bool.true_or, Bool.or_true, Bool.true_and, Bool.and_true,
    Bool.and_self]

/-- Obligation regenerated from the source: every `uuid4()` / `id()` / `hash()` value is used only as (part of) a name
or as an identity key. -/
theorem extracted_draws_all_classified : drawSites.all DrawSite.discharged = true := by decide +kernel

/-- Obligation regenerated from the source: `_parse_op` checks `len(valid_parents) != 1` before `valid_parents.pop()`. -/
theorem extracted_valid_parents_pop_guarded : validParentsPopGuarded = true := by decide

/-- Obligation regenerated from the source: the modules named by the property were found, parsed and scanned. -/
theorem extracted_scan_covers_call_path :
    ∀ f ∈ ["einx/_src/namedtensor/stage2/cse.py", "einx/_src/adapter/decomposednamedtensor_from_classical.py",
           "einx/_src/adapter/einx_from_namedtensor.py", "einx/_src/util/solver.py", "einx/_src/frontend/backend.py",
           "einx/_src/namedtensor/stage1/parse.py", "einx/_src/namedtensor/stage3/tree.py", "einx/_src/namedtensor/solve.py",
           "einx/_src/frontend/api.py", "einx/_src/tracer/compiler/python/__init__.py"],
      scannedFiles.contains f = true := by
  -- each literal is found among the literals of `scannedFiles` by position; no string is compared by evaluation
  simp only [List.contains_iff_mem, scannedFiles, List.mem_cons, List.not_mem_nil, or_false, forall_eq_or_imp, forall_eq,
    true_or, or_true, and_self]

/-! ### Generic facts used for several sites -/

/-- `set.pop()` / `next(iter(s))` on a one-element set: every enumeration yields that element. -/
theorem singleton_pop_order_invariant {α : Type} (s l₁ l₂ : List α) (hs : s.length = 1)
    (h₁ : l₁.Perm s) (h₂ : l₂.Perm s) : l₁.head? = l₂.head? ∧ ∃ a, l₁.head? = some a ∧ s = [a] := by
  match s, hs with
  | [a], _ =>
    rw [List.perm_singleton.1 h₁, List.perm_singleton.1 h₂]
    exact ⟨rfl, a, rfl, rfl⟩

/-- A loop that raises as soon as it meets an offending element raises for one enumeration iff it raises for any
other (which element is reported – the message, the caret – may differ). -/
theorem raise_on_any_order_invariant {α : Type} (p : α → Bool) {l₁ l₂ : List α} (h : l₁.Perm l₂) :
    (l₁.find? p).isSome = (l₂.find? p).isSome := by
  apply Bool.eq_iff_iff.2
  simp only [List.find?_isSome]
  exact ⟨fun ⟨x, hx, px⟩ => ⟨x, h.mem_iff.1 hx, px⟩, fun ⟨x, hx, px⟩ => ⟨x, h.mem_iff.2 hx, px⟩⟩

/-- `for l in literals: if text.startswith(l): …; break`: when at most one element matches, the first match does not
depend on the order (the lexer's literal table: `Einx.Props.C12.literals_prefix_free`). -/
theorem first_match_order_invariant {α : Type} (p : α → Bool) {l₁ l₂ : List α} (h : l₁.Perm l₂)
    (huniq : ∀ a ∈ l₁, ∀ b ∈ l₁, p a = true → p b = true → a = b) : l₁.find? p = l₂.find? p :=
  Cse.find?_perm_of_unique p h huniq

/-- A loop whose body commutes with itself (`classes[t] = s; s.add(t)`, `d[k] = v` for distinct keys, `acc.add(x)`)
computes the same state for every enumeration. -/
theorem comm_fold_order_invariant {α β : Type} (f : β → α → β) (hc : ∀ b x y, f (f b x) y = f (f b y) x)
    {l₁ l₂ : List α} (h : l₁.Perm l₂) (b : β) : l₁.foldl f b = l₂.foldl f b :=
  h.foldl_eq' (fun x _ y _ z => hc z x y) b

/-- `equations = list(set(equations))`: whether an assignment solves the system depends only on which equations are
members, not on their order or multiplicity – so a *unique* solution is the same for every enumeration.  (How sympy
searches for it is not modelled.) -/
theorem solver_spec_order_invariant {Eqn Asg : Type} (sat : Eqn → Asg → Prop) (l₁ l₂ : List Eqn)
    (h : ∀ e, e ∈ l₁ ↔ e ∈ l₂) (σ : Asg) : (∀ e ∈ l₁, sat e σ) ↔ (∀ e ∈ l₂, sat e σ) :=
  ⟨fun H e he => H e ((h e).2 he), fun H e he => H e ((h e).1 he)⟩

/-! ### (a) `_join_exprs` -/

open Join in
/-- **`_join_exprs` returns the same axes with the same lengths for every enumeration order of the set in `take_one`**:
it never fails, the joined names are exactly the names of the axes with `value != 1`, each once; two enumerations can
only differ in the order of the axes. -/
theorem join_exprs_order_invariant (enum₁ enum₂ : List String → List String) (h₁ : EnumOK enum₁) (h₂ : EnumOK enum₂)
    (exprs : List (List Ax)) :
    ∃ r₁ r₂, joinExprs enum₁ exprs = some r₁ ∧ joinExprs enum₂ exprs = some r₂ ∧ r₁.Perm r₂ ∧
      (r₁.map (·.1)).Nodup ∧ ∀ x, x ∈ r₁.map (·.1) ↔ x ∈ (nonUnit exprs).flatten := by
  obtain ⟨n₁, hn₁, hnd₁, hm₁⟩ := joinNames_spec enum₁ h₁ exprs
  obtain ⟨n₂, hn₂, hnd₂, hm₂⟩ := joinNames_spec enum₂ h₂ exprs
  let g : String → Ax := fun n => (n, (valueOf exprs n).getD 0)
  have hval : ∀ (ns : List String), (∀ x ∈ ns, x ∈ (nonUnit exprs).flatten) →
      allSome (ns.map (fun n => (valueOf exprs n).map (fun v => (n, v)))) = some (ns.map g) := by
    intro ns hns
    apply allSome_map
    intro x hx
    obtain ⟨a, ha, hax, _⟩ := mem_nonUnit_flatten (hns x hx)
    obtain ⟨v, hv⟩ := valueOf_isSome ⟨a, ha, hax⟩
    simp [g, hv]
  have hperm : n₁.Perm n₂ := (List.perm_ext_iff_of_nodup hnd₁ hnd₂).2 (fun x => by rw [hm₁, hm₂])
  refine ⟨n₁.map g, n₂.map g, ?_, ?_, hperm.map g, ?_, ?_⟩
  · simp only [joinExprs, hn₁]; exact hval n₁ (fun x hx => (hm₁ x).1 hx)
  · simp only [joinExprs, hn₂]; exact hval n₂ (fun x hx => (hm₂ x).1 hx)
  · simpa [g, List.map_map, Function.comp_def] using hnd₁
  · intro x; simpa [g, List.map_map, Function.comp_def] using hm₁ x

open Einx.Update in
/-- Downstream of `_join_exprs` every operand is aligned to the joined expression by axis *name*; a different
enumeration therefore is the same solved update with its iteration axes listed in a different order (`reorder p`).
**`add_at` / `subtract_at` do not depend on that order** (for all targets, coordinates and updates). -/
theorem reorder_add_sub_invariant (m : Mode) (hm : m = .add ∨ m = .sub) (op op' : Op) (p : List Nat) (t : List Int)
    (hp : p.Perm (List.range op.axes.length)) (h : reorder p op = some op') : denote m op' t = denote m op t :=
  reorder_denote hp h fun _ _ _ hperm => applyUpdates_perm_add_sub m hm t hperm

open Einx.Update in
/-- **`set_at` does not depend on the order when no two assignments write the same element.**  (With duplicate
addresses the value that survives is the last one in iteration order: `set_duplicates_order_sensitive`.) -/
theorem reorder_set_invariant_partial (op op' : Op) (p : List Nat) (t : List Int)
    (hp : p.Perm (List.range op.axes.length)) (h : reorder p op = some op') (hd : distinctAddresses op = true) :
    denote .set op' t = denote .set op t := by
  refine reorder_denote hp h fun r₁ r₂ h2 hperm => (applyUpdates_perm_set t hperm.symm ?_).symm
  simpa [distinctAddresses, h2] using hd

open Einx.Update in
/-- The hypothesis of `reorder_set_invariant_partial` cannot be dropped: `set_at("[h], p q, q p -> [h]", zeros(4),
[[1,0],[0,2]], [[10,20],[30,40]])` gives `[20,10,40,0]` with the axes joined as `p q` and `[30,10,40,0]` joined as `q p`
(einx before fix 1fbcebe returned either, depending on `PYTHONHASHSEED`: finding D16). -/
theorem set_duplicates_order_sensitive :
    let op : Op := { axes := [2, 2], tdims := [.idx 4], coords := [⟨[.ax 0, .ax 1], [1, 0, 0, 2]⟩],
                     udims := [1, 0], udata := [10, 20, 30, 40] }
    ∃ op', reorder [1, 0] op = some op' ∧ distinctAddresses op = false ∧
      denote .set op [0, 0, 0, 0] = some [20, 10, 40, 0] ∧ denote .set op' [0, 0, 0, 0] = some [30, 10, 40, 0] := by
  exact ⟨_, rfl, by decide +kernel, by decide +kernel, by decide +kernel⟩

/-! ### (b) the implicit output of elementwise operations -/

open Implicit in
/-- With the length check in place (`extracted_valid_parents_pop_guarded`), the implicitly chosen output expression does
not depend on how the set `valid_parents` enumerates its members. -/
theorem implicit_output_order_invariant {α : Type} [BEq α] (enum₁ enum₂ : List α → List α)
    (h₁ : ∀ l, (enum₁ l).Perm l) (h₂ : ∀ l, (enum₂ l).Perm l) (exprs : List α) (names : List (List String)) :
    implicitOutput validParentsPopGuarded enum₁ exprs names = implicitOutput validParentsPopGuarded enum₂ exprs names := by
  rw [extracted_valid_parents_pop_guarded]
  simp only [implicitOutput, Bool.true_and]
  split
  · rfl
  · rename_i hlen
    have hl : (validParents exprs names).length = 1 := by simpa using hlen
    exact (singleton_pop_order_invariant _ _ _ hl (h₁ _) (h₂ _)).1

open Implicit in
/-- Without the check the choice would depend on the enumeration (two inputs with the same axis names in different
order are both valid parents). -/
theorem implicit_output_unguarded_order_sensitive :
    implicitOutput false id ["a b", "b a"] [["a", "b"], ["b", "a"]]
      ≠ implicitOutput false List.reverse ["a b", "b a"] [["a", "b"], ["b", "a"]] := by decide +kernel

/-! ### (c) common-subexpression elimination with `common_exprs` a set (`Order/Cse.lean`; the present code: `Props/C16Cse.lean`) -/

open Cse in
/-- Every filter between the set enumeration and `replace` maps re-enumerated candidates to re-enumerated candidates:
`[c for c in common_exprs if P c]` and the filter that compares a candidate with all others. -/
theorem cse_filters_order_invariant {α : Type} [BEq α] (ps : List (α → Bool)) (r : α → α → Bool) {c₁ c₂ : List α}
    (h : c₁.Perm c₂) :
    (filterAgainst r (ps.foldl (fun c p => filterEach p c) c₁)).Perm (filterAgainst r (ps.foldl (fun c p => filterEach p c) c₂)) := by
  apply filterAgainst_perm
  induction ps generalizing c₁ c₂ with
  | nil => exact h
  | cons p ps ih => exact ih (h.filter p)

open Cse in
/-- **The expressions after CSE are the same for every enumeration order of `common_exprs`, up to the numbering of the
`cse.<n>` names** – provided no exprlist of a candidate is a prefix of an exprlist of another candidate
(`nonOverlapping`, decidable).  The renumbering is a bijection of the candidate indices. -/
theorem cse_order_invariant_partial (c₁ c₂ : List Cand) (hp : c₁.Perm c₂) (hnd : c₁.Nodup)
    (hno : nonOverlapping c₁ = true) (roots : List Tree) :
    roots.map (replace c₂) = roots.map (fun t => (replace c₁ t).map (Tok.map (renumber c₁ c₂))) ∧
    (∀ i, i < c₁.length → renumber c₁ c₂ i < c₂.length) ∧
    (∀ i j, i < c₁.length → j < c₁.length → renumber c₁ c₂ i = renumber c₁ c₂ j → i = j) :=
  ⟨List.map_congr_left (fun t _ => replace_perm c₁ c₂ hp hnd hno t),
   fun _ hi => renumber_eq_reidx c₁ c₂ ▸ reidx_lt hp hi,
   fun _ _ hi hj h => reidx_inj hp hnd hi hj (renumber_eq_reidx c₁ c₂ ▸ h)⟩

open Cse in
/-- The hypothesis cannot be dropped: for `(a b c)` with the candidates `a b` and `a b c` (both start at the same
position) one enumeration substitutes `(cse.0 c)`, the other `(cse.0)`; no renumbering relates them.  In einx before fix
035c94b `einx.add("(a b c d), (a b c e) -> (a b c d e)", x, y, d=3, e=2)` succeeded or raised `AxisSizeError` depending on
`PYTHONHASHSEED` (finding D17); `cseTrees_order_independent` (`Props/C16Cse.lean`) is the statement for the code after it. -/
theorem cse_overlap_order_sensitive :
    let root : Tree := .flat 1 (.list 2 [.axis 3 "a" none, .axis 4 "b" none, .axis 5 "c" none])
    let d₁ : List Cand := [[[3, 4]], [[3, 4, 5]]]
    nonOverlapping d₁ = false ∧ d₁.Perm d₁.reverse ∧
      replace d₁ root = [.lpar, .cse 0 none, .ax "c" none, .rpar] ∧ replace d₁.reverse root = [.lpar, .cse 0 none, .rpar] :=
  ⟨by decide +kernel, (List.reverse_perm _).symm, by decide +kernel, by decide +kernel⟩

/-! ### (d) the registry's candidate set -/

open Einx.Registry in
/-- "Keep only backends with highest priority" commutes with any re-enumeration of the candidate set. -/
theorem keepMax_perm {l₁ l₂ : List Backend} (h : l₁.Perm l₂) : (keepMax l₁).Perm (keepMax l₂) :=
  keepMax_perm_of_perm h

open Einx.Registry in
/-- Hence the outcome of the lookup – exactly one backend (which one), none, or several (which set) – is the same. -/
theorem registry_outcome_perm {l₁ l₂ : List Backend} (h : l₁.Perm l₂) :
    (∀ b, keepMax l₁ = [b] ↔ keepMax l₂ = [b]) ∧ (keepMax l₁ = [] ↔ keepMax l₂ = []) ∧
    (keepMax l₁).length = (keepMax l₂).length ∧ ∀ b, b ∈ keepMax l₁ ↔ b ∈ keepMax l₂ := by
  have hk := keepMax_perm h
  refine ⟨fun b => ⟨fun e => ?_, fun e => ?_⟩, ⟨fun e => ?_, fun e => ?_⟩, hk.length_eq, fun b => hk.mem_iff⟩
  · rw [e] at hk; exact List.perm_singleton.1 hk.symm
  · rw [e] at hk; exact List.perm_singleton.1 hk
  · rw [e] at hk; exact hk.symm.eq_nil
  · rw [e] at hk; exact hk.eq_nil

/-! ### (e) fresh names -/

open Einx.Denote Fresh in
/-- **Positions do not depend on the names**: renaming the leaves of a dimension and the keys of the assignment by a map
that is injective on the names in use (what a different `uuid4` draw does to `unnamed.*` axes) leaves the position
unchanged. -/
theorem pos_rename (ρ : String → String) (σ : Assign) (d : Dim) (h : InjOn ρ (dimNames d ++ σ.map (·.1))) :
    (renameDim ρ d).pos (renameAssign ρ σ) = d.pos σ := by
  rw [renameDim_eq]
  exact pos_transport d (ren_rename_on h (mem_dimNames d))

open Einx.Denote Fresh in
/-- … for a whole view, together with its shape: the symbolic denotation reads the same input element for the same
output element whatever the fresh names are. -/
theorem fresh_name_invariant (ρ : String → String) (σ : Assign) (view : List Dim)
    (h : InjOn ρ (dimsNames view ++ σ.map (·.1))) :
    position (renameDims ρ view) (renameAssign ρ σ) = position view σ ∧ viewShape (renameDims ρ view) = viewShape view := by
  rw [renameDims_eq]
  exact ⟨position_transport view (ren_rename_on h (mem_dimNames (.flat view))), viewShape_rename ρ view⟩

/-! ### Non-vacuity -/

/-- `_join_exprs` on `p q`, `q p` (tie between `p` and `q`): two admissible enumerations give two different orders of
the same two axes. -/
example :
    Join.joinExprs Join.enumFirst [[("p", 2), ("q", 2)], [("q", 2), ("p", 2)], []] = some [("p", 2), ("q", 2)] ∧
    Join.joinExprs Join.enumLast [[("p", 2), ("q", 2)], [("q", 2), ("p", 2)], []] = some [("q", 2), ("p", 2)] := by
  decide +kernel

/-- … and the enumerations used above are admissible. -/
example : Join.EnumOK Join.enumFirst ∧ Join.EnumOK Join.enumLast ∧ ∀ prio, Join.EnumOK (Join.enumBy prio) :=
  ⟨Join.enumFirst_ok, Join.enumLast_ok, Join.enumBy_ok⟩

/-- The implicit output is chosen (not vacuously `none`): `a b, b` ↦ `a b`. -/
example : Implicit.implicitOutput true id ["a b", "b"] [["a", "b"], ["b"]] = some "a b" := by decide +kernel

/-- Two equal-priority candidates in two orders: the kept lists differ as lists and agree as sets. -/
example :
    let a : Einx.Registry.Backend := { uid := 1, name := "x", priority := 0, accepts := [], invalid := false }
    let b : Einx.Registry.Backend := { uid := 2, name := "y", priority := 0, accepts := [], invalid := false }
    Einx.Registry.keepMax [a, b] ≠ Einx.Registry.keepMax [b, a] ∧ [a, b].Perm [b, a] := by
  exact ⟨by decide +kernel, List.Perm.swap _ _ _⟩

/-- A renaming that is injective on the names in use but not globally: the position is unchanged. -/
example :
    let d : Einx.Denote.Dim := .flat [.axis ⟨"a", 2, false⟩, .axis ⟨"unnamed.1", 3, false⟩]
    let ρ : String → String := fun n => if n == "unnamed.1" then "unnamed.7" else if n == "zzz" then "a" else n
    (Fresh.renameDim ρ d).pos (Fresh.renameAssign ρ [("a", 1), ("unnamed.1", 2)]) = some 5 ∧ d.pos [("a", 1), ("unnamed.1", 2)] = some 5 := by
  decide +kernel

end Einx.Order
