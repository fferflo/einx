import EinxModel.Adapt.Model
import EinxModel.Alias.Model
import EinxModel.Basic.Index
import EinxModel.Basic.PyPrelude
import EinxModel.Cache.Concurrent
import EinxModel.Cache.Freeze
import EinxModel.Cache.Hash
import EinxModel.Cache.KeyEq
import EinxModel.Cache.Memo
import EinxModel.Cache.NumHash
import EinxModel.Cache.Stack
import EinxModel.Cache.Value
import EinxModel.Compile.Gen
import EinxModel.Compile.Graph
import EinxModel.Compile.Sem
import EinxModel.Compile.Syntax
import EinxModel.Denote.Expr
import EinxModel.Denote.Expr2
import EinxModel.Denote.Expr3
import EinxModel.Denote.Fun
import EinxModel.Denote.Fun2
import EinxModel.Denote.Fun3
import EinxModel.Driver.Adapt
import EinxModel.Driver.Alias
import EinxModel.Driver.AtLower
import EinxModel.Driver.Cache
import EinxModel.Driver.CacheConc
import EinxModel.Driver.Compile
import EinxModel.Driver.Concurrent
import EinxModel.Driver.Cse
import EinxModel.Driver.CseTrees
import EinxModel.Driver.Denote
import EinxModel.Driver.Elab
import EinxModel.Driver.Errors
import EinxModel.Driver.Exec
import EinxModel.Driver.Factory
import EinxModel.Driver.Generic
import EinxModel.Driver.Grammar
import EinxModel.Driver.IR
import EinxModel.Driver.Lower
import EinxModel.Driver.Lower2
import EinxModel.Driver.Notation
import EinxModel.Driver.NotationNF
import EinxModel.Driver.NumHash
import EinxModel.Driver.OptDag
import EinxModel.Driver.Optimize
import EinxModel.Driver.Order
import EinxModel.Driver.Registry
import EinxModel.Driver.Reject
import EinxModel.Driver.Shorthand
import EinxModel.Driver.Solve
import EinxModel.Driver.Update
import EinxModel.Driver.Util
import EinxModel.Driver.Xlate
import EinxModel.Elab.ParseOp
import EinxModel.Elab.Spec
import EinxModel.Errors.Classify
import EinxModel.Errors.Indicator
import EinxModel.Errors.Sites
import EinxModel.Exec.View
import EinxModel.Extracted.Adapt
import EinxModel.Extracted.Alias
import EinxModel.Extracted.Cache
import EinxModel.Extracted.Cacheconc
import EinxModel.Extracted.Compile
import EinxModel.Extracted.Cse
import EinxModel.Extracted.Elab
import EinxModel.Extracted.Errors
import EinxModel.Extracted.Factory
import EinxModel.Extracted.Generic
import EinxModel.Extracted.Kernels
import EinxModel.Extracted.Notation
import EinxModel.Extracted.Registry
import EinxModel.Extracted.Sets
import EinxModel.Extracted.Stb
import EinxModel.Extracted.Unravel
import EinxModel.Extracted.Update
import EinxModel.Factory.Check
import EinxModel.Factory.Model
import EinxModel.Generic.Diag
import EinxModel.Generic.Grammar
import EinxModel.Generic.LowerOps
import EinxModel.Generic.LowerOpsDenote
import EinxModel.Generic.LowerSim
import EinxModel.Generic.Sites
import EinxModel.Generic.Stb
import EinxModel.Generic.StbDenote
import EinxModel.Generic.StbPrims
import EinxModel.IR.Arith
import EinxModel.IR.Cell
import EinxModel.IR.Generic
import EinxModel.IR.Prim
import EinxModel.IR.PrimX
import EinxModel.IR.Validate
import EinxModel.Notation.Grammar
import EinxModel.Notation.Lexer
import EinxModel.Notation.Parse
import EinxModel.Notation.Spec
import EinxModel.Notation.Tree
import EinxModel.Optimize.Dag
import EinxModel.Optimize.DagMeasure
import EinxModel.Optimize.DagSem
import EinxModel.Optimize.Rules
import EinxModel.Order.Cse
import EinxModel.Order.Implicit
import EinxModel.Order.Join
import EinxModel.Order.Rename
import EinxModel.Order.Reorder
import EinxModel.Order.Sites
import EinxModel.Proofs.Adapt
import EinxModel.Proofs.Alias
import EinxModel.Proofs.Arith
import EinxModel.Proofs.Cache
import EinxModel.Proofs.CacheConcurrent
import EinxModel.Proofs.CacheEq
import EinxModel.Proofs.CacheHash
import EinxModel.Proofs.CacheNumHash
import EinxModel.Proofs.CellOrder
import EinxModel.Proofs.Compile
import EinxModel.Proofs.CompileClosed
import EinxModel.Proofs.CompileCorrect
import EinxModel.Proofs.CompileOrder
import EinxModel.Proofs.Concurrent
import EinxModel.Proofs.CseTreesBasic
import EinxModel.Proofs.CseTreesCands
import EinxModel.Proofs.CseTreesDecEq
import EinxModel.Proofs.CseTreesDischarge
import EinxModel.Proofs.CseTreesSound
import EinxModel.Proofs.CseTreesWalk
import EinxModel.Proofs.Denote
import EinxModel.Proofs.DenoteAssign
import EinxModel.Proofs.DenoteConcat
import EinxModel.Proofs.DenoteConcatLaws
import EinxModel.Proofs.DenoteDefined
import EinxModel.Proofs.DenoteDot
import EinxModel.Proofs.DenoteDotPerm
import EinxModel.Proofs.DenoteGen
import EinxModel.Proofs.DenotePos
import EinxModel.Proofs.DenoteReduce
import EinxModel.Proofs.DenoteReducePerm
import EinxModel.Proofs.DenoteRename
import EinxModel.Proofs.DenoteTie
import EinxModel.Proofs.DenoteViewOK
import EinxModel.Proofs.DenoteViews
import EinxModel.Proofs.Elab
import EinxModel.Proofs.ElabTotal
import EinxModel.Proofs.Errors
import EinxModel.Proofs.ErrorsEllipsis
import EinxModel.Proofs.ExceptList
import EinxModel.Proofs.ExecAdapt
import EinxModel.Proofs.ExecCompiled
import EinxModel.Proofs.ExecReach
import EinxModel.Proofs.ExecSem
import EinxModel.Proofs.ExecSemAdapt
import EinxModel.Proofs.ExecSemFactory
import EinxModel.Proofs.ExecTrace
import EinxModel.Proofs.ExecView
import EinxModel.Proofs.ExecVisit
import EinxModel.Proofs.Factory
import EinxModel.Proofs.Forall2
import EinxModel.Proofs.FuseAll
import EinxModel.Proofs.FuseCompile
import EinxModel.Proofs.FuseEmit
import EinxModel.Proofs.FuseLoop
import EinxModel.Proofs.FuseSafe
import EinxModel.Proofs.FuseScope
import EinxModel.Proofs.FuseSound
import EinxModel.Proofs.FuseText
import EinxModel.Proofs.Generic
import EinxModel.Proofs.GrammarDepth0
import EinxModel.Proofs.GrammarParse
import EinxModel.Proofs.GroupCmp
import EinxModel.Proofs.IR
import EinxModel.Proofs.IndexSpace
import EinxModel.Proofs.Lower
import EinxModel.Proofs.LowerDenote
import EinxModel.Proofs.LowerEw
import EinxModel.Proofs.LowerEwDenote
import EinxModel.Proofs.LowerGenericA
import EinxModel.Proofs.LowerGenericB
import EinxModel.Proofs.LowerRedDefs
import EinxModel.Proofs.LowerRedDenote
import EinxModel.Proofs.LowerRedRun
import EinxModel.Proofs.NodeWise
import EinxModel.Proofs.NotationCarets
import EinxModel.Proofs.NotationDerives
import EinxModel.Proofs.NotationDigits
import EinxModel.Proofs.NotationEqns
import EinxModel.Proofs.NotationFinishNF
import EinxModel.Proofs.NotationFold
import EinxModel.Proofs.NotationFresh
import EinxModel.Proofs.NotationFreshParse
import EinxModel.Proofs.NotationGrammars
import EinxModel.Proofs.NotationInternal
import EinxModel.Proofs.NotationLexer
import EinxModel.Proofs.NotationNFDefs
import EinxModel.Proofs.NotationNFMoveUp
import EinxModel.Proofs.NotationNFParse
import EinxModel.Proofs.NotationNFPrintable
import EinxModel.Proofs.NotationNFTraverse
import EinxModel.Proofs.NotationParseCases
import EinxModel.Proofs.NotationParseSim
import EinxModel.Proofs.NotationPieces
import EinxModel.Proofs.NotationPrintAdj
import EinxModel.Proofs.NotationPrintConflict
import EinxModel.Proofs.NotationPrintDefs
import EinxModel.Proofs.NotationPrintFinal
import EinxModel.Proofs.NotationPrintParse
import EinxModel.Proofs.NotationPrintShape
import EinxModel.Proofs.NotationPrintTokens
import EinxModel.Proofs.NotationPrintTree
import EinxModel.Proofs.NotationSegment
import EinxModel.Proofs.NotationSim
import EinxModel.Proofs.NotationSimBack
import EinxModel.Proofs.NotationSimCore
import EinxModel.Proofs.NotationSmart
import EinxModel.Proofs.NotationSpace
import EinxModel.Proofs.NotationStack
import EinxModel.Proofs.NotationTokAll
import EinxModel.Proofs.NotationTokens
import EinxModel.Proofs.NotationTree
import EinxModel.Proofs.OptDagBasic
import EinxModel.Proofs.OptDagDecide
import EinxModel.Proofs.OptDagIR
import EinxModel.Proofs.OptDagMeasure
import EinxModel.Proofs.OptDagMeasureA
import EinxModel.Proofs.OptDagPres
import EinxModel.Proofs.OptDagRun
import EinxModel.Proofs.OptDagSound
import EinxModel.Proofs.OptDagTerm
import EinxModel.Proofs.Optimize
import EinxModel.Proofs.OptimizeSound
import EinxModel.Proofs.OptionList
import EinxModel.Proofs.Order
import EinxModel.Proofs.OrderCse
import EinxModel.Proofs.OrderJoin
import EinxModel.Proofs.OrderReorder
import EinxModel.Proofs.Peel
import EinxModel.Proofs.PyPrelude
import EinxModel.Proofs.Registry
import EinxModel.Proofs.RegistryDiscipline
import EinxModel.Proofs.RegistryLazy
import EinxModel.Proofs.RegistryOrder
import EinxModel.Proofs.RejectConcat
import EinxModel.Proofs.RejectInternal
import EinxModel.Proofs.RejectLex
import EinxModel.Proofs.Sched
import EinxModel.Proofs.Solve
import EinxModel.Proofs.SolveBroadcast
import EinxModel.Proofs.SolveCse
import EinxModel.Proofs.SolveNames
import EinxModel.Proofs.SolveNamesChars
import EinxModel.Proofs.SolveNamesParse
import EinxModel.Proofs.SolveNum
import EinxModel.Proofs.SolveRankSem
import EinxModel.Proofs.SolveRename
import EinxModel.Proofs.SolveSem
import EinxModel.Proofs.SolveSemInput
import EinxModel.Proofs.SolveUnexpanded
import EinxModel.Proofs.SolveUnroll
import EinxModel.Proofs.Stb
import EinxModel.Proofs.Update
import EinxModel.Proofs.UpdateLowering
import EinxModel.Proofs.UtilCompile
import EinxModel.Proofs.UtilExec
import EinxModel.Proofs.UtilLower
import EinxModel.Proofs.UtilMisc
import EinxModel.Proofs.UtilSolve
import EinxModel.Proofs.XlateDiag
import EinxModel.Proofs.XlateStb
import EinxModel.Proofs.XlateUnravel
import EinxModel.Props.C01
import EinxModel.Props.C01Lower
import EinxModel.Props.C01LowerOps
import EinxModel.Props.C01Xlate
import EinxModel.Props.C02
import EinxModel.Props.C02Cse
import EinxModel.Props.C02Cse2
import EinxModel.Props.C02Unexpanded
import EinxModel.Props.C03
import EinxModel.Props.C03Elab
import EinxModel.Props.C03Grammar
import EinxModel.Props.C03Reject
import EinxModel.Props.C04
import EinxModel.Props.C05
import EinxModel.Props.C05Dag
import EinxModel.Props.C05Dag2
import EinxModel.Props.C06
import EinxModel.Props.C06Hash
import EinxModel.Props.C06Num
import EinxModel.Props.C07
import EinxModel.Props.C07Names
import EinxModel.Props.C07Stage2
import EinxModel.Props.C08
import EinxModel.Props.C08b
import EinxModel.Props.C08c
import EinxModel.Props.C09
import EinxModel.Props.C10
import EinxModel.Props.C10Cache
import EinxModel.Props.C11
import EinxModel.Props.C12
import EinxModel.Props.C13
import EinxModel.Props.C13Exec
import EinxModel.Props.C14
import EinxModel.Props.C14Dtype
import EinxModel.Props.C14Join
import EinxModel.Props.C15
import EinxModel.Props.C15Exec
import EinxModel.Props.C16
import EinxModel.Props.C16Cse
import EinxModel.Props.C17
import EinxModel.Props.C17Lower
import EinxModel.Props.C17LowerOps
import EinxModel.Props.C17Xlate
import EinxModel.Registry.Concurrent
import EinxModel.Registry.Model
import EinxModel.Registry.Spec
import EinxModel.Solve.Cse
import EinxModel.Solve.CseCheck
import EinxModel.Solve.CseCheck2
import EinxModel.Solve.CseTrees
import EinxModel.Solve.FromNotation
import EinxModel.Solve.Names
import EinxModel.Solve.Shorthand
import EinxModel.Solve.System
import EinxModel.Solve.Tree
import EinxModel.Solve.Unexpanded
import EinxModel.Update.Desc
import EinxModel.Update.LowerProg
import EinxModel.Update.Model
